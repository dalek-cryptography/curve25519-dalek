import Dalek.Proofs.AlgBoundsSound
import Dalek.Proofs.AlgZModLemmas
import Dalek.Proofs.ByteLists
/-!
# Limb-level execution of the translated formulas REFINES their field-level meaning (generic part)

Links C01 (kernel value theorems), C11 (no overflow) and C03/C06/C07 (algebra over `zmodOps`).

The kernel value theorems of C01 (`mul_spec`, …) hold for inputs inside the DOCUMENTED CONTRACT of each kernel
(their proof goes through the normal form computed by the analyser at the contract vector).  So the abstract
interpretation used here, `specOps B C`, is the "contracts compose" one: every operation checks that its operands
are inside the contract vectors `C` of the kernel and returns the fixed post-condition of the contract
(`add`, which does not reduce, returns the analysed bound of the regenerated `add` kernel at the actual operand
vectors).  It evaluates in milliseconds.

`specOps_rel`: if the kernels of the backend satisfy their value theorems (`BackendSpec`), then `specOps B C` is
operation-wise related to the TRIPLE (debug-build limbs, release-build limbs, element of `ZMod p`): whenever the
contract check of an operation succeeds, the debug build does not panic, equals the release build, the limbs are
inside the bound vector, and their VALUE is the result of the field operation on the values of the operands
(a choice `[c]`, `c < 2`, has the value `c`).

`formula_refines` (by `AProg.run_rel`): for a formula passing `specCheck`, for all limb inputs inside the input
invariants, the release-build limb execution returns limbs whose values are exactly the `zmodOps` run on the
values of the inputs (and nothing panics, and the outputs are inside the output invariants).
-/
namespace Dalek.Proofs.AlgRefine
open Dalek.IR Dalek.Model.AlgBounds Dalek.Proofs.AlgBoundsSound Dalek.Proofs
open Dalek.Model.FieldBytes (natToLeN leVal)

/-! ## contracts and the contract-composition interpretation -/

/-- the documented contract vectors of the kernels of one backend -/
structure Contract where
  /-- post-condition of the reducing kernels (`mul`, `square`, `sub`, `neg`, `pow2k`) -/
  red : List Itv
  preAddA : List Itv
  preAddB : List Itv
  preSubA : List Itv
  preSubB : List Itv
  preMulA : List Itv
  preMulB : List Itv
  preNeg : List Itv
  preSq : List Itv
  preSq2 : List Itv
  postSq2 : List Itv
  prePow : List Itv
  preBytes : List Itv

def guard2 (pa pb : List Itv) (f : List Itv → List Itv → AVal) (a b : AVal) : AVal :=
  match a, b with
  | some x, some y => if itvsLe x pa && itvsLe y pb then f x y else none
  | _, _ => none

def guard1 (pa : List Itv) (r : AVal) (a : AVal) : AVal :=
  match a with
  | some x => if itvsLe x pa then r else none
  | none => none

def specOps (B : Backend) (C : Contract) : FOps AVal where
  add := guard2 C.preAddA C.preAddB (fun x y => absK B.add (x ++ y))
  sub := guard2 C.preSubA C.preSubB (fun _ _ => some C.red)
  mul := guard2 C.preMulA C.preMulB (fun _ _ => some C.red)
  neg := guard1 C.preNeg (some C.red)
  square := guard1 C.preSq (some C.red)
  square2 := guard1 C.preSq2 (some C.postSq2)
  pow2k := fun a k => if k = 0 then none else guard1 C.prePow (some C.red) a
  const := (boundOps B).const
  ctEq := guard2 C.preBytes C.preBytes (fun _ _ => some choiceItv)
  isNeg := guard1 C.preBytes (some choiceItv)
  isZero := guard1 C.preBytes (some choiceItv)
  cand := absCh2
  cor := absCh2
  cxor := absCh2
  cnot := absCh1
  csel := absSel
  dflt := none

/-- every statement of `F` passes the contract checks from the input vectors `pre`, outputs inside `post` -/
def specCheck (B : Backend) (C : Contract) (F : AProg) (pre post : List (List Itv)) : Bool :=
  pre.length == F.nIn && allSome (arunBody (specOps B C) F.body (pre.map some)) &&
    outsLe (F.run (specOps B C) (pre.map some)) post

def Sig.refOk (B : Backend) (C : Contract) (s : Sig) : Bool := specCheck B C s.F s.pre s.post

/-! ## what the kernels of a backend must satisfy (instantiated from the C01 theorems) -/

/-- canonical 32-byte little-endian encoding of a field element -/
def enc (z : Fp) : List Nat := natToLeN z.val 32

structure BackendSpec (B : Backend) (C : Contract) (val : List Nat → Fp) : Prop where
  add : ∀ a b, EnvIn a C.preAddA → EnvIn b C.preAddB →
    B.add.evalC (a ++ b) = some (B.add.evalW (a ++ b)) ∧ val (B.add.evalW (a ++ b)) = val a + val b
  sub : ∀ a b, EnvIn a C.preSubA → EnvIn b C.preSubB →
    B.sub.evalC (a ++ b) = some (B.sub.evalW (a ++ b)) ∧ EnvIn (B.sub.evalW (a ++ b)) C.red ∧
      val (B.sub.evalW (a ++ b)) = val a - val b
  mul : ∀ a b, EnvIn a C.preMulA → EnvIn b C.preMulB →
    B.mul.evalC (a ++ b) = some (B.mul.evalW (a ++ b)) ∧ EnvIn (B.mul.evalW (a ++ b)) C.red ∧
      val (B.mul.evalW (a ++ b)) = val a * val b
  neg : ∀ a, EnvIn a C.preNeg →
    concSeq [B.neg] a = some (wrapSeq [B.neg] a) ∧ EnvIn (wrapSeq [B.neg] a) C.red ∧
      val (wrapSeq [B.neg] a) = - val a
  square : ∀ a, EnvIn a C.preSq →
    concSeq B.square a = some (wrapSeq B.square a) ∧ EnvIn (wrapSeq B.square a) C.red ∧
      val (wrapSeq B.square a) = val a * val a
  square2 : ∀ a, EnvIn a C.preSq2 →
    concSeq B.square2 a = some (wrapSeq B.square2 a) ∧ EnvIn (wrapSeq B.square2 a) C.postSq2 ∧
      val (wrapSeq B.square2 a) = 2 * (val a * val a)
  pow : ∀ k a, EnvIn a C.prePow →
    iterC B.powBody (k + 1) a = some (iterW B.powBody (k + 1) a) ∧ EnvIn (iterW B.powBody (k + 1) a) C.red ∧
      val (iterW B.powBody (k + 1) a) = val a ^ (2 ^ (k + 1))
  const : ∀ i l, B.consts[i]? = some l → val l = zmodOps.const i
  bytes : ∀ a, EnvIn a C.preBytes →
    B.asBytes.evalC a = some (B.asBytes.evalW a) ∧ B.asBytes.evalW a = enc (val a)
  choice : ∀ c : Nat, val [c] = (c : Fp)

/-! ## facts about the canonical encoding -/

theorem leVal_enc (z : Fp) : leVal (enc z) = z.val := by
  unfold enc
  rw [Dalek.Proofs.Bytes51.leVal_natToLeN]
  exact Nat.mod_eq_of_lt (lt_trans (ZMod.val_lt z) (by norm_num))

theorem enc_inj {z w : Fp} (h : enc z = enc w) : z = w := by
  have := congrArg leVal h
  rw [leVal_enc, leVal_enc] at this
  exact ZMod.val_injective _ this

theorem negBit_enc (z : Fp) : negBit (enc z) = z.val % 2 := by
  unfold negBit enc
  show (natToLeN z.val (31 + 1)).getD 0 0 % 2 = _
  simp only [natToLeN, List.getD_cons_zero]
  omega

theorem leVal_eq_zero_of_all : ∀ (bs : List Nat), bs.all (· == 0) = true → leVal bs = 0
  | [], _ => rfl
  | b :: bs, h => by
      simp only [List.all_cons, Bool.and_eq_true, beq_iff_eq] at h
      simp only [leVal, h.1, leVal_eq_zero_of_all bs h.2]

theorem zeroBit_enc (z : Fp) : zeroBit (enc z) = b2n (decide (z = 0)) := by
  unfold zeroBit
  congr 1
  by_cases hz : z = 0
  · subst hz
    simp only [decide_true]
    show (natToLeN (0 : Fp).val 32).all (· == 0) = true
    rw [ZMod.val_zero]
    decide
  · simp only [hz, decide_false]
    cases hall : (enc z).all (· == 0) with
    | false => rfl
    | true =>
      exfalso
      have h0 := leVal_eq_zero_of_all _ hall
      rw [leVal_enc] at h0
      exact hz ((ZMod.val_eq_zero z).1 h0)

/-! ## the three-way relation -/

/-- (debug-build result, release-build result), element of the field -/
abbrev TVal := PVal × Fp

/-- the carrier-level interpretation: limbs in both builds and the field -/
noncomputable def tripleOps (B : Backend) : FOps TVal := prodOps (prodOps (limbOps B) (limbOpsW B)) zmodOps

/-- a successful contract check implies: no panic, both builds agree, the limbs are inside the bound vector, and
their VALUE is the field-level value -/
def R3 (val : List Nat → Fp) (a : AVal) (p : TVal) : Prop :=
  ∀ I, a = some I → p.1.1 = some p.1.2 ∧ EnvIn p.1.2 I ∧ val p.1.2 = p.2

theorem guard2_some {pa pb : List Itv} {f : List Itv → List Itv → AVal} {a b : AVal} {I : List Itv}
    (h : guard2 pa pb f a b = some I) :
    ∃ x y, a = some x ∧ b = some y ∧ itvsLe x pa = true ∧ itvsLe y pb = true ∧ f x y = some I := by
  match a, b, h with
  | some x, some y, h =>
    simp only [guard2] at h
    split at h
    · rename_i hg
      simp only [Bool.and_eq_true] at hg
      exact ⟨x, y, rfl, rfl, hg.1, hg.2, h⟩
    · cases h
  | none, _, h => simp [guard2] at h
  | some _, none, h => simp [guard2] at h

theorem guard1_some {pa : List Itv} {r a : AVal} {I : List Itv} (h : guard1 pa r a = some I) :
    ∃ x, a = some x ∧ itvsLe x pa = true ∧ r = some I := by
  match a, h with
  | some x, h =>
    simp only [guard1] at h
    split at h
    · rename_i hg
      exact ⟨x, rfl, hg, h⟩
    · cases h
  | none, h => simp [guard1] at h

section
variable {B : Backend} {C : Contract} {val : List Nat → Fp} (S : BackendSpec B C val)
include S

theorem choice_facts {c : List Itv} {l : List Nat} {z : Fp} (hc : isChoice c = true) (hl : EnvIn l c)
    (hv : val l = z) : ∃ x, l = [x] ∧ x < 2 ∧ z = (x : Fp) := by
  obtain ⟨x, rfl, hx⟩ := isChoice_sound hc hl
  exact ⟨x, rfl, hx, by rw [← hv, S.choice]⟩

theorem rel3_ch2 (f : Nat → Nat → Nat) (g : Fp → Fp → Fp) (hf : ∀ x y, x < 2 → y < 2 → f x y < 2)
    (hfg : ∀ x y : Nat, x < 2 → y < 2 → ((f x y : Nat) : Fp) = g x y)
    {a b : AVal} {a' b' : TVal} (ha : R3 val a a') (hb : R3 val b b') :
    R3 val (absCh2 a b) ((concCh2 f a'.1.1 b'.1.1, [f (a'.1.2.getD 0 0) (b'.1.2.getD 0 0)]), g a'.2 b'.2) := by
  intro I hI
  match a, b, hI with
  | some x, some y, hI =>
    obtain ⟨ha1, ha2, ha3⟩ := ha x rfl
    obtain ⟨hb1, hb2, hb3⟩ := hb y rfl
    simp only [absCh2] at hI
    split at hI
    · rename_i hc
      simp only [Bool.and_eq_true] at hc
      simp only [Option.some.injEq] at hI
      subst hI
      obtain ⟨u, hu, hu2, hu3⟩ := choice_facts S hc.1 ha2 ha3
      obtain ⟨v, hv, hv2, hv3⟩ := choice_facts S hc.2 hb2 hb3
      refine ⟨?_, ?_, ?_⟩
      · simp only [ha1, hb1, hu, hv, concCh2, hu2, hv2, and_self, if_true, List.getD_cons_zero]
      · simp only [hu, hv, List.getD_cons_zero]
        exact EnvIn_choice (hf u v hu2 hv2)
      · simp only [hu, hv, List.getD_cons_zero, S.choice, hu3, hv3]
        exact hfg u v hu2 hv2
    · cases hI
  | none, _, hI => simp [absCh2] at hI
  | some _, none, hI => simp [absCh2] at hI

end

theorem two_cases {x : Nat} (h : x < 2) : x = 0 ∨ x = 1 := by omega

/-- **Operation-wise refinement**: limbs (both builds) and field values, related through the contract checks. -/
theorem specOps_rel {B : Backend} {C : Contract} {val : List Nat → Fp} (S : BackendSpec B C val) :
    FOps.Rel (R3 val) (specOps B C) (tripleOps B) where
  add := by
    intro a b a' b' ha hb I hI
    obtain ⟨x, y, rfl, rfl, hx, hy, hf⟩ := guard2_some hI
    obtain ⟨ha1, ha2, ha3⟩ := ha x rfl
    obtain ⟨hb1, hb2, hb3⟩ := hb y rfl
    obtain ⟨s1, s2⟩ := S.add _ _ (EnvIn_of_itvsLe ha2 hx) (EnvIn_of_itvsLe hb2 hy)
    obtain ⟨_, k2⟩ := absK_sound hf (EnvIn_append _ _ ha2 hb2)
    refine ⟨?_, k2, ?_⟩
    · show concBin B.add a'.1.1 b'.1.1 = _
      simp only [ha1, hb1, concBin, s1]; rfl
    · show val (B.add.evalW (a'.1.2 ++ b'.1.2)) = a'.2 + b'.2
      rw [s2, ha3, hb3]
  sub := by
    intro a b a' b' ha hb I hI
    obtain ⟨x, y, rfl, rfl, hx, hy, hf⟩ := guard2_some hI
    obtain ⟨ha1, ha2, ha3⟩ := ha x rfl
    obtain ⟨hb1, hb2, hb3⟩ := hb y rfl
    obtain ⟨s1, s2, s3⟩ := S.sub _ _ (EnvIn_of_itvsLe ha2 hx) (EnvIn_of_itvsLe hb2 hy)
    cases hf
    refine ⟨?_, s2, ?_⟩
    · show concBin B.sub a'.1.1 b'.1.1 = _
      simp only [ha1, hb1, concBin, s1]; rfl
    · show val (B.sub.evalW (a'.1.2 ++ b'.1.2)) = a'.2 - b'.2
      rw [s3, ha3, hb3]
  mul := by
    intro a b a' b' ha hb I hI
    obtain ⟨x, y, rfl, rfl, hx, hy, hf⟩ := guard2_some hI
    obtain ⟨ha1, ha2, ha3⟩ := ha x rfl
    obtain ⟨hb1, hb2, hb3⟩ := hb y rfl
    obtain ⟨s1, s2, s3⟩ := S.mul _ _ (EnvIn_of_itvsLe ha2 hx) (EnvIn_of_itvsLe hb2 hy)
    cases hf
    refine ⟨?_, s2, ?_⟩
    · show concBin B.mul a'.1.1 b'.1.1 = _
      simp only [ha1, hb1, concBin, s1]; rfl
    · show val (B.mul.evalW (a'.1.2 ++ b'.1.2)) = a'.2 * b'.2
      rw [s3, ha3, hb3]
  neg := by
    intro a a' ha I hI
    obtain ⟨x, rfl, hx, hf⟩ := guard1_some hI
    obtain ⟨ha1, ha2, ha3⟩ := ha x rfl
    obtain ⟨s1, s2, s3⟩ := S.neg _ (EnvIn_of_itvsLe ha2 hx)
    cases hf
    refine ⟨?_, s2, ?_⟩
    · show concUn [B.neg] a'.1.1 = _
      simp only [ha1, concUn, s1]; rfl
    · show val (wrapSeq [B.neg] a'.1.2) = - a'.2
      rw [s3, ha3]
  square := by
    intro a a' ha I hI
    obtain ⟨x, rfl, hx, hf⟩ := guard1_some hI
    obtain ⟨ha1, ha2, ha3⟩ := ha x rfl
    obtain ⟨s1, s2, s3⟩ := S.square _ (EnvIn_of_itvsLe ha2 hx)
    cases hf
    refine ⟨?_, s2, ?_⟩
    · show concUn B.square a'.1.1 = _
      simp only [ha1, concUn, s1]; rfl
    · show val (wrapSeq B.square a'.1.2) = a'.2 * a'.2
      rw [s3, ha3]
  square2 := by
    intro a a' ha I hI
    obtain ⟨x, rfl, hx, hf⟩ := guard1_some hI
    obtain ⟨ha1, ha2, ha3⟩ := ha x rfl
    obtain ⟨s1, s2, s3⟩ := S.square2 _ (EnvIn_of_itvsLe ha2 hx)
    cases hf
    refine ⟨?_, s2, ?_⟩
    · show concUn B.square2 a'.1.1 = _
      simp only [ha1, concUn, s1]; rfl
    · show val (wrapSeq B.square2 a'.1.2) = 2 * (a'.2 * a'.2)
      rw [s3, ha3]
  pow2k := by
    intro a a' k ha I hI
    simp only [specOps] at hI
    split at hI
    · cases hI
    · rename_i hk
      obtain ⟨x, rfl, hx, hf⟩ := guard1_some hI
      obtain ⟨ha1, ha2, ha3⟩ := ha x rfl
      obtain ⟨k', rfl⟩ : ∃ k', k = k' + 1 := ⟨k - 1, by omega⟩
      obtain ⟨s1, s2, s3⟩ := S.pow k' _ (EnvIn_of_itvsLe ha2 hx)
      cases hf
      refine ⟨?_, s2, ?_⟩
      · show (limbOps B).pow2k a'.1.1 (k' + 1) = some ((limbOpsW B).pow2k a'.1.2 (k' + 1))
        simp only [limbOps, limbOpsW, ha1, hk, if_false, s1]
      · show val (iterW B.powBody (k' + 1) a'.1.2) = a'.2 ^ (2 ^ (k' + 1))
        rw [s3, ha3]
  const := by
    intro i I hI
    have hI' : (B.consts[i]?).map (fun l => l.map (fun n => (⟨n, n, 0⟩ : Itv))) = some I := hI
    simp only [Option.map_eq_some_iff] at hI'
    obtain ⟨l, hl, rfl⟩ := hI'
    have e : (limbOpsW B).const i = l := by
      simp only [limbOpsW, hl, List.getD_eq_getElem?_getD, Option.getD_some]
    refine ⟨?_, ?_, ?_⟩
    · show (limbOps B).const i = some ((limbOpsW B).const i)
      rw [e]; simp only [limbOps, hl]
    · show EnvIn ((limbOpsW B).const i) _
      rw [e]; exact AlgBoundsSound.EnvIn_point l
    · show val ((limbOpsW B).const i) = zmodOps.const i
      rw [e]; exact S.const i l hl
  ctEq := by
    intro a b a' b' ha hb I hI
    obtain ⟨x, y, rfl, rfl, hx, hy, hf⟩ := guard2_some hI
    obtain ⟨ha1, ha2, ha3⟩ := ha x rfl
    obtain ⟨hb1, hb2, hb3⟩ := hb y rfl
    obtain ⟨s1, s2⟩ := S.bytes _ (EnvIn_of_itvsLe ha2 hx)
    obtain ⟨t1, t2⟩ := S.bytes _ (EnvIn_of_itvsLe hb2 hy)
    cases hf
    refine ⟨?_, EnvIn_choice (AlgBoundsSound.b2n_lt _), ?_⟩
    · show concPred2 B.asBytes a'.1.1 b'.1.1 = _
      simp only [ha1, hb1, concPred2, s1, t1]; rfl
    · show val [Dalek.Model.AlgBounds.b2n (B.asBytes.evalW a'.1.2 == B.asBytes.evalW b'.1.2)] = c2f (a'.2 = b'.2)
      rw [S.choice, s2, t2, ha3, hb3]
      by_cases h : a'.2 = b'.2
      · rw [h]; simp [Dalek.Model.AlgBounds.b2n, c2f]
      · have : (enc a'.2 == enc b'.2) = false := by
          rw [beq_eq_false_iff_ne]; exact fun e => h (enc_inj e)
        rw [this]; simp [Dalek.Model.AlgBounds.b2n, c2f, h]
  isNeg := by
    intro a a' ha I hI
    obtain ⟨x, rfl, hx, hf⟩ := guard1_some hI
    obtain ⟨ha1, ha2, ha3⟩ := ha x rfl
    obtain ⟨s1, s2⟩ := S.bytes _ (EnvIn_of_itvsLe ha2 hx)
    cases hf
    refine ⟨?_, EnvIn_choice (Nat.mod_lt _ (by decide)), ?_⟩
    · show concPred1 B.asBytes negBit a'.1.1 = _
      simp only [ha1, concPred1, s1, Option.map_some]; rfl
    · show val [negBit (B.asBytes.evalW a'.1.2)] = c2f (fpIsNeg a'.2)
      rw [S.choice, s2, ha3, negBit_enc]
      unfold c2f fpIsNeg
      have h2 : a'.2.val % 2 = 0 ∨ a'.2.val % 2 = 1 := by omega
      rcases h2 with h | h <;> simp [h]
  isZero := by
    intro a a' ha I hI
    obtain ⟨x, rfl, hx, hf⟩ := guard1_some hI
    obtain ⟨ha1, ha2, ha3⟩ := ha x rfl
    obtain ⟨s1, s2⟩ := S.bytes _ (EnvIn_of_itvsLe ha2 hx)
    cases hf
    refine ⟨?_, EnvIn_choice (AlgBoundsSound.b2n_lt _), ?_⟩
    · show concPred1 B.asBytes zeroBit a'.1.1 = _
      simp only [ha1, concPred1, s1, Option.map_some]; rfl
    · show val [zeroBit (B.asBytes.evalW a'.1.2)] = c2f (a'.2 = 0)
      rw [S.choice, s2, ha3, zeroBit_enc]
      by_cases h : a'.2 = 0 <;> simp [h, Dalek.Model.AlgBounds.b2n, c2f]
  cand := fun ha hb => rel3_ch2 S chAnd (fun a b => c2f (a ≠ 0 ∧ b ≠ 0)) chAnd_lt (by
    intro x y hx hy
    rcases two_cases hx with rfl | rfl <;> rcases two_cases hy with rfl | rfl <;> simp [chAnd, c2f]) ha hb
  cor := fun ha hb => rel3_ch2 S chOr (fun a b => c2f (a ≠ 0 ∨ b ≠ 0)) chOr_lt (by
    intro x y hx hy
    rcases two_cases hx with rfl | rfl <;> rcases two_cases hy with rfl | rfl <;> simp [chOr, c2f]) ha hb
  cxor := fun ha hb => rel3_ch2 S chXor (fun a b => c2f (¬ ((a ≠ 0) ↔ (b ≠ 0)))) chXor_lt (by
    intro x y hx hy
    rcases two_cases hx with rfl | rfl <;> rcases two_cases hy with rfl | rfl <;> simp [chXor, c2f]) ha hb
  cnot := by
    intro a a' ha I hI
    match a, hI with
    | some x, hI =>
      obtain ⟨ha1, ha2, ha3⟩ := ha x rfl
      have hI' : absCh1 (some x) = some I := hI
      simp only [absCh1] at hI'
      split at hI'
      · rename_i hc
        simp only [Option.some.injEq] at hI'
        subst hI'
        obtain ⟨u, hu, hu2, hu3⟩ := choice_facts S hc ha2 ha3
        refine ⟨?_, ?_, ?_⟩
        · show concCh1 chNot a'.1.1 = some [chNot (a'.1.2.getD 0 0)]
          simp only [ha1, hu, concCh1, hu2, if_true, List.getD_cons_zero]
        · show EnvIn [chNot (a'.1.2.getD 0 0)] choiceItv
          exact EnvIn_choice (chNot_lt _ (by simp only [hu, List.getD_cons_zero]; exact hu2))
        · show val [chNot (a'.1.2.getD 0 0)] = c2f (a'.2 = 0)
          rw [S.choice, hu, List.getD_cons_zero, hu3]
          rcases two_cases hu2 with rfl | rfl <;> simp [chNot, c2f]
      · cases hI'
    | none, hI => exact absurd hI (by simp [specOps, absCh1])
  csel := by
    intro c a b c' a' b' hc ha hb I hI
    match c, a, b, hI with
    | some ci, some x, some y, hI =>
      obtain ⟨hc1, hc2, hc3⟩ := hc ci rfl
      obtain ⟨ha1, ha2, ha3⟩ := ha x rfl
      obtain ⟨hb1, hb2, hb3⟩ := hb y rfl
      have hI' : absSel (some ci) (some x) (some y) = some I := hI
      simp only [absSel] at hI'
      split at hI'
      · rename_i hch
        obtain ⟨z, hz, hz2, hz3⟩ := choice_facts S hch hc2 hc3
        obtain ⟨hj1, hj2⟩ := joinV_sound hI'
        rcases two_cases hz2 with rfl | rfl
        · refine ⟨?_, ?_, ?_⟩
          · show concSel c'.1.1 a'.1.1 b'.1.1 = some (if c'.1.2.getD 0 0 = 0 then a'.1.2 else b'.1.2)
            simp [hc1, ha1, hb1, hz, concSel]
          · show EnvIn (if c'.1.2.getD 0 0 = 0 then a'.1.2 else b'.1.2) I
            simp only [hz, List.getD_cons_zero, if_true]
            exact EnvIn_of_itvsLe ha2 hj1
          · show val (if c'.1.2.getD 0 0 = 0 then a'.1.2 else b'.1.2) = if c'.2 = 0 then a'.2 else b'.2
            simp [hz, hz3, ha3]
        · refine ⟨?_, ?_, ?_⟩
          · show concSel c'.1.1 a'.1.1 b'.1.1 = some (if c'.1.2.getD 0 0 = 0 then a'.1.2 else b'.1.2)
            simp [hc1, ha1, hb1, hz, concSel]
          · show EnvIn (if c'.1.2.getD 0 0 = 0 then a'.1.2 else b'.1.2) I
            simp only [hz, List.getD_cons_zero, Nat.one_ne_zero, if_false]
            exact EnvIn_of_itvsLe hb2 hj2
          · show val (if c'.1.2.getD 0 0 = 0 then a'.1.2 else b'.1.2) = if c'.2 = 0 then a'.2 else b'.2
            simp [hz, hz3, hb3]
      · cases hI'
    | none, _, _, hI => exact absurd hI (by simp [specOps, absSel])
    | some _, none, _, hI => exact absurd hI (by simp [specOps, absSel])
    | some _, some _, none, hI => exact absurd hI (by simp [specOps, absSel])
  dflt := by intro I hI; cases hI

/-! ## whole formulas -/

theorem outs3_sound {val : List Nat → Fp} : ∀ {as : List AVal} {ps : List TVal} {post : List (List Itv)},
    ListRel (R3 val) as ps → outsLe as post = true →
      ps.map (·.1.1) = (ps.map (·.1.2)).map some ∧ ListRel EnvIn (ps.map (·.1.2)) post ∧
        (ps.map (·.1.2)).map val = ps.map (·.2)
  | [], [], [], _, _ => ⟨rfl, .nil, rfl⟩
  | some a :: as, p :: ps, t :: ts, h, hle => by
      cases h with
      | cons h1 h2 =>
        simp only [outsLe, Bool.and_eq_true] at hle
        obtain ⟨e1, e2, e3⟩ := h1 a rfl
        obtain ⟨r1, r2, r3⟩ := outs3_sound h2 hle.2
        refine ⟨?_, ?_, ?_⟩
        · simp only [List.map_cons, e1, r1]
        · exact .cons (EnvIn_of_itvsLe e2 hle.1) r2
        · simp only [List.map_cons, e3, r3]
  | [], _ :: _, _, h, _ => by cases h
  | _ :: _, [], _, h, _ => by cases h
  | [], [], _ :: _, _, hle => by simp [outsLe] at hle
  | none :: _, _, _, _, hle => by simp [outsLe] at hle
  | some _ :: _, _, [], _, hle => by simp [outsLe] at hle

theorem allSome3_sound {val : List Nat → Fp} : ∀ {as : List AVal} {ps : List TVal},
    ListRel (R3 val) as ps → allSome as = true → ps.map (·.1.1) = (ps.map (·.1.2)).map some
  | [], [], _, _ => rfl
  | some a :: as, p :: ps, h, hs => by
      cases h with
      | cons h1 h2 =>
        obtain ⟨e1, _⟩ := h1 a rfl
        simp only [List.map_cons, e1, allSome3_sound h2 (by simpa [allSome] using hs)]
  | none :: _, _, _, hs => by simp [allSome] at hs
  | [], _ :: _, h, _ => by cases h
  | some _ :: _, [], h, _ => by cases h

/-- what "the limb-level execution of `F` refines its field-level meaning" says: for ALL limb inputs inside the
input invariants `pre`: no statement panics in the debug build and all intermediate values / the outputs equal the
release build; the outputs are inside `post`; and the VALUES of the output limbs are exactly the outputs of the
field-level run (`zmodOps`) on the values of the input limbs (a choice `[c]` has the value `c`). -/
def Refines (B : Backend) (val : List Nat → Fp) (F : AProg) (pre post : List (List Itv)) : Prop :=
  ∀ ins : List (List Nat), EnvsIn ins pre →
    arunBody (limbOps B) F.body (ins.map some) = (arunBody (limbOpsW B) F.body ins).map some ∧
    F.run (limbOps B) (ins.map some) = (F.run (limbOpsW B) ins).map some ∧
    EnvsIn (F.run (limbOpsW B) ins) post ∧
    (F.run (limbOpsW B) ins).map val = F.run zmodOps (ins.map val)

/-- **Refinement theorem** (generic in the backend): a formula passing the contract-composition check refines its
field-level meaning. -/
theorem formula_refines {B : Backend} {C : Contract} {val : List Nat → Fp} (S : BackendSpec B C val)
    (F : AProg) (pre post : List (List Itv)) (h : specCheck B C F pre post = true) : Refines B val F pre post := by
  intro ins hin
  simp only [specCheck, Bool.and_eq_true] at h
  obtain ⟨⟨hlen, hall⟩, hout⟩ := h
  have hin' := EnvsIn_iff.1 hin
  have hR : ListRel (R3 val) (pre.map some) (ins.map (fun l => (((some l, l), val l) : TVal))) := by
    clear hall hout hin hlen
    induction hin' with
    | nil => exact .nil
    | cons hab _ ih =>
      refine .cons ?_ ih
      intro I hI
      cases hI
      exact ⟨rfl, hab, rfl⟩
  have hP : ListRel (fun (p : TVal) (c : PVal) => p.1 = c) (ins.map (fun l => (((some l, l), val l) : TVal)))
      (ins.map (fun l => ((some l, l) : PVal))) :=
    ListRel.map_map (R := fun (p : TVal) (c : PVal) => p.1 = c) _ _ (fun _ => rfl) ins
  have hZ : ListRel (fun (p : TVal) (c : Fp) => p.2 = c) (ins.map (fun l => (((some l, l), val l) : TVal)))
      (ins.map val) :=
    ListRel.map_map (R := fun (p : TVal) (c : Fp) => p.2 = c) _ _ (fun _ => rfl) ins
  have hfst : ListRel (fun (p : PVal) (c : CVal) => p.1 = c) (ins.map (fun l => ((some l, l) : PVal)))
      (ins.map some) :=
    ListRel.map_map (R := fun (p : PVal) (c : CVal) => p.1 = c) (fun l => (some l, l)) some (fun _ => rfl) ins
  have hsnd : ListRel (fun (p : PVal) (c : List Nat) => p.2 = c) (ins.map (fun l => ((some l, l) : PVal)))
      (ins.map id) :=
    ListRel.map_map (R := fun (p : PVal) (c : List Nat) => p.2 = c) (fun l => (some l, l)) id (fun _ => rfl) ins
  rw [List.map_id] at hsnd
  -- environments
  have e1 := arunBody_rel (specOps_rel S) F.body hR
  have eP := ListRel.eq_map (arunBody_rel (prodOps_fst (prodOps (limbOps B) (limbOpsW B)) zmodOps) F.body hP)
  have e2 := ListRel.eq_map (arunBody_rel (prodOps_fst (limbOps B) (limbOpsW B)) F.body hfst)
  have e3 := ListRel.eq_map (arunBody_rel (prodOps_snd (limbOps B) (limbOpsW B)) F.body hsnd)
  -- outputs
  have h1 := AProg.run_rel (specOps_rel S) F hR
  have hPo := ListRel.eq_map (AProg.run_rel (prodOps_fst (prodOps (limbOps B) (limbOpsW B)) zmodOps) F hP)
  have hZo := ListRel.eq_map (AProg.run_rel (prodOps_snd (prodOps (limbOps B) (limbOpsW B)) zmodOps) F hZ)
  have h2 := ListRel.eq_map (AProg.run_rel (prodOps_fst (limbOps B) (limbOpsW B)) F hfst)
  have h3 := ListRel.eq_map (AProg.run_rel (prodOps_snd (limbOps B) (limbOpsW B)) F hsnd)
  obtain ⟨r1, r2, r3⟩ := outs3_sound h1 hout
  have a1 := allSome3_sound e1 hall
  refine ⟨?_, ?_, ?_, ?_⟩
  · rw [e2, e3, eP]; simp only [List.map_map]; exact a1.trans (List.map_map ..)
  · rw [h2, h3, hPo]; simp only [List.map_map]; exact r1.trans (List.map_map ..)
  · rw [h3, hPo]; refine EnvsIn_iff.2 ?_; simp only [List.map_map]; exact r2
  · rw [h3, hPo, hZo]; simp only [List.map_map]; exact (List.map_map ..).symm.trans r3

theorem Sig.refines_of_ok {B : Backend} {C : Contract} {val : List Nat → Fp} (S : BackendSpec B C val) {s : Sig}
    (h : Sig.refOk B C s = true) : Refines B val s.F s.pre s.post :=
  formula_refines S s.F s.pre s.post h

/-! ## small list helpers for the corollaries -/

theorem map_eq_four {α β : Type} {f : α → β} {l : List α} {a b c d : β} (h : l.map f = [a, b, c, d]) :
    ∃ x y z t, l = [x, y, z, t] ∧ f x = a ∧ f y = b ∧ f z = c ∧ f t = d := by
  match l, h with
  | [x, y, z, t], h =>
    simp only [List.map_cons, List.map_nil, List.cons.injEq, and_true] at h
    exact ⟨x, y, z, t, rfl, h.1, h.2.1, h.2.2.1, h.2.2.2⟩

theorem map_eq_one {α β : Type} {f : α → β} {l : List α} {a : β} (h : l.map f = [a]) :
    ∃ x, l = [x] ∧ f x = a := by
  match l, h with
  | [x], h =>
    simp only [List.map_cons, List.map_nil, List.cons.injEq, and_true] at h
    exact ⟨x, rfl, h⟩

/-- a limb vector inside the choice bound is `[0]` or `[1]`, determined by its value -/
theorem choice_limb {val : List Nat → Fp} (hch : ∀ c : Nat, val [c] = (c : Fp)) {l : List Nat}
    (hl : EnvIn l choiceItv) : (val l = 0 → l = [0]) ∧ (val l = 1 → l = [1]) := by
  obtain ⟨x, rfl, hx⟩ := isChoice_sound (c := choiceItv) (by decide) hl
  rcases two_cases hx with rfl | rfl
  · exact ⟨fun _ => rfl, fun h => by rw [hch] at h; simp at h⟩
  · exact ⟨fun h => by rw [hch] at h; simp at h, fun _ => rfl⟩

end Dalek.Proofs.AlgRefine
