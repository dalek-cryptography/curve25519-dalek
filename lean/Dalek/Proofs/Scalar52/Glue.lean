import Dalek.Proofs.Scalar52.Compose
import Dalek.Proofs.Scalar52.Bytes
/-! # Scalar52: glue between the `Nat`-level property statements and the `Int`-level kernel lemmas -/
set_option exponentiation.threshold 600

namespace Dalek.Proofs.Scalar52
open Dalek.IR Dalek.Model.FieldBytes

/-- a bound on the value of limbs, read on their integer form `zs` (`hz` is `rfl` for explicit limbs) -/
theorem repZ_lt {xs : List Nat} {n : Nat} {zs : List Int} (h : val52 xs < n) (hz : toZ xs = zs) :
    repZ zs < (n : Int) := by
  rw [← hz, repZ_toZ]; exact_mod_cast h

/-- from the kernel's normal form to the value of its output: `f` is the shallow function of the normal form
(`k_fn_ok`), `o` its limbs and `V` their value (the `k_fn_spec` lemma) -/
theorem val_glue {q : NProg} {ins out : List Nat} {f o : List Int} {V : Int} (hZ : q.evalZ (toZ ins) = toZ out)
    (hf : q.evalZ (toZ ins) = f) (he : f = o) (hv : repZ o = V) : (val52 out : Int) = V := by
  rw [← repZ_toZ, ← hZ, hf, he, hv]

theorem repZ_cast5 (a0 a1 a2 a3 a4 : Nat) :
    repZ [(a0 : Int), a1, a2, a3, a4] = (val52 [a0, a1, a2, a3, a4] : Int) := repZ_toZ [a0, a1, a2, a3, a4]

theorem repZ_cast9 (a0 a1 a2 a3 a4 a5 a6 a7 a8 : Nat) :
    repZ [(a0 : Int), a1, a2, a3, a4, a5, a6, a7, a8] = (val52 [a0, a1, a2, a3, a4, a5, a6, a7, a8] : Int) :=
  repZ_toZ [a0, a1, a2, a3, a4, a5, a6, a7, a8]

theorem Lim_split5 {B : Int} {a0 a1 a2 a3 a4 : Int} {rest : List Int}
    (h : Lim B (a0 :: a1 :: a2 :: a3 :: a4 :: rest)) : Lim B [a0, a1, a2, a3, a4] ∧ Lim B rest := by
  simp only [Lim] at h ⊢
  exact ⟨⟨h.1, h.2.1, h.2.2.1, h.2.2.2.1, h.2.2.2.2.1, trivial⟩, h.2.2.2.2.2⟩

/-- `Nat`-level canonical-value statement from the `Int`-level one -/
theorem nat_emod_of_int {o X : Nat} (h : (o : Int) = (X : Int) % ell) : o = X % ell := by
  exact_mod_cast h

theorem nat_modEq_of_zmod {a b : Nat} (h : ((a : Int) : ZMod ell) = ((b : Int) : ZMod ell)) : a % ell = b % ell := by
  apply (ZMod.natCast_eq_natCast_iff' a b ell).1
  exact_mod_cast h

theorem nat_mont_of_zmod {o N : Nat} (h : ((o : Int) : ZMod ell) * 2 ^ 260 = ((N : Int) : ZMod ell)) :
    o * 2 ^ 260 % ell = N % ell := by
  apply (ZMod.natCast_eq_natCast_iff' _ _ ell).1
  rw [Int.cast_natCast, Int.cast_natCast] at h
  rw [Nat.cast_mul, Nat.cast_pow, Nat.cast_ofNat]
  exact h

theorem nat_mont_mul_of_zmod {o A B : Nat}
    (h : ((o : Int) : ZMod ell) * 2 ^ 260 = ((A : Int) : ZMod ell) * ((B : Int) : ZMod ell)) :
    o * 2 ^ 260 % ell = A * B % ell := by
  apply nat_mont_of_zmod
  rw [h, Nat.cast_mul, Int.cast_mul]

theorem leValZ_toZ : ∀ l : List Nat, leValZ (toZ l) = (leVal l : Int)
  | [] => rfl
  | b :: bs => by rw [toZ_cons, leValZ, leVal, leValZ_toZ bs]; push_cast; rfl

theorem leVal_of_toZ {out : List Nat} {o : List Int} (h : toZ out = o) : (leVal out : Int) = leValZ o := by
  rw [← leValZ_toZ, h]

theorem nat_of_leValZ {o : Nat} {bs : List Nat} {zs : List Int} (h : (o : Int) = leValZ zs) (hz : toZ bs = zs) :
    o = leVal bs := by
  rw [← hz, leValZ_toZ] at h; exact_mod_cast h

theorem nat_emod_of_leValZ {o : Nat} {bs : List Nat} {zs : List Int} (h : (o : Int) = leValZ zs % ell)
    (hz : toZ bs = zs) : o = leVal bs % ell := by
  rw [← hz, leValZ_toZ] at h; exact nat_emod_of_int h

/-- inputs inside `bytes n` are `< 256` -/
theorem limBytes_of_envIn {n : Nat} {xs : List Nat} (h : EnvIn xs (Dalek.Model.Contracts.bytes n)) :
    Lim 256 (toZ xs) :=
  lim_of_envIn 255 256 (by norm_num) n xs h

/-! ## from explicit limbs to lists -/

/-- `P` holds of every list of length `n`, written with `n` universally quantified elements: `ForallVec α 2 P`
unfolds to `∀ x y, P [x, y]`, the shape of a theorem stated for explicit limbs -/
def ForallVec (α : Type) : Nat → (List α → Prop) → Prop
  | 0, P => P []
  | n + 1, P => ∀ x, ForallVec α n (fun l => P (x :: l))

theorem ForallVec.apply {α : Type} : ∀ {n : Nat} {P : List α → Prop}, ForallVec α n P → ∀ l, l.length = n → P l
  | 0, _, h, [], _ => h
  | n + 1, _, h, x :: l, hl => ForallVec.apply (h x) l (by simpa using hl)
  | 0, _, _, _ :: _, hl => by simp at hl
  | _ + 1, _, _, [], hl => by simp at hl

/-- a statement about a list inside a contract follows from the statement for explicit elements -/
@[elab_as_elim]
theorem ForallVec.of_envIn {ts : List Itv} {motive : List Nat → Prop} (a : List Nat) (ha : EnvIn a ts)
    (h : ForallVec Nat ts.length (fun a => EnvIn a ts → motive a)) : motive a :=
  h.apply a (EnvIn_length ha) ha

@[elab_as_elim]
theorem ForallVec.of_envIn₂ {ts us : List Itv} {motive : List Nat → List Nat → Prop} (a b : List Nat)
    (ha : EnvIn a ts) (hb : EnvIn b us)
    (h : ForallVec Nat ts.length fun a => ForallVec Nat us.length fun b => EnvIn a ts → EnvIn b us → motive a b) :
    motive a b :=
  (h.apply a (EnvIn_length ha)).apply b (EnvIn_length hb) ha hb

end Dalek.Proofs.Scalar52
