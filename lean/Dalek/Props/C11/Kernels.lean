import Dalek.IR.KProg
import Dalek.Gen.Norm.All
/-!
# C11 — no limb overflow in any translated kernel (property theorems, kernel level)

For every kernel regenerated from the Rust source and every input inside its bound contract
(`Dalek.Model.Contracts.<Mod>.pre_<k>`, the documented headroom), the semantics WITH overflow checks and
debug assertions (`evalC`) does not panic and returns exactly what the wrapping release semantics (`evalW`)
returns, and the outputs satisfy the analysed post-condition `<k>_post`.
One theorem per kernel; each is `Prog.norm_sound` (`Triple.of_norm`) applied to the kernel-evaluated analysis `<k>_norm_ok`.
-/
namespace Dalek.Props.C11.Kernels
open Dalek.IR Dalek.Model.Contracts

theorem Field51_add_safe (ins : List Nat) (hin : EnvIn ins Field51.pre_add) :
    ∃ outs, Dalek.Gen.Field51.add.evalC ins = some outs ∧ Dalek.Gen.Field51.add.evalW ins = outs ∧
      EnvIn outs Dalek.Gen.Norm.Field51.add_post :=
  Triple.of_norm Dalek.Gen.Norm.Field51.add_norm_ok ins hin

theorem Field51_sub_safe (ins : List Nat) (hin : EnvIn ins Field51.pre_sub) :
    ∃ outs, Dalek.Gen.Field51.sub.evalC ins = some outs ∧ Dalek.Gen.Field51.sub.evalW ins = outs ∧
      EnvIn outs Dalek.Gen.Norm.Field51.sub_post :=
  Triple.of_norm Dalek.Gen.Norm.Field51.sub_norm_ok ins hin

theorem Field51_mul_safe (ins : List Nat) (hin : EnvIn ins Field51.pre_mul) :
    ∃ outs, Dalek.Gen.Field51.mul.evalC ins = some outs ∧ Dalek.Gen.Field51.mul.evalW ins = outs ∧
      EnvIn outs Dalek.Gen.Norm.Field51.mul_post :=
  Triple.of_norm Dalek.Gen.Norm.Field51.mul_norm_ok ins hin

theorem Field51_neg_safe (ins : List Nat) (hin : EnvIn ins Field51.pre_neg) :
    ∃ outs, Dalek.Gen.Field51.neg.evalC ins = some outs ∧ Dalek.Gen.Field51.neg.evalW ins = outs ∧
      EnvIn outs Dalek.Gen.Norm.Field51.neg_post :=
  Triple.of_norm Dalek.Gen.Norm.Field51.neg_norm_ok ins hin

theorem Field51_reduce_safe (ins : List Nat) (hin : EnvIn ins Field51.pre_reduce) :
    ∃ outs, Dalek.Gen.Field51.reduce.evalC ins = some outs ∧ Dalek.Gen.Field51.reduce.evalW ins = outs ∧
      EnvIn outs Dalek.Gen.Norm.Field51.reduce_post :=
  Triple.of_norm Dalek.Gen.Norm.Field51.reduce_norm_ok ins hin

theorem Field51_from_bytes_safe (ins : List Nat) (hin : EnvIn ins Field51.pre_from_bytes) :
    ∃ outs, Dalek.Gen.Field51.from_bytes.evalC ins = some outs ∧ Dalek.Gen.Field51.from_bytes.evalW ins = outs ∧
      EnvIn outs Dalek.Gen.Norm.Field51.from_bytes_post :=
  Triple.of_norm Dalek.Gen.Norm.Field51.from_bytes_norm_ok ins hin

theorem Field51_as_bytes_safe (ins : List Nat) (hin : EnvIn ins Field51.pre_as_bytes) :
    ∃ outs, Dalek.Gen.Field51.as_bytes.evalC ins = some outs ∧ Dalek.Gen.Field51.as_bytes.evalW ins = outs ∧
      EnvIn outs Dalek.Gen.Norm.Field51.as_bytes_post :=
  Triple.of_norm Dalek.Gen.Norm.Field51.as_bytes_norm_ok ins hin

theorem Field51_pow2k_body_safe (ins : List Nat) (hin : EnvIn ins Field51.pre_pow2k_body) :
    ∃ outs, Dalek.Gen.Field51.pow2k_body.evalC ins = some outs ∧ Dalek.Gen.Field51.pow2k_body.evalW ins = outs ∧
      EnvIn outs Dalek.Gen.Norm.Field51.pow2k_body_post :=
  Triple.of_norm Dalek.Gen.Norm.Field51.pow2k_body_norm_ok ins hin

theorem Field51_square2_tail_safe (ins : List Nat) (hin : EnvIn ins Field51.pre_square2_tail) :
    ∃ outs, Dalek.Gen.Field51.square2_tail.evalC ins = some outs ∧ Dalek.Gen.Field51.square2_tail.evalW ins = outs ∧
      EnvIn outs Dalek.Gen.Norm.Field51.square2_tail_post :=
  Triple.of_norm Dalek.Gen.Norm.Field51.square2_tail_norm_ok ins hin

theorem Field26_add_safe (ins : List Nat) (hin : EnvIn ins Field26.pre_add) :
    ∃ outs, Dalek.Gen.Field26.add.evalC ins = some outs ∧ Dalek.Gen.Field26.add.evalW ins = outs ∧
      EnvIn outs Dalek.Gen.Norm.Field26.add_post :=
  Triple.of_norm Dalek.Gen.Norm.Field26.add_norm_ok ins hin

theorem Field26_sub_safe (ins : List Nat) (hin : EnvIn ins Field26.pre_sub) :
    ∃ outs, Dalek.Gen.Field26.sub.evalC ins = some outs ∧ Dalek.Gen.Field26.sub.evalW ins = outs ∧
      EnvIn outs Dalek.Gen.Norm.Field26.sub_post :=
  Triple.of_norm Dalek.Gen.Norm.Field26.sub_norm_ok ins hin

theorem Field26_mul_safe (ins : List Nat) (hin : EnvIn ins Field26.pre_mul) :
    ∃ outs, Dalek.Gen.Field26.mul.evalC ins = some outs ∧ Dalek.Gen.Field26.mul.evalW ins = outs ∧
      EnvIn outs Dalek.Gen.Norm.Field26.mul_post :=
  Triple.of_norm Dalek.Gen.Norm.Field26.mul_norm_ok ins hin

theorem Field26_neg_safe (ins : List Nat) (hin : EnvIn ins Field26.pre_neg) :
    ∃ outs, Dalek.Gen.Field26.neg.evalC ins = some outs ∧ Dalek.Gen.Field26.neg.evalW ins = outs ∧
      EnvIn outs Dalek.Gen.Norm.Field26.neg_post :=
  Triple.of_norm Dalek.Gen.Norm.Field26.neg_norm_ok ins hin

theorem Field26_reduce_safe (ins : List Nat) (hin : EnvIn ins Field26.pre_reduce) :
    ∃ outs, Dalek.Gen.Field26.reduce.evalC ins = some outs ∧ Dalek.Gen.Field26.reduce.evalW ins = outs ∧
      EnvIn outs Dalek.Gen.Norm.Field26.reduce_post :=
  Triple.of_norm Dalek.Gen.Norm.Field26.reduce_norm_ok ins hin

theorem Field26_from_bytes_safe (ins : List Nat) (hin : EnvIn ins Field26.pre_from_bytes) :
    ∃ outs, Dalek.Gen.Field26.from_bytes.evalC ins = some outs ∧ Dalek.Gen.Field26.from_bytes.evalW ins = outs ∧
      EnvIn outs Dalek.Gen.Norm.Field26.from_bytes_post :=
  Triple.of_norm Dalek.Gen.Norm.Field26.from_bytes_norm_ok ins hin

theorem Field26_as_bytes_safe (ins : List Nat) (hin : EnvIn ins Field26.pre_as_bytes) :
    ∃ outs, Dalek.Gen.Field26.as_bytes.evalC ins = some outs ∧ Dalek.Gen.Field26.as_bytes.evalW ins = outs ∧
      EnvIn outs Dalek.Gen.Norm.Field26.as_bytes_post :=
  Triple.of_norm Dalek.Gen.Norm.Field26.as_bytes_norm_ok ins hin

theorem Field26_square_inner_safe (ins : List Nat) (hin : EnvIn ins Field26.pre_square_inner) :
    ∃ outs, Dalek.Gen.Field26.square_inner.evalC ins = some outs ∧ Dalek.Gen.Field26.square_inner.evalW ins = outs ∧
      EnvIn outs Dalek.Gen.Norm.Field26.square_inner_post :=
  Triple.of_norm Dalek.Gen.Norm.Field26.square_inner_norm_ok ins hin

theorem Field26_square_safe (ins : List Nat) (hin : EnvIn ins Field26.pre_square) :
    ∃ outs, Dalek.Gen.Field26.square.evalC ins = some outs ∧ Dalek.Gen.Field26.square.evalW ins = outs ∧
      EnvIn outs Dalek.Gen.Norm.Field26.square_post :=
  Triple.of_norm Dalek.Gen.Norm.Field26.square_norm_ok ins hin

theorem Field26_square2_safe (ins : List Nat) (hin : EnvIn ins Field26.pre_square2) :
    ∃ outs, Dalek.Gen.Field26.square2.evalC ins = some outs ∧ Dalek.Gen.Field26.square2.evalW ins = outs ∧
      EnvIn outs Dalek.Gen.Norm.Field26.square2_post :=
  Triple.of_norm Dalek.Gen.Norm.Field26.square2_norm_ok ins hin

theorem Field26_pow2k_body_safe (ins : List Nat) (hin : EnvIn ins Field26.pre_pow2k_body) :
    ∃ outs, Dalek.Gen.Field26.pow2k_body.evalC ins = some outs ∧ Dalek.Gen.Field26.pow2k_body.evalW ins = outs ∧
      EnvIn outs Dalek.Gen.Norm.Field26.pow2k_body_post :=
  Triple.of_norm Dalek.Gen.Norm.Field26.pow2k_body_norm_ok ins hin

theorem Scalar52_from_bytes_safe (ins : List Nat) (hin : EnvIn ins Scalar52.pre_from_bytes) :
    ∃ outs, Dalek.Gen.Scalar52.from_bytes.evalC ins = some outs ∧ Dalek.Gen.Scalar52.from_bytes.evalW ins = outs ∧
      EnvIn outs Dalek.Gen.Norm.Scalar52.from_bytes_post :=
  Triple.of_norm Dalek.Gen.Norm.Scalar52.from_bytes_norm_ok ins hin

theorem Scalar52_from_bytes_wide_safe (ins : List Nat) (hin : EnvIn ins Scalar52.pre_from_bytes_wide) :
    ∃ outs, Dalek.Gen.Scalar52.from_bytes_wide.evalC ins = some outs ∧ Dalek.Gen.Scalar52.from_bytes_wide.evalW ins = outs ∧
      EnvIn outs Dalek.Gen.Norm.Scalar52.from_bytes_wide_post :=
  Triple.of_norm Dalek.Gen.Norm.Scalar52.from_bytes_wide_norm_ok ins hin

theorem Scalar52_as_bytes_safe (ins : List Nat) (hin : EnvIn ins Scalar52.pre_as_bytes) :
    ∃ outs, Dalek.Gen.Scalar52.as_bytes.evalC ins = some outs ∧ Dalek.Gen.Scalar52.as_bytes.evalW ins = outs ∧
      EnvIn outs Dalek.Gen.Norm.Scalar52.as_bytes_post :=
  Triple.of_norm Dalek.Gen.Norm.Scalar52.as_bytes_norm_ok ins hin

theorem Scalar52_add_safe (ins : List Nat) (hin : EnvIn ins Scalar52.pre_add) :
    ∃ outs, Dalek.Gen.Scalar52.add.evalC ins = some outs ∧ Dalek.Gen.Scalar52.add.evalW ins = outs ∧
      EnvIn outs Dalek.Gen.Norm.Scalar52.add_post :=
  Triple.of_norm Dalek.Gen.Norm.Scalar52.add_norm_ok ins hin

theorem Scalar52_sub_safe (ins : List Nat) (hin : EnvIn ins Scalar52.pre_sub) :
    ∃ outs, Dalek.Gen.Scalar52.sub.evalC ins = some outs ∧ Dalek.Gen.Scalar52.sub.evalW ins = outs ∧
      EnvIn outs Dalek.Gen.Norm.Scalar52.sub_post :=
  Triple.of_norm Dalek.Gen.Norm.Scalar52.sub_norm_ok ins hin

theorem Scalar52_mul_internal_safe (ins : List Nat) (hin : EnvIn ins Scalar52.pre_mul_internal) :
    ∃ outs, Dalek.Gen.Scalar52.mul_internal.evalC ins = some outs ∧ Dalek.Gen.Scalar52.mul_internal.evalW ins = outs ∧
      EnvIn outs Dalek.Gen.Norm.Scalar52.mul_internal_post :=
  Triple.of_norm Dalek.Gen.Norm.Scalar52.mul_internal_norm_ok ins hin

theorem Scalar52_square_internal_safe (ins : List Nat) (hin : EnvIn ins Scalar52.pre_square_internal) :
    ∃ outs, Dalek.Gen.Scalar52.square_internal.evalC ins = some outs ∧ Dalek.Gen.Scalar52.square_internal.evalW ins = outs ∧
      EnvIn outs Dalek.Gen.Norm.Scalar52.square_internal_post :=
  Triple.of_norm Dalek.Gen.Norm.Scalar52.square_internal_norm_ok ins hin

theorem Scalar52_montgomery_reduce_safe (ins : List Nat) (hin : EnvIn ins Scalar52.pre_montgomery_reduce) :
    ∃ outs, Dalek.Gen.Scalar52.montgomery_reduce.evalC ins = some outs ∧ Dalek.Gen.Scalar52.montgomery_reduce.evalW ins = outs ∧
      EnvIn outs Dalek.Gen.Norm.Scalar52.montgomery_reduce_post :=
  Triple.of_norm Dalek.Gen.Norm.Scalar52.montgomery_reduce_norm_ok ins hin

theorem Scalar52_mul_safe (ins : List Nat) (hin : EnvIn ins Scalar52.pre_mul) :
    ∃ outs, Dalek.Gen.Scalar52.mul.evalC ins = some outs ∧ Dalek.Gen.Scalar52.mul.evalW ins = outs ∧
      EnvIn outs Dalek.Gen.Norm.Scalar52.mul_post :=
  Triple.of_norm Dalek.Gen.Norm.Scalar52.mul_norm_ok ins hin

theorem Scalar52_square_safe (ins : List Nat) (hin : EnvIn ins Scalar52.pre_square) :
    ∃ outs, Dalek.Gen.Scalar52.square.evalC ins = some outs ∧ Dalek.Gen.Scalar52.square.evalW ins = outs ∧
      EnvIn outs Dalek.Gen.Norm.Scalar52.square_post :=
  Triple.of_norm Dalek.Gen.Norm.Scalar52.square_norm_ok ins hin

theorem Scalar52_montgomery_mul_safe (ins : List Nat) (hin : EnvIn ins Scalar52.pre_montgomery_mul) :
    ∃ outs, Dalek.Gen.Scalar52.montgomery_mul.evalC ins = some outs ∧ Dalek.Gen.Scalar52.montgomery_mul.evalW ins = outs ∧
      EnvIn outs Dalek.Gen.Norm.Scalar52.montgomery_mul_post :=
  Triple.of_norm Dalek.Gen.Norm.Scalar52.montgomery_mul_norm_ok ins hin

theorem Scalar52_montgomery_square_safe (ins : List Nat) (hin : EnvIn ins Scalar52.pre_montgomery_square) :
    ∃ outs, Dalek.Gen.Scalar52.montgomery_square.evalC ins = some outs ∧ Dalek.Gen.Scalar52.montgomery_square.evalW ins = outs ∧
      EnvIn outs Dalek.Gen.Norm.Scalar52.montgomery_square_post :=
  Triple.of_norm Dalek.Gen.Norm.Scalar52.montgomery_square_norm_ok ins hin

theorem Scalar52_as_montgomery_safe (ins : List Nat) (hin : EnvIn ins Scalar52.pre_as_montgomery) :
    ∃ outs, Dalek.Gen.Scalar52.as_montgomery.evalC ins = some outs ∧ Dalek.Gen.Scalar52.as_montgomery.evalW ins = outs ∧
      EnvIn outs Dalek.Gen.Norm.Scalar52.as_montgomery_post :=
  Triple.of_norm Dalek.Gen.Norm.Scalar52.as_montgomery_norm_ok ins hin

theorem Scalar52_from_montgomery_safe (ins : List Nat) (hin : EnvIn ins Scalar52.pre_from_montgomery) :
    ∃ outs, Dalek.Gen.Scalar52.from_montgomery.evalC ins = some outs ∧ Dalek.Gen.Scalar52.from_montgomery.evalW ins = outs ∧
      EnvIn outs Dalek.Gen.Norm.Scalar52.from_montgomery_post :=
  Triple.of_norm Dalek.Gen.Norm.Scalar52.from_montgomery_norm_ok ins hin

theorem Scalar29_from_bytes_safe (ins : List Nat) (hin : EnvIn ins Scalar29.pre_from_bytes) :
    ∃ outs, Dalek.Gen.Scalar29.from_bytes.evalC ins = some outs ∧ Dalek.Gen.Scalar29.from_bytes.evalW ins = outs ∧
      EnvIn outs Dalek.Gen.Norm.Scalar29.from_bytes_post :=
  Triple.of_norm Dalek.Gen.Norm.Scalar29.from_bytes_norm_ok ins hin

theorem Scalar29_as_bytes_safe (ins : List Nat) (hin : EnvIn ins Scalar29.pre_as_bytes) :
    ∃ outs, Dalek.Gen.Scalar29.as_bytes.evalC ins = some outs ∧ Dalek.Gen.Scalar29.as_bytes.evalW ins = outs ∧
      EnvIn outs Dalek.Gen.Norm.Scalar29.as_bytes_post :=
  Triple.of_norm Dalek.Gen.Norm.Scalar29.as_bytes_norm_ok ins hin

theorem Scalar29_add_safe (ins : List Nat) (hin : EnvIn ins Scalar29.pre_add) :
    ∃ outs, Dalek.Gen.Scalar29.add.evalC ins = some outs ∧ Dalek.Gen.Scalar29.add.evalW ins = outs ∧
      EnvIn outs Dalek.Gen.Norm.Scalar29.add_post :=
  Triple.of_norm Dalek.Gen.Norm.Scalar29.add_norm_ok ins hin

theorem Scalar29_sub_safe (ins : List Nat) (hin : EnvIn ins Scalar29.pre_sub) :
    ∃ outs, Dalek.Gen.Scalar29.sub.evalC ins = some outs ∧ Dalek.Gen.Scalar29.sub.evalW ins = outs ∧
      EnvIn outs Dalek.Gen.Norm.Scalar29.sub_post :=
  Triple.of_norm Dalek.Gen.Norm.Scalar29.sub_norm_ok ins hin

theorem Scalar29_mul_internal_safe (ins : List Nat) (hin : EnvIn ins Scalar29.pre_mul_internal) :
    ∃ outs, Dalek.Gen.Scalar29.mul_internal.evalC ins = some outs ∧ Dalek.Gen.Scalar29.mul_internal.evalW ins = outs ∧
      EnvIn outs Dalek.Gen.Norm.Scalar29.mul_internal_post :=
  Triple.of_norm Dalek.Gen.Norm.Scalar29.mul_internal_norm_ok ins hin

theorem Scalar29_square_internal_safe (ins : List Nat) (hin : EnvIn ins Scalar29.pre_square_internal) :
    ∃ outs, Dalek.Gen.Scalar29.square_internal.evalC ins = some outs ∧ Dalek.Gen.Scalar29.square_internal.evalW ins = outs ∧
      EnvIn outs Dalek.Gen.Norm.Scalar29.square_internal_post :=
  Triple.of_norm Dalek.Gen.Norm.Scalar29.square_internal_norm_ok ins hin

theorem Scalar29_montgomery_reduce_safe (ins : List Nat) (hin : EnvIn ins Scalar29.pre_montgomery_reduce) :
    ∃ outs, Dalek.Gen.Scalar29.montgomery_reduce.evalC ins = some outs ∧ Dalek.Gen.Scalar29.montgomery_reduce.evalW ins = outs ∧
      EnvIn outs Dalek.Gen.Norm.Scalar29.montgomery_reduce_post :=
  Triple.of_norm Dalek.Gen.Norm.Scalar29.montgomery_reduce_norm_ok ins hin

theorem Scalar29_montgomery_square_safe (ins : List Nat) (hin : EnvIn ins Scalar29.pre_montgomery_square) :
    ∃ outs, Dalek.Gen.Scalar29.montgomery_square.evalC ins = some outs ∧ Dalek.Gen.Scalar29.montgomery_square.evalW ins = outs ∧
      EnvIn outs Dalek.Gen.Norm.Scalar29.montgomery_square_post :=
  Triple.of_norm Dalek.Gen.Norm.Scalar29.montgomery_square_norm_ok ins hin

theorem Scalar29_from_montgomery_safe (ins : List Nat) (hin : EnvIn ins Scalar29.pre_from_montgomery) :
    ∃ outs, Dalek.Gen.Scalar29.from_montgomery.evalC ins = some outs ∧ Dalek.Gen.Scalar29.from_montgomery.evalW ins = outs ∧
      EnvIn outs Dalek.Gen.Norm.Scalar29.from_montgomery_post :=
  Triple.of_norm Dalek.Gen.Norm.Scalar29.from_montgomery_norm_ok ins hin

theorem Clamp_clamp_integer_safe (ins : List Nat) (hin : EnvIn ins Clamp.pre_clamp_integer) :
    ∃ outs, Dalek.Gen.Clamp.clamp_integer.evalC ins = some outs ∧ Dalek.Gen.Clamp.clamp_integer.evalW ins = outs ∧
      EnvIn outs Dalek.Gen.Norm.Clamp.clamp_integer_post :=
  Triple.of_norm Dalek.Gen.Norm.Clamp.clamp_integer_norm_ok ins hin

/-- non-vacuity: the all-limbs-at-the-bound inputs are inside the contracts -/
example : EnvIn (List.replicate 10 (2 ^ 54 - 1)) Field51.pre_mul := by decide +kernel
example : EnvIn (List.replicate 9 (5 * (2 ^ 52 - 1) * (2 ^ 52 - 1))) Scalar52.pre_montgomery_reduce := by decide +kernel

end Dalek.Props.C11.Kernels
