import Dalek.Proofs.VecEdwards
import Dalek.Gen.AlgAvx2EdwardsSh
import Dalek.Gen.AlgIfmaEdwardsSh
/-!
# C03 — the PARALLEL (4-lane vector) point formulas compute the group law (property theorems)

Statements are about the AlgIR programs `Dalek.Gen.AlgAvx2Edwards.*` / `Dalek.Gen.AlgIfmaEdwards.*`
REGENERATED from `curve25519-dalek/src/backend/vector/avx2/edwards.rs` and
`curve25519-dalek/src/backend/vector/ifma/edwards.rs` on every run by LANE SCALARISATION (a vector value
`FieldElement2625x4` / `F51x4…` = four field variables, the lanes A, B, C, D; shuffles/blends are
renamings of lanes; the limb-level behaviour of the vector field arithmetic is covered by
`Dalek.Gen.Avx2Field` / `Dalek.Gen.IfmaField`, property C01/C05).  The programs are interpreted in the
field `Fp = ZMod (2^255-19)` by `zmodOpsV`: `zmodOps` with the constant table extended by the three `u32`
lane multipliers `121666`, `243330`, `243332` (`Proofs.avx2_constNames_eq` / `Proofs.ifma_constNames_eq`
tie the table layout to the generated code, `Proofs.constV_*` give the values).

Representation predicates (`Ed` = the group of the Ed25519 curve):
* vector `ExtendedPoint` with lanes `(A,B,C,D) = (X,Y,Z,T)`: `RepExt P X Y Z T`, the SAME predicate as
  for the serial `EdwardsPoint` (`Z ≠ 0`, `x = X/Z`, `y = Y/Z`, `XY = ZT`);
* vector `CachedPoint` with lanes `(a,b,c,e)`: `RepCached Q a b c e`, i.e.
  `(a,b,c,e) = (121666·(Y−X), 121666·(Y+X), 2·121666·Z, −2·121665·T)` for an extended representative
  `(X:Y:Z:T)` of `Q`.
Each theorem: inputs representing points ⟹ the outputs represent the result of the group operation.
-/
-- the simp sets below are FIXED lemma sets shared by both backends (robust against harmless reshaping of
-- the generated code); not every lemma is needed by every item
set_option linter.unusedSimpArgs false

namespace Dalek.Props.C03.Vector

open Dalek.IR Dalek.Proofs Dalek.Gen
open Dalek.Edwards
open Dalek.Bridge (Ed edParams edParams_d)

/-! ## The AVX2 backend (`backend/vector/avx2/edwards.rs`) -/

namespace Avx2

/-- `ExtendedPoint::from(EdwardsPoint)`: the lanes `(A,B,C,D)` are `(X,Y,Z,T)`; the same point. -/
theorem ExtendedPoint_from_EdwardsPoint_spec {P : Ed} {X Y Z T : Fp} (hP : RepExt P X Y Z T) :
    ∃ A B C D, AProg.run zmodOpsV AlgAvx2Edwards.ExtendedPoint_from_EdwardsPoint [X, Y, Z, T] = [A, B, C, D] ∧
      RepExt P A B C D :=
  ⟨_, _, _, _, AlgAvx2Edwards.ExtendedPoint_from_EdwardsPoint_sh_ok .., hP⟩

/-- `EdwardsPoint::from(ExtendedPoint)`: `(X,Y,Z,T)` are the lanes `(A,B,C,D)`; the same point. -/
theorem EdwardsPoint_from_ExtendedPoint_spec {P : Ed} {A B C D : Fp} (hP : RepExt P A B C D) :
    ∃ X Y Z T, AProg.run zmodOpsV AlgAvx2Edwards.EdwardsPoint_from_ExtendedPoint [A, B, C, D] = [X, Y, Z, T] ∧
      RepExt P X Y Z T :=
  ⟨_, _, _, _, AlgAvx2Edwards.EdwardsPoint_from_ExtendedPoint_sh_ok .., hP⟩

/-- `CachedPoint::from(ExtendedPoint)` produces a valid cached point for the same group element. -/
theorem CachedPoint_from_ExtendedPoint_spec {P : Ed} {X Y Z T : Fp} (hP : RepExt P X Y Z T) :
    ∃ a b c e, AProg.run zmodOpsV AlgAvx2Edwards.CachedPoint_from_ExtendedPoint [X, Y, Z, T] = [a, b, c, e] ∧
      RepCached P a b c e := by
  rw [AlgAvx2Edwards.CachedPoint_from_ExtendedPoint_sh_ok]
  simp only [AlgAvx2Edwards.CachedPoint_from_ExtendedPoint_sh, zmodOpsV_add, zmodOpsV_sub, zmodOpsV_mul,
    zmodOpsV_neg, constV_121666, constV_243330, constV_243332]
  refine ⟨_, _, _, _, rfl, ?_⟩
  exact hP.toCached.of_eq (by ring) (by ring) (by ring) (by ring)

/-- `ExtendedPoint::double` computes `2 • P`; the output is again a valid extended point. -/
theorem ExtendedPoint_double_spec {P : Ed} {X Y Z T : Fp} (hP : RepExt P X Y Z T) :
    ∃ X' Y' Z' T', AProg.run zmodOpsV AlgAvx2Edwards.ExtendedPoint_double [X, Y, Z, T] = [X', Y', Z', T'] ∧
      RepExt (2 • P) X' Y' Z' T' := by
  rw [AlgAvx2Edwards.ExtendedPoint_double_sh_ok]
  simp only [AlgAvx2Edwards.ExtendedPoint_double_sh, zmodOpsV_add, zmodOpsV_sub, zmodOpsV_mul, zmodOpsV_neg,
    zmodOpsV_square, constV_ZERO]
  refine ⟨_, _, _, _, rfl, ?_⟩
  exact (double_vec hP).of_eq (by ring) (by ring) (by ring) (by ring)

/-- One iteration of the loop of `ExtendedPoint::mul_by_pow_2` computes `2 • P`. -/
theorem ExtendedPoint_mul_by_pow_2_body_spec {P : Ed} {X Y Z T : Fp} (hP : RepExt P X Y Z T) :
    ∃ X' Y' Z' T', AProg.run zmodOpsV AlgAvx2Edwards.ExtendedPoint_mul_by_pow_2_body [X, Y, Z, T]
      = [X', Y', Z', T'] ∧ RepExt (2 • P) X' Y' Z' T' := by
  rw [AlgAvx2Edwards.ExtendedPoint_mul_by_pow_2_body_sh_ok]
  simp only [AlgAvx2Edwards.ExtendedPoint_mul_by_pow_2_body_sh, zmodOpsV_add, zmodOpsV_sub, zmodOpsV_mul,
    zmodOpsV_neg, zmodOpsV_square, constV_ZERO]
  refine ⟨_, _, _, _, rfl, ?_⟩
  exact (double_vec hP).of_eq (by ring) (by ring) (by ring) (by ring)

/-- `ExtendedPoint::mul_by_pow_2(k)` = `k` iterations of its loop body (the trip count `k` is not part
of the translated item; the iteration is `Nat.iterate` of the run of the body): computes `2 ^ k • P`. -/
theorem ExtendedPoint_mul_by_pow_2_spec (k : Nat) {P : Ed} {X Y Z T : Fp} (hP : RepExt P X Y Z T) :
    ∃ X' Y' Z' T', (AProg.run zmodOpsV AlgAvx2Edwards.ExtendedPoint_mul_by_pow_2_body)^[k] [X, Y, Z, T]
      = [X', Y', Z', T'] ∧ RepExt (2 ^ k • P) X' Y' Z' T' :=
  iterate_double_rep (fun h => ExtendedPoint_mul_by_pow_2_body_spec h) k hP

/-- `&ExtendedPoint + &CachedPoint` computes `P + Q`; the output is again a valid extended point. -/
theorem ExtendedPoint_add_CachedPoint_spec {P Q : Ed} {X1 Y1 Z1 T1 a b c e : Fp}
    (hP : RepExt P X1 Y1 Z1 T1) (hQ : RepCached Q a b c e) :
    ∃ X Y Z T, AProg.run zmodOpsV AlgAvx2Edwards.ExtendedPoint_add_CachedPoint [X1, Y1, Z1, T1, a, b, c, e]
      = [X, Y, Z, T] ∧ RepExt (P + Q) X Y Z T :=
  ⟨_, _, _, _, AlgAvx2Edwards.ExtendedPoint_add_CachedPoint_sh_ok .., add_cached hP hQ⟩

/-- `&ExtendedPoint - &CachedPoint` computes `P - Q`; the output is again a valid extended point. -/
theorem ExtendedPoint_sub_CachedPoint_spec {P Q : Ed} {X1 Y1 Z1 T1 a b c e : Fp}
    (hP : RepExt P X1 Y1 Z1 T1) (hQ : RepCached Q a b c e) :
    ∃ X Y Z T, AProg.run zmodOpsV AlgAvx2Edwards.ExtendedPoint_sub_CachedPoint [X1, Y1, Z1, T1, a, b, c, e]
      = [X, Y, Z, T] ∧ RepExt (P - Q) X Y Z T :=
  ⟨_, _, _, _, AlgAvx2Edwards.ExtendedPoint_sub_CachedPoint_sh_ok .., sub_cached hP hQ⟩

/-- `-&CachedPoint` (swap lanes A and B, negate lane D) is a valid cached point for `-Q`. -/
theorem CachedPoint_neg_spec {Q : Ed} {a b c e : Fp} (hQ : RepCached Q a b c e) :
    ∃ a' b' c' e', AProg.run zmodOpsV AlgAvx2Edwards.CachedPoint_neg [a, b, c, e] = [a', b', c', e'] ∧
      RepCached (-Q) a' b' c' e' :=
  ⟨_, _, _, _, AlgAvx2Edwards.CachedPoint_neg_sh_ok .., hQ.neg⟩

/-- `ExtendedPoint::identity()` (the constant `EXTENDEDPOINT_IDENTITY`) represents `0`. -/
theorem ExtendedPoint_identity_spec :
    ∃ X Y Z T, AProg.run zmodOpsV AlgAvx2Edwards.ExtendedPoint_identity [] = [X, Y, Z, T] ∧
      RepExt (0 : Ed) X Y Z T := by
  rw [AlgAvx2Edwards.ExtendedPoint_identity_sh_ok]
  simp only [AlgAvx2Edwards.ExtendedPoint_identity_sh, constV_ZERO, constV_ONE]
  exact ⟨_, _, _, _, rfl, repExt_zero⟩

/-- `CachedPoint::identity()` (the constant `CACHEDPOINT_IDENTITY`) is a valid cached point for `0`. -/
theorem CachedPoint_identity_spec :
    ∃ a b c e, AProg.run zmodOpsV AlgAvx2Edwards.CachedPoint_identity [] = [a, b, c, e] ∧
      RepCached (0 : Ed) a b c e := by
  rw [AlgAvx2Edwards.CachedPoint_identity_sh_ok]
  simp only [AlgAvx2Edwards.CachedPoint_identity_sh, constV_ZERO, constV_121666, constV_243332]
  exact ⟨_, _, _, _, rfl, repCached_zero⟩

/-- `ExtendedPoint::conditional_select(a, b, choice)`: the first operand if `choice = 0`, else the second. -/
theorem ExtendedPoint_conditional_select_spec {P Q : Ed} {X1 Y1 Z1 T1 X2 Y2 Z2 T2 : Fp} (c : Fp)
    (hP : RepExt P X1 Y1 Z1 T1) (hQ : RepExt Q X2 Y2 Z2 T2) :
    ∃ X Y Z T, AProg.run zmodOpsV AlgAvx2Edwards.ExtendedPoint_conditional_select
      [X1, Y1, Z1, T1, X2, Y2, Z2, T2, c] = [X, Y, Z, T] ∧ RepExt (if c = 0 then P else Q) X Y Z T :=
  ⟨_, _, _, _, AlgAvx2Edwards.ExtendedPoint_conditional_select_sh_ok .., ite_rel₄ hP hQ⟩

/-- `ExtendedPoint::conditional_assign(other, choice)`: the first operand if `choice = 0`, else the second. -/
theorem ExtendedPoint_conditional_assign_spec {P Q : Ed} {X1 Y1 Z1 T1 X2 Y2 Z2 T2 : Fp} (c : Fp)
    (hP : RepExt P X1 Y1 Z1 T1) (hQ : RepExt Q X2 Y2 Z2 T2) :
    ∃ X Y Z T, AProg.run zmodOpsV AlgAvx2Edwards.ExtendedPoint_conditional_assign
      [X1, Y1, Z1, T1, X2, Y2, Z2, T2, c] = [X, Y, Z, T] ∧ RepExt (if c = 0 then P else Q) X Y Z T :=
  ⟨_, _, _, _, AlgAvx2Edwards.ExtendedPoint_conditional_assign_sh_ok .., ite_rel₄ hP hQ⟩

/-- `CachedPoint::conditional_select(a, b, choice)`: the first operand if `choice = 0`, else the second. -/
theorem CachedPoint_conditional_select_spec {P Q : Ed} {a0 a1 a2 a3 b0 b1 b2 b3 : Fp} (c : Fp)
    (hP : RepCached P a0 a1 a2 a3) (hQ : RepCached Q b0 b1 b2 b3) :
    ∃ a b c' e, AProg.run zmodOpsV AlgAvx2Edwards.CachedPoint_conditional_select
      [a0, a1, a2, a3, b0, b1, b2, b3, c] = [a, b, c', e] ∧
      RepCached (if c = 0 then P else Q) a b c' e :=
  ⟨_, _, _, _, AlgAvx2Edwards.CachedPoint_conditional_select_sh_ok .., ite_rel₄ hP hQ⟩

/-- `CachedPoint::conditional_assign(other, choice)`: the first operand if `choice = 0`, else the second. -/
theorem CachedPoint_conditional_assign_spec {P Q : Ed} {a0 a1 a2 a3 b0 b1 b2 b3 : Fp} (c : Fp)
    (hP : RepCached P a0 a1 a2 a3) (hQ : RepCached Q b0 b1 b2 b3) :
    ∃ a b c' e, AProg.run zmodOpsV AlgAvx2Edwards.CachedPoint_conditional_assign
      [a0, a1, a2, a3, b0, b1, b2, b3, c] = [a, b, c', e] ∧
      RepCached (if c = 0 then P else Q) a b c' e :=
  ⟨_, _, _, _, AlgAvx2Edwards.CachedPoint_conditional_assign_sh_ok .., ite_rel₄ hP hQ⟩

/-- Round trip `EdwardsPoint → ExtendedPoint → CachedPoint`, then `&ExtendedPoint + &CachedPoint`:
for valid extended inputs the vector pipeline computes `P + Q` (the composition used by the vector
scalar-multiplication code). -/
theorem add_via_cached_spec {P Q : Ed} {X1 Y1 Z1 T1 X2 Y2 Z2 T2 : Fp}
    (hP : RepExt P X1 Y1 Z1 T1) (hQ : RepExt Q X2 Y2 Z2 T2) :
    ∃ X Y Z T, AProg.run zmodOpsV AlgAvx2Edwards.ExtendedPoint_add_CachedPoint
        ([X1, Y1, Z1, T1] ++ AProg.run zmodOpsV AlgAvx2Edwards.CachedPoint_from_ExtendedPoint [X2, Y2, Z2, T2])
      = [X, Y, Z, T] ∧ RepExt (P + Q) X Y Z T := by
  obtain ⟨a, b, c, e, hc, hQ'⟩ := CachedPoint_from_ExtendedPoint_spec hQ
  rw [hc]
  exact ExtendedPoint_add_CachedPoint_spec hP hQ'

/-- Same for subtraction. -/
theorem sub_via_cached_spec {P Q : Ed} {X1 Y1 Z1 T1 X2 Y2 Z2 T2 : Fp}
    (hP : RepExt P X1 Y1 Z1 T1) (hQ : RepExt Q X2 Y2 Z2 T2) :
    ∃ X Y Z T, AProg.run zmodOpsV AlgAvx2Edwards.ExtendedPoint_sub_CachedPoint
        ([X1, Y1, Z1, T1] ++ AProg.run zmodOpsV AlgAvx2Edwards.CachedPoint_from_ExtendedPoint [X2, Y2, Z2, T2])
      = [X, Y, Z, T] ∧ RepExt (P - Q) X Y Z T := by
  obtain ⟨a, b, c, e, hc, hQ'⟩ := CachedPoint_from_ExtendedPoint_spec hQ
  rw [hc]
  exact ExtendedPoint_sub_CachedPoint_spec hP hQ'

end Avx2

/-! ## The IFMA backend (`backend/vector/ifma/edwards.rs`) -/

namespace Ifma

/-- `ExtendedPoint::from(EdwardsPoint)`: the lanes `(A,B,C,D)` are `(X,Y,Z,T)`; the same point. -/
theorem ExtendedPoint_from_EdwardsPoint_spec {P : Ed} {X Y Z T : Fp} (hP : RepExt P X Y Z T) :
    ∃ A B C D, AProg.run zmodOpsV AlgIfmaEdwards.ExtendedPoint_from_EdwardsPoint [X, Y, Z, T] = [A, B, C, D] ∧
      RepExt P A B C D :=
  ⟨_, _, _, _, AlgIfmaEdwards.ExtendedPoint_from_EdwardsPoint_sh_ok .., hP⟩

/-- `EdwardsPoint::from(ExtendedPoint)`: `(X,Y,Z,T)` are the lanes `(A,B,C,D)`; the same point. -/
theorem EdwardsPoint_from_ExtendedPoint_spec {P : Ed} {A B C D : Fp} (hP : RepExt P A B C D) :
    ∃ X Y Z T, AProg.run zmodOpsV AlgIfmaEdwards.EdwardsPoint_from_ExtendedPoint [A, B, C, D] = [X, Y, Z, T] ∧
      RepExt P X Y Z T :=
  ⟨_, _, _, _, AlgIfmaEdwards.EdwardsPoint_from_ExtendedPoint_sh_ok .., hP⟩

/-- `CachedPoint::from(ExtendedPoint)` produces a valid cached point for the same group element. -/
theorem CachedPoint_from_ExtendedPoint_spec {P : Ed} {X Y Z T : Fp} (hP : RepExt P X Y Z T) :
    ∃ a b c e, AProg.run zmodOpsV AlgIfmaEdwards.CachedPoint_from_ExtendedPoint [X, Y, Z, T] = [a, b, c, e] ∧
      RepCached P a b c e := by
  rw [AlgIfmaEdwards.CachedPoint_from_ExtendedPoint_sh_ok]
  simp only [AlgIfmaEdwards.CachedPoint_from_ExtendedPoint_sh, zmodOpsV_add, zmodOpsV_sub, zmodOpsV_mul,
    zmodOpsV_neg, constV_121666, constV_243330, constV_243332]
  refine ⟨_, _, _, _, rfl, ?_⟩
  exact hP.toCached.of_eq (by ring) (by ring) (by ring) (by ring)

/-- `ExtendedPoint::double` computes `2 • P`; the output is again a valid extended point. -/
theorem ExtendedPoint_double_spec {P : Ed} {X Y Z T : Fp} (hP : RepExt P X Y Z T) :
    ∃ X' Y' Z' T', AProg.run zmodOpsV AlgIfmaEdwards.ExtendedPoint_double [X, Y, Z, T] = [X', Y', Z', T'] ∧
      RepExt (2 • P) X' Y' Z' T' := by
  rw [AlgIfmaEdwards.ExtendedPoint_double_sh_ok]
  simp only [AlgIfmaEdwards.ExtendedPoint_double_sh, zmodOpsV_add, zmodOpsV_sub, zmodOpsV_mul, zmodOpsV_neg,
    zmodOpsV_square, constV_ZERO]
  refine ⟨_, _, _, _, rfl, ?_⟩
  exact (double_vec hP).of_eq (by ring) (by ring) (by ring) (by ring)

/-- One iteration of the loop of `ExtendedPoint::mul_by_pow_2` computes `2 • P`. -/
theorem ExtendedPoint_mul_by_pow_2_body_spec {P : Ed} {X Y Z T : Fp} (hP : RepExt P X Y Z T) :
    ∃ X' Y' Z' T', AProg.run zmodOpsV AlgIfmaEdwards.ExtendedPoint_mul_by_pow_2_body [X, Y, Z, T]
      = [X', Y', Z', T'] ∧ RepExt (2 • P) X' Y' Z' T' := by
  rw [AlgIfmaEdwards.ExtendedPoint_mul_by_pow_2_body_sh_ok]
  simp only [AlgIfmaEdwards.ExtendedPoint_mul_by_pow_2_body_sh, zmodOpsV_add, zmodOpsV_sub, zmodOpsV_mul,
    zmodOpsV_neg, zmodOpsV_square, constV_ZERO]
  refine ⟨_, _, _, _, rfl, ?_⟩
  exact (double_vec hP).of_eq (by ring) (by ring) (by ring) (by ring)

/-- `ExtendedPoint::mul_by_pow_2(k)` = `k` iterations of its loop body (the trip count `k` is not part
of the translated item; the iteration is `Nat.iterate` of the run of the body): computes `2 ^ k • P`. -/
theorem ExtendedPoint_mul_by_pow_2_spec (k : Nat) {P : Ed} {X Y Z T : Fp} (hP : RepExt P X Y Z T) :
    ∃ X' Y' Z' T', (AProg.run zmodOpsV AlgIfmaEdwards.ExtendedPoint_mul_by_pow_2_body)^[k] [X, Y, Z, T]
      = [X', Y', Z', T'] ∧ RepExt (2 ^ k • P) X' Y' Z' T' :=
  iterate_double_rep (fun h => ExtendedPoint_mul_by_pow_2_body_spec h) k hP

/-- `&ExtendedPoint + &CachedPoint` computes `P + Q`; the output is again a valid extended point. -/
theorem ExtendedPoint_add_CachedPoint_spec {P Q : Ed} {X1 Y1 Z1 T1 a b c e : Fp}
    (hP : RepExt P X1 Y1 Z1 T1) (hQ : RepCached Q a b c e) :
    ∃ X Y Z T, AProg.run zmodOpsV AlgIfmaEdwards.ExtendedPoint_add_CachedPoint [X1, Y1, Z1, T1, a, b, c, e]
      = [X, Y, Z, T] ∧ RepExt (P + Q) X Y Z T :=
  ⟨_, _, _, _, AlgIfmaEdwards.ExtendedPoint_add_CachedPoint_sh_ok .., add_cached hP hQ⟩

/-- `&ExtendedPoint - &CachedPoint` computes `P - Q`; the output is again a valid extended point. -/
theorem ExtendedPoint_sub_CachedPoint_spec {P Q : Ed} {X1 Y1 Z1 T1 a b c e : Fp}
    (hP : RepExt P X1 Y1 Z1 T1) (hQ : RepCached Q a b c e) :
    ∃ X Y Z T, AProg.run zmodOpsV AlgIfmaEdwards.ExtendedPoint_sub_CachedPoint [X1, Y1, Z1, T1, a, b, c, e]
      = [X, Y, Z, T] ∧ RepExt (P - Q) X Y Z T :=
  ⟨_, _, _, _, AlgIfmaEdwards.ExtendedPoint_sub_CachedPoint_sh_ok .., sub_cached hP hQ⟩

/-- `-&CachedPoint` (swap lanes A and B, negate lane D) is a valid cached point for `-Q`. -/
theorem CachedPoint_neg_spec {Q : Ed} {a b c e : Fp} (hQ : RepCached Q a b c e) :
    ∃ a' b' c' e', AProg.run zmodOpsV AlgIfmaEdwards.CachedPoint_neg [a, b, c, e] = [a', b', c', e'] ∧
      RepCached (-Q) a' b' c' e' :=
  ⟨_, _, _, _, AlgIfmaEdwards.CachedPoint_neg_sh_ok .., hQ.neg⟩

/-- `ExtendedPoint::identity()` (the constant `EXTENDEDPOINT_IDENTITY`) represents `0`. -/
theorem ExtendedPoint_identity_spec :
    ∃ X Y Z T, AProg.run zmodOpsV AlgIfmaEdwards.ExtendedPoint_identity [] = [X, Y, Z, T] ∧
      RepExt (0 : Ed) X Y Z T := by
  rw [AlgIfmaEdwards.ExtendedPoint_identity_sh_ok]
  simp only [AlgIfmaEdwards.ExtendedPoint_identity_sh, constV_ZERO, constV_ONE]
  exact ⟨_, _, _, _, rfl, repExt_zero⟩

/-- `CachedPoint::identity()` (the constant `CACHEDPOINT_IDENTITY`) is a valid cached point for `0`. -/
theorem CachedPoint_identity_spec :
    ∃ a b c e, AProg.run zmodOpsV AlgIfmaEdwards.CachedPoint_identity [] = [a, b, c, e] ∧
      RepCached (0 : Ed) a b c e := by
  rw [AlgIfmaEdwards.CachedPoint_identity_sh_ok]
  simp only [AlgIfmaEdwards.CachedPoint_identity_sh, constV_ZERO, constV_121666, constV_243332]
  exact ⟨_, _, _, _, rfl, repCached_zero⟩

/-- `CachedPoint::conditional_select(a, b, choice)`: the first operand if `choice = 0`, else the second. -/
theorem CachedPoint_conditional_select_spec {P Q : Ed} {a0 a1 a2 a3 b0 b1 b2 b3 : Fp} (c : Fp)
    (hP : RepCached P a0 a1 a2 a3) (hQ : RepCached Q b0 b1 b2 b3) :
    ∃ a b c' e, AProg.run zmodOpsV AlgIfmaEdwards.CachedPoint_conditional_select
      [a0, a1, a2, a3, b0, b1, b2, b3, c] = [a, b, c', e] ∧
      RepCached (if c = 0 then P else Q) a b c' e :=
  ⟨_, _, _, _, AlgIfmaEdwards.CachedPoint_conditional_select_sh_ok .., ite_rel₄ hP hQ⟩

/-- `CachedPoint::conditional_assign(other, choice)`: the first operand if `choice = 0`, else the second. -/
theorem CachedPoint_conditional_assign_spec {P Q : Ed} {a0 a1 a2 a3 b0 b1 b2 b3 : Fp} (c : Fp)
    (hP : RepCached P a0 a1 a2 a3) (hQ : RepCached Q b0 b1 b2 b3) :
    ∃ a b c' e, AProg.run zmodOpsV AlgIfmaEdwards.CachedPoint_conditional_assign
      [a0, a1, a2, a3, b0, b1, b2, b3, c] = [a, b, c', e] ∧
      RepCached (if c = 0 then P else Q) a b c' e :=
  ⟨_, _, _, _, AlgIfmaEdwards.CachedPoint_conditional_assign_sh_ok .., ite_rel₄ hP hQ⟩

/-- Round trip `EdwardsPoint → ExtendedPoint → CachedPoint`, then `&ExtendedPoint + &CachedPoint`:
for valid extended inputs the vector pipeline computes `P + Q` (the composition used by the vector
scalar-multiplication code). -/
theorem add_via_cached_spec {P Q : Ed} {X1 Y1 Z1 T1 X2 Y2 Z2 T2 : Fp}
    (hP : RepExt P X1 Y1 Z1 T1) (hQ : RepExt Q X2 Y2 Z2 T2) :
    ∃ X Y Z T, AProg.run zmodOpsV AlgIfmaEdwards.ExtendedPoint_add_CachedPoint
        ([X1, Y1, Z1, T1] ++ AProg.run zmodOpsV AlgIfmaEdwards.CachedPoint_from_ExtendedPoint [X2, Y2, Z2, T2])
      = [X, Y, Z, T] ∧ RepExt (P + Q) X Y Z T := by
  obtain ⟨a, b, c, e, hc, hQ'⟩ := CachedPoint_from_ExtendedPoint_spec hQ
  rw [hc]
  exact ExtendedPoint_add_CachedPoint_spec hP hQ'

/-- Same for subtraction. -/
theorem sub_via_cached_spec {P Q : Ed} {X1 Y1 Z1 T1 X2 Y2 Z2 T2 : Fp}
    (hP : RepExt P X1 Y1 Z1 T1) (hQ : RepExt Q X2 Y2 Z2 T2) :
    ∃ X Y Z T, AProg.run zmodOpsV AlgIfmaEdwards.ExtendedPoint_sub_CachedPoint
        ([X1, Y1, Z1, T1] ++ AProg.run zmodOpsV AlgIfmaEdwards.CachedPoint_from_ExtendedPoint [X2, Y2, Z2, T2])
      = [X, Y, Z, T] ∧ RepExt (P - Q) X Y Z T := by
  obtain ⟨a, b, c, e, hc, hQ'⟩ := CachedPoint_from_ExtendedPoint_spec hQ
  rw [hc]
  exact ExtendedPoint_sub_CachedPoint_spec hP hQ'

end Ifma

/-! ### The hypotheses are satisfiable -/

/-- `(0 : 1 : 1 : 0)` is a valid vector `ExtendedPoint` and `(121666, 121666, 243332, 0)` a valid vector
`CachedPoint` (both for the identity), so none of the theorems above is vacuous. -/
example : RepExt (0 : Ed) 0 1 1 0 ∧ RepCached (0 : Ed) 121666 121666 243332 0 :=
  ⟨repExt_zero, repCached_zero⟩

/-- Every extended representative has a cached form (so `RepCached` is satisfiable for every point). -/
example (Q : Ed) : ∃ a b c e, RepCached Q a b c e :=
  ⟨_, _, _, _, (repExt_affine Q).toCached⟩

/-! ### Axiom audit -/

/-- info: 'Dalek.Props.C03.Vector.Avx2.ExtendedPoint_from_EdwardsPoint_spec' depends on axioms: [propext, Classical.choice, Quot.sound] -/
#guard_msgs (whitespace := lax) in #print axioms Avx2.ExtendedPoint_from_EdwardsPoint_spec

/-- info: 'Dalek.Props.C03.Vector.Avx2.EdwardsPoint_from_ExtendedPoint_spec' depends on axioms: [propext, Classical.choice, Quot.sound] -/
#guard_msgs (whitespace := lax) in #print axioms Avx2.EdwardsPoint_from_ExtendedPoint_spec

/-- info: 'Dalek.Props.C03.Vector.Avx2.CachedPoint_from_ExtendedPoint_spec' depends on axioms: [propext, Classical.choice, Quot.sound] -/
#guard_msgs (whitespace := lax) in #print axioms Avx2.CachedPoint_from_ExtendedPoint_spec

/-- info: 'Dalek.Props.C03.Vector.Avx2.ExtendedPoint_double_spec' depends on axioms: [propext, Classical.choice, Quot.sound] -/
#guard_msgs (whitespace := lax) in #print axioms Avx2.ExtendedPoint_double_spec

/-- info: 'Dalek.Props.C03.Vector.Avx2.ExtendedPoint_mul_by_pow_2_body_spec' depends on axioms: [propext, Classical.choice, Quot.sound] -/
#guard_msgs (whitespace := lax) in #print axioms Avx2.ExtendedPoint_mul_by_pow_2_body_spec

/-- info: 'Dalek.Props.C03.Vector.Avx2.ExtendedPoint_mul_by_pow_2_spec' depends on axioms: [propext, Classical.choice, Quot.sound] -/
#guard_msgs (whitespace := lax) in #print axioms Avx2.ExtendedPoint_mul_by_pow_2_spec

/-- info: 'Dalek.Props.C03.Vector.Avx2.ExtendedPoint_add_CachedPoint_spec' depends on axioms: [propext, Classical.choice, Quot.sound] -/
#guard_msgs (whitespace := lax) in #print axioms Avx2.ExtendedPoint_add_CachedPoint_spec

/-- info: 'Dalek.Props.C03.Vector.Avx2.ExtendedPoint_sub_CachedPoint_spec' depends on axioms: [propext, Classical.choice, Quot.sound] -/
#guard_msgs (whitespace := lax) in #print axioms Avx2.ExtendedPoint_sub_CachedPoint_spec

/-- info: 'Dalek.Props.C03.Vector.Avx2.CachedPoint_neg_spec' depends on axioms: [propext, Classical.choice, Quot.sound] -/
#guard_msgs (whitespace := lax) in #print axioms Avx2.CachedPoint_neg_spec

/-- info: 'Dalek.Props.C03.Vector.Avx2.ExtendedPoint_identity_spec' depends on axioms: [propext, Classical.choice, Quot.sound] -/
#guard_msgs (whitespace := lax) in #print axioms Avx2.ExtendedPoint_identity_spec

/-- info: 'Dalek.Props.C03.Vector.Avx2.CachedPoint_identity_spec' depends on axioms: [propext, Classical.choice, Quot.sound] -/
#guard_msgs (whitespace := lax) in #print axioms Avx2.CachedPoint_identity_spec

/-- info: 'Dalek.Props.C03.Vector.Avx2.CachedPoint_conditional_select_spec' depends on axioms: [propext, Classical.choice, Quot.sound] -/
#guard_msgs (whitespace := lax) in #print axioms Avx2.CachedPoint_conditional_select_spec

/-- info: 'Dalek.Props.C03.Vector.Avx2.CachedPoint_conditional_assign_spec' depends on axioms: [propext, Classical.choice, Quot.sound] -/
#guard_msgs (whitespace := lax) in #print axioms Avx2.CachedPoint_conditional_assign_spec

/-- info: 'Dalek.Props.C03.Vector.Avx2.add_via_cached_spec' depends on axioms: [propext, Classical.choice, Quot.sound] -/
#guard_msgs (whitespace := lax) in #print axioms Avx2.add_via_cached_spec

/-- info: 'Dalek.Props.C03.Vector.Avx2.sub_via_cached_spec' depends on axioms: [propext, Classical.choice, Quot.sound] -/
#guard_msgs (whitespace := lax) in #print axioms Avx2.sub_via_cached_spec

/-- info: 'Dalek.Props.C03.Vector.Avx2.ExtendedPoint_conditional_select_spec' depends on axioms: [propext, Classical.choice, Quot.sound] -/
#guard_msgs (whitespace := lax) in #print axioms Avx2.ExtendedPoint_conditional_select_spec

/-- info: 'Dalek.Props.C03.Vector.Avx2.ExtendedPoint_conditional_assign_spec' depends on axioms: [propext, Classical.choice, Quot.sound] -/
#guard_msgs (whitespace := lax) in #print axioms Avx2.ExtendedPoint_conditional_assign_spec

/-- info: 'Dalek.Props.C03.Vector.Ifma.ExtendedPoint_from_EdwardsPoint_spec' depends on axioms: [propext, Classical.choice, Quot.sound] -/
#guard_msgs (whitespace := lax) in #print axioms Ifma.ExtendedPoint_from_EdwardsPoint_spec

/-- info: 'Dalek.Props.C03.Vector.Ifma.EdwardsPoint_from_ExtendedPoint_spec' depends on axioms: [propext, Classical.choice, Quot.sound] -/
#guard_msgs (whitespace := lax) in #print axioms Ifma.EdwardsPoint_from_ExtendedPoint_spec

/-- info: 'Dalek.Props.C03.Vector.Ifma.CachedPoint_from_ExtendedPoint_spec' depends on axioms: [propext, Classical.choice, Quot.sound] -/
#guard_msgs (whitespace := lax) in #print axioms Ifma.CachedPoint_from_ExtendedPoint_spec

/-- info: 'Dalek.Props.C03.Vector.Ifma.ExtendedPoint_double_spec' depends on axioms: [propext, Classical.choice, Quot.sound] -/
#guard_msgs (whitespace := lax) in #print axioms Ifma.ExtendedPoint_double_spec

/-- info: 'Dalek.Props.C03.Vector.Ifma.ExtendedPoint_mul_by_pow_2_body_spec' depends on axioms: [propext, Classical.choice, Quot.sound] -/
#guard_msgs (whitespace := lax) in #print axioms Ifma.ExtendedPoint_mul_by_pow_2_body_spec

/-- info: 'Dalek.Props.C03.Vector.Ifma.ExtendedPoint_mul_by_pow_2_spec' depends on axioms: [propext, Classical.choice, Quot.sound] -/
#guard_msgs (whitespace := lax) in #print axioms Ifma.ExtendedPoint_mul_by_pow_2_spec

/-- info: 'Dalek.Props.C03.Vector.Ifma.ExtendedPoint_add_CachedPoint_spec' depends on axioms: [propext, Classical.choice, Quot.sound] -/
#guard_msgs (whitespace := lax) in #print axioms Ifma.ExtendedPoint_add_CachedPoint_spec

/-- info: 'Dalek.Props.C03.Vector.Ifma.ExtendedPoint_sub_CachedPoint_spec' depends on axioms: [propext, Classical.choice, Quot.sound] -/
#guard_msgs (whitespace := lax) in #print axioms Ifma.ExtendedPoint_sub_CachedPoint_spec

/-- info: 'Dalek.Props.C03.Vector.Ifma.CachedPoint_neg_spec' depends on axioms: [propext, Classical.choice, Quot.sound] -/
#guard_msgs (whitespace := lax) in #print axioms Ifma.CachedPoint_neg_spec

/-- info: 'Dalek.Props.C03.Vector.Ifma.ExtendedPoint_identity_spec' depends on axioms: [propext, Classical.choice, Quot.sound] -/
#guard_msgs (whitespace := lax) in #print axioms Ifma.ExtendedPoint_identity_spec

/-- info: 'Dalek.Props.C03.Vector.Ifma.CachedPoint_identity_spec' depends on axioms: [propext, Classical.choice, Quot.sound] -/
#guard_msgs (whitespace := lax) in #print axioms Ifma.CachedPoint_identity_spec

/-- info: 'Dalek.Props.C03.Vector.Ifma.CachedPoint_conditional_select_spec' depends on axioms: [propext, Classical.choice, Quot.sound] -/
#guard_msgs (whitespace := lax) in #print axioms Ifma.CachedPoint_conditional_select_spec

/-- info: 'Dalek.Props.C03.Vector.Ifma.CachedPoint_conditional_assign_spec' depends on axioms: [propext, Classical.choice, Quot.sound] -/
#guard_msgs (whitespace := lax) in #print axioms Ifma.CachedPoint_conditional_assign_spec

/-- info: 'Dalek.Props.C03.Vector.Ifma.add_via_cached_spec' depends on axioms: [propext, Classical.choice, Quot.sound] -/
#guard_msgs (whitespace := lax) in #print axioms Ifma.add_via_cached_spec

/-- info: 'Dalek.Props.C03.Vector.Ifma.sub_via_cached_spec' depends on axioms: [propext, Classical.choice, Quot.sound] -/
#guard_msgs (whitespace := lax) in #print axioms Ifma.sub_via_cached_spec

end Dalek.Props.C03.Vector
