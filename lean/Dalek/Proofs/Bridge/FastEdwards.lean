/-
The extended-coordinates model `Dalek.Model.EPt` (`Dalek/Model/FastEdwards.lean`, used by the model
executable) computes the same group operations as the affine specification `Dalek.Spec.Pt`, i.e. the
group law of `Ed = EdPoint edParams`.

Main user-facing statements: `ERep` (an `EPt` denotes a curve point), `EPt.Valid`,
`erep_ofAffine/zero/neg/add/sub/double/smul/mulByPow2/msm/sum`, `rep_toAffine`, `eq_iff`,
`toAffine_smul_ofAffine`, `toAffine_msm_ofAffine`, `toAffine_add_ofAffine`, `toAffine_ofAffine`,
`isIdentity_iff_E`, `isSmallOrder_iff_E`, `isTorsionFree_iff_E`.
-/
import Dalek.Model.FastEdwards
import Dalek.Proofs.Bridge.Edwards

namespace Dalek.Bridge

open Dalek.Spec Dalek.Model Dalek.FieldFacts
open Dalek.Edwards (EdParams EdPoint RepExt RepProj RepCompleted)

theorem _root_.Dalek.Model.EPt.ext {e f : EPt} (hX : e.X = f.X) (hY : e.Y = f.Y) (hZ : e.Z = f.Z)
    (hT : e.T = f.T) : e = f := by
  cases e; cases f; simp only at hX hY hZ hT; subst hX hY hZ hT; rfl

/-- **The extended point `e` denotes the curve point `Q`**: `Z ≠ 0`, `x = X/Z`, `y = Y/Z`,
`XY = ZT` (all in `Fp`). -/
def ERep (e : EPt) (Q : Ed) : Prop := RepExt Q (e.X : Fp) (e.Y : Fp) (e.Z : Fp) (e.T : Fp)

/-- An extended point is valid if it denotes some point of the curve. -/
def _root_.Dalek.Model.EPt.Valid (e : EPt) : Prop := ∃ Q : Ed, ERep e Q

/-- The curve point denoted by a valid extended point is unique. -/
theorem ERep.unique {e : EPt} {Q R : Ed} (hQ : ERep e Q) (hR : ERep e R) : Q = R :=
  EdPoint.ext (hQ.2.1.trans hR.2.1.symm) (hQ.2.2.1.trans hR.2.2.1.symm)

/-- All four coordinates may be negated (projective scaling by `-1`). -/
theorem repExt_neg_all {Q : Ed} {X Y Z T : Fp} (h : RepExt Q X Y Z T) :
    RepExt Q (-X) (-Y) (-Z) (-T) := by
  obtain ⟨hZ, hx, hy, hT⟩ := h
  refine ⟨neg_ne_zero.2 hZ, ?_, ?_, ?_⟩
  · rw [hx, neg_div_neg_eq]
  · rw [hy, neg_div_neg_eq]
  · linear_combination hT

/-! ## Constructors -/

theorem erep_zero : ERep EPt.zero 0 := by
  have h := Dalek.Edwards.repExt_zero (c := edParams)
  unfold ERep EPt.zero
  simpa using h

theorem erep_ofAffine {p : Pt} {Q : Ed} (hp : Rep p Q) : ERep (EPt.ofAffine p) Q := by
  have h := Dalek.Edwards.repExt_affine Q
  unfold ERep EPt.ofAffine
  simp only [cast_mod_P, cast_fmul, Nat.cast_one, hp.1, hp.2]
  exact h

theorem valid_ofAffine {p : Pt} (hp : onCurve p = true) : (EPt.ofAffine p).Valid :=
  ⟨_, erep_ofAffine (rep_toEd p hp)⟩

/-! ## Conversion to affine -/

theorem canon_toAffine (e : EPt) : Canon e.toAffine := ⟨fmul_lt _ _, fmul_lt _ _⟩

/-- **`toAffine`** returns the canonical affine specification point. -/
theorem rep_toAffine {e : EPt} {Q : Ed} (h : ERep e Q) : Rep e.toAffine Q := by
  obtain ⟨-, hx, hy, -⟩ := h
  constructor
  · show ((fmul _ _ : Nat) : Fp) = Q.x
    rw [cast_fmul, cast_finv, hx, div_eq_mul_inv]
  · show ((fmul _ _ : Nat) : Fp) = Q.y
    rw [cast_fmul, cast_finv, hy, div_eq_mul_inv]

theorem toAffine_eq {e : EPt} {Q : Ed} (h : ERep e Q) : e.toAffine = ofEd Q :=
  Rep.unique (rep_toAffine h) (rep_ofEd Q) (canon_toAffine e) (canon_ofEd Q)

/-- `toAffine ∘ ofAffine` is reduction of the coordinates, for points on the curve. -/
theorem toAffine_ofAffine {p : Pt} (hp : onCurve p = true) :
    (EPt.ofAffine p).toAffine = ⟨p.x % P, p.y % P⟩ := by
  apply Rep.unique (rep_toAffine (erep_ofAffine (rep_toEd p hp))) _ (canon_toAffine _)
    ⟨Nat.mod_lt _ P_pos, Nat.mod_lt _ P_pos⟩
  exact ⟨cast_mod_P _, cast_mod_P _⟩

/-! ## Group operations -/

theorem erep_neg {e : EPt} {Q : Ed} (h : ERep e Q) : ERep e.neg (-Q) := by
  have h' := Dalek.Edwards.RepExt.neg h
  unfold ERep EPt.neg
  simp only [cast_fneg]
  exact h'

theorem cast_D2 : ((EPt.D2 : Nat) : Fp) = 2 * Dalek.FieldFacts.d := by
  unfold EPt.D2
  rw [cast_mod_P, Nat.cast_mul, cast_D, Nat.cast_ofNat]

/-- **Addition** (`add-2008-hwcd-3`) is the group law. -/
theorem erep_add {e f : EPt} {Q R : Ed} (he : ERep e Q) (hf : ERep f R) : ERep (e.add f) (Q + R) := by
  have h := Dalek.Edwards.add_hwcd3 he hf
  unfold ERep EPt.add
  simp only [cast_fmul, cast_fadd, cast_fsub, cast_D2]
  simp only [edParams_d] at h
  convert h using 1 <;> ring

theorem erep_sub {e f : EPt} {Q R : Ed} (he : ERep e Q) (hf : ERep f R) : ERep (e.sub f) (Q - R) := by
  rw [sub_eq_add_neg]; exact erep_add he (erep_neg hf)

/-- **Doubling** (`dbl-2008-hwcd`, all four coordinates negated w.r.t. dalek's
`ProjectivePoint::double` followed by `as_extended`). -/
theorem erep_double {e : EPt} {Q : Ed} (he : ERep e Q) : ERep e.double (Q + Q) := by
  have h := repExt_neg_all (Dalek.Edwards.double_projective he.toProj).as_extended
  unfold ERep EPt.double
  simp only [cast_fmul, cast_fadd, cast_fsub, cast_fsq, cast_fneg, Nat.cast_ofNat]
  convert h using 1 <;> ring

theorem erep_double' {e : EPt} {Q : Ed} (he : ERep e Q) : ERep e.double (2 • Q) := by
  rw [two_nsmul]; exact erep_double he

/-! ## Scalar multiplication -/

theorem erep_smulFuel {e : EPt} {Q : Ed} (he : ERep e Q) :
    ∀ (fuel n : Nat), n < 2 ^ fuel → ERep (EPt.smulFuel fuel n e) (n • Q) :=
  denotes_smulFuel erep_zero erep_add erep_double he (fun _ => rfl) (fun _ _ => rfl)

/-- **Scalar multiplication** in extended coordinates is `n • Q`. -/
theorem erep_smul {e : EPt} {Q : Ed} (he : ERep e Q) (n : Nat) : ERep (EPt.smul n e) (n • Q) :=
  erep_smulFuel he _ n Nat.lt_log2_self

theorem erep_mulByPow2 {e : EPt} {Q : Ed} (he : ERep e Q) (k : Nat) :
    ERep (EPt.mulByPow2 k e) (2 ^ k • Q) := by
  induction k generalizing e Q with
  | zero => simpa [EPt.mulByPow2] using he
  | succ k ih =>
    unfold EPt.mulByPow2
    have := ih (erep_double' he)
    rwa [← mul_nsmul, ← pow_succ'] at this

/-- **Multiscalar multiplication.** -/
theorem erep_msm : ∀ (ns : List Nat) (es : List EPt) (Qs : List Ed),
    List.Forall₂ ERep es Qs → ERep (EPt.msm ns es) (msmEd ns Qs) :=
  denotes_msm erep_zero erep_add erep_smul (fun _ => rfl) (fun _ _ => rfl) (fun _ _ _ _ => rfl)

theorem erep_sum (es : List EPt) (Qs : List Ed) (h : List.Forall₂ ERep es Qs) :
    ERep (EPt.sum es) Qs.sum :=
  denotes_sum erep_zero erep_add h

/-! ## Equality and order tests -/

/-- **Projective equality** decides equality of the denoted curve points. -/
theorem eq_iff {e f : EPt} {Q R : Ed} (he : ERep e Q) (hf : ERep f R) :
    EPt.eq e f = true ↔ Q = R := by
  obtain ⟨hZ1, hx1, hy1, -⟩ := he
  obtain ⟨hZ2, hx2, hy2, -⟩ := hf
  unfold EPt.eq
  rw [Bool.and_eq_true, beq_iff_cast (fmul_lt _ _) (fmul_lt _ _),
    beq_iff_cast (fmul_lt _ _) (fmul_lt _ _)]
  simp only [cast_fmul]
  constructor
  · rintro ⟨h1, h2⟩
    apply EdPoint.ext
    · rw [hx1, hx2, div_eq_div_iff hZ1 hZ2]; exact h1
    · rw [hy1, hy2, div_eq_div_iff hZ1 hZ2]; exact h2
  · intro h
    subst h
    constructor
    · rw [← div_eq_div_iff hZ1 hZ2, ← hx1, ← hx2]
    · rw [← div_eq_div_iff hZ1 hZ2, ← hy1, ← hy2]

theorem isIdentity_iff_E {e : EPt} {Q : Ed} (he : ERep e Q) : e.isIdentity = true ↔ Q = 0 :=
  eq_iff he erep_zero

theorem isSmallOrder_iff_E {e : EPt} {Q : Ed} (he : ERep e Q) : e.isSmallOrder = true ↔ 8 • Q = 0 := by
  unfold EPt.isSmallOrder
  have := isIdentity_iff_E (erep_mulByPow2 he 3)
  simpa using this

theorem isTorsionFree_iff_E {e : EPt} {Q : Ed} (he : ERep e Q) :
    e.isTorsionFree = true ↔ L • Q = 0 :=
  isIdentity_iff_E (erep_smul he L)

/-! ## Agreement with the affine specification -/

/-- **The model's scalar multiplication agrees with the specification**:
`(EPt.smul n (ofAffine p)).toAffine = Pt.smul n p` for `p` on the curve. -/
theorem toAffine_smul_ofAffine {p : Pt} (hp : onCurve p = true) (n : Nat) :
    (EPt.smul n (EPt.ofAffine p)).toAffine = Pt.smul n p :=
  Rep.unique (rep_toAffine (erep_smul (erep_ofAffine (rep_toEd p hp)) n))
    (rep_smul (rep_toEd p hp) n) (canon_toAffine _) (canon_smul n p)

/-- Same for an arbitrary valid extended point. -/
theorem toAffine_smul {e : EPt} (he : e.Valid) (n : Nat) :
    (EPt.smul n e).toAffine = Pt.smul n e.toAffine := by
  obtain ⟨Q, hQ⟩ := he
  exact Rep.unique (rep_toAffine (erep_smul hQ n)) (rep_smul (rep_toAffine hQ) n)
    (canon_toAffine _) (canon_smul n _)

theorem toAffine_add {e f : EPt} (he : e.Valid) (hf : f.Valid) :
    (e.add f).toAffine = e.toAffine.add f.toAffine := by
  obtain ⟨Q, hQ⟩ := he
  obtain ⟨R, hR⟩ := hf
  exact Rep.unique (rep_toAffine (erep_add hQ hR)) (rep_add (rep_toAffine hQ) (rep_toAffine hR))
    (canon_toAffine _) (canon_add _ _)

theorem toAffine_add_ofAffine {p q : Pt} (hp : onCurve p = true) (hq : onCurve q = true) :
    ((EPt.ofAffine p).add (EPt.ofAffine q)).toAffine = p.add q :=
  Rep.unique (rep_toAffine (erep_add (erep_ofAffine (rep_toEd p hp)) (erep_ofAffine (rep_toEd q hq))))
    (rep_add (rep_toEd p hp) (rep_toEd q hq)) (canon_toAffine _) (canon_add _ _)

theorem toAffine_double {e : EPt} (he : e.Valid) : e.double.toAffine = e.toAffine.double := by
  obtain ⟨Q, hQ⟩ := he
  exact Rep.unique (rep_toAffine (erep_double' hQ)) (rep_double (rep_toAffine hQ))
    (canon_toAffine _) (canon_double _)

theorem toAffine_neg {e : EPt} (he : e.Valid) : e.neg.toAffine = e.toAffine.neg := by
  obtain ⟨Q, hQ⟩ := he
  exact Rep.unique (rep_toAffine (erep_neg hQ)) (rep_neg (rep_toAffine hQ))
    (canon_toAffine _) (canon_neg _)

theorem toAffine_zero : EPt.zero.toAffine = Pt.zero :=
  Rep.unique (rep_toAffine erep_zero) rep_zero (canon_toAffine _) canon_zero

theorem forall₂_ofAffine : ∀ (ps : List Pt), (∀ p ∈ ps, onCurve p = true) →
    ∃ Qs : List Ed, List.Forall₂ Rep ps Qs ∧ List.Forall₂ ERep (ps.map EPt.ofAffine) Qs
  | [], _ => ⟨[], List.Forall₂.nil, List.Forall₂.nil⟩
  | p :: ps, h => by
    obtain ⟨Qs, h1, h2⟩ := forall₂_ofAffine ps (fun q hq => h q (List.mem_cons_of_mem _ hq))
    have hp := h p List.mem_cons_self
    exact ⟨toEd p hp :: Qs, List.Forall₂.cons (rep_toEd p hp) h1,
      List.Forall₂.cons (erep_ofAffine (rep_toEd p hp)) h2⟩

/-- **The model's multiscalar multiplication agrees with the specification.** -/
theorem toAffine_msm_ofAffine (ns : List Nat) (ps : List Pt) (h : ∀ p ∈ ps, onCurve p = true) :
    (EPt.msm ns (ps.map EPt.ofAffine)).toAffine = Pt.msm ns ps := by
  obtain ⟨Qs, h1, h2⟩ := forall₂_ofAffine ps h
  exact Rep.unique (rep_toAffine (erep_msm ns _ Qs h2)) (rep_msm ns ps Qs h1)
    (canon_toAffine _) (canon_msm ns ps)

/-- The model's `decompress` returns valid points. -/
theorem valid_decompress {b : List UInt8} {e : EPt} (h : EPt.decompress b = some e) : e.Valid := by
  unfold EPt.decompress at h
  cases hd : Dalek.Spec.decompress b with
  | none => rw [hd] at h; cases h
  | some p =>
    rw [hd] at h
    have : e = EPt.ofAffine p := (Option.some.inj h).symm
    rw [this]
    exact valid_ofAffine (decompress_some hd).1

theorem valid_basepoint : EPt.basepoint.Valid := valid_ofAffine onCurve_B

theorem erep_basepoint : ERep EPt.basepoint Bpt := erep_ofAffine rep_B

/-! ## Validity, explicitly -/

/-- A valid extended point denotes `toEd` of its affine image
(`EPt.Valid e → RepExt (toEd e.toAffine _) X Y Z T`). -/
theorem erep_toEd_toAffine {e : EPt} (he : e.Valid) :
    ∃ h : onCurve e.toAffine = true, ERep e (toEd e.toAffine h) := by
  obtain ⟨Q, hQ⟩ := he
  have hr := rep_toAffine hQ
  exact ⟨hr.on, by rw [hr.toEd_eq hr.on]; exact hQ⟩

/-- Executable validity check (kernel-evaluable): `Z ≢ 0`, `XY ≡ ZT`, and the affine image is on
the curve. -/
def _root_.Dalek.Model.EPt.validB (e : EPt) : Bool :=
  (e.Z % P != 0) && (fmul e.X e.Y == fmul e.Z e.T) && onCurve e.toAffine

/-- **`validB` decides `Valid`.** -/
theorem validB_iff (e : EPt) : e.validB = true ↔ e.Valid := by
  unfold EPt.validB
  rw [Bool.and_eq_true, Bool.and_eq_true, bne_iff_ne, beq_iff_cast (fmul_lt _ _) (fmul_lt _ _)]
  simp only [cast_fmul]
  constructor
  · rintro ⟨⟨hZ, hT⟩, hon⟩
    have hZ' : (e.Z : Fp) ≠ 0 := fun h => hZ ((cast_eq_zero_iff _).1 h)
    refine ⟨toEd e.toAffine hon, hZ', ?_, ?_, hT⟩
    · show ((fmul _ _ : Nat) : Fp) = _
      rw [cast_fmul, cast_finv, div_eq_mul_inv]
    · show ((fmul _ _ : Nat) : Fp) = _
      rw [cast_fmul, cast_finv, div_eq_mul_inv]
  · rintro ⟨Q, hQ⟩
    refine ⟨⟨fun h => hQ.1 ((cast_eq_zero_iff _).2 h), hQ.2.2.2⟩, (rep_toAffine hQ).on⟩

example : EPt.basepoint.validB = true := by decide +kernel

end Dalek.Bridge
