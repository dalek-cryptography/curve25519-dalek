import Dalek.IR.KLeak
import Dalek.Gen.KAvx2Edwards
import Dalek.Gen.KIfmaEdwards
/-!
# C10 — the parallel point formulas of the vector backends are constant time (source level)

`Dalek.Gen.KAvx2Edwards` / `KIfmaEdwards` are REGENERATED from `backend/vector/{avx2,ifma}/edwards.rs` on every run: each
formula is a straight-line sequence of calls of translated limb kernels (`Dalek.Gen.Avx2Field` / `IfmaField`), themselves
straight-line LimbIR (no jump, no computed memory offset can be expressed; `sel` is a data-flow select).  The translator refuses
a function containing a run-time `if`, `match`, early `return`, a loop with a data-dependent bound or an index computed from data,
so the mere existence of these items is the syntactic half; the theorems below are the semantic half: the leakage trace is the
same for ALL inputs.  This discharges the `assumed` SIMD callees of `variable_base_mul_vector_noninterference` and
`straus_vector_noninterference` (NonInterference.lean).
-/
namespace Dalek.Props.C10.Vector
open Dalek.IR Dalek.Gen

/-- **every translated vector point formula** (both backends): the trace is input-independent -/
theorem vector_point_formulas_ct :
    ∀ it ∈ KAvx2Edwards.items ++ KIfmaEdwards.items, ∀ ins₁ ins₂ : List (List Nat), it.2.leakW ins₁ = it.2.leakW ins₂ :=
  fun it _ ins₁ ins₂ => kprog_leak_const it.2 ins₁ ins₂

/-- no jump and no computed memory offset at all in any of them -/
theorem vector_point_formulas_branch_free :
    ∀ it ∈ KAvx2Edwards.items ++ KIfmaEdwards.items,
      it.2.ops.all (fun e => match e with | .limbOp _ => true | _ => false) = true :=
  fun it _ => kopsBody_all_limbOp it.2.body

/-- the item tables contain the formulas the secret-dependent scalar multiplications use -/
theorem items_contain_named :
    (["ExtendedPoint_double", "ExtendedPoint_add_CachedPoint", "ExtendedPoint_sub_CachedPoint", "CachedPoint_neg",
      "CachedPoint_from_ExtendedPoint", "CachedPoint_conditional_assign", "ExtendedPoint_from_EdwardsPoint",
      "EdwardsPoint_from_ExtendedPoint"].all fun n =>
        (KAvx2Edwards.items.map Prod.fst).contains n && (KIfmaEdwards.items.map Prod.fst).contains n) = true := by
  decide +kernel

/-- non-vacuity: the traces are not empty (the AVX2 doubling performs thousands of limb operations) -/
example : 1000 < KAvx2Edwards.ExtendedPoint_double.ops.length := by decide +kernel

end Dalek.Props.C10.Vector
