import Mathlib.Tactic.NormNum
import Mathlib.Tactic.Ring
import Dalek.Proofs.FiatBytes51
import Dalek.Proofs.FiatBytes26
/-!
# C01 — the two translation IDIOMS of the fiat backends are correct on their domains, and `as_bytes` stays inside them

`tools/rs2lean/fiatir.py` does not interpret the signed-cast code of `fiat_25519_subborrowx_uK` and `fiat_25519_cmovznz_uW`; it checks the
helper's source text against a template and emits the meaning
`d = (x − b − y) mod 2^W; out1 = d mod 2^K; out2 = ⌊d / 2^(W−1)⌋` resp. `if c = 0 then z else nz`.
This module reduces that piece of translator knowledge to a READING of the five resp. three Rust lines as integer arithmetic:

* `subborrowRef W K b x y` / `cmovRef W c z nz` transcribe the Rust statements with their types (`sw n` = the value of an `n`-bit
  two's-complement word; `as iN` = `sw N`; `>>` on a signed value = floor division; `& mask` on a sign-extended value = `mod`);
* `subborrow_idiom` (any `W`, `K < W`) and its instances `subborrow_idiom_64_51`, `_32_26`, `_32_25`: on the domain `0 ≤ b ≤ 1`, `−2^K ≤ x − b − y < 2^K` the Rust results equal the idiom's;
  `subborrow_idiom_needs_domain`: outside it they differ (so the domain is not decorative); `cmov_idiom_*` for `c ∈ {0,1}`;
* `as_bytes51_in_domain` / `as_bytes26_in_domain`: along `as_bytes` on tight limbs EVERY subtract-with-borrow step is inside the domain (the
  borrow chain of the hand model that `Proofs/FiatBytes51|26 as_bytes_fn_eq_model` proves equal to the generated kernel); the `sel` that
  `cmovznz` becomes is guarded by the verified analyser itself (`sel` requires `cond < 2`).
-/
-- the three instances `subborrow_idiom_64_51 / 32_26 / 32_25` state range hypotheses that the general `subborrow_idiom` does not need
set_option linter.unusedVariables false
namespace Dalek.Props.C01.FiatIdioms

/-- value of an `n`-bit two's-complement word holding the integer `z` (Rust `as iN` of any wider integer) -/
def sw (n : Nat) (z : Int) : Int := (z + 2 ^ (n - 1)) % 2 ^ n - 2 ^ (n - 1)

/-- `fiat_25519_subborrowx_uK(out1, out2, b: u1, x: uW, y: uW)`, statement by statement:
`x1: iW = (((x as i2W) − (b as i2W)) as iW as i2W − (y as i2W)) as iW;  x2: i8 = (x1 >> K) as i8;
 x3: uW = ((x1 as i2W) & (2^K − 1)) as uW;  out1 = x3;  out2 = ((0 as i8) − (x2 as i8)) as u8` -/
def subborrowRef (W K : Nat) (b x y : Int) : Int × Int :=
  let x1 := sw W (sw W (x - b) - y)
  let x2 := sw 8 (x1 / 2 ^ K)
  let x3 := x1 % 2 ^ K
  (x3, (sw 8 (0 - x2)) % 2 ^ 8)

/-- the idiom emitted by the translator -/
def subborrowIdiom (W K : Nat) (b x y : Int) : Int × Int :=
  let d := (x - b - y) % 2 ^ W
  (d % 2 ^ K, d / 2 ^ (W - 1))

theorem sw_of_mem {n : Nat} (hn : 1 ≤ n) {z : Int} (h : -(2 ^ (n - 1)) ≤ z ∧ z < 2 ^ (n - 1)) : sw n z = z := by
  have h2 : (2 : Int) ^ n = 2 * 2 ^ (n - 1) := by rw [← pow_succ', Nat.sub_add_cancel hn]
  unfold sw
  rw [Int.emod_eq_of_lt (by omega) (by omega)]; omega

theorem sw_sub_sw (n : Nat) (u y : Int) : sw n (sw n u - y) = sw n (u - y) := by
  unfold sw
  rw [show (u + 2 ^ (n - 1)) % 2 ^ n - 2 ^ (n - 1) - y + 2 ^ (n - 1) = (u + 2 ^ (n - 1)) % 2 ^ n - y by ring,
    Int.emod_sub_emod, show u + 2 ^ (n - 1) - y = u - y + 2 ^ (n - 1) by ring]

/-- **the idiom is the Rust code on its domain**, for every word size `W` and limb width `K < W`: inside the domain the
inner wrap `as iW` is the identity, `x1 >> K` is `0` or `-1`, and `% 2^W` adds `2^W` exactly when the difference is
negative -/
theorem subborrow_idiom (W K : Nat) (hK : K + 1 ≤ W) (b x y : Int)
    (hd : -(2 ^ K) ≤ x - b - y ∧ x - b - y < 2 ^ K) : subborrowRef W K b x y = subborrowIdiom W K b x y := by
  have hW : (2 : Int) ^ W = 2 * 2 ^ (W - 1) := by rw [← pow_succ', Nat.sub_add_cancel (by omega)]
  have hKW : (2 : Int) ^ K ≤ 2 ^ (W - 1) := pow_le_pow_right₀ (by norm_num) (by omega)
  have hA : (0 : Int) < 2 ^ K := pow_pos two_pos K
  have hx1 : sw W (sw W (x - b) - y) = x - b - y := by
    rw [sw_sub_sw]; exact sw_of_mem (by omega) ⟨by omega, by omega⟩
  simp only [subborrowRef, subborrowIdiom, hx1, Prod.mk.injEq]
  refine ⟨(Int.emod_emod_of_dvd _ (pow_dvd_pow 2 (by omega))).symm, ?_⟩
  generalize x - b - y = t at hd ⊢
  generalize (2 : Int) ^ K = A at *
  rw [hW]
  generalize (2 : Int) ^ (W - 1) = B at *
  rcases lt_or_ge t 0 with ht | ht
  · have e : t % (2 * B) = t + 2 * B := by
      rw [← Int.add_mul_emod_self_left t (2 * B) 1, mul_one]; exact Int.emod_eq_of_lt (by omega) (by omega)
    rw [Int.ediv_eq_neg_one_of_neg_of_le ht (by omega), show sw 8 (0 - sw 8 (-1)) % 2 ^ 8 = 1 by decide, e,
      show t + 2 * B = t + B + 1 * B by ring, Int.add_mul_ediv_right _ _ (by omega),
      Int.ediv_eq_zero_of_lt (by omega) (by omega)]
    rfl
  · rw [Int.ediv_eq_zero_of_lt ht hd.2, show sw 8 (0 - sw 8 0) % 2 ^ 8 = 0 by decide,
      Int.emod_eq_of_lt ht (by omega), Int.ediv_eq_zero_of_lt ht (by omega)]

theorem subborrow_idiom_64_51 (b x y : Int) (hb : 0 ≤ b ∧ b ≤ 1) (hx : 0 ≤ x ∧ x < 2 ^ 64) (hy : 0 ≤ y ∧ y < 2 ^ 64)
    (hd : -(2 ^ 51) ≤ x - b - y ∧ x - b - y < 2 ^ 51) : subborrowRef 64 51 b x y = subborrowIdiom 64 51 b x y :=
  subborrow_idiom 64 51 (by norm_num) b x y hd

theorem subborrow_idiom_32_26 (b x y : Int) (hb : 0 ≤ b ∧ b ≤ 1) (hx : 0 ≤ x ∧ x < 2 ^ 32) (hy : 0 ≤ y ∧ y < 2 ^ 32)
    (hd : -(2 ^ 26) ≤ x - b - y ∧ x - b - y < 2 ^ 26) : subborrowRef 32 26 b x y = subborrowIdiom 32 26 b x y :=
  subborrow_idiom 32 26 (by norm_num) b x y hd

theorem subborrow_idiom_32_25 (b x y : Int) (hb : 0 ≤ b ∧ b ≤ 1) (hx : 0 ≤ x ∧ x < 2 ^ 32) (hy : 0 ≤ y ∧ y < 2 ^ 32)
    (hd : -(2 ^ 25) ≤ x - b - y ∧ x - b - y < 2 ^ 25) : subborrowRef 32 25 b x y = subborrowIdiom 32 25 b x y :=
  subborrow_idiom 32 25 (by norm_num) b x y hd

/-- the domain is needed: just below it the Rust code and the idiom disagree (borrow `2` vs `1`) -/
theorem subborrow_idiom_needs_domain : subborrowRef 64 51 0 0 (2 ^ 51 + 1) ≠ subborrowIdiom 64 51 0 0 (2 ^ 51 + 1) := by
  decide

/-- `fiat_25519_cmovznz_uW(out, c: u1, z, nz)`: `x1 = !!c = c; x2: uW = (((0 as i8) − (x1 as i8)) as i8 as i2W & (2^W − 1)) as uW;
out = (x2 & nz) | (!x2 & z)`; for `c ∈ {0,1}` the mask `x2` is `0` resp. `2^W − 1` -/
def cmovMask (W : Nat) (c : Int) : Int := (sw 8 (0 - c)) % 2 ^ W

theorem cmov_mask_zero (W : Nat) (hW : 8 ≤ W) : cmovMask W 0 = 0 := by
  simp [cmovMask, sw]

theorem cmov_mask_one_64 : cmovMask 64 1 = 2 ^ 64 - 1 := by decide
theorem cmov_mask_one_32 : cmovMask 32 1 = 2 ^ 32 - 1 := by decide

/-- with the all-zero mask the bit expression `(m & nz) | (!m & z)` is `z`, with the all-ones mask it is `nz` -/
theorem cmov_select_64 (z nz : Nat) (hz : z < 2 ^ 64) (hnz : nz < 2 ^ 64) :
    ((0 &&& nz) ||| ((2 ^ 64 - 1 - 0) &&& z) = z) ∧ (((2 ^ 64 - 1) &&& nz) ||| ((2 ^ 64 - 1 - (2 ^ 64 - 1)) &&& z) = nz) := by
  constructor
  · rw [Nat.zero_and, Nat.zero_or, Nat.sub_zero, Nat.and_comm, Nat.and_two_pow_sub_one_eq_mod, Nat.mod_eq_of_lt hz]
  · rw [Nat.sub_self, Nat.zero_and, Nat.or_zero, Nat.and_comm, Nat.and_two_pow_sub_one_eq_mod, Nat.mod_eq_of_lt hnz]

theorem cmov_select_32 (z nz : Nat) (hz : z < 2 ^ 32) (hnz : nz < 2 ^ 32) :
    ((0 &&& nz) ||| ((2 ^ 32 - 1 - 0) &&& z) = z) ∧ (((2 ^ 32 - 1) &&& nz) ||| ((2 ^ 32 - 1 - (2 ^ 32 - 1)) &&& z) = nz) := by
  constructor
  · rw [Nat.zero_and, Nat.zero_or, Nat.sub_zero, Nat.and_comm, Nat.and_two_pow_sub_one_eq_mod, Nat.mod_eq_of_lt hz]
  · rw [Nat.sub_self, Nat.zero_and, Nat.or_zero, Nat.and_comm, Nat.and_two_pow_sub_one_eq_mod, Nat.mod_eq_of_lt hnz]

/-- **fiat u64 `as_bytes` stays inside the domain of the subtract-with-borrow idiom**: for tight limbs (`0 ≤ a_i ≤ 2^51`, inclusive), with
`c_i` the borrows computed by the kernel, every step `a_i − c_{i−1} − m_i` lies in `[−2^51, 2^51)` and every borrow is `0` or `1`. -/
theorem as_bytes51_in_domain (a0 a1 a2 a3 a4 : Int)
    (b0 : 0 ≤ a0 ∧ a0 ≤ 2 ^ 51) (b1 : 0 ≤ a1 ∧ a1 ≤ 2 ^ 51) (b2 : 0 ≤ a2 ∧ a2 ≤ 2 ^ 51) (b3 : 0 ≤ a3 ∧ a3 ≤ 2 ^ 51)
    (b4 : 0 ≤ a4 ∧ a4 ≤ 2 ^ 51) :
    let c0 := ((a0 - 0 - (2 ^ 51 - 19)) % 2 ^ 64) / 2 ^ 63
    let c1 := ((a1 - c0 - (2 ^ 51 - 1)) % 2 ^ 64) / 2 ^ 63
    let c2 := ((a2 - c1 - (2 ^ 51 - 1)) % 2 ^ 64) / 2 ^ 63
    let c3 := ((a3 - c2 - (2 ^ 51 - 1)) % 2 ^ 64) / 2 ^ 63
    (-(2 ^ 51) ≤ a0 - 0 - (2 ^ 51 - 19) ∧ a0 - 0 - (2 ^ 51 - 19) < 2 ^ 51) ∧ (0 ≤ c0 ∧ c0 ≤ 1) ∧
    (-(2 ^ 51) ≤ a1 - c0 - (2 ^ 51 - 1) ∧ a1 - c0 - (2 ^ 51 - 1) < 2 ^ 51) ∧ (0 ≤ c1 ∧ c1 ≤ 1) ∧
    (-(2 ^ 51) ≤ a2 - c1 - (2 ^ 51 - 1) ∧ a2 - c1 - (2 ^ 51 - 1) < 2 ^ 51) ∧ (0 ≤ c2 ∧ c2 ≤ 1) ∧
    (-(2 ^ 51) ≤ a3 - c2 - (2 ^ 51 - 1) ∧ a3 - c2 - (2 ^ 51 - 1) < 2 ^ 51) ∧ (0 ≤ c3 ∧ c3 ≤ 1) ∧
    (-(2 ^ 51) ≤ a4 - c3 - (2 ^ 51 - 1) ∧ a4 - c3 - (2 ^ 51 - 1) < 2 ^ 51) := by
  intro c0 c1 c2 c3
  have h0 : 0 ≤ c0 ∧ c0 ≤ 1 := by omega
  have h1 : 0 ≤ c1 ∧ c1 ≤ 1 := by omega
  have h2 : 0 ≤ c2 ∧ c2 ≤ 1 := by omega
  have h3 : 0 ≤ c3 ∧ c3 ≤ 1 := by omega
  omega

/-- **fiat u32 `as_bytes` stays inside the domains of the two subtract-with-borrow idioms** (`u26` on even limbs, `u25` on odd limbs) for tight
limbs (even `≤ 2^26`, odd `≤ 2^25`, inclusive). -/
theorem as_bytes26_in_domain (a0 a1 a2 a3 a4 a5 a6 a7 a8 a9 : Int)
    (b0 : 0 ≤ a0 ∧ a0 ≤ 2 ^ 26) (b1 : 0 ≤ a1 ∧ a1 ≤ 2 ^ 25) (b2 : 0 ≤ a2 ∧ a2 ≤ 2 ^ 26) (b3 : 0 ≤ a3 ∧ a3 ≤ 2 ^ 25) (b4 : 0 ≤ a4 ∧ a4 ≤ 2 ^ 26) (b5 : 0 ≤ a5 ∧ a5 ≤ 2 ^ 25) (b6 : 0 ≤ a6 ∧ a6 ≤ 2 ^ 26) (b7 : 0 ≤ a7 ∧ a7 ≤ 2 ^ 25) (b8 : 0 ≤ a8 ∧ a8 ≤ 2 ^ 26) (b9 : 0 ≤ a9 ∧ a9 ≤ 2 ^ 25) :
    let c0 := ((a0 - 0 - (2 ^ 26 - 19)) % 2 ^ 32) / 2 ^ 31
    let c1 := ((a1 - c0 - (2 ^ 25 - 1)) % 2 ^ 32) / 2 ^ 31
    let c2 := ((a2 - c1 - (2 ^ 26 - 1)) % 2 ^ 32) / 2 ^ 31
    let c3 := ((a3 - c2 - (2 ^ 25 - 1)) % 2 ^ 32) / 2 ^ 31
    let c4 := ((a4 - c3 - (2 ^ 26 - 1)) % 2 ^ 32) / 2 ^ 31
    let c5 := ((a5 - c4 - (2 ^ 25 - 1)) % 2 ^ 32) / 2 ^ 31
    let c6 := ((a6 - c5 - (2 ^ 26 - 1)) % 2 ^ 32) / 2 ^ 31
    let c7 := ((a7 - c6 - (2 ^ 25 - 1)) % 2 ^ 32) / 2 ^ 31
    let c8 := ((a8 - c7 - (2 ^ 26 - 1)) % 2 ^ 32) / 2 ^ 31
    (-(2 ^ 26) ≤ a0 - 0 - (2 ^ 26 - 19) ∧ a0 - 0 - (2 ^ 26 - 19) < 2 ^ 26) ∧
    (0 ≤ c0 ∧ c0 ≤ 1) ∧
    (-(2 ^ 25) ≤ a1 - c0 - (2 ^ 25 - 1) ∧ a1 - c0 - (2 ^ 25 - 1) < 2 ^ 25) ∧
    (0 ≤ c1 ∧ c1 ≤ 1) ∧
    (-(2 ^ 26) ≤ a2 - c1 - (2 ^ 26 - 1) ∧ a2 - c1 - (2 ^ 26 - 1) < 2 ^ 26) ∧
    (0 ≤ c2 ∧ c2 ≤ 1) ∧
    (-(2 ^ 25) ≤ a3 - c2 - (2 ^ 25 - 1) ∧ a3 - c2 - (2 ^ 25 - 1) < 2 ^ 25) ∧
    (0 ≤ c3 ∧ c3 ≤ 1) ∧
    (-(2 ^ 26) ≤ a4 - c3 - (2 ^ 26 - 1) ∧ a4 - c3 - (2 ^ 26 - 1) < 2 ^ 26) ∧
    (0 ≤ c4 ∧ c4 ≤ 1) ∧
    (-(2 ^ 25) ≤ a5 - c4 - (2 ^ 25 - 1) ∧ a5 - c4 - (2 ^ 25 - 1) < 2 ^ 25) ∧
    (0 ≤ c5 ∧ c5 ≤ 1) ∧
    (-(2 ^ 26) ≤ a6 - c5 - (2 ^ 26 - 1) ∧ a6 - c5 - (2 ^ 26 - 1) < 2 ^ 26) ∧
    (0 ≤ c6 ∧ c6 ≤ 1) ∧
    (-(2 ^ 25) ≤ a7 - c6 - (2 ^ 25 - 1) ∧ a7 - c6 - (2 ^ 25 - 1) < 2 ^ 25) ∧
    (0 ≤ c7 ∧ c7 ≤ 1) ∧
    (-(2 ^ 26) ≤ a8 - c7 - (2 ^ 26 - 1) ∧ a8 - c7 - (2 ^ 26 - 1) < 2 ^ 26) ∧
    (0 ≤ c8 ∧ c8 ≤ 1) ∧
    (-(2 ^ 25) ≤ a9 - c8 - (2 ^ 25 - 1) ∧ a9 - c8 - (2 ^ 25 - 1) < 2 ^ 25) := by
  intro c0 c1 c2 c3 c4 c5 c6 c7 c8
  have h0 : 0 ≤ c0 ∧ c0 ≤ 1 := by omega
  have h1 : 0 ≤ c1 ∧ c1 ≤ 1 := by omega
  have h2 : 0 ≤ c2 ∧ c2 ≤ 1 := by omega
  have h3 : 0 ≤ c3 ∧ c3 ≤ 1 := by omega
  have h4 : 0 ≤ c4 ∧ c4 ≤ 1 := by omega
  have h5 : 0 ≤ c5 ∧ c5 ≤ 1 := by omega
  have h6 : 0 ≤ c6 ∧ c6 ≤ 1 := by omega
  have h7 : 0 ≤ c7 ∧ c7 ≤ 1 := by omega
  have h8 : 0 ≤ c8 ∧ c8 ≤ 1 := by omega
  omega

/-- non-vacuity and sharpness: all limbs AT the tight bound are admitted and the first step then sits at `19`, all limbs `0` at `−2^51 + 19` -/
example : (0 : Int) ≤ 2 ^ 51 ∧ (2 : Int) ^ 51 - 0 - (2 ^ 51 - 19) = 19 ∧ (0 : Int) - 0 - (2 ^ 51 - 19) = -(2 ^ 51) + 19 := by
  norm_num

end Dalek.Props.C01.FiatIdioms
