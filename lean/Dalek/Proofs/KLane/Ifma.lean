import Dalek.Proofs.KLane.IfmaTable
import Dalek.Gen.AlgIfmaEdwards
/-!
# KLane — the parallel point formulas of the IFMA backend, one kernel evaluation each

Both programs of a formula are REGENERATED from `backend/vector/ifma/edwards.rs` on every run: the `KProg`
`Dalek.Gen.KIfmaEdwards.<item>` (calls of the translated limb kernels) and the AlgIR program `Dalek.Gen.AlgIfmaEdwards.<item>`
(lane-scalarised by the translator).

`<item>_laneOk` is the one evaluation by the Lean kernel: the verified scalariser (`KProg.scal` with the PROVED lane-semantics
table `table`: interval analysis of every call on the intervals its arguments actually have, contract of the table entry
checked at every call) maps the kernel calls of `<item>` to exactly the lane terms of the translator's AlgIR item, and the
post-intervals of the analysis are inside the invariant of the result type (`Dalek.Model.VecInv`).
`<item>_refines`: for ALL inputs inside the invariants the wrapping (release) run of the kernel calls equals the checked
run and the lane values of its result are the run of the AlgIR item in the field on the lane values of the inputs.
The bound half of `<item>_laneOk` is used in `Props/C11/VecChain/Ifma.lean`.
-/
namespace Dalek.Proofs.KLane.Ifma
open Dalek.IR Dalek.Gen Dalek.Model.VecInv Dalek.Proofs Dalek.Proofs.KLane

theorem ExtendedPoint_from_EdwardsPoint_laneOk :
    laneOk table KIfmaEdwards.ExtendedPoint_from_EdwardsPoint [fe54, fe54, fe54, fe54] [.fe, .fe, .fe, .fe] .v51 AlgIfmaEdwards.ExtendedPoint_from_EdwardsPoint [Ifma.invExt] = true := by
  decide +kernel

theorem ExtendedPoint_from_EdwardsPoint_refines (ins : List (List Nat)) (hin : EnvIn2 ins [fe54, fe54, fe54, fe54]) :
    ∃ out, KIfmaEdwards.ExtendedPoint_from_EdwardsPoint.evalC ins = some [out] ∧ KIfmaEdwards.ExtendedPoint_from_EdwardsPoint.evalW ins = some [out] ∧
      meaning .v51 out = AProg.run zmodOpsV AlgIfmaEdwards.ExtendedPoint_from_EdwardsPoint (lanesOf [.fe, .fe, .fe, .fe] ins) :=
  refines_of_refOk table table_valid _ _ _ _ _ (refOk_of_laneOk ExtendedPoint_from_EdwardsPoint_laneOk) ins hin

theorem EdwardsPoint_from_ExtendedPoint_laneOk :
    laneOk table KIfmaEdwards.EdwardsPoint_from_ExtendedPoint [Ifma.invExt] [.v51] .ser AlgIfmaEdwards.EdwardsPoint_from_ExtendedPoint [Ifma.splitOut] = true := by
  decide +kernel

theorem EdwardsPoint_from_ExtendedPoint_refines (ins : List (List Nat)) (hin : EnvIn2 ins [Ifma.invExt]) :
    ∃ out, KIfmaEdwards.EdwardsPoint_from_ExtendedPoint.evalC ins = some [out] ∧ KIfmaEdwards.EdwardsPoint_from_ExtendedPoint.evalW ins = some [out] ∧
      meaning .ser out = AProg.run zmodOpsV AlgIfmaEdwards.EdwardsPoint_from_ExtendedPoint (lanesOf [.v51] ins) :=
  refines_of_refOk table table_valid _ _ _ _ _ (refOk_of_laneOk EdwardsPoint_from_ExtendedPoint_laneOk) ins hin

theorem CachedPoint_from_ExtendedPoint_laneOk :
    laneOk table KIfmaEdwards.CachedPoint_from_ExtendedPoint [Ifma.invExt] [.v51] .v51 AlgIfmaEdwards.CachedPoint_from_ExtendedPoint [Ifma.invCached] = true := by
  decide +kernel

theorem CachedPoint_from_ExtendedPoint_refines (ins : List (List Nat)) (hin : EnvIn2 ins [Ifma.invExt]) :
    ∃ out, KIfmaEdwards.CachedPoint_from_ExtendedPoint.evalC ins = some [out] ∧ KIfmaEdwards.CachedPoint_from_ExtendedPoint.evalW ins = some [out] ∧
      meaning .v51 out = AProg.run zmodOpsV AlgIfmaEdwards.CachedPoint_from_ExtendedPoint (lanesOf [.v51] ins) :=
  refines_of_refOk table table_valid _ _ _ _ _ (refOk_of_laneOk CachedPoint_from_ExtendedPoint_laneOk) ins hin

theorem ExtendedPoint_double_laneOk :
    laneOk table KIfmaEdwards.ExtendedPoint_double [Ifma.invExt] [.v51] .v51 AlgIfmaEdwards.ExtendedPoint_double [Ifma.invExt] = true := by
  decide +kernel

theorem ExtendedPoint_double_refines (ins : List (List Nat)) (hin : EnvIn2 ins [Ifma.invExt]) :
    ∃ out, KIfmaEdwards.ExtendedPoint_double.evalC ins = some [out] ∧ KIfmaEdwards.ExtendedPoint_double.evalW ins = some [out] ∧
      meaning .v51 out = AProg.run zmodOpsV AlgIfmaEdwards.ExtendedPoint_double (lanesOf [.v51] ins) :=
  refines_of_refOk table table_valid _ _ _ _ _ (refOk_of_laneOk ExtendedPoint_double_laneOk) ins hin

/-- the loop body of `mul_by_pow_2` is translated to the same two programs as `double` -/
theorem ExtendedPoint_mul_by_pow_2_body_laneOk :
    laneOk table KIfmaEdwards.ExtendedPoint_mul_by_pow_2_body [Ifma.invExt] [.v51] .v51 AlgIfmaEdwards.ExtendedPoint_mul_by_pow_2_body [Ifma.invExt] = true :=
  ExtendedPoint_double_laneOk

theorem ExtendedPoint_mul_by_pow_2_body_refines (ins : List (List Nat)) (hin : EnvIn2 ins [Ifma.invExt]) :
    ∃ out, KIfmaEdwards.ExtendedPoint_mul_by_pow_2_body.evalC ins = some [out] ∧ KIfmaEdwards.ExtendedPoint_mul_by_pow_2_body.evalW ins = some [out] ∧
      meaning .v51 out = AProg.run zmodOpsV AlgIfmaEdwards.ExtendedPoint_mul_by_pow_2_body (lanesOf [.v51] ins) :=
  refines_of_refOk table table_valid _ _ _ _ _ (refOk_of_laneOk ExtendedPoint_mul_by_pow_2_body_laneOk) ins hin

theorem ExtendedPoint_add_CachedPoint_laneOk :
    laneOk table KIfmaEdwards.ExtendedPoint_add_CachedPoint [Ifma.invExt, Ifma.invCached] [.v51, .v51] .v51 AlgIfmaEdwards.ExtendedPoint_add_CachedPoint [Ifma.invExt] = true := by
  decide +kernel

theorem ExtendedPoint_add_CachedPoint_refines (ins : List (List Nat)) (hin : EnvIn2 ins [Ifma.invExt, Ifma.invCached]) :
    ∃ out, KIfmaEdwards.ExtendedPoint_add_CachedPoint.evalC ins = some [out] ∧ KIfmaEdwards.ExtendedPoint_add_CachedPoint.evalW ins = some [out] ∧
      meaning .v51 out = AProg.run zmodOpsV AlgIfmaEdwards.ExtendedPoint_add_CachedPoint (lanesOf [.v51, .v51] ins) :=
  refines_of_refOk table table_valid _ _ _ _ _ (refOk_of_laneOk ExtendedPoint_add_CachedPoint_laneOk) ins hin

theorem ExtendedPoint_sub_CachedPoint_laneOk :
    laneOk table KIfmaEdwards.ExtendedPoint_sub_CachedPoint [Ifma.invExt, Ifma.invCached] [.v51, .v51] .v51 AlgIfmaEdwards.ExtendedPoint_sub_CachedPoint [Ifma.invExt] = true := by
  decide +kernel

theorem ExtendedPoint_sub_CachedPoint_refines (ins : List (List Nat)) (hin : EnvIn2 ins [Ifma.invExt, Ifma.invCached]) :
    ∃ out, KIfmaEdwards.ExtendedPoint_sub_CachedPoint.evalC ins = some [out] ∧ KIfmaEdwards.ExtendedPoint_sub_CachedPoint.evalW ins = some [out] ∧
      meaning .v51 out = AProg.run zmodOpsV AlgIfmaEdwards.ExtendedPoint_sub_CachedPoint (lanesOf [.v51, .v51] ins) :=
  refines_of_refOk table table_valid _ _ _ _ _ (refOk_of_laneOk ExtendedPoint_sub_CachedPoint_laneOk) ins hin

theorem CachedPoint_neg_laneOk :
    laneOk table KIfmaEdwards.CachedPoint_neg [Ifma.invCached] [.v51] .v51 AlgIfmaEdwards.CachedPoint_neg [Ifma.invCached] = true := by
  decide +kernel

theorem CachedPoint_neg_refines (ins : List (List Nat)) (hin : EnvIn2 ins [Ifma.invCached]) :
    ∃ out, KIfmaEdwards.CachedPoint_neg.evalC ins = some [out] ∧ KIfmaEdwards.CachedPoint_neg.evalW ins = some [out] ∧
      meaning .v51 out = AProg.run zmodOpsV AlgIfmaEdwards.CachedPoint_neg (lanesOf [.v51] ins) :=
  refines_of_refOk table table_valid _ _ _ _ _ (refOk_of_laneOk CachedPoint_neg_laneOk) ins hin

theorem ExtendedPoint_identity_laneOk :
    laneOk table KIfmaEdwards.ExtendedPoint_identity [] [] .v51 AlgIfmaEdwards.ExtendedPoint_identity [Ifma.invExt] = true := by
  decide +kernel

theorem ExtendedPoint_identity_refines (ins : List (List Nat)) (hin : EnvIn2 ins []) :
    ∃ out, KIfmaEdwards.ExtendedPoint_identity.evalC ins = some [out] ∧ KIfmaEdwards.ExtendedPoint_identity.evalW ins = some [out] ∧
      meaning .v51 out = AProg.run zmodOpsV AlgIfmaEdwards.ExtendedPoint_identity (lanesOf [] ins) :=
  refines_of_refOk table table_valid _ _ _ _ _ (refOk_of_laneOk ExtendedPoint_identity_laneOk) ins hin

theorem CachedPoint_identity_laneOk :
    laneOk table KIfmaEdwards.CachedPoint_identity [] [] .v51 AlgIfmaEdwards.CachedPoint_identity [Ifma.invCached] = true := by
  decide +kernel

theorem CachedPoint_identity_refines (ins : List (List Nat)) (hin : EnvIn2 ins []) :
    ∃ out, KIfmaEdwards.CachedPoint_identity.evalC ins = some [out] ∧ KIfmaEdwards.CachedPoint_identity.evalW ins = some [out] ∧
      meaning .v51 out = AProg.run zmodOpsV AlgIfmaEdwards.CachedPoint_identity (lanesOf [] ins) :=
  refines_of_refOk table table_valid _ _ _ _ _ (refOk_of_laneOk CachedPoint_identity_laneOk) ins hin

theorem CachedPoint_conditional_select_laneOk :
    laneOk table KIfmaEdwards.CachedPoint_conditional_select [Ifma.invCached, Ifma.invCached, choice] [.v51, .v51, .ch] .v51 AlgIfmaEdwards.CachedPoint_conditional_select [Ifma.invCached] = true := by
  decide +kernel

theorem CachedPoint_conditional_select_refines (ins : List (List Nat)) (hin : EnvIn2 ins [Ifma.invCached, Ifma.invCached, choice]) :
    ∃ out, KIfmaEdwards.CachedPoint_conditional_select.evalC ins = some [out] ∧ KIfmaEdwards.CachedPoint_conditional_select.evalW ins = some [out] ∧
      meaning .v51 out = AProg.run zmodOpsV AlgIfmaEdwards.CachedPoint_conditional_select (lanesOf [.v51, .v51, .ch] ins) :=
  refines_of_refOk table table_valid _ _ _ _ _ (refOk_of_laneOk CachedPoint_conditional_select_laneOk) ins hin

theorem CachedPoint_conditional_assign_laneOk :
    laneOk table KIfmaEdwards.CachedPoint_conditional_assign [Ifma.invCached, Ifma.invCached, choice] [.v51, .v51, .ch] .v51 AlgIfmaEdwards.CachedPoint_conditional_assign [Ifma.invCached] = true := by
  decide +kernel

theorem CachedPoint_conditional_assign_refines (ins : List (List Nat)) (hin : EnvIn2 ins [Ifma.invCached, Ifma.invCached, choice]) :
    ∃ out, KIfmaEdwards.CachedPoint_conditional_assign.evalC ins = some [out] ∧ KIfmaEdwards.CachedPoint_conditional_assign.evalW ins = some [out] ∧
      meaning .v51 out = AProg.run zmodOpsV AlgIfmaEdwards.CachedPoint_conditional_assign (lanesOf [.v51, .v51, .ch] ins) :=
  refines_of_refOk table table_valid _ _ _ _ _ (refOk_of_laneOk CachedPoint_conditional_assign_laneOk) ins hin

end Dalek.Proofs.KLane.Ifma
