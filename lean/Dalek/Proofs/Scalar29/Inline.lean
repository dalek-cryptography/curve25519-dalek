import Dalek.IR.Limb
import Mathlib.Tactic.NormNum
/-!
# Sequential composition ("inlining") of LimbIR programs

The translator inlines callees: the body of a composed item is the concatenation of the bodies of its callees, with
the callee's variables replaced by atoms of the caller (`.v j` or, for constant arguments, `.c n`), constant
sub-expressions folded, and statements whose value became a constant dropped.  `chk` re-does this substitution and
compares it with the actual composed body (a decidable check, run by `decide +kernel`); `chk_sound` shows that then
the checked semantics of the composed body is the composition of the checked semantics of the parts.
`Prog.evalW_of_evalC`: a run without panic returns the wrapping result.
-/
namespace Dalek.IR

/-! ## no panic ⇒ the wrapping semantics agrees -/

theorem chk_eq_some {w v r : Nat} : chk w v = some r ↔ v < 2 ^ w ∧ r = v := by
  unfold chk; split <;> simp_all [eq_comm]

theorem E.evalW_of_evalC (env : List Nat) : ∀ (e : E) (x : Nat), e.evalC env = some x → e.evalW env = x := by
  intro e
  induction e with
  | v i => intro x h; simp only [E.evalC] at h; simp [E.evalW, List.getD_eq_getElem?_getD, h]
  | c n => intro x h; simp only [E.evalC, Option.some.injEq] at h; simp [E.evalW, h]
  | add w a b iha ihb =>
    intro r h
    simp only [E.evalC, Option.bind_eq_bind, Option.bind_eq_some_iff] at h
    obtain ⟨x, hx, y, hy, h⟩ := h
    obtain ⟨hlt, rfl⟩ := chk_eq_some.1 h
    simp [E.evalW, iha x hx, ihb y hy, Nat.mod_eq_of_lt hlt]
  | sub w a b iha ihb =>
    intro r h
    simp only [E.evalC, Option.bind_eq_bind, Option.bind_eq_some_iff] at h
    obtain ⟨x, hx, y, hy, h⟩ := h
    split at h
    · rename_i hyx
      obtain ⟨hlt, rfl⟩ := chk_eq_some.1 h
      simp only [E.evalW, iha x hx, ihb y hy]
      have h2 : 0 < 2 ^ w := Nat.pow_pos (by norm_num)
      have hm := Nat.mod_lt y h2
      have hd := Nat.div_add_mod y (2 ^ w)
      have : x + (2 ^ w - y % 2 ^ w) = (x - y) + 2 ^ w * (y / 2 ^ w + 1) := by
        rw [Nat.mul_add, Nat.mul_one]; omega
      rw [this, Nat.add_mul_mod_self_left, Nat.mod_eq_of_lt hlt]
    · simp at h
  | mul w a b iha ihb =>
    intro r h
    simp only [E.evalC, Option.bind_eq_bind, Option.bind_eq_some_iff] at h
    obtain ⟨x, hx, y, hy, h⟩ := h
    obtain ⟨hlt, rfl⟩ := chk_eq_some.1 h
    simp [E.evalW, iha x hx, ihb y hy, Nat.mod_eq_of_lt hlt]
  | wadd w a b iha ihb =>
    intro r h
    simp only [E.evalC, Option.bind_eq_bind, Option.bind_eq_some_iff, Option.some.injEq] at h
    obtain ⟨x, hx, y, hy, rfl⟩ := h
    simp [E.evalW, iha x hx, ihb y hy]
  | wsub w a b iha ihb =>
    intro r h
    simp only [E.evalC, Option.bind_eq_bind, Option.bind_eq_some_iff, Option.some.injEq] at h
    obtain ⟨x, hx, y, hy, rfl⟩ := h
    simp [E.evalW, iha x hx, ihb y hy]
  | wmul w a b iha ihb =>
    intro r h
    simp only [E.evalC, Option.bind_eq_bind, Option.bind_eq_some_iff, Option.some.injEq] at h
    obtain ⟨x, hx, y, hy, rfl⟩ := h
    simp [E.evalW, iha x hx, ihb y hy]
  | shr a k iha =>
    intro r h
    simp only [E.evalC, Option.bind_eq_bind, Option.bind_eq_some_iff, Option.some.injEq] at h
    obtain ⟨x, hx, rfl⟩ := h
    simp [E.evalW, iha x hx]
  | shl w a k iha =>
    intro r h
    simp only [E.evalC, Option.bind_eq_bind, Option.bind_eq_some_iff, Option.some.injEq] at h
    obtain ⟨x, hx, rfl⟩ := h
    simp [E.evalW, iha x hx]
  | band a b iha ihb =>
    intro r h
    simp only [E.evalC, Option.bind_eq_bind, Option.bind_eq_some_iff, Option.some.injEq] at h
    obtain ⟨x, hx, y, hy, rfl⟩ := h
    simp [E.evalW, iha x hx, ihb y hy]
  | bor a b iha ihb =>
    intro r h
    simp only [E.evalC, Option.bind_eq_bind, Option.bind_eq_some_iff, Option.some.injEq] at h
    obtain ⟨x, hx, y, hy, rfl⟩ := h
    simp [E.evalW, iha x hx, ihb y hy]
  | bxor a b iha ihb =>
    intro r h
    simp only [E.evalC, Option.bind_eq_bind, Option.bind_eq_some_iff, Option.some.injEq] at h
    obtain ⟨x, hx, y, hy, rfl⟩ := h
    simp [E.evalW, iha x hx, ihb y hy]
  | cast w a iha =>
    intro r h
    simp only [E.evalC, Option.bind_eq_bind, Option.bind_eq_some_iff, Option.some.injEq] at h
    obtain ⟨x, hx, rfl⟩ := h
    simp [E.evalW, iha x hx]
  | sel c a b ihc iha ihb =>
    intro r h
    simp only [E.evalC, Option.bind_eq_bind, Option.bind_eq_some_iff] at h
    obtain ⟨z, hz, x, hx, y, hy, h⟩ := h
    split at h
    · simp only [Option.some.injEq] at h
      subst h
      simp [E.evalW, ihc z hz, iha x hx, ihb y hy]
    · simp at h

theorem runW_of_runC : ∀ (ss : List S) (env env' : List Nat), runC ss env = some env' → runW ss env = env'
  | [], env, env', h => by simp only [runC, Option.some.injEq] at h; simp [runW, h]
  | s :: ss, env, env', h => by
    simp only [runC, Option.bind_eq_bind, Option.bind_eq_some_iff] at h
    obtain ⟨env1, h1, h2⟩ := h
    have : s.stepW env = env1 := by
      cases s with
      | set e =>
        simp only [S.stepC, Option.bind_eq_bind, Option.bind_eq_some_iff, Option.some.injEq] at h1
        obtain ⟨x, hx, rfl⟩ := h1
        simp [S.stepW, E.evalW_of_evalC env e x hx]
      | assertLt e n =>
        simp only [S.stepC, Option.bind_eq_bind, Option.bind_eq_some_iff] at h1
        obtain ⟨x, hx, h1⟩ := h1
        split at h1
        · simp only [Option.some.injEq] at h1; simp [S.stepW, h1]
        · simp at h1
    simp only [runW, this]
    exact runW_of_runC ss env1 env' h2

/-- a debug-build run that does not panic returns the release-build result -/
theorem Prog.evalW_of_evalC (p : Prog) (ins out : List Nat) (h : p.evalC ins = some out) : p.evalW ins = out := by
  unfold Prog.evalC at h
  split at h
  · simp only [Option.map_eq_some_iff] at h
    obtain ⟨env, h1, rfl⟩ := h
    simp [Prog.evalW, runW_of_runC _ _ _ h1]
  · simp at h

namespace Inline

/-- an expression that panics in every environment (default for out-of-scope variables) -/
def bad : E := .sub 1 (.c 0) (.c 1)

theorem bad_evalC (env : List Nat) : bad.evalC env = none := by
  simp [bad, E.evalC]

/-- rebuild a unary node; fold it if the child is a constant and the node evaluates -/
def fold1 (f : E → E) (a : E) : E :=
  match a with
  | .c _ => (match (f a).evalC [] with | some n => .c n | none => f a)
  | _ => f a

def fold2 (f : E → E → E) (a b : E) : E :=
  match a, b with
  | .c _, .c _ => (match (f a b).evalC [] with | some n => .c n | none => f a b)
  | _, _ => f a b

def fold3 (f : E → E → E → E) (a b c : E) : E :=
  match a, b, c with
  | .c _, .c _, .c _ => (match (f a b c).evalC [] with | some n => .c n | none => f a b c)
  | _, _, _ => f a b c

theorem fold1_evalC (f : E → E) (hf : ∀ x env, (f (.c x)).evalC env = (f (.c x)).evalC []) (a : E) (env : List Nat) :
    (fold1 f a).evalC env = (f a).evalC env := by
  unfold fold1
  split
  · rename_i x
    split
    · rename_i n h; rw [hf x env, h]; rfl
    · rfl
  · rfl

theorem fold2_evalC (f : E → E → E)
    (hf : ∀ x y env, (f (.c x) (.c y)).evalC env = (f (.c x) (.c y)).evalC []) (a b : E) (env : List Nat) :
    (fold2 f a b).evalC env = (f a b).evalC env := by
  unfold fold2
  split
  · rename_i x y
    split
    · rename_i n h; rw [hf x y env, h]; rfl
    · rfl
  · rfl

theorem fold3_evalC (f : E → E → E → E)
    (hf : ∀ x y z env, (f (.c x) (.c y) (.c z)).evalC env = (f (.c x) (.c y) (.c z)).evalC []) (a b c : E)
    (env : List Nat) : (fold3 f a b c).evalC env = (f a b c).evalC env := by
  unfold fold3
  split
  · rename_i x y z
    split
    · rename_i n h; rw [hf x y z env, h]; rfl
    · rfl
  · rfl

/-- substitute atoms for variables and fold constants bottom-up (what the translator does when it inlines) -/
def pe (σ : List E) : E → E
  | .v i => σ.getD i bad
  | .c n => .c n
  | .add w a b => fold2 (.add w) (pe σ a) (pe σ b)
  | .sub w a b => fold2 (.sub w) (pe σ a) (pe σ b)
  | .mul w a b => fold2 (.mul w) (pe σ a) (pe σ b)
  | .wadd w a b => fold2 (.wadd w) (pe σ a) (pe σ b)
  | .wsub w a b => fold2 (.wsub w) (pe σ a) (pe σ b)
  | .wmul w a b => fold2 (.wmul w) (pe σ a) (pe σ b)
  | .shr a k => fold1 (fun a => .shr a k) (pe σ a)
  | .shl w a k => fold1 (fun a => .shl w a k) (pe σ a)
  | .band a b => fold2 .band (pe σ a) (pe σ b)
  | .bor a b => fold2 .bor (pe σ a) (pe σ b)
  | .bxor a b => fold2 .bxor (pe σ a) (pe σ b)
  | .cast w a => fold1 (.cast w) (pe σ a)
  | .sel c a b => fold3 .sel (pe σ c) (pe σ a) (pe σ b)

/-- the atoms `σ` evaluate in `env1` to the entries of `env2` (and panic outside the range of `env2`) -/
def Agree (σ : List E) (env1 env2 : List Nat) : Prop := ∀ i, (σ.getD i bad).evalC env1 = env2[i]?

theorem pe_sound (σ : List E) (env1 env2 : List Nat) (h : Agree σ env1 env2) :
    ∀ e : E, (pe σ e).evalC env1 = e.evalC env2 := by
  intro e
  induction e with
  | v i => simpa [pe, E.evalC] using h i
  | c n => rfl
  | add w a b iha ihb => rw [pe, fold2_evalC _ (fun _ _ _ => rfl)]; simp only [E.evalC, iha, ihb]
  | sub w a b iha ihb => rw [pe, fold2_evalC _ (fun _ _ _ => rfl)]; simp only [E.evalC, iha, ihb]
  | mul w a b iha ihb => rw [pe, fold2_evalC _ (fun _ _ _ => rfl)]; simp only [E.evalC, iha, ihb]
  | wadd w a b iha ihb => rw [pe, fold2_evalC _ (fun _ _ _ => rfl)]; simp only [E.evalC, iha, ihb]
  | wsub w a b iha ihb => rw [pe, fold2_evalC _ (fun _ _ _ => rfl)]; simp only [E.evalC, iha, ihb]
  | wmul w a b iha ihb => rw [pe, fold2_evalC _ (fun _ _ _ => rfl)]; simp only [E.evalC, iha, ihb]
  | shr a k iha => rw [pe, fold1_evalC _ (fun _ _ => rfl)]; simp only [E.evalC, iha]
  | shl w a k iha => rw [pe, fold1_evalC _ (fun _ _ => rfl)]; simp only [E.evalC, iha]
  | band a b iha ihb => rw [pe, fold2_evalC _ (fun _ _ _ => rfl)]; simp only [E.evalC, iha, ihb]
  | bor a b iha ihb => rw [pe, fold2_evalC _ (fun _ _ _ => rfl)]; simp only [E.evalC, iha, ihb]
  | bxor a b iha ihb => rw [pe, fold2_evalC _ (fun _ _ _ => rfl)]; simp only [E.evalC, iha, ihb]
  | cast w a iha => rw [pe, fold1_evalC _ (fun _ _ => rfl)]; simp only [E.evalC, iha]
  | sel c a b ihc iha ihb => rw [pe, fold3_evalC _ (fun _ _ _ _ => rfl)]; simp only [E.evalC, ihc, iha, ihb]

/-! ## the check -/

/-- `σ` is a list of atoms, valid in `env1`, whose values are the entries of `env2` -/
def Inv (env1 : List Nat) : List E → List Nat → Prop
  | [], [] => True
  | a :: σ, x :: env2 => (a = .c x ∨ ∃ j, a = .v j ∧ env1[j]? = some x) ∧ Inv env1 σ env2
  | _, _ => False

theorem Inv_length {env1 : List Nat} : ∀ {σ : List E} {env2 : List Nat}, Inv env1 σ env2 → σ.length = env2.length
  | [], [], _ => rfl
  | _ :: σ, _ :: env2, h => by simp [Inv_length (σ := σ) (env2 := env2) h.2]
  | [], _ :: _, h => h.elim
  | _ :: _, [], h => h.elim

theorem Inv_mono {env1 : List Nat} (ys : List Nat) :
    ∀ {σ : List E} {env2 : List Nat}, Inv env1 σ env2 → Inv (env1 ++ ys) σ env2
  | [], [], _ => trivial
  | a :: σ, x :: env2, h => by
    refine ⟨?_, Inv_mono ys h.2⟩
    rcases h.1 with h1 | ⟨j, hj, hx⟩
    · exact Or.inl h1
    · refine Or.inr ⟨j, hj, ?_⟩
      have hlt : j < env1.length := by
        rcases List.getElem?_eq_some_iff.1 hx with ⟨hlt, _⟩; exact hlt
      rw [List.getElem?_append_left hlt]; exact hx
  | [], _ :: _, h => h.elim
  | _ :: _, [], h => h.elim

theorem Inv_append {env1 : List Nat} :
    ∀ {σ : List E} {env2 : List Nat} {τ : List E} {env3 : List Nat},
      Inv env1 σ env2 → Inv env1 τ env3 → Inv env1 (σ ++ τ) (env2 ++ env3)
  | [], [], _, _, _, h2 => by simpa using h2
  | a :: σ, x :: env2, _, _, h1, h2 => ⟨h1.1, Inv_append h1.2 h2⟩
  | [], _ :: _, _, _, h, _ => h.elim
  | _ :: _, [], _, _, h, _ => h.elim

theorem Inv_getD {env1 : List Nat} :
    ∀ {σ : List E} {env2 : List Nat}, Inv env1 σ env2 → ∀ i, i < σ.length →
      (σ.getD i bad = .c (env2.getD i 0) ∨ ∃ j, σ.getD i bad = .v j ∧ env1[j]? = some (env2.getD i 0))
  | [], [], _, i, hi => by simp at hi
  | a :: σ, x :: env2, h, 0, _ => by simpa using h.1
  | a :: σ, x :: env2, h, i + 1, hi => by
    have := Inv_getD h.2 i (by simpa using hi)
    simpa using this
  | [], _ :: _, h, _, _ => h.elim
  | _ :: _, [], h, _, _ => h.elim

theorem Agree_of_Inv {env1 : List Nat} {σ : List E} {env2 : List Nat} (h : Inv env1 σ env2) : Agree σ env1 env2 := by
  intro i
  by_cases hi : i < σ.length
  · have hi2 : i < env2.length := by rw [← Inv_length h]; exact hi
    have hx : env2[i]? = some (env2.getD i 0) := by
      rw [List.getD_eq_getElem?_getD, List.getElem?_eq_getElem hi2]; rfl
    rw [hx]
    rcases Inv_getD h i hi with h1 | ⟨j, hj, hv⟩
    · rw [h1]; rfl
    · rw [hj]; simpa [E.evalC] using hv
  · have hi' : σ.length ≤ i := Nat.le_of_not_lt hi
    have hi2 : env2.length ≤ i := by rw [← Inv_length h]; exact hi'
    have : σ.getD i bad = bad := by simp [List.getD_eq_getElem?_getD, List.getElem?_eq_none hi']
    rw [this, bad_evalC, List.getElem?_eq_none hi2]

def asConst : E → Option Nat
  | .c n => some n
  | _ => none

theorem asConst_eq_some {e : E} {n : Nat} (h : asConst e = some n) : e = .c n := by
  cases e <;> simp_all [asConst]

/-- replay the body `b2` of a callee, with substitution `σ`, against the remaining body `comp` of the caller whose
environment currently has `n` entries; returns the final substitution, the new environment size and what is left of
`comp` -/
def chk : List E → Nat → List S → List S → Option (List E × Nat × List S)
  | σ, n, [], comp => some (σ, n, comp)
  | σ, n, .set e :: b2, comp =>
    match asConst (pe σ e) with
    | some c => chk (σ ++ [.c c]) n b2 comp
    | none =>
      match comp with
      | .set e'' :: comp' => if e'' = pe σ e then chk (σ ++ [.v n]) (n + 1) b2 comp' else none
      | _ => none
  | σ, n, .assertLt e k :: b2, comp =>
    match comp with
    | .assertLt e'' k' :: comp' => if e'' = pe σ e ∧ k' = k then chk σ n b2 comp' else none
    | _ => none

theorem chk_sound : ∀ (b2 : List S) (σ : List E) (n : Nat) (comp : List S) (σ' : List E) (n' : Nat) (rest : List S)
    (env1 env2 env2' : List Nat),
    chk σ n b2 comp = some (σ', n', rest) → Inv env1 σ env2 → env1.length = n → runC b2 env2 = some env2' →
    ∃ used ys, comp = used ++ rest ∧ runC used env1 = some (env1 ++ ys) ∧ Inv (env1 ++ ys) σ' env2' ∧
      (env1 ++ ys).length = n' := by
  intro b2
  induction b2 with
  | nil =>
    intro σ n comp σ' n' rest env1 env2 env2' h hinv hlen hrun
    simp only [chk, Option.some.injEq, Prod.mk.injEq] at h
    obtain ⟨rfl, rfl, rfl⟩ := h
    simp only [runC, Option.some.injEq] at hrun
    subst hrun
    exact ⟨[], [], by simp, by simp [runC], by simpa using hinv, by simpa using hlen⟩
  | cons s b2 ih =>
    intro σ n comp σ' n' rest env1 env2 env2' h hinv hlen hrun
    simp only [runC, Option.bind_eq_bind, Option.bind_eq_some_iff] at hrun
    obtain ⟨env2a, hstep, hrun⟩ := hrun
    have hag := Agree_of_Inv hinv
    cases s with
    | set e =>
      simp only [S.stepC, Option.bind_eq_bind, Option.bind_eq_some_iff, Option.some.injEq] at hstep
      obtain ⟨x, hx, rfl⟩ := hstep
      have hpe : (pe σ e).evalC env1 = some x := by rw [pe_sound σ env1 env2 hag e]; exact hx
      simp only [chk] at h
      split at h
      · rename_i c hc
        have hcx : c = x := by
          have := asConst_eq_some hc
          rw [this] at hpe
          simpa [E.evalC] using hpe
        subst hcx
        exact ih _ _ _ _ _ _ env1 _ _ h (Inv_append hinv (show Inv env1 [.c c] [c] from ⟨Or.inl rfl, trivial⟩)) hlen hrun
      · split at h
        · rename_i e'' comp'
          split at h
          · rename_i he
            subst he
            have hinv' : Inv (env1 ++ [x]) (σ ++ [.v n]) (env2 ++ [x]) := by
              refine Inv_append (Inv_mono [x] hinv) (show Inv (env1 ++ [x]) [.v n] [x] from ⟨Or.inr ⟨n, rfl, ?_⟩, trivial⟩)
              rw [← hlen]; simp
            obtain ⟨used, ys, hcomp, hr, hi, hl⟩ := ih _ _ _ _ _ _ (env1 ++ [x]) _ _ h hinv' (by simp [hlen]) hrun
            refine ⟨.set (pe σ e) :: used, [x] ++ ys, by simp [hcomp], ?_, by simpa using hi, by simpa using hl⟩
            simp only [runC, S.stepC, hpe, Option.bind_eq_bind, Option.bind_some]
            simpa using hr
          · simp at h
        · simp at h
    | assertLt e k =>
      simp only [S.stepC, Option.bind_eq_bind, Option.bind_eq_some_iff] at hstep
      obtain ⟨x, hx, hstep⟩ := hstep
      have hpe : (pe σ e).evalC env1 = some x := by rw [pe_sound σ env1 env2 hag e]; exact hx
      split at hstep
      · rename_i hxk
        simp only [Option.some.injEq] at hstep
        subst hstep
        simp only [chk] at h
        split at h
        · rename_i e'' k' comp'
          split at h
          · rename_i he
            obtain ⟨he, hk⟩ := he
            subst he; subst hk
            obtain ⟨used, ys, hcomp, hr, hi, hl⟩ := ih _ _ _ _ _ _ env1 _ _ h hinv hlen hrun
            refine ⟨.assertLt (pe σ e) k' :: used, ys, by simp [hcomp], ?_, hi, hl⟩
            simp only [runC, S.stepC, hpe, Option.bind_eq_bind, Option.bind_some, hxk, if_true]
            exact hr
          · simp at h
        · simp at h
      · simp at hstep

/-! ## program level -/

/-- inline a call of `P` with argument atoms `args` into the body `comp` of a caller whose environment has `n`
entries; returns the atoms of the results, the new environment size and the rest of `comp` -/
def inl (P : Prog) (args : List E) (n : Nat) (comp : List S) : Option (List E × Nat × List S) :=
  if args.length = P.nIn then
    match chk args n P.body comp with
    | some (σ', n', rest) =>
      if P.outs.all (fun i => decide (i < σ'.length)) then some (P.outs.map (fun i => σ'.getD i bad), n', rest)
      else none
    | none => none
  else none

theorem Inv_pick {env1 : List Nat} {σ' : List E} {env2' : List Nat} (h : Inv env1 σ' env2') :
    ∀ outs : List Nat, (∀ i ∈ outs, i < σ'.length) →
      Inv env1 (outs.map (fun i => σ'.getD i bad)) (pick env2' outs)
  | [], _ => trivial
  | i :: outs, hi => by
    refine ⟨?_, Inv_pick h outs (fun j hj => hi j (List.mem_cons_of_mem _ hj))⟩
    exact Inv_getD h i (hi i (List.mem_cons_self))

theorem inl_sound (P : Prog) (args : List E) (n : Nat) (comp : List S) (outs : List E) (n' : Nat) (rest : List S)
    (env1 ins out : List Nat)
    (h : inl P args n comp = some (outs, n', rest)) (hinv : Inv env1 args ins) (hlen : env1.length = n)
    (hP : P.evalC ins = some out) :
    ∃ used ys, comp = used ++ rest ∧ runC used env1 = some (env1 ++ ys) ∧ Inv (env1 ++ ys) outs out ∧
      (env1 ++ ys).length = n' := by
  unfold inl at h
  split at h
  · split at h
    · rename_i σ' n1 rest1 hchk
      split at h
      · rename_i hall
        simp only [Option.some.injEq, Prod.mk.injEq] at h
        obtain ⟨rfl, rfl, rfl⟩ := h
        unfold Prog.evalC at hP
        split at hP
        · simp only [Option.map_eq_some_iff] at hP
          obtain ⟨env2', hrun, rfl⟩ := hP
          obtain ⟨used, ys, hc, hr, hi, hl⟩ := chk_sound _ _ _ _ _ _ _ env1 ins env2' hchk hinv hlen hrun
          refine ⟨used, ys, hc, hr, Inv_pick hi _ ?_, hl⟩
          intro i hi'
          have := List.all_eq_true.1 hall i hi'
          simpa using this
        · simp at hP
      · simp at h
    · simp at h
  · simp at h

theorem Inv_init_aux : ∀ (suf pre : List Nat), Inv (pre ++ suf) ((List.range' pre.length suf.length).map E.v) suf
  | [], _ => trivial
  | x :: suf, pre => by
    refine ⟨Or.inr ⟨pre.length, rfl, by simp⟩, ?_⟩
    have := Inv_init_aux suf (pre ++ [x])
    simpa [List.append_assoc] using this

/-- the inputs of the caller -/
theorem Inv_init (ins : List Nat) : Inv ins ((List.range ins.length).map E.v) ins := by
  have := Inv_init_aux ins []
  simpa [List.range_eq_range'] using this

theorem pick_of_Inv {env1 : List Nat} : ∀ (outs : List Nat) (out : List Nat), Inv env1 (outs.map E.v) out → pick env1 outs = out
  | [], [], _ => rfl
  | i :: outs, x :: out, h => by
    have h1 : env1.getD i 0 = x := by
      rcases h.1 with h1 | ⟨j, hj, hx⟩
      · cases h1
      · cases hj; simp [List.getD_eq_getElem?_getD, hx]
    have h2 := pick_of_Inv outs out h.2
    simp only [pick, List.map_cons] at h2 ⊢
    rw [h1, h2]
  | [], _ :: _, h => h.elim
  | _ :: _, [], h => h.elim

/-- the whole body of `C` has been replayed: its checked run returns `out` -/
theorem comp_final (C : Prog) (ins envF out : List Nat) (hlen : ins.length = C.nIn)
    (hrun : runC C.body ins = some envF) (hinv : Inv envF (C.outs.map E.v) out) : C.evalC ins = some out := by
  simp [Prog.evalC, hlen, hrun, pick_of_Inv _ _ hinv]

theorem runC_append : ∀ (b1 b2 : List S) (env env1 : List Nat), runC b1 env = some env1 →
    runC (b1 ++ b2) env = runC b2 env1
  | [], b2, env, env1, h => by simp only [runC, Option.some.injEq] at h; simp [h]
  | s :: b1, b2, env, env1, h => by
    simp only [runC, Option.bind_eq_bind, Option.bind_eq_some_iff] at h
    obtain ⟨e1, h1, h2⟩ := h
    simp only [List.cons_append, runC, h1, Option.bind_eq_bind, Option.bind_some]
    exact runC_append b1 b2 e1 env1 h2

/-! ## pipelines: a composed item is a sequence of calls, each applied to the previous result followed by
constant arguments -/

/-- checked semantics of the pipeline -/
def pipeC : List (Prog × List Nat) → List Nat → Option (List Nat)
  | [], x => some x
  | (P, cs) :: rest, x => (P.evalC (x ++ cs)).bind (pipeC rest)

/-- replay the pipeline against a body -/
def pipeChk : List (Prog × List Nat) → List E → Nat → List S → Option (List E × List S)
  | [], σ, _, comp => some (σ, comp)
  | (P, cs) :: rest, σ, n, comp =>
    match inl P (σ ++ cs.map E.c) n comp with
    | some (o, n', r) => pipeChk rest o n' r
    | none => none

theorem Inv_consts (env1 : List Nat) : ∀ cs : List Nat, Inv env1 (cs.map E.c) cs
  | [] => trivial
  | _ :: cs => ⟨Or.inl rfl, Inv_consts env1 cs⟩

theorem pipe_sound : ∀ (stages : List (Prog × List Nat)) (σ : List E) (n : Nat) (comp : List S) (σF : List E)
    (restF : List S) (env1 x out : List Nat),
    pipeChk stages σ n comp = some (σF, restF) → Inv env1 σ x → env1.length = n → pipeC stages x = some out →
    ∃ used ys, comp = used ++ restF ∧ runC used env1 = some (env1 ++ ys) ∧ Inv (env1 ++ ys) σF out := by
  intro stages
  induction stages with
  | nil =>
    intro σ n comp σF restF env1 x out h hinv _ hp
    simp only [pipeChk, Option.some.injEq, Prod.mk.injEq] at h
    obtain ⟨rfl, rfl⟩ := h
    simp only [pipeC, Option.some.injEq] at hp
    subst hp
    exact ⟨[], [], by simp, by simp [runC], by simpa using hinv⟩
  | cons st stages ih =>
    intro σ n comp σF restF env1 x out h hinv hlen hp
    obtain ⟨P, cs⟩ := st
    simp only [pipeC, Option.bind_eq_some_iff] at hp
    obtain ⟨y, hP, hp⟩ := hp
    simp only [pipeChk] at h
    split at h
    · rename_i o n' r hinl
      obtain ⟨used1, ys1, hc1, hr1, hi1, hl1⟩ :=
        inl_sound P _ n comp o n' r env1 (x ++ cs) y hinl (Inv_append hinv (Inv_consts env1 cs)) hlen hP
      obtain ⟨used2, ys2, hc2, hr2, hi2⟩ := ih o n' r σF restF (env1 ++ ys1) y out h hi1 hl1 hp
      refine ⟨used1 ++ used2, ys1 ++ ys2, by simp [hc1, hc2], ?_, by simpa using hi2⟩
      rw [runC_append used1 used2 env1 _ hr1]
      simpa using hr2
    · simp at h

/-- **a composed item is the pipeline of its callees**: if replaying the pipeline consumes the whole body of `C`
and ends in the outputs of `C`, then a non-panicking run of the pipeline is a non-panicking run of `C` with the same
result, in the debug and in the release build -/
theorem pipe_prog (C : Prog) (stages : List (Prog × List Nat))
    (h : pipeChk stages ((List.range C.nIn).map E.v) C.nIn C.body = some (C.outs.map E.v, []))
    (ins out : List Nat) (hlen : ins.length = C.nIn) (hp : pipeC stages ins = some out) :
    C.evalC ins = some out ∧ C.evalW ins = out := by
  have hinv : Inv ins ((List.range C.nIn).map E.v) ins := by rw [← hlen]; exact Inv_init ins
  obtain ⟨used, ys, hc, hr, hi⟩ := pipe_sound stages _ _ _ _ _ ins ins out h hinv hlen hp
  have hC : C.evalC ins = some out := by
    apply comp_final C ins (ins ++ ys) out hlen _ hi
    rw [hc]; simpa using hr
  exact ⟨hC, Prog.evalW_of_evalC C ins out hC⟩

theorem pipeC_two (P1 P2 : Prog) (cs : List Nat) (x y out : List Nat)
    (h1 : P1.evalC (x ++ cs) = some y) (h2 : P2.evalC y = some out) :
    pipeC [(P1, cs), (P2, [])] x = some out := by
  simp [pipeC, h1, h2]

theorem pipeC_two_nil (P1 P2 : Prog) (x y out : List Nat)
    (h1 : P1.evalC x = some y) (h2 : P2.evalC y = some out) :
    pipeC [(P1, []), (P2, [])] x = some out := by
  simp [pipeC, h1, h2]

theorem pipeC_append : ∀ (s1 s2 : List (Prog × List Nat)) (x y out : List Nat),
    pipeC s1 x = some y → pipeC s2 y = some out → pipeC (s1 ++ s2) x = some out
  | [], s2, x, y, out, h1, h2 => by
    simp only [pipeC, Option.some.injEq] at h1; subst h1; simpa using h2
  | (P, cs) :: s1, s2, x, y, out, h1, h2 => by
    simp only [pipeC, Option.bind_eq_some_iff] at h1
    obtain ⟨z, hz, h1⟩ := h1
    simp only [List.cons_append, pipeC, hz, Option.bind_some]
    exact pipeC_append s1 s2 z y out h1 h2

/-! ## scripts: general data flow (every call takes earlier values, selected by index, and constants) -/

/-- an argument of a call: `inl i` = the `i`-th value computed so far (the inputs come first), `inr c` = a constant -/
abbrev Arg := Nat ⊕ Nat

def selV (V : List Nat) : Arg → Nat
  | .inl i => V.getD i 0
  | .inr c => c

def selE (σ : List E) : Arg → E
  | .inl i => σ.getD i bad
  | .inr c => .c c

def argOK (n : Nat) : Arg → Bool
  | .inl i => decide (i < n)
  | .inr _ => true

/-- checked semantics of a script: the list of all values (inputs, then the outputs of each call in turn) -/
def scriptC : List (Prog × List Arg) → List Nat → Option (List Nat)
  | [], V => some V
  | (P, as) :: rest, V => (P.evalC (as.map (selV V))).bind (fun out => scriptC rest (V ++ out))

/-- replay the script against a body -/
def scriptChk : List (Prog × List Arg) → List E → Nat → List S → Option (List E × List S)
  | [], σ, _, comp => some (σ, comp)
  | (P, as) :: rest, σ, n, comp =>
    if as.all (argOK σ.length) then
      match inl P (as.map (selE σ)) n comp with
      | some (o, n', r) => scriptChk rest (σ ++ o) n' r
      | none => none
    else none

theorem Inv_sel {env1 : List Nat} {σ : List E} {V : List Nat} (h : Inv env1 σ V) :
    ∀ as : List Arg, (∀ a ∈ as, argOK σ.length a = true) → Inv env1 (as.map (selE σ)) (as.map (selV V))
  | [], _ => trivial
  | a :: as, hok => by
    refine ⟨?_, Inv_sel h as (fun b hb => hok b (List.mem_cons_of_mem _ hb))⟩
    cases a with
    | inl i =>
      have : i < σ.length := by simpa [argOK] using hok (.inl i) List.mem_cons_self
      exact Inv_getD h i this
    | inr c => exact Or.inl rfl

theorem script_sound : ∀ (stages : List (Prog × List Arg)) (σ : List E) (n : Nat) (comp : List S) (σF : List E)
    (restF : List S) (env1 V VF : List Nat),
    scriptChk stages σ n comp = some (σF, restF) → Inv env1 σ V → env1.length = n → scriptC stages V = some VF →
    ∃ used ys, comp = used ++ restF ∧ runC used env1 = some (env1 ++ ys) ∧ Inv (env1 ++ ys) σF VF := by
  intro stages
  induction stages with
  | nil =>
    intro σ n comp σF restF env1 V VF h hinv _ hp
    simp only [scriptChk, Option.some.injEq, Prod.mk.injEq] at h
    obtain ⟨rfl, rfl⟩ := h
    simp only [scriptC, Option.some.injEq] at hp
    subst hp
    exact ⟨[], [], by simp, by simp [runC], by simpa using hinv⟩
  | cons st stages ih =>
    intro σ n comp σF restF env1 V VF h hinv hlen hp
    obtain ⟨P, as⟩ := st
    simp only [scriptC, Option.bind_eq_some_iff] at hp
    obtain ⟨y, hP, hp⟩ := hp
    simp only [scriptChk] at h
    split at h
    · rename_i hok
      split at h
      · rename_i o n' r hinl
        have hargs := Inv_sel hinv as (fun a ha => List.all_eq_true.1 hok a ha)
        obtain ⟨used1, ys1, hc1, hr1, hi1, hl1⟩ := inl_sound P _ n comp o n' r env1 _ y hinl hargs hlen hP
        have hinv' : Inv (env1 ++ ys1) (σ ++ o) (V ++ y) := Inv_append (Inv_mono ys1 hinv) hi1
        obtain ⟨used2, ys2, hc2, hr2, hi2⟩ := ih _ n' r σF restF (env1 ++ ys1) _ VF h hinv' hl1 hp
        refine ⟨used1 ++ used2, ys1 ++ ys2, by simp [hc1, hc2], ?_, by simpa using hi2⟩
        rw [runC_append used1 used2 env1 _ hr1]
        simpa using hr2
      · simp at h
    · simp at h

/-- **a composed item is the script of its callees**: `osel` selects the results among all values -/
theorem script_prog (C : Prog) (stages : List (Prog × List Arg)) (σF : List E) (osel : List Nat)
    (h : scriptChk stages ((List.range C.nIn).map E.v) C.nIn C.body = some (σF, []))
    (hout : C.outs.map E.v = osel.map (fun i => σF.getD i bad)) (hsel : osel.all (fun i => decide (i < σF.length)) = true)
    (ins VF : List Nat) (hlen : ins.length = C.nIn) (hp : scriptC stages ins = some VF) :
    C.evalC ins = some (pick VF osel) ∧ C.evalW ins = pick VF osel := by
  have hinv : Inv ins ((List.range C.nIn).map E.v) ins := by rw [← hlen]; exact Inv_init ins
  obtain ⟨used, ys, hc, hr, hi⟩ := script_sound stages _ _ _ _ _ ins ins VF h hinv hlen hp
  have hC : C.evalC ins = some (pick VF osel) := by
    apply comp_final C ins (ins ++ ys) _ hlen
    · rw [hc]; simpa using hr
    · rw [hout]
      exact Inv_pick hi osel (fun i hi' => by simpa using List.all_eq_true.1 hsel i hi')
  exact ⟨hC, Prog.evalW_of_evalC C ins _ hC⟩

/-- the decidable check of `script_prog` in one piece -/
def scriptOK (C : Prog) (stages : List (Prog × List Arg)) (osel : List Nat) : Bool :=
  match scriptChk stages ((List.range C.nIn).map E.v) C.nIn C.body with
  | some (σF, []) =>
    osel.all (fun i => decide (i < σF.length)) && decide (C.outs.map E.v = osel.map (fun i => σF.getD i bad))
  | _ => false

theorem script_prog' (C : Prog) (stages : List (Prog × List Arg)) (osel : List Nat)
    (h : scriptOK C stages osel = true)
    (ins VF : List Nat) (hlen : ins.length = C.nIn) (hp : scriptC stages ins = some VF) :
    C.evalC ins = some (pick VF osel) ∧ C.evalW ins = pick VF osel := by
  unfold scriptOK at h
  split at h
  · rename_i σF hchk
    simp only [Bool.and_eq_true, decide_eq_true_eq] at h
    exact script_prog C stages σF osel hchk h.2 h.1 ins VF hlen hp
  · simp at h

theorem scriptC_cons (P : Prog) (as : List Arg) (rest : List (Prog × List Arg)) (V out VF : List Nat)
    (h1 : P.evalC (as.map (selV V)) = some out) (h2 : scriptC rest (V ++ out) = some VF) :
    scriptC ((P, as) :: rest) V = some VF := by
  simp [scriptC, h1, h2]

/-- `scriptC_cons` with the selected arguments given as a list `args` of their own, so that the selection `ha` can
be left to the kernel (`kernel_rfl`) when `V` is a long explicit list -/
theorem scriptC_cons_args (P : Prog) (as : List Arg) (rest : List (Prog × List Arg)) (V args out VF : List Nat)
    (ha : as.map (selV V) = args) (h1 : P.evalC args = some out) (h2 : scriptC rest (V ++ out) = some VF) :
    scriptC ((P, as) :: rest) V = some VF :=
  scriptC_cons P as rest V out VF (ha ▸ h1) h2

end Inline

end Dalek.IR
