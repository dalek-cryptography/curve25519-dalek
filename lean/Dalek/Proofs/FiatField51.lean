import Dalek.Proofs.Field51
import Dalek.Gen.Norm.FiatField51
/-! Functional correctness in `ZMod p` of the translated fiat wrapper kernels (`backend/serial/fiat_u64/field.rs`
with the called `fiat_crypto::curve25519_64` functions inlined), for ALL integer inputs. -/
namespace Dalek.Proofs.FiatField51
open Dalek Dalek.Gen.Norm.FiatField51 Dalek.Proofs.Field51

theorem neg_correct (x0 x1 x2 x3 x4 : Int) :
    ((rep51 (neg_fn x0 x1 x2 x3 x4) : Int) : ZMod P) = - ((rep51 [x0, x1, x2, x3, x4] : Int) : ZMod P) := by
  limb_ring neg_fn (ZMod P)

theorem square_correct (x0 x1 x2 x3 x4 : Int) :
    ((rep51 (square_fn x0 x1 x2 x3 x4) : Int) : ZMod P) = ((rep51 [x0, x1, x2, x3, x4] : Int) : ZMod P) ^ 2 := by
  limb_ring square_fn (ZMod P)

theorem square2_correct (x0 x1 x2 x3 x4 : Int) :
    ((rep51 (square2_fn x0 x1 x2 x3 x4) : Int) : ZMod P) = 2 * ((rep51 [x0, x1, x2, x3, x4] : Int) : ZMod P) ^ 2 := by
  limb_ring square2_fn (ZMod P)

theorem pow2k_body_correct (x0 x1 x2 x3 x4 : Int) :
    ((rep51 (pow2k_body_fn x0 x1 x2 x3 x4) : Int) : ZMod P) = ((rep51 [x0, x1, x2, x3, x4] : Int) : ZMod P) ^ 2 := by
  limb_ring pow2k_body_fn (ZMod P)

theorem reduce_correct (x0 x1 x2 x3 x4 : Int) :
    ((rep51 (reduce_fn x0 x1 x2 x3 x4) : Int) : ZMod P) = ((rep51 [x0, x1, x2, x3, x4] : Int) : ZMod P) := by
  limb_ring reduce_fn (ZMod P)

theorem add_correct (x0 x1 x2 x3 x4 y0 y1 y2 y3 y4 : Int) :
    ((rep51 (add_fn x0 x1 x2 x3 x4 y0 y1 y2 y3 y4) : Int) : ZMod P)
      = ((rep51 [x0, x1, x2, x3, x4] : Int) : ZMod P) + ((rep51 [y0, y1, y2, y3, y4] : Int) : ZMod P) := by
  limb_ring add_fn (ZMod P)

theorem add_ref_correct (x0 x1 x2 x3 x4 y0 y1 y2 y3 y4 : Int) :
    ((rep51 (add_ref_fn x0 x1 x2 x3 x4 y0 y1 y2 y3 y4) : Int) : ZMod P)
      = ((rep51 [x0, x1, x2, x3, x4] : Int) : ZMod P) + ((rep51 [y0, y1, y2, y3, y4] : Int) : ZMod P) := by
  limb_ring add_ref_fn (ZMod P)

theorem sub_correct (x0 x1 x2 x3 x4 y0 y1 y2 y3 y4 : Int) :
    ((rep51 (sub_fn x0 x1 x2 x3 x4 y0 y1 y2 y3 y4) : Int) : ZMod P)
      = ((rep51 [x0, x1, x2, x3, x4] : Int) : ZMod P) - ((rep51 [y0, y1, y2, y3, y4] : Int) : ZMod P) := by
  limb_ring sub_fn (ZMod P)

theorem sub_assign_correct (x0 x1 x2 x3 x4 y0 y1 y2 y3 y4 : Int) :
    ((rep51 (sub_assign_fn x0 x1 x2 x3 x4 y0 y1 y2 y3 y4) : Int) : ZMod P)
      = ((rep51 [x0, x1, x2, x3, x4] : Int) : ZMod P) - ((rep51 [y0, y1, y2, y3, y4] : Int) : ZMod P) := by
  limb_ring sub_assign_fn (ZMod P)

theorem mul_correct (x0 x1 x2 x3 x4 y0 y1 y2 y3 y4 : Int) :
    ((rep51 (mul_fn x0 x1 x2 x3 x4 y0 y1 y2 y3 y4) : Int) : ZMod P)
      = ((rep51 [x0, x1, x2, x3, x4] : Int) : ZMod P) * ((rep51 [y0, y1, y2, y3, y4] : Int) : ZMod P) := by
  limb_ring mul_fn (ZMod P)

theorem mul_assign_correct (x0 x1 x2 x3 x4 y0 y1 y2 y3 y4 : Int) :
    ((rep51 (mul_assign_fn x0 x1 x2 x3 x4 y0 y1 y2 y3 y4) : Int) : ZMod P)
      = ((rep51 [x0, x1, x2, x3, x4] : Int) : ZMod P) * ((rep51 [y0, y1, y2, y3, y4] : Int) : ZMod P) := by
  limb_ring mul_assign_fn (ZMod P)

theorem conditional_select_correct (x0 x1 x2 x3 x4 y0 y1 y2 y3 y4 c : Int) :
    conditional_select_fn x0 x1 x2 x3 x4 y0 y1 y2 y3 y4 c = if c = 0 then [x0, x1, x2, x3, x4] else [y0, y1, y2, y3, y4] := by
  unfold conditional_select_fn
  split <;> simp_all

theorem conditional_assign_correct (x0 x1 x2 x3 x4 y0 y1 y2 y3 y4 c : Int) :
    conditional_assign_fn x0 x1 x2 x3 x4 y0 y1 y2 y3 y4 c = if c = 0 then [x0, x1, x2, x3, x4] else [y0, y1, y2, y3, y4] := by
  unfold conditional_assign_fn
  split <;> simp_all

theorem conditional_swap_correct (x0 x1 x2 x3 x4 y0 y1 y2 y3 y4 c : Int) :
    conditional_swap_fn x0 x1 x2 x3 x4 y0 y1 y2 y3 y4 c = if c = 0 then [x0, x1, x2, x3, x4, y0, y1, y2, y3, y4] else [y0, y1, y2, y3, y4, x0, x1, x2, x3, x4] := by
  unfold conditional_swap_fn
  split <;> simp_all

end Dalek.Proofs.FiatField51
