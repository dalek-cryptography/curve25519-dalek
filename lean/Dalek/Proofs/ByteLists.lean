import Dalek.IR.LimbSound
import Dalek.Model.Contracts
import Dalek.Model.FieldBytes
import Dalek.Spec.Field
import Dalek.Proofs.BytesCommon
/-!
# Little-endian byte lists, and what the two codec theorems of a backend imply

Nothing here depends on a limb representation, so the scalar API and every field backend import this module and not
the codec proofs of a particular backend.

* generic facts on little-endian byte lists (`leVal`, `leValZ`, `natToLeN`; link to `Dalek.Spec.leToNat/natToLe`);
* `Decodes` / `Encodes`: what the two kernel theorems of a backend imply (canonical encoding, uniqueness, round trip,
  link to `Dalek.Spec.Field`), proved once for the four serial backends.
-/
namespace Dalek.Proofs.Bytes51
open Dalek Dalek.IR Dalek.Model.FieldBytes Dalek.Proofs.Radix

/-! ### little-endian lists -/

theorem leValZ_toZ : ∀ l : List Nat, leValZ (toZ l) = (leVal l : Int)
  | [] => rfl
  | b :: bs => by
      rw [toZ_cons, leValZ, leVal, leValZ_toZ bs]; push_cast; rfl

theorem getD_toZ (l : List Nat) (i : Nat) : (toZ l).getD i 0 = ((l.getD i 0 : Nat) : Int) := by
  induction l generalizing i with
  | nil => simp [Dalek.IR.toZ]
  | cons a l ih =>
    cases i with
    | zero => simp [Dalek.IR.toZ]
    | succ i => simpa [Dalek.IR.toZ] using ih i

/-- every entry is a byte -/
def AllBytes (l : List Nat) : Prop := ∀ b ∈ l, b ≤ 255

theorem envIn_bytes : ∀ (n : Nat) (l : List Nat), EnvIn l (Dalek.Model.Contracts.bytes n) ↔ (l.length = n ∧ AllBytes l)
  | 0, [] => by simp [EnvIn, Dalek.Model.Contracts.bytes, Dalek.Model.Contracts.rep, AllBytes]
  | 0, _ :: _ => by simp [EnvIn, Dalek.Model.Contracts.bytes, Dalek.Model.Contracts.rep]
  | n + 1, [] => by simp [EnvIn, Dalek.Model.Contracts.bytes, Dalek.Model.Contracts.rep, List.replicate_succ]
  | n + 1, b :: bs => by
      have ih := envIn_bytes n bs
      simp only [Dalek.Model.Contracts.bytes, Dalek.Model.Contracts.rep] at ih
      simp only [Dalek.Model.Contracts.bytes, Dalek.Model.Contracts.rep, List.replicate_succ, EnvIn,
        Itv.mem, Dalek.Model.Contracts.ub, AllBytes, List.length_cons, List.mem_cons, forall_eq_or_imp]
      simp
      tauto

theorem leVal_lt : ∀ l : List Nat, AllBytes l → leVal l < 256 ^ l.length
  | [], _ => by simp [leVal]
  | b :: bs, h => by
      have hb : b ≤ 255 := h b (by simp)
      have ih := leVal_lt bs (fun x hx => h x (by simp [hx]))
      simp only [leVal, List.length_cons, pow_succ]
      omega

theorem natToLeN_leVal : ∀ l : List Nat, AllBytes l → natToLeN (leVal l) l.length = l
  | [], _ => rfl
  | b :: bs, h => by
      have hb : b ≤ 255 := h b (by simp)
      have ih := natToLeN_leVal bs (fun x hx => h x (by simp [hx]))
      simp only [leVal, List.length_cons, natToLeN]
      have h1 : (b + 256 * leVal bs) % 256 = b := by omega
      have h2 : (b + 256 * leVal bs) / 256 = leVal bs := by omega
      rw [h1, h2, ih]

theorem natToLeN_length : ∀ (k n : Nat), (natToLeN n k).length = k
  | 0, _ => rfl
  | k + 1, n => by simp [natToLeN, natToLeN_length k]

theorem natToLeN_allBytes : ∀ (k n : Nat), AllBytes (natToLeN n k)
  | 0, _ => by simp [natToLeN, AllBytes]
  | k + 1, n => by
      intro b hb
      simp only [natToLeN, List.mem_cons] at hb
      rcases hb with rfl | hb
      · omega
      · exact natToLeN_allBytes k _ b hb

theorem leVal_natToLeN : ∀ (k n : Nat), leVal (natToLeN n k) = n % 256 ^ k
  | 0, n => by simp [natToLeN, leVal, Nat.mod_one]
  | k + 1, n => by
      simp only [natToLeN, leVal, leVal_natToLeN k]
      rw [pow_succ, Nat.mul_comm (256 ^ k) 256, Nat.mod_mul]

/-- a byte list is determined by its length and its little-endian value -/
theorem eq_natToLeN_of_leVal {l : List Nat} {n k : Nat} (hl : l.length = k) (hb : AllBytes l) (hv : leVal l = n) :
    l = natToLeN n k := by
  rw [← hv, ← hl, natToLeN_leVal l hb]

/-- link to the executable specification (`List UInt8`) -/
theorem map_ofNat_natToLeN : ∀ (k n : Nat), (natToLeN n k).map UInt8.ofNat = Dalek.Spec.natToLe n k
  | 0, _ => rfl
  | k + 1, n => by simp [natToLeN, Dalek.Spec.natToLe, map_ofNat_natToLeN k]

theorem leToNat_map_ofNat : ∀ l : List Nat, AllBytes l → Dalek.Spec.leToNat (l.map UInt8.ofNat) = leVal l
  | [], _ => rfl
  | b :: bs, h => by
      have hb : b ≤ 255 := h b (by simp)
      have ih := leToNat_map_ofNat bs (fun x hx => h x (by simp [hx]))
      simp only [List.map_cons, Dalek.Spec.leToNat, leVal, ih]
      have : (UInt8.ofNat b).toNat = b := by
        simp only [UInt8.toNat_ofNat']; omega
      rw [this]

theorem leVal_map_toNat : ∀ l : List UInt8, leVal (l.map UInt8.toNat) = Dalek.Spec.leToNat l
  | [] => rfl
  | b :: bs => by simp [leVal, Dalek.Spec.leToNat, leVal_map_toNat bs]

theorem allBytes_map_toNat (l : List UInt8) : AllBytes (l.map UInt8.toNat) := by
  intro b hb
  simp only [List.mem_map] at hb
  obtain ⟨u, _, rfl⟩ := hb
  have := u.toNat_lt
  omega


theorem natToLeN_getD : ∀ (k n i : Nat), i < k → (natToLeN n k).getD i 0 = n / 256 ^ i % 256
  | k + 1, n, 0, _ => by simp [natToLeN]
  | k + 1, n, i + 1, h => by
      simp only [natToLeN, List.getD_cons_succ]
      rw [natToLeN_getD k (n / 256) i (by omega), Nat.div_div_eq_div_mul, pow_succ, Nat.mul_comm]

theorem envIn_length : ∀ {xs : List Nat} {ts : List Itv}, EnvIn xs ts → xs.length = ts.length
  | [], [], _ => rfl
  | _ :: xs, _ :: ts, h => by
      simp only [EnvIn] at h
      simp [envIn_length h.2]
  | [], _ :: _, h => by simp [EnvIn] at h
  | _ :: _, [], h => by simp [EnvIn] at h

theorem exists_of_length_succ {α : Type} {l : List α} {n : Nat} (h : l.length = n + 1) :
    ∃ a t, l = a :: t ∧ t.length = n := by
  cases l with
  | nil => simp at h
  | cons a t => exact ⟨a, t, rfl, by simpa using h⟩

theorem list_eq_of_length_5 {α : Type} {l : List α} (hl : l.length = 5) : ∃ a0 a1 a2 a3 a4, l = [a0, a1, a2, a3, a4] := by
  obtain ⟨a0, t0, rfl, hl0⟩ := exists_of_length_succ hl
  obtain ⟨a1, t1, rfl, hl1⟩ := exists_of_length_succ hl0
  obtain ⟨a2, t2, rfl, hl2⟩ := exists_of_length_succ hl1
  obtain ⟨a3, t3, rfl, hl3⟩ := exists_of_length_succ hl2
  obtain ⟨a4, t4, rfl, hl4⟩ := exists_of_length_succ hl3
  obtain rfl := List.length_eq_zero_iff.mp hl4
  exact ⟨a0, a1, a2, a3, a4, rfl⟩

theorem list_eq_of_length_32 {α : Type} {l : List α} (hl : l.length = 32) :
    ∃ b0 b1 b2 b3 b4 b5 b6 b7 b8 b9 b10 b11 b12 b13 b14 b15 b16 b17 b18 b19 b20 b21 b22 b23 b24 b25 b26 b27 b28 b29 b30 b31, l = [b0, b1, b2, b3, b4, b5, b6, b7, b8, b9, b10, b11, b12, b13, b14, b15, b16, b17, b18, b19, b20, b21, b22, b23, b24, b25, b26, b27, b28, b29, b30, b31] := by
  obtain ⟨b0, t0, rfl, hl0⟩ := exists_of_length_succ hl
  obtain ⟨b1, t1, rfl, hl1⟩ := exists_of_length_succ hl0
  obtain ⟨b2, t2, rfl, hl2⟩ := exists_of_length_succ hl1
  obtain ⟨b3, t3, rfl, hl3⟩ := exists_of_length_succ hl2
  obtain ⟨b4, t4, rfl, hl4⟩ := exists_of_length_succ hl3
  obtain ⟨b5, t5, rfl, hl5⟩ := exists_of_length_succ hl4
  obtain ⟨b6, t6, rfl, hl6⟩ := exists_of_length_succ hl5
  obtain ⟨b7, t7, rfl, hl7⟩ := exists_of_length_succ hl6
  obtain ⟨b8, t8, rfl, hl8⟩ := exists_of_length_succ hl7
  obtain ⟨b9, t9, rfl, hl9⟩ := exists_of_length_succ hl8
  obtain ⟨b10, t10, rfl, hl10⟩ := exists_of_length_succ hl9
  obtain ⟨b11, t11, rfl, hl11⟩ := exists_of_length_succ hl10
  obtain ⟨b12, t12, rfl, hl12⟩ := exists_of_length_succ hl11
  obtain ⟨b13, t13, rfl, hl13⟩ := exists_of_length_succ hl12
  obtain ⟨b14, t14, rfl, hl14⟩ := exists_of_length_succ hl13
  obtain ⟨b15, t15, rfl, hl15⟩ := exists_of_length_succ hl14
  obtain ⟨b16, t16, rfl, hl16⟩ := exists_of_length_succ hl15
  obtain ⟨b17, t17, rfl, hl17⟩ := exists_of_length_succ hl16
  obtain ⟨b18, t18, rfl, hl18⟩ := exists_of_length_succ hl17
  obtain ⟨b19, t19, rfl, hl19⟩ := exists_of_length_succ hl18
  obtain ⟨b20, t20, rfl, hl20⟩ := exists_of_length_succ hl19
  obtain ⟨b21, t21, rfl, hl21⟩ := exists_of_length_succ hl20
  obtain ⟨b22, t22, rfl, hl22⟩ := exists_of_length_succ hl21
  obtain ⟨b23, t23, rfl, hl23⟩ := exists_of_length_succ hl22
  obtain ⟨b24, t24, rfl, hl24⟩ := exists_of_length_succ hl23
  obtain ⟨b25, t25, rfl, hl25⟩ := exists_of_length_succ hl24
  obtain ⟨b26, t26, rfl, hl26⟩ := exists_of_length_succ hl25
  obtain ⟨b27, t27, rfl, hl27⟩ := exists_of_length_succ hl26
  obtain ⟨b28, t28, rfl, hl28⟩ := exists_of_length_succ hl27
  obtain ⟨b29, t29, rfl, hl29⟩ := exists_of_length_succ hl28
  obtain ⟨b30, t30, rfl, hl30⟩ := exists_of_length_succ hl29
  obtain ⟨b31, t31, rfl, hl31⟩ := exists_of_length_succ hl30
  obtain rfl := List.length_eq_zero_iff.mp hl31
  exact ⟨b0, b1, b2, b3, b4, b5, b6, b7, b8, b9, b10, b11, b12, b13, b14, b15, b16, b17, b18, b19, b20, b21, b22, b23, b24, b25, b26, b27, b28, b29, b30, b31, rfl⟩

/-! ### from integers back to naturals -/

theorem allBytes_toZ {l : List Nat} (h : AllBytes l) : ∀ b ∈ toZ l, 0 ≤ b ∧ b ≤ 255 := by
  intro b hb
  obtain ⟨n, hn, rfl⟩ := List.mem_map.mp hb
  exact ⟨Int.natCast_nonneg n, Int.ofNat_le.mpr (h n hn)⟩

theorem leVal_of_leValZ {out : List Nat} {v : Nat} (h : leValZ (toZ out) = (v : Int) % (2 ^ 255 - 19)) :
    leVal out = v % (2 ^ 255 - 19) := by
  rw [leValZ_toZ] at h
  omega

/-- a byte string whose integer form is the 32 base-256 digits of `v mod p` has that little-endian value -/
theorem leVal_of_digits {out : List Nat} {v : Nat}
    (h : toZ out = digits (List.replicate 32 8) ((v : Int) % (2 ^ 255 - 19))) : leVal out = v % (2 ^ 255 - 19) := by
  refine leVal_of_leValZ ?_
  rw [h, leValZ_digits8]
  omega

/-! ### what the two kernel theorems of a backend imply

`Decodes fb post val` and `Encodes ab pre val p` are the shapes of `from_bytes_spec_list` and `as_bytes_spec_list`; everything
else the property files state about the codecs follows from them alone. -/
section Codec
open Dalek.Model.Contracts

/-- `fb` decodes 32 bytes to limbs inside `post` whose value `val` is the little-endian value with bit 255 cleared -/
def Decodes (fb : Prog) (post : List Itv) (val : List Nat → Nat) : Prop :=
  ∀ bs, EnvIn bs (bytes 32) → ∃ out, fb.evalC bs = some out ∧ fb.evalW bs = out ∧ EnvIn out post ∧
    val out = leVal bs % 2 ^ 255

/-- `ab` encodes limbs inside `pre` as 32 bytes whose little-endian value is `val` reduced mod `p` -/
def Encodes (ab : Prog) (pre : List Itv) (val : List Nat → Nat) (p : Nat) : Prop :=
  ∀ l, EnvIn l pre → ∃ out, ab.evalC l = some out ∧ ab.evalW l = out ∧ EnvIn out (bytes 32) ∧ leVal out = val l % p

variable {fb ab : Prog} {pre post : List Itv} {val : List Nat → Nat} {p : Nat}

theorem Encodes.canonical (H : Encodes ab pre val p) (l : List Nat) (hin : EnvIn l pre) :
    ab.evalC l = some (natToLeN (val l % p) 32) ∧ ab.evalW l = natToLeN (val l % p) 32 := by
  obtain ⟨out, hC, hW, hb, hv⟩ := H l hin
  obtain ⟨hlen, hbytes⟩ := (envIn_bytes 32 out).mp hb
  obtain rfl := eq_natToLeN_of_leVal hlen hbytes hv
  exact ⟨hC, hW⟩

theorem Encodes.lt (H : Encodes ab pre val p) (hp : 0 < p) (l : List Nat) (hin : EnvIn l pre) :
    ∃ out, ab.evalC l = some out ∧ leVal out < p := by
  obtain ⟨out, hC, _, _, hv⟩ := H l hin
  exact ⟨out, hC, hv ▸ Nat.mod_lt _ hp⟩

theorem Encodes.top_bit (H : Encodes ab pre val p) (hp : 0 < p ∧ p ≤ 2 ^ 255) (l : List Nat) (hin : EnvIn l pre) :
    ∃ out, ab.evalC l = some out ∧ out.getD 31 0 < 128 := by
  refine ⟨_, (H.canonical l hin).1, ?_⟩
  rw [natToLeN_getD 32 _ 31 (by norm_num)]
  have := Nat.mod_lt (val l) hp.1
  omega

theorem Encodes.unique (H : Encodes ab pre val p) (hp : 0 < p ∧ p ≤ 2 ^ 255) (l l' : List Nat) (hin : EnvIn l pre)
    (hin' : EnvIn l' pre) : ab.evalC l = ab.evalC l' ↔ val l % p = val l' % p := by
  rw [(H.canonical l hin).1, (H.canonical l' hin').1]
  refine ⟨fun h => ?_, fun h => by rw [h]⟩
  have h2 := congrArg leVal (Option.some.inj h)
  have e : ∀ v, v % p % 256 ^ 32 = v % p := fun v => Nat.mod_eq_of_lt (by have := Nat.mod_lt v hp.1; omega)
  rwa [leVal_natToLeN, leVal_natToLeN, e, e] at h2

theorem Encodes.evalW_eq_iff (H : Encodes ab pre val p) (l l' : List Nat) (hin : EnvIn l pre) (hin' : EnvIn l' pre) :
    ab.evalW l = ab.evalW l' ↔ ab.evalC l = ab.evalC l' := by
  obtain ⟨out, hC, hW, -⟩ := H l hin
  obtain ⟨out', hC', hW', -⟩ := H l' hin'
  rw [hC, hC', hW, hW', Option.some.injEq]

theorem Encodes.spec' (H : Encodes ab pre val p) (l : List Nat) (hin : EnvIn l pre) :
    ∃ out, ab.evalC l = some out ∧ ab.evalW l = out ∧ out.map UInt8.ofNat = Dalek.Spec.natToLe (val l % p) 32 :=
  ⟨_, (H.canonical l hin).1, (H.canonical l hin).2, map_ofNat_natToLeN ..⟩

theorem Decodes.encode (HF : Decodes fb post val) (H : Encodes ab pre val p) (hpost : ∀ l, EnvIn l post → EnvIn l pre)
    (bs : List Nat) (hin : EnvIn bs (bytes 32)) :
    ∃ limbs, fb.evalC bs = some limbs ∧ fb.evalW bs = limbs ∧
      ab.evalC limbs = some (natToLeN (leVal bs % 2 ^ 255 % p) 32) ∧
      ab.evalW limbs = natToLeN (leVal bs % 2 ^ 255 % p) 32 := by
  obtain ⟨limbs, hC, hW, hb, hv⟩ := HF bs hin
  have h := H.canonical limbs (hpost _ hb)
  rw [hv] at h
  exact ⟨limbs, hC, hW, h.1, h.2⟩

theorem Decodes.encode_canonical (HF : Decodes fb post val) (H : Encodes ab pre val p)
    (hpost : ∀ l, EnvIn l post → EnvIn l pre) (hp : p ≤ 2 ^ 255) (bs : List Nat) (hin : EnvIn bs (bytes 32))
    (hc : leVal bs < p) : ∃ limbs, fb.evalC bs = some limbs ∧ ab.evalC limbs = some bs := by
  obtain ⟨limbs, hC, _, h, _⟩ := HF.encode H hpost bs hin
  obtain ⟨hlen, hbytes⟩ := (envIn_bytes 32 bs).mp hin
  rw [Nat.mod_eq_of_lt (show leVal bs < 2 ^ 255 by omega), Nat.mod_eq_of_lt hc, ← hlen, natToLeN_leVal bs hbytes] at h
  exact ⟨limbs, hC, h⟩

theorem Decodes.spec' (HF : Decodes fb post val) (bs : List UInt8) (hlen : bs.length = 32) :
    ∃ out, fb.evalC (bs.map UInt8.toNat) = some out ∧ fb.evalW (bs.map UInt8.toNat) = out ∧ EnvIn out post ∧
      val out = Dalek.Spec.leToNat bs % 2 ^ 255 := by
  have hin : EnvIn (bs.map UInt8.toNat) (bytes 32) :=
    (envIn_bytes 32 _).mpr ⟨by simpa using hlen, allBytes_map_toNat bs⟩
  obtain ⟨out, hC, hW, hb, hv⟩ := HF _ hin
  exact ⟨out, hC, hW, hb, leVal_map_toNat bs ▸ hv⟩

end Codec

end Dalek.Proofs.Bytes51
