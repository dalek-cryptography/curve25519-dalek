/-
Montgomery ↔ Edwards conversions of the model (`EdwardsPoint::to_montgomery`, `MontgomeryPoint::to_edwards`):
agreement with `Spec.toMontgomery` / `Spec.toEdwards`, the birational-map identities, and the
characterisation of the failure set of `to_edwards` (`u = −1` or `u` on the twist).
-/
import Dalek.Proofs.MontField
import Dalek.Proofs.SpecBridge
import Mathlib.Tactic.FieldSimp
import Mathlib.Tactic.LinearCombination

namespace Dalek.Proofs.Mont
open Dalek.IR Dalek.Spec Dalek.Model Dalek.Bridge Dalek.Model.Ladder

/-! ### number-theoretic facts about `A = 486662` in `GF(2^255 − 19)` -/

theorem pow_half_of_powMod {a : Nat} (h : powMod P a (P / 2) = P - 1) : ((a : Nat) : Fp) ^ (P / 2) = -1 :=
  Dalek.FieldFacts.zmod_pow_eq_neg_one_of_powMod Dalek.FieldFacts.p_pos h

/-- `2` is not a square (`p ≡ 5 mod 8`) -/
theorem two_not_isSquare : ¬ IsSquare (2 : Fp) := by
  have := Dalek.FieldFacts.not_isSquare_of_pow_half (pow_half_of_powMod (a := 2) (by decide +kernel))
  simpa using this

/-- `A − 2 = 486660` is not a square: `u = −1` is on the twist -/
theorem A_sub_two_not_isSquare : ¬ IsSquare (486660 : Fp) := by
  have := Dalek.FieldFacts.not_isSquare_of_pow_half (pow_half_of_powMod (a := 486660) (by decide +kernel))
  simpa using this

/-- `A² − 4` is not a square: `u² + A u + 1` has no root -/
theorem A_sq_sub_four_not_isSquare : ¬ IsSquare ((486662 : Fp) ^ 2 - 4) := by
  have := Dalek.FieldFacts.not_isSquare_of_pow_half (pow_half_of_powMod (a := 486662 ^ 2 - 4) (by decide +kernel))
  have e : ((486662 ^ 2 - 4 : Nat) : Fp) = (486662 : Fp) ^ 2 - 4 := by norm_num
  rwa [e] at this

/-- a square root of `−(A + 2) = −486664` -/
def sqrtNegAp2 : Nat := 6853475219497561581579357271197624642482790079785650197046958215289687604742

theorem sqrtNegAp2_sq : ((sqrtNegAp2 : Nat) : Fp) ^ 2 = -486664 := by
  rw [eq_neg_iff_add_eq_zero]
  have h : ((sqrtNegAp2 ^ 2 + 486664 : Nat) : Fp) = 0 :=
    Dalek.FieldFacts.natCast_eq_zero_of_mod (by decide +kernel)
  simpa using h

theorem quad_ne_zero (u : Fp) : u ^ 2 + 486662 * u + 1 ≠ 0 := by
  intro h
  apply A_sq_sub_four_not_isSquare
  refine ⟨2 * u + 486662, ?_⟩
  linear_combination (-4 : Fp) * h

/-! ### `to_montgomery` -/

theorem mont_u_eq {Y Z : Fp} (hZ : Z ≠ 0) : (Z + Y) * (Z - Y)⁻¹ = (1 + Y * Z⁻¹) * (1 - Y * Z⁻¹)⁻¹ := by
  by_cases h : Z - Y = 0
  · have hy : Y = Z := (sub_eq_zero.1 h).symm
    rw [h, hy, mul_inv_cancel₀ hZ]; simp
  · have h' : 1 - Y * Z⁻¹ ≠ 0 := by
      intro h0; apply h
      have : Y * Z⁻¹ * Z = 1 * Z := by rw [show Y * Z⁻¹ = 1 by linear_combination -h0]
      rw [mul_assoc, inv_mul_cancel₀ hZ, mul_one, one_mul] at this
      rw [this, sub_self]
    field_simp

/-- The model of `EdwardsPoint::to_montgomery` (translated item + `as_bytes`) is `Spec.toMontgomery` of the
affine point, for every extended point with `Z ≠ 0`. -/
theorem edToMontgomery_eq (e : EPt) (hZ : (e.Z : Fp) ≠ 0) :
    edToMontgomery e = feToBytes (Spec.toMontgomery e.toAffine) := by
  unfold edToMontgomery
  rw [to_montgomery_nat]
  show feToBytes (fmul (fadd e.Z e.Y) (finv (fsub e.Z e.Y))) = _
  refine congrArg feToBytes ?_
  apply eq_of_cast_eq (fmul_lt _ _) (fmul_lt _ _)
  simp only [EPt.toAffine, cast_fmul, cast_fadd, cast_fsub, cast_finv, Nat.cast_one]
  exact mont_u_eq hZ

/-- value of `to_montgomery` in the field, in terms of the represented group element: `u = (1+y)/(1−y)` -/
theorem edToMontgomery_val {e : EPt} {Q : Ed} (h : ERep e Q) :
    ((feFromBytes (edToMontgomery e) : Nat) : Fp) = (1 + Q.y) / (1 - Q.y) := by
  obtain ⟨hZ, -, hy, -⟩ := h
  rw [edToMontgomery_eq e hZ, feFromBytes_feToBytes, cast_mod_P]
  simp only [Spec.toMontgomery, EPt.toAffine, cast_fmul, cast_fadd, cast_fsub, cast_finv, Nat.cast_one]
  rw [hy, div_eq_mul_inv, div_eq_mul_inv]

/-! ### `to_edwards` -/

theorem toEdwards_eq (u : List UInt8) (sign : Bool) :
    Ladder.toEdwards u sign = Spec.toEdwards (feFromBytes u) sign := by
  unfold Ladder.toEdwards Spec.toEdwards
  rw [to_edwards_nat]
  simp only [List.getD_cons_zero, List.getD_cons_succ, Nat.mod_eq_of_lt (feFromBytes_lt u)]
  by_cases h : feFromBytes u = P - 1
  · simp [h, b2n]
  · simp [b2n]

/-- the `y` computed by `to_edwards` -/
def yOfU (u : Nat) : Nat := fmul (fsub (u % P) 1) (finv (fadd (u % P) 1))

theorem toEdwards_unfold (u : Nat) (s : Bool) :
    Spec.toEdwards u s = if u % P = P - 1 then none else decompress (setSignBit (feToBytes (yOfU u)) s) := rfl

theorem cast_eq_neg_one_iff (u : Nat) : (u : Fp) = -1 ↔ u % P = P - 1 := by
  have h : ((P - 1 : Nat) : Fp) = -1 := Dalek.FieldFacts.natCast_pred_eq_neg_one (by norm_num)
  rw [← h, cast_eq_iff, Nat.mod_eq_of_lt (show P - 1 < P by norm_num)]

theorem cast_yOfU (u : Nat) : ((yOfU u : Nat) : Fp) = ((u : Fp) - 1) / ((u : Fp) + 1) := by
  simp only [yOfU, cast_fmul, cast_fsub, cast_finv, cast_fadd, cast_mod_P, Nat.cast_one, div_eq_mul_inv]

theorem feFromBytes_yBytes (u : Nat) (s : Bool) :
    feFromBytes (setSignBit (feToBytes (yOfU u)) s) = yOfU u := by
  have hl : (feToBytes (yOfU u)).length = 32 := natToLe_length _ _
  rw [feFromBytes_setSignBit hl (leToNat_feToBytes_lt_255 _), feFromBytes_feToBytes]
  exact Nat.mod_eq_of_lt (fmul_lt _ _)

/-- **Soundness of `to_edwards`**: a returned point is a canonical point of the curve whose image under
`to_montgomery` is `u` again (the birational map is inverted), and whose sign is the requested one unless
`x = 0`. -/
theorem toEdwards_some {u : Nat} {s : Bool} {p : Pt} (h : Spec.toEdwards u s = some p) :
    onCurve p = true ∧ Canon p ∧ Spec.toMontgomery p = u % P ∧ (p.x ≠ 0 → isNeg p.x = s) := by
  rw [toEdwards_unfold] at h
  by_cases hu : u % P = P - 1
  · rw [if_pos hu] at h; cases h
  rw [if_neg hu] at h
  obtain ⟨h1, h2, h3, h4, -⟩ := decompress_some h
  have hy : p.y = yOfU u := by
    have := feFromBytes_yBytes u s
    unfold feFromBytes at this; rw [h3, this]
  refine ⟨h1, h2, ?_, ?_⟩
  · apply eq_of_cast_eq (fmul_lt _ _) (Nat.mod_lt _ P_pos)
    have hu1 : (u : Fp) + 1 ≠ 0 := by
      intro h0; apply hu; rw [← cast_eq_neg_one_iff]; linear_combination h0
    simp only [cast_fmul, cast_fadd, cast_fsub, cast_finv, Nat.cast_one, hy, cast_yOfU, cast_mod_P]
    have h2' : (2 : Fp) ≠ 0 := Dalek.FieldFacts.two_ne_zero_p
    have e1 : 1 + ((u : Fp) - 1) / ((u : Fp) + 1) = 2 * u / (u + 1) := by field_simp; ring
    have e2 : 1 - ((u : Fp) - 1) / ((u : Fp) + 1) = 2 / (u + 1) := by field_simp; ring
    rw [e1, e2]
    field_simp
  · intro hx
    have hl : (feToBytes (yOfU u)).length = 32 := natToLe_length _ _
    rw [h4 hx, signBit_setSignBit hl (leToNat_feToBytes_lt_255 _)]

/-- the rational function behind decompression of `y = (u−1)/(u+1)`: `(y²−1)/(d y²+1) = −(A+2)·u/(u²+Au+1)` -/
theorem ratio_identity {u : Fp} (hu : u + 1 ≠ 0) :
    (((u - 1) / (u + 1)) ^ 2 - 1) / (Dalek.FieldFacts.d * ((u - 1) / (u + 1)) ^ 2 + 1) =
      -486664 * u / (u ^ 2 + 486662 * u + 1) := by
  have hq := quad_ne_zero u
  have hd := Dalek.FieldFacts.d_mul
  have hden : Dalek.FieldFacts.d * ((u - 1) / (u + 1)) ^ 2 + 1 ≠ 0 := dyy_add_one_ne_zero _
  rw [div_eq_div_iff hden hq]
  have key : (121666 : Fp) * (Dalek.FieldFacts.d * (u - 1) ^ 2 + (u + 1) ^ 2) = u ^ 2 + 486662 * u + 1 := by
    linear_combination (u - 1) ^ 2 * hd
  field_simp
  linear_combination (4 * u) * key

/-- **Failure set of `to_edwards`**: `None` exactly for `u = −1` and for `u` on the twist
(`u³ + A u² + u` a non-square); both sign choices behave alike. -/
theorem toEdwards_eq_none_iff (u : Nat) (s : Bool) :
    Spec.toEdwards u s = none ↔
      ((u : Fp) = -1 ∨ ¬ IsSquare ((u : Fp) ^ 3 + 486662 * (u : Fp) ^ 2 + (u : Fp))) := by
  rw [toEdwards_unfold]
  by_cases hu : u % P = P - 1
  · rw [if_pos hu]; simp [(cast_eq_neg_one_iff u).2 hu]
  rw [if_neg hu]
  have hu' : (u : Fp) ≠ -1 := fun h => hu ((cast_eq_neg_one_iff u).1 h)
  have hu1 : (u : Fp) + 1 ≠ 0 := fun h0 => hu' (by linear_combination h0)
  have hq := quad_ne_zero (u : Fp)
  rw [decompress_none_iff, feFromBytes_yBytes]
  simp only [hu', false_or]
  apply not_congr
  -- ∃ x on the curve with this y  ↔  the ratio is a square  ↔  u(u²+Au+1) is a square
  have hb : feFromBytes (setSignBit (feToBytes (yOfU u)) s) = yOfU u := feFromBytes_yBytes u s
  have hiff : ∀ x : Nat, onCurve ⟨x, yOfU u⟩ = true ↔
      (x : Fp) ^ 2 = -486664 * (u : Fp) / ((u : Fp) ^ 2 + 486662 * u + 1) := by
    intro x
    rw [onCurve_iff, edParams_d, onCurve_iff_ratio]
    simp only [cast_yOfU]
    rw [← ratio_identity hu1, eq_div_iff (dyy_add_one_ne_zero _)]
  have hs := sqrtNegAp2_sq
  have hs0 : ((sqrtNegAp2 : Nat) : Fp) ≠ 0 := by
    intro h0; rw [h0] at hs
    have h4 : ((486664 : Nat) : Fp) ≠ 0 := Dalek.FieldFacts.natCast_ne_zero_of_mod (by decide +kernel)
    apply h4; have : (486664 : Fp) = 0 := by linear_combination hs
    simpa using this
  generalize ((sqrtNegAp2 : Nat) : Fp) = r at hs hs0
  constructor
  · rintro ⟨x, hx⟩
    rw [hiff, eq_div_iff hq] at hx
    have hc : (r⁻¹) ^ 2 * (-486664) = 1 := by rw [← hs]; field_simp
    refine ⟨(x : Fp) * ((u : Fp) ^ 2 + 486662 * u + 1) * r⁻¹, ?_⟩
    linear_combination (-((u : Fp) * ((u : Fp) ^ 2 + 486662 * u + 1))) * hc
      - (((u : Fp) ^ 2 + 486662 * u + 1) * (r⁻¹) ^ 2) * hx
  · rintro ⟨w, hw⟩
    refine ⟨(w * r / ((u : Fp) ^ 2 + 486662 * u + 1)).val, ?_⟩
    rw [hiff, ZMod.natCast_zmod_val, div_pow, div_eq_div_iff (pow_ne_zero 2 hq) hq]
    linear_combination ((u : Fp) * ((u : Fp) ^ 2 + 486662 * u + 1) ^ 2) * hs
      - (((u : Fp) ^ 2 + 486662 * u + 1) * r ^ 2) * hw

end Dalek.Proofs.Mont
