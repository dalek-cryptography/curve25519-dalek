import Dalek.Proofs.Avx2Field.Defs
import Dalek.Gen.Norm.Avx2Field
/-! `square_and_negate_D` of the AVX2 backend, for ALL integer lane values. -/
set_option maxRecDepth 100000
set_option linter.unusedSimpArgs false
namespace Dalek.Proofs.Avx2Field
open Dalek Dalek.Gen.Norm.Avx2Field Dalek.Proofs.Field26

theorem square_and_negate_D_correct_A (x0 x1 x2 x3 x4 x5 x6 x7 x8 x9 x10 x11 x12 x13 x14 x15 x16 x17 x18 x19 x20 x21 x22 x23 x24 x25 x26 x27 x28 x29 x30 x31 x32 x33 x34 x35 x36 x37 x38 x39 : Int) :
    laneVal .A (square_and_negate_D_fn x0 x1 x2 x3 x4 x5 x6 x7 x8 x9 x10 x11 x12 x13 x14 x15 x16 x17 x18 x19 x20 x21 x22 x23 x24 x25 x26 x27 x28 x29 x30 x31 x32 x33 x34 x35 x36 x37 x38 x39) = laneVal .A (x0 :: x1 :: x2 :: x3 :: x4 :: x5 :: x6 :: x7 :: x8 :: x9 :: x10 :: x11 :: x12 :: x13 :: x14 :: x15 :: x16 :: x17 :: x18 :: x19 :: x20 :: x21 :: x22 :: x23 :: x24 :: x25 :: x26 :: x27 :: x28 :: x29 :: x30 :: x31 :: x32 :: x33 :: x34 :: x35 :: x36 :: x37 :: x38 :: x39 :: []) ^ 2 := by
  lane_lets square_and_negate_D_fn
  avx_goal; slice_hyps; lane_finish

/-- `(A,B,C,D) ↦ (A², B², C², −D²)` (B and C from A as in `mul_correct`; D goes through the negation as well) -/
theorem square_and_negate_D_correct (k : Lane) (x0 x1 x2 x3 x4 x5 x6 x7 x8 x9 x10 x11 x12 x13 x14 x15 x16 x17 x18 x19 x20 x21 x22 x23 x24 x25 x26 x27 x28 x29 x30 x31 x32 x33 x34 x35 x36 x37 x38 x39 : Int) :
    laneVal k (square_and_negate_D_fn x0 x1 x2 x3 x4 x5 x6 x7 x8 x9 x10 x11 x12 x13 x14 x15 x16 x17 x18 x19 x20 x21 x22 x23 x24 x25 x26 x27 x28 x29 x30 x31 x32 x33 x34 x35 x36 x37 x38 x39) = k.sel (laneVal .A (x0 :: x1 :: x2 :: x3 :: x4 :: x5 :: x6 :: x7 :: x8 :: x9 :: x10 :: x11 :: x12 :: x13 :: x14 :: x15 :: x16 :: x17 :: x18 :: x19 :: x20 :: x21 :: x22 :: x23 :: x24 :: x25 :: x26 :: x27 :: x28 :: x29 :: x30 :: x31 :: x32 :: x33 :: x34 :: x35 :: x36 :: x37 :: x38 :: x39 :: []) ^ 2) (laneVal .B (x0 :: x1 :: x2 :: x3 :: x4 :: x5 :: x6 :: x7 :: x8 :: x9 :: x10 :: x11 :: x12 :: x13 :: x14 :: x15 :: x16 :: x17 :: x18 :: x19 :: x20 :: x21 :: x22 :: x23 :: x24 :: x25 :: x26 :: x27 :: x28 :: x29 :: x30 :: x31 :: x32 :: x33 :: x34 :: x35 :: x36 :: x37 :: x38 :: x39 :: []) ^ 2) (laneVal .C (x0 :: x1 :: x2 :: x3 :: x4 :: x5 :: x6 :: x7 :: x8 :: x9 :: x10 :: x11 :: x12 :: x13 :: x14 :: x15 :: x16 :: x17 :: x18 :: x19 :: x20 :: x21 :: x22 :: x23 :: x24 :: x25 :: x26 :: x27 :: x28 :: x29 :: x30 :: x31 :: x32 :: x33 :: x34 :: x35 :: x36 :: x37 :: x38 :: x39 :: []) ^ 2) (- laneVal .D (x0 :: x1 :: x2 :: x3 :: x4 :: x5 :: x6 :: x7 :: x8 :: x9 :: x10 :: x11 :: x12 :: x13 :: x14 :: x15 :: x16 :: x17 :: x18 :: x19 :: x20 :: x21 :: x22 :: x23 :: x24 :: x25 :: x26 :: x27 :: x28 :: x29 :: x30 :: x31 :: x32 :: x33 :: x34 :: x35 :: x36 :: x37 :: x38 :: x39 :: []) ^ 2) := by
  cases k
  · exact square_and_negate_D_correct_A ..
  · exact Eq.mp (by kernel_rfl) (square_and_negate_D_correct_A x1 x0 x3 x2 x4 x5 x6 x7 x9 x8 x11 x10 x12 x13 x14 x15 x17 x16 x19 x18 x20 x21 x22 x23 x25 x24 x27 x26 x28 x29 x30 x31 x33 x32 x35 x34 x36 x37 x38 x39)
  · exact Eq.mp (by kernel_rfl) (square_and_negate_D_correct_A x4 x1 x6 x3 x0 x5 x2 x7 x12 x9 x14 x11 x8 x13 x10 x15 x20 x17 x22 x19 x16 x21 x18 x23 x28 x25 x30 x27 x24 x29 x26 x31 x36 x33 x38 x35 x32 x37 x34 x39)
  · lane_lets square_and_negate_D_fn
    avx_goal; slice_hyps; lane_finish_mod

end Dalek.Proofs.Avx2Field
