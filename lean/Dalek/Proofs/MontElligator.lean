/-
`montgomery::elligator_encode` (translated item, interpretation `natOps`) is `Spec.elligatorEncode`, and its
output is always the `u`-coordinate of a point of the curve (never of the twist, never `−1`), so
`to_edwards` of it never fails.

The translated item inlines `invert` and `sqrt_ratio_i` (which inlines `pow_p58`); the proof first ties it
(by `rfl`) to the composition of the separately translated callees `Dalek.Gen.AlgField.{invert, sqrt_ratio_i,
pow_p58}` and then uses their specifications.
-/
import Dalek.Proofs.MontConv
import Dalek.Gen.AlgFieldSh

namespace Dalek.Proofs.Mont
open Dalek.IR Dalek.Spec Dalek.Model Dalek.Bridge Dalek.Model.Ladder
open Dalek.Gen.AlgField (pow_p58_sh invert_sh sqrt_ratio_i_sh)

/-! ### the callees -/

theorem pow_p58_nat (x : Nat) : pow_p58_sh natOps x = [fpow x ((P - 5) / 8)] := by
  unfold pow_p58_sh
  apply list1_eq_of_cast (fmul_lt _ _) (fpow_lt _ _)
  simp only [natOps, cast_fmul, cast_fsq, cast_iterSq, cast_mod_P, cast_fpow]
  rw [show (P - 5) / 8 = 2 ^ 252 - 3 from by norm_num]
  ring

theorem invert_nat (x : Nat) : invert_sh natOps x = [finv x] := by
  unfold invert_sh
  apply list1_eq_of_cast (fmul_lt _ _) (finv_lt _)
  simp only [natOps, cast_fmul, cast_fsq, cast_iterSq, cast_mod_P, cast_finv, inv_eq_pow]
  ring

/-- `sqrt_ratio_i` written with its callee `pow_p58` as a call (structure of `field.rs`) -/
def sqrtRatioH {V : Type} (o : FOps V) (u v : V) : List V :=
  let v3 := o.mul (o.square v) v
  let v7 := o.mul (o.square v3) v
  let r := o.mul (o.mul u v3) ((pow_p58_sh o (o.mul u v7)).getD 0 o.dflt)
  let check := o.mul v (o.square r)
  let i := o.const 10
  let correct := o.ctEq check u
  let flipped := o.ctEq check (o.neg u)
  let flippedI := o.ctEq check (o.mul (o.neg u) i)
  let rPrime := o.mul i r
  let r := o.csel (o.cor flipped flippedI) r rPrime
  let r := o.csel (o.isNeg r) r (o.neg r)
  [o.cor correct flipped, r]

/-- the translated `sqrt_ratio_i` IS that composition (definitional unfolding of the inlined callee) -/
theorem sqrt_ratio_i_sh_eq {V : Type} (o : FOps V) (u v : V) : sqrt_ratio_i_sh o u v = sqrtRatioH o u v := rfl

theorem b2n_ne_zero (b : Bool) : (b2n b != 0) = b := by cases b <;> rfl
theorem b2n_eq_zero (b : Bool) : (b2n b = 0) ↔ b = false := by cases b <;> simp [b2n]

/-- **`sqrt_ratio_i`**: the translated item computes `Spec.sqrtRatioM1` (RFC 9496 `SQRT_RATIO_M1`) on canonical
inputs: the flag and the non-negative root. -/
theorem sqrt_ratio_i_nat (u v : Nat) (hu : u < P) (hv : v < P) :
    sqrt_ratio_i_sh natOps u v = [b2n (sqrtRatioM1 u v).1, (sqrtRatioM1 u v).2] := by
  rw [sqrt_ratio_i_sh_eq, sqrtRatioM1_unfold]
  have hc : natOps.const 10 = SQRT_M1 := const_10
  simp only [sqrtRatioH, pow_p58_nat, hc]
  simp only [natOps, List.getD_cons_zero]
  have e1 : cand u v = fmul (fmul u (fmul (fsq v) v)) (fpow (fmul u (fmul (fsq (fmul (fsq v) v)) v)) ((P - 5) / 8)) := by
    unfold cand; rw [Nat.mod_eq_of_lt hu, Nat.mod_eq_of_lt hv]
  have e2 : chk u v = fmul v (fsq (cand u v)) := by unfold chk; rw [Nat.mod_eq_of_lt hv]
  rw [← e1, ← e2, Nat.mod_eq_of_lt hu, Nat.mod_eq_of_lt (chk_lt u v), Nat.mod_eq_of_lt (fneg_lt u),
    Nat.mod_eq_of_lt (fmul_lt _ _)]
  simp only [b2n_ne_zero]
  generalize (chk u v == u) = c1
  generalize (chk u v == fneg u) = c2
  generalize (chk u v == fmul (fneg u) SQRT_M1) = c3
  have hr : (if b2n (c2 || c3) = 0 then cand u v else fmul SQRT_M1 (cand u v)) =
      (if (c2 || c3) = true then fmul SQRT_M1 (cand u v) else cand u v) := by
    cases (c2 || c3) <;> simp [b2n]
  rw [hr]
  have hlt : (if (c2 || c3) = true then fmul SQRT_M1 (cand u v) else cand u v) < P := by
    split; exact fmul_lt _ _; exact fmul_lt _ _
  generalize (if (c2 || c3) = true then fmul SQRT_M1 (cand u v) else cand u v) = r at hlt
  unfold fabs
  rw [Nat.mod_eq_of_lt hlt]
  cases isNeg r <;> simp [b2n]

/-! ### `elligator_encode` -/

/-- `elligator_encode` written with its callees `invert` and `sqrt_ratio_i` as calls (structure of
`montgomery.rs`) -/
def elligatorH {V : Type} (o : FOps V) (r0 : V) : V :=
  let one := o.const 1
  let d1 := o.add one (o.square2 r0)
  let d := o.mul (o.const 13) ((invert_sh o d1).getD 0 o.dflt)
  let dsq := o.square d
  let au := o.mul (o.const 12) d
  let inner := o.add (o.add dsq au) one
  let eps := o.mul d inner
  let isSq := (sqrt_ratio_i_sh o eps one).getD 0 o.dflt
  let zero := o.const 0
  let atemp := o.csel isSq (o.const 12) zero
  let u := o.add d atemp
  o.csel (o.cnot isSq) u (o.neg u)

/-- the translated `elligator_encode` IS that composition (definitional unfolding of the inlined callees) -/
theorem elligator_encode_sh_eq {V : Type} (o : FOps V) (r0 : V) :
    Dalek.Gen.AlgMontgomery.elligator_encode_sh o r0 = [elligatorH o r0] := rfl

theorem fneg_A : fneg MONTGOMERY_A = P - MONTGOMERY_A := by decide +kernel

/-- **The translated `elligator_encode` computes `Spec.elligatorEncode`** (all `r_0`). -/
theorem elligator_nat (r0 : Nat) :
    Dalek.Gen.AlgMontgomery.elligator_encode.run natOps [r0] = [Spec.elligatorEncode r0] := by
  rw [Dalek.Gen.AlgMontgomery.elligator_encode_sh_ok, elligator_encode_sh_eq]
  have h1 : natOps.const 1 = 1 := const_1
  have h0 : natOps.const 0 = 0 := const_0
  have h12 : natOps.const 12 = MONTGOMERY_A := const_12
  have h13 : natOps.const 13 = fneg MONTGOMERY_A := by rw [fneg_A]; exact const_13
  have ea : ∀ a b, natOps.add a b = fadd a b := fun _ _ => rfl
  have em : ∀ a b, natOps.mul a b = fmul a b := fun _ _ => rfl
  have es : ∀ a, natOps.square a = fsq a := fun _ => rfl
  have es2 : ∀ a, natOps.square2 a = fmul 2 (fsq a) := fun _ => rfl
  have en : ∀ a, natOps.neg a = fneg a := fun _ => rfl
  have ec : ∀ c a b, natOps.csel c a b = if c = 0 then a else b := fun _ _ _ => rfl
  have ecn : ∀ a, natOps.cnot a = b2n (a == 0) := fun _ => rfl
  have edf : natOps.dflt = 0 := rfl
  simp only [elligatorH, invert_nat, h0, h1, h12, h13, List.getD_cons_zero, ea, em, es, es2, en, ec, ecn, edf]
  unfold Spec.elligatorEncode
  simp only []
  have hdlt : fmul (fneg MONTGOMERY_A) (finv (fadd 1 (fmul 2 (fsq r0)))) < P := fmul_lt _ _
  generalize fmul (fneg MONTGOMERY_A) (finv (fadd 1 (fmul 2 (fsq r0)))) = d at hdlt
  have hd : fmul d (fadd (fadd (fsq d) (fmul MONTGOMERY_A d)) 1) < P := fmul_lt _ _
  generalize fmul d (fadd (fadd (fsq d) (fmul MONTGOMERY_A d)) 1) = eps at hd
  rw [sqrt_ratio_i_nat eps 1 hd (by norm_num)]
  simp only [List.getD_cons_zero]
  cases (sqrtRatioM1 eps 1).1
  · simp [b2n]
  · have : fadd d 0 = d := Nat.mod_eq_of_lt hdlt
    simp [b2n, this]

/-! ### the output of `elligator_encode` is on the curve -/

/-- `1 + 2r² ≠ 0`: `−1/2` is not a square (`−1` is, `2` is not) -/
theorem one_add_two_sq_ne_zero (r : Fp) : 1 + 2 * r ^ 2 ≠ 0 := by
  intro h
  have hr : r ≠ 0 := by
    rintro rfl
    have : (1 : Fp) = 0 := by linear_combination h
    exact one_ne_zero this
  apply two_not_isSquare
  refine ⟨Dalek.FieldFacts.sqrtM1 * r⁻¹, ?_⟩
  have hi := Dalek.FieldFacts.sqrtM1_mul_self
  have : (2 : Fp) = -(r ^ 2)⁻¹ := by
    field_simp
    linear_combination h
  rw [this]
  field_simp
  linear_combination -hi

theorem cast_A : ((MONTGOMERY_A : Nat) : Fp) = 486662 := by
  simp only [MONTGOMERY_A, Nat.cast_ofNat]

/-- **Elligator2 lands on the curve**: for every `r`, the output `u` of `elligator_encode` satisfies
`u ≠ −1` and `u³ + A u² + u` is a square (i.e. `u` is the `u`-coordinate of a point of Curve25519, not of the
twist). -/
theorem elligator_curve (r0 : Nat) :
    ((Spec.elligatorEncode r0 : Nat) : Fp) ≠ -1 ∧
      IsSquare (((Spec.elligatorEncode r0 : Nat) : Fp) ^ 3 + 486662 * ((Spec.elligatorEncode r0 : Nat) : Fp) ^ 2
        + ((Spec.elligatorEncode r0 : Nat) : Fp)) := by
  have hsq : IsSquare (((Spec.elligatorEncode r0 : Nat) : Fp) ^ 3 +
      486662 * ((Spec.elligatorEncode r0 : Nat) : Fp) ^ 2 + ((Spec.elligatorEncode r0 : Nat) : Fp)) := by
    unfold Spec.elligatorEncode
    simp only []
    have hD1 := one_add_two_sq_ne_zero (r0 : Fp)
    have hdc : ((fmul (fneg MONTGOMERY_A) (finv (fadd 1 (fmul 2 (fsq r0)))) : Nat) : Fp) =
        -486662 * (1 + 2 * (r0 : Fp) ^ 2)⁻¹ := by
      simp only [cast_fmul, cast_fneg, cast_finv, cast_fadd, cast_fsq, cast_A, Nat.cast_one, Nat.cast_ofNat]
    generalize fmul (fneg MONTGOMERY_A) (finv (fadd 1 (fmul 2 (fsq r0)))) = d at hdc
    have hdD : (d : Fp) * (1 + 2 * (r0 : Fp) ^ 2) = -486662 := by
      rw [hdc]; field_simp
    have heps : ((fmul d (fadd (fadd (fsq d) (fmul MONTGOMERY_A d)) 1) : Nat) : Fp) =
        (d : Fp) ^ 3 + 486662 * (d : Fp) ^ 2 + d := by
      simp only [cast_fmul, cast_fadd, cast_fsq, cast_A, Nat.cast_one]; ring
    generalize fmul d (fadd (fadd (fsq d) (fmul MONTGOMERY_A d)) 1) = eps at heps
    cases hf : (sqrtRatioM1 eps 1).1
    · -- eps is not a square: u = -(d + A), and u³ + A u² + u = 2 r² eps
      simp only [Bool.false_eq_true, if_false]
      have hns : ¬ IsSquare ((eps : Nat) : Fp) := by
        intro hs
        have := (sqrtRatioM1_ok_iff eps 1).2 (Or.inr ⟨by simp, by simpa using hs⟩)
        rw [hf] at this; cases this
      obtain ⟨w, hw⟩ := Dalek.FieldFacts.isSquare_mul_of_not_isSquare two_not_isSquare hns
      refine ⟨(r0 : Fp) * w, ?_⟩
      simp only [cast_fneg, cast_fadd, cast_A]
      rw [heps] at hw
      linear_combination ((r0 : Fp) ^ 2) * hw +
        (-(d : Fp) ^ 2 - 486662 * (d : Fp) - 1) * hdD
    · simp only [if_true]
      rcases (sqrtRatioM1_ok_iff eps 1).1 hf with h0 | ⟨-, hs⟩
      · rw [← heps, h0]; exact ⟨0, by simp⟩
      · rw [← heps]; simpa using hs
  refine ⟨?_, hsq⟩
  intro h
  rw [h] at hsq
  apply A_sub_two_not_isSquare
  have : (486660 : Fp) = (-1) ^ 3 + 486662 * (-1) ^ 2 + -1 := by norm_num
  rw [this]; exact hsq

/-- **`elligator_on_curve`**: `to_edwards` never fails on the output of `elligator_encode`, for either sign. -/
theorem elligator_toEdwards_ne_none (r0 : Nat) (s : Bool) :
    Spec.toEdwards (Spec.elligatorEncode r0) s ≠ none := by
  intro h
  rw [toEdwards_eq_none_iff] at h
  obtain ⟨h1, h2⟩ := elligator_curve r0
  rcases h with h | h
  · exact h1 h
  · exact h h2

end Dalek.Proofs.Mont
