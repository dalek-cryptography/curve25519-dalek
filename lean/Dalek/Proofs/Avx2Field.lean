import Dalek.Proofs.Avx2Field.Defs
import Dalek.Proofs.Avx2Field.Small
import Dalek.Proofs.Avx2Field.Perm
import Dalek.Proofs.Avx2Field.MulConsts
import Dalek.Proofs.Avx2Field.Square
import Dalek.Proofs.Avx2Field.Mul
/-! Lane-level functional correctness of the translated AVX2 vector field kernels (`Dalek.Gen.Avx2Field`, regenerated
from `curve25519-dalek/src/backend/vector/avx2/field.rs`) in `ZMod (2^255-19)`, for ALL integer inputs of the shallow
functions `*_fn` produced by the analyser/normaliser.  (Bounds are needed, and proved by the analyser, only for "the
u32/u64 lane arithmetic does not wrap, so it computes these integer functions".)

* `Defs`      : `Lane`, `lane`, `laneVal`, `lane64`, `laneVal64`, `elem51`, `val51`, the proof macros (shared with IFMA)
* `Small`     : `new`, `split`, `negate_lazy`, `diff_sum`, `reduce`, `neg`, `add`
* `Perm`      : `conditional_select/assign`
* `MulConsts` : `mul_consts`, `reduce64`
* `Square`    : `square_and_negate_D`
* `Mul`       : `mul` -/
