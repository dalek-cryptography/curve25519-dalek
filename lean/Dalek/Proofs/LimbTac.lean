import Dalek.IR.Tactics
import Mathlib.Tactic.Ring
import Mathlib.Tactic.LinearCombination
import Mathlib.Tactic.ReduceModChar
import Mathlib.Data.ZMod.Basic
/-! `limb_ring`: functional correctness of a normalised kernel (`*_fn`, produced by tools/GenNorm.lean)
in a commutative ring `R` of positive characteristic, for ALL integer inputs.

Method: keep the SSA `let`s (no exponential inlining), turn each into an equation, cast the equations
to `R`, replace `x % 2^k` by `x - 2^k * (x / 2^k)` (the quotients stay opaque atoms), substitute, and
finish with `ring_nf; reduce_mod_char` on the difference of the two sides.  Normalising, so renaming / reordering / re-association of the
source does not matter. -/

namespace Dalek

theorem emod_cast {R : Type*} [CommRing R] (x : Int) (k : Nat) :
    ((x % 2 ^ k : Int) : R) = (x : R) - 2 ^ k * ((x / 2 ^ k : Int) : R) := by
  have h := Int.emod_add_mul_ediv x (2 ^ k)
  have h2 : ((x % 2 ^ k + 2 ^ k * (x / 2 ^ k) : Int) : R) = (x : R) := by rw [h]
  push_cast at h2
  linear_combination h2

theorem emod_emod_pow (x : Int) {j k : Nat} (h : j ≤ k) : (x % 2 ^ k) % 2 ^ j = x % 2 ^ j :=
  Int.emod_emod_of_dvd x (pow_dvd_pow 2 h)

end Dalek

/-- `limb_lets f` : unfold the shallow kernel `f`, name its lets, turn them into equations `hL_i`. -/
macro "limb_lets " f:ident : tactic =>
  `(tactic| (unfold $f; extract_lets; lets_to_eqs))

/-- push the casts through the equations and the goal, eliminating `%` -/
macro "limb_push" : tactic =>
  `(tactic| simp only [Int.cast_add, Int.cast_mul, Int.cast_sub, Int.cast_neg, Dalek.emod_cast, Int.cast_pow,
      Int.cast_ofNat, Int.cast_one, Int.cast_zero, Int.cast_natCast, List.getD_cons_zero, List.getD_cons_succ,
      List.getD_nil] at *)

/-- unfold the representation (`limb_rep`), push the casts, substitute the equations, normalise, reduce the
numerals modulo the characteristic.  (`emod_emod_pow`: a mask that survives under a wider cast, `(x % 2^64) % 2^51`.)  The two sides are subtracted first: the monomials on which they agree exactly
cancel in `ring_nf`, and `reduce_mod_char`, which is quadratic in the size of a sum, only sees the few whose
coefficients differ by a multiple of `p`. -/
macro "limb_finish" : tactic =>
  `(tactic| (simp only [limb_rep, List.getD_cons_zero, List.getD_cons_succ, Dalek.emod_emod_pow, Nat.reduceLeDiff] at *
             limb_push
             simp only [*]
             rw [← sub_eq_zero]
             ring_nf
             try reduce_mod_char))

/-- `limb_ring f R`: the whole method for the shallow kernel `f` and the ring `R` -/
macro "limb_ring " f:ident R:term : tactic =>
  `(tactic| (limb_lets $f; cast_eqs $R; limb_finish))
