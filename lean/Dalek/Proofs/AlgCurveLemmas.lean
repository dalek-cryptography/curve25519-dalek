/-
Representation predicates for dalek's Niels point formats and the small algebraic facts that connect
the translated curve formulas (interpreted in `Fp` by `zmodOps`) to the refinement lemmas of
`Proofs/Edwards/Extended.lean`.  The property theorems are in `Props/C03/Formulas.lean`.
-/
import Dalek.Proofs.AlgZModLemmas
import Mathlib.Tactic.Ring
import Mathlib.Tactic.FieldSimp
import Mathlib.Tactic.LinearCombination

namespace Dalek.Proofs

open Dalek.Edwards
open Dalek.Bridge (Ed edParams edParams_d)
open Dalek.FieldFacts (d)

/-! ## Niels formats -/

/-- dalek `ProjectiveNielsPoint` `(Y+X, Y−X, Z, 2d·T)` of an extended point `(X:Y:Z:T)` representing `Q`. -/
def RepPNiels (Q : Ed) (Yp Ym Z T2d : Fp) : Prop :=
  ∃ X Y T, RepExt Q X Y Z T ∧ Yp = Y + X ∧ Ym = Y - X ∧ T2d = T * (2 * d)

/-- dalek `AffineNielsPoint` `(y+x, y−x, 2d·x·y)` of the affine point `Q`. -/
def RepANiels (Q : Ed) (yp ym xy2d : Fp) : Prop :=
  yp = Q.y + Q.x ∧ ym = Q.y - Q.x ∧ xy2d = Q.x * Q.y * (2 * d)

/-- An affine Niels point is a projective Niels point with `Z = 1` (and conversely). -/
theorem repANiels_iff_repPNiels_one {Q : Ed} {yp ym t : Fp} :
    RepANiels Q yp ym t ↔ RepPNiels Q yp ym 1 t := by
  constructor
  · rintro ⟨h1, h2, h3⟩
    exact ⟨Q.x, Q.y, Q.x * Q.y, repExt_affine Q, h1, h2, h3⟩
  · rintro ⟨X, Y, T, ⟨-, hx, hy, hT⟩, h1, h2, h3⟩
    rw [div_one] at hx hy
    rw [one_mul] at hT
    refine ⟨by rw [h1, hx, hy], by rw [h2, hx, hy], by rw [h3, hx, hy, hT]⟩

theorem _root_.Dalek.Edwards.RepExt.toPNiels {Q : Ed} {X Y Z T : Fp} (h : RepExt Q X Y Z T) :
    RepPNiels Q (Y + X) (Y - X) Z (T * (2 * d)) := ⟨X, Y, T, h, rfl, rfl, rfl⟩

/-- The x, y of the point in terms of an extended representative, with the inverse written as the code
computes it (`Z⁻¹`). -/
theorem _root_.Dalek.Edwards.RepExt.x_eq {Q : Ed} {X Y Z T : Fp} (h : RepExt Q X Y Z T) : X * Z⁻¹ = Q.x := by
  rw [h.2.1, div_eq_mul_inv]

theorem _root_.Dalek.Edwards.RepExt.y_eq {Q : Ed} {X Y Z T : Fp} (h : RepExt Q X Y Z T) : Y * Z⁻¹ = Q.y := by
  rw [h.2.2.1, div_eq_mul_inv]

/-! ## Transport along equal coordinates (used as `h.of_eq (by ring) …`) -/

/-- A relation between a point and four coordinates passes through a selection on one condition
(`csel c a b` is `if c = 0 then a else b`, lane by lane). -/
theorem ite_rel₄ {α β : Type} {R : α → β → β → β → β → Prop} {c : Prop} [Decidable c] {P Q : α}
    {a0 a1 a2 a3 b0 b1 b2 b3 : β} (hP : R P a0 a1 a2 a3) (hQ : R Q b0 b1 b2 b3) :
    R (if c then P else Q) (if c then a0 else b0) (if c then a1 else b1) (if c then a2 else b2)
      (if c then a3 else b3) := by
  split <;> assumption

theorem ite_rel₃ {α β : Type} {R : α → β → β → β → Prop} {c : Prop} [Decidable c] {P Q : α}
    {a0 a1 a2 b0 b1 b2 : β} (hP : R P a0 a1 a2) (hQ : R Q b0 b1 b2) :
    R (if c then P else Q) (if c then a0 else b0) (if c then a1 else b1) (if c then a2 else b2) := by
  split <;> assumption

theorem _root_.Dalek.Edwards.RepExt.of_eq {Q : Ed} {X Y Z T X' Y' Z' T' : Fp} (h : RepExt Q X Y Z T)
    (hX : X' = X) (hY : Y' = Y) (hZ : Z' = Z) (hT : T' = T) : RepExt Q X' Y' Z' T' := by
  subst hX hY hZ hT; exact h

theorem _root_.Dalek.Edwards.RepProj.of_eq {Q : Ed} {X Y Z X' Y' Z' : Fp} (h : RepProj Q X Y Z)
    (hX : X' = X) (hY : Y' = Y) (hZ : Z' = Z) : RepProj Q X' Y' Z' := by
  subst hX hY hZ; exact h

theorem _root_.Dalek.Edwards.RepCompleted.of_eq {Q : Ed} {X Y Z T X' Y' Z' T' : Fp}
    (h : RepCompleted Q X Y Z T) (hX : X' = X) (hY : Y' = Y) (hZ : Z' = Z) (hT : T' = T) :
    RepCompleted Q X' Y' Z' T' := by
  subst hX hY hZ hT; exact h

/-! ## Equality of represented points (`ct_eq`) -/

instance : DecidableEq Ed := fun _ _ => decidable_of_iff _ EdPoint.ext_iff.symm

theorem _root_.Dalek.Edwards.RepProj.eq_iff {P Q : Ed} {X1 Y1 Z1 X2 Y2 Z2 : Fp} (hP : RepProj P X1 Y1 Z1)
    (hQ : RepProj Q X2 Y2 Z2) : P = Q ↔ X1 * Z2 = X2 * Z1 ∧ Y1 * Z2 = Y2 * Z1 := by
  obtain ⟨hZ1, hx1, hy1⟩ := hP
  obtain ⟨hZ2, hx2, hy2⟩ := hQ
  rw [EdPoint.ext_iff, hx1, hy1, hx2, hy2, div_eq_div_iff hZ1 hZ2, div_eq_div_iff hZ1 hZ2]

/-! ## The curve equation in projective form (`is_valid`) -/

theorem onCurve_proj_iff {X Y Z : Fp} (hZ : Z ≠ 0) :
    onCurve d (X / Z) (Y / Z) ↔ (Y * Y - X * X) * (Z * Z) = Z * Z * (Z * Z) + d * (X * X * (Y * Y)) := by
  unfold onCurve
  have hZ4 : Z ^ 4 ≠ 0 := pow_ne_zero 4 hZ
  constructor
  · intro h
    have e : (-(X / Z) ^ 2 + (Y / Z) ^ 2) * Z ^ 4 = (1 + d * (X / Z) ^ 2 * (Y / Z) ^ 2) * Z ^ 4 := by
      rw [h]
    field_simp at e
    linear_combination e
  · intro h
    apply mul_right_cancel₀ hZ4
    field_simp
    linear_combination h

/-- Every projective triple with `Z ≠ 0` satisfying the projective curve equation represents a point. -/
theorem exists_repProj {X Y Z : Fp} (hZ : Z ≠ 0)
    (h : (Y * Y - X * X) * (Z * Z) = Z * Z * (Z * Z) + d * (X * X * (Y * Y))) :
    ∃ P : Ed, RepProj P X Y Z :=
  ⟨⟨X / Z, Y / Z, (onCurve_proj_iff hZ).2 h⟩, hZ, rfl, rfl⟩

theorem _root_.Dalek.Edwards.RepProj.curve_eq {P : Ed} {X Y Z : Fp} (h : RepProj P X Y Z) :
    (Y * Y - X * X) * (Z * Z) = Z * Z * (Z * Z) + d * (X * X * (Y * Y)) := by
  obtain ⟨hZ, hx, hy⟩ := h
  have := P.on
  rw [hx, hy] at this
  exact (onCurve_proj_iff hZ).1 this

/-! ## Montgomery `u` -/

/-- `(Z+Y)/(Z−Y) = (1+y)/(1−y)` for `y = Y/Z` (both sides `0` when `y = 1`, by `0⁻¹ = 0`). -/
theorem montgomery_u_eq {Y Z : Fp} (hZ : Z ≠ 0) : (Z + Y) * (Z - Y)⁻¹ = (1 + Y / Z) / (1 - Y / Z) := by
  by_cases h : Z - Y = 0
  · have : Y / Z = 1 := by rw [div_eq_one_iff_eq hZ]; exact (sub_eq_zero.1 h).symm
    rw [h, this]; simp
  · have h' : 1 - Y / Z ≠ 0 := by
      intro h0; apply h
      have : Y / Z = 1 := by linear_combination -h0
      rw [div_eq_one_iff_eq hZ] at this; rw [this, sub_self]
    rw [← div_eq_mul_inv, div_eq_div_iff h h']
    field_simp

end Dalek.Proofs
