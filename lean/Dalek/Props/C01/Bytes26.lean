import Dalek.IR.NormSpec
import Dalek.Proofs.Bytes26
import Dalek.Props.C01.Field26
/-!
# C01 — byte decoding / canonical encoding of the serial-u32 field backend (property theorems)

Statements are about `Dalek.Gen.Field26.from_bytes` / `as_bytes`: the LimbIR programs REGENERATED from
`curve25519-dalek/src/backend/serial/u32/field.rs` on every run.  `evalC` is the debug build (overflow checks and
`debug_assert!`s; `none` = panic), `evalW` the release build (wrapping).  Same statements as
`Dalek/Props/C01/Bytes51.lean`; the value of ten limbs is `Σ l_i 2^⌈25.5 i⌉` (`val26N`).

* `from_bytes_spec`: decoding 32 bytes ignores bit 255: even limbs `< 2^26`, odd limbs `< 2^25`, and their INTEGER value
  is `LE(bytes) mod 2^255` (so the field element is that number reduced mod p: `from_bytes_val`).
* `as_bytes_spec`: for limbs inside the contract `l2625 2` (even `< 2^28`, odd `< 2^27`) the encoding is 32 bytes whose
  INTEGER little-endian value is `(Σ a_i 2^⌈25.5 i⌉) mod p`, the unique representative below `p`; top bit clear
  (`as_bytes_lt`, `as_bytes_top_bit`), `as_bytes_canonical`, `as_bytes_unique`, `as_bytes_from_bytes` (round trip).
* `*_list`: the same for an arbitrary input list satisfying the contract; `*_spec'`: link to `Dalek.Spec.Field`.
-/
namespace Dalek.Props.C01.Bytes26
open Dalek.IR Dalek.Proofs.Field26 Dalek.Proofs.Bytes26 Dalek.Gen.Norm.Field26 Dalek.Model.Contracts
open Dalek.Model.FieldBytes
open Dalek.Proofs.Bytes51 (envIn_bytes envIn_length list_eq_of_length_32 allBytes_toZ leVal_of_digits Encodes Decodes)

/-- output contract of `from_bytes`: even limbs `< 2^26`, odd limbs `< 2^25` -/
def limbs26 : List Itv := l2625 0

theorem val26_eq (l : List Nat) : Field26.val26 l = ((val26N l : Nat) : ZMod P) := by
  simp only [Field26.val26]
  rw [show rep26 (toZ l) = val26Z (toZ l) from rfl, val26Z_toZ, Int.cast_natCast]

section
variable (b0 b1 b2 b3 b4 b5 b6 b7 b8 b9 b10 b11 b12 b13 b14 b15 b16 b17 b18 b19 b20 b21 b22 b23 b24 b25 b26 b27 b28 b29 b30 b31 : Nat)

/-- `FieldElement2625::from_bytes`: never panics, debug = release, even limbs `< 2^26`, odd limbs `< 2^25`, and the integer value of the limbs is
the little-endian value of the 32 bytes with bit 255 cleared. -/
theorem from_bytes_spec (hin : EnvIn [b0, b1, b2, b3, b4, b5, b6, b7, b8, b9, b10, b11, b12, b13, b14, b15, b16, b17, b18, b19, b20, b21, b22, b23, b24, b25, b26, b27, b28, b29, b30, b31] Field26.pre_from_bytes) :
    ∃ out, Dalek.Gen.Field26.from_bytes.evalC [b0, b1, b2, b3, b4, b5, b6, b7, b8, b9, b10, b11, b12, b13, b14, b15, b16, b17, b18, b19, b20, b21, b22, b23, b24, b25, b26, b27, b28, b29, b30, b31] = some out ∧
      Dalek.Gen.Field26.from_bytes.evalW [b0, b1, b2, b3, b4, b5, b6, b7, b8, b9, b10, b11, b12, b13, b14, b15, b16, b17, b18, b19, b20, b21, b22, b23, b24, b25, b26, b27, b28, b29, b30, b31] = out ∧
      EnvIn out limbs26 ∧
      val26N out = leVal [b0, b1, b2, b3, b4, b5, b6, b7, b8, b9, b10, b11, b12, b13, b14, b15, b16, b17, b18, b19, b20, b21, b22, b23, b24, b25, b26, b27, b28, b29, b30, b31] % 2 ^ 255 := by
  refine Prog.norm_spec from_bytes_norm_ok (by decide +kernel) hin fun out hZ => ?_
  have e : toZ [b0, b1, b2, b3, b4, b5, b6, b7, b8, b9, b10, b11, b12, b13, b14, b15, b16, b17, b18, b19, b20, b21, b22, b23, b24, b25, b26, b27, b28, b29, b30, b31] = [(b0 : Int), b1, b2, b3, b4, b5, b6, b7, b8, b9, b10, b11, b12, b13, b14, b15, b16, b17, b18, b19, b20, b21, b22, b23, b24, b25, b26, b27, b28, b29, b30, b31] := rfl
  rw [e, from_bytes_fn_ok, from_bytes_fn_eq (e ▸ allBytes_toZ ((envIn_bytes 32 _).mp hin).2), ← e] at hZ
  exact val26N_of_digits hZ

/-- hence the decoded field element is `LE(bytes) mod 2^255` (reduced mod p) -/
theorem from_bytes_val (hin : EnvIn [b0, b1, b2, b3, b4, b5, b6, b7, b8, b9, b10, b11, b12, b13, b14, b15, b16, b17, b18, b19, b20, b21, b22, b23, b24, b25, b26, b27, b28, b29, b30, b31] Field26.pre_from_bytes) :
    ∃ out, Dalek.Gen.Field26.from_bytes.evalC [b0, b1, b2, b3, b4, b5, b6, b7, b8, b9, b10, b11, b12, b13, b14, b15, b16, b17, b18, b19, b20, b21, b22, b23, b24, b25, b26, b27, b28, b29, b30, b31] = some out ∧
      Dalek.Gen.Field26.from_bytes.evalW [b0, b1, b2, b3, b4, b5, b6, b7, b8, b9, b10, b11, b12, b13, b14, b15, b16, b17, b18, b19, b20, b21, b22, b23, b24, b25, b26, b27, b28, b29, b30, b31] = out ∧
      EnvIn out limbs26 ∧
      Field26.val26 out = ((leVal [b0, b1, b2, b3, b4, b5, b6, b7, b8, b9, b10, b11, b12, b13, b14, b15, b16, b17, b18, b19, b20, b21, b22, b23, b24, b25, b26, b27, b28, b29, b30, b31] % 2 ^ 255 : Nat) : ZMod P) := by
  obtain ⟨out, hC, hW, hb, hv⟩ := from_bytes_spec b0 b1 b2 b3 b4 b5 b6 b7 b8 b9 b10 b11 b12 b13 b14 b15 b16 b17 b18 b19 b20 b21 b22 b23 b24 b25 b26 b27 b28 b29 b30 b31 hin
  exact ⟨out, hC, hW, hb, by rw [val26_eq, hv]⟩

end

section
variable (a0 a1 a2 a3 a4 a5 a6 a7 a8 a9 : Nat)

/-- `FieldElement2625::as_bytes` on limbs inside the contract (even `< 2^28`, odd `< 2^27`): never panics (in particular its `debug_assert!`s hold),
debug = release, the output is 32 bytes, and the INTEGER little-endian value of the output is
`(Σ a_i 2^⌈25.5 i⌉) mod p`. -/
theorem as_bytes_spec (hin : EnvIn [a0, a1, a2, a3, a4, a5, a6, a7, a8, a9] Field26.pre_as_bytes) :
    ∃ out, Dalek.Gen.Field26.as_bytes.evalC [a0, a1, a2, a3, a4, a5, a6, a7, a8, a9] = some out ∧
      Dalek.Gen.Field26.as_bytes.evalW [a0, a1, a2, a3, a4, a5, a6, a7, a8, a9] = out ∧
      EnvIn out (bytes 32) ∧
      leVal out = val26N [a0, a1, a2, a3, a4, a5, a6, a7, a8, a9] % P := by
  refine Prog.norm_spec as_bytes_norm_ok (by decide +kernel) hin fun out hZ => ?_
  have hpre : Field26.pre_as_bytes = [ub (2 ^ 28 - 1), ub (2 ^ 27 - 1), ub (2 ^ 28 - 1), ub (2 ^ 27 - 1), ub (2 ^ 28 - 1),
      ub (2 ^ 27 - 1), ub (2 ^ 28 - 1), ub (2 ^ 27 - 1), ub (2 ^ 28 - 1), ub (2 ^ 27 - 1)] := by decide +kernel
  rw [hpre] at hin
  simp only [EnvIn, Itv.mem, ub, Nat.zero_le, pow_zero, one_dvd, and_true, true_and] at hin
  obtain ⟨h0, h1, h2, h3, h4, h5, h6, h7, h8, h9⟩ := hin
  have e : toZ [a0, a1, a2, a3, a4, a5, a6, a7, a8, a9] = [(a0 : Int), a1, a2, a3, a4, a5, a6, a7, a8, a9] := rfl
  rw [e, as_bytes_fn_ok, as_bytes_fn_eq _ _ _ _ _ _ _ _ _ _ ⟨by omega, by omega⟩ ⟨by omega, by omega⟩ ⟨by omega, by omega⟩
    ⟨by omega, by omega⟩ ⟨by omega, by omega⟩ ⟨by omega, by omega⟩ ⟨by omega, by omega⟩ ⟨by omega, by omega⟩
    ⟨by omega, by omega⟩ ⟨by omega, by omega⟩, ← e, val26Z_toZ] at hZ
  exact leVal_of_digits hZ.symm

end
/-! ### list forms (arbitrary input list inside the contract) -/

/-- `from_bytes` on any list satisfying the contract (= exactly 32 entries, each a byte) -/
theorem from_bytes_spec_list (bs : List Nat) (hin : EnvIn bs Field26.pre_from_bytes) :
    ∃ out, Dalek.Gen.Field26.from_bytes.evalC bs = some out ∧ Dalek.Gen.Field26.from_bytes.evalW bs = out ∧
      EnvIn out limbs26 ∧ val26N out = leVal bs % 2 ^ 255 := by
  have hl : bs.length = 32 := by
    rw [envIn_length hin]; simp [Field26.pre_from_bytes, bytes, rep]
  obtain ⟨b0, b1, b2, b3, b4, b5, b6, b7, b8, b9, b10, b11, b12, b13, b14, b15, b16, b17, b18, b19, b20, b21, b22, b23, b24, b25, b26, b27, b28, b29, b30, b31, rfl⟩ := list_eq_of_length_32 hl
  exact from_bytes_spec b0 b1 b2 b3 b4 b5 b6 b7 b8 b9 b10 b11 b12 b13 b14 b15 b16 b17 b18 b19 b20 b21 b22 b23 b24 b25 b26 b27 b28 b29 b30 b31 hin

/-- `as_bytes` on any list satisfying the contract (= exactly ten limbs, even `< 2^28`, odd `< 2^27`) -/
theorem as_bytes_spec_list (l : List Nat) (hin : EnvIn l Field26.pre_as_bytes) :
    ∃ out, Dalek.Gen.Field26.as_bytes.evalC l = some out ∧ Dalek.Gen.Field26.as_bytes.evalW l = out ∧
      EnvIn out (bytes 32) ∧ leVal out = val26N l % P := by
  have hl : l.length = 10 := by
    rw [envIn_length hin]; simp [Field26.pre_as_bytes, l2625]
  obtain ⟨a0, a1, a2, a3, a4, a5, a6, a7, a8, a9, rfl⟩ := list_eq_of_length_10 hl
  exact as_bytes_spec a0 a1 a2 a3 a4 a5 a6 a7 a8 a9 hin

/-- the output of `from_bytes` is inside the input contract of `as_bytes` (and of every other kernel) -/
theorem limbs26_le_pre_as_bytes {l : List Nat} (h : EnvIn l limbs26) : EnvIn l Field26.pre_as_bytes :=
  EnvIn_of_itvsLe h (by decide +kernel)

/-! ### canonical encoding -/

/-- **canonical encoding**: the output of `as_bytes` is exactly the 32 little-endian base-256 digits of the unique
representative `< p` of the value; in particular it depends only on the value mod p. -/
theorem as_bytes_canonical (l : List Nat) (hin : EnvIn l Field26.pre_as_bytes) :
    Dalek.Gen.Field26.as_bytes.evalC l = some (natToLeN (val26N l % P) 32) ∧
    Dalek.Gen.Field26.as_bytes.evalW l = natToLeN (val26N l % P) 32 :=
  Encodes.canonical as_bytes_spec_list l hin

/-- the encoded integer is below `p` -/
theorem as_bytes_lt (l : List Nat) (hin : EnvIn l Field26.pre_as_bytes) :
    ∃ out, Dalek.Gen.Field26.as_bytes.evalC l = some out ∧ leVal out < P :=
  Encodes.lt as_bytes_spec_list (by decide) l hin

/-- bit 255 of the encoding is clear -/
theorem as_bytes_top_bit (l : List Nat) (hin : EnvIn l Field26.pre_as_bytes) :
    ∃ out, Dalek.Gen.Field26.as_bytes.evalC l = some out ∧ out.getD 31 0 < 128 :=
  Encodes.top_bit as_bytes_spec_list (by decide) l hin

/-- **uniqueness**: two limb vectors (inside the contract) encode identically iff they represent the same element of
`ZMod p` -/
theorem as_bytes_unique (l l' : List Nat) (hin : EnvIn l Field26.pre_as_bytes) (hin' : EnvIn l' Field26.pre_as_bytes) :
    Dalek.Gen.Field26.as_bytes.evalC l = Dalek.Gen.Field26.as_bytes.evalC l' ↔ Field26.val26 l = Field26.val26 l' := by
  rw [Encodes.unique as_bytes_spec_list (by decide) l l' hin hin', val26_eq, val26_eq, ZMod.natCast_eq_natCast_iff']

/-- the same for the release build -/
theorem as_bytes_unique_release (l l' : List Nat) (hin : EnvIn l Field26.pre_as_bytes)
    (hin' : EnvIn l' Field26.pre_as_bytes) :
    Dalek.Gen.Field26.as_bytes.evalW l = Dalek.Gen.Field26.as_bytes.evalW l' ↔ Field26.val26 l = Field26.val26 l' :=
  (Encodes.evalW_eq_iff as_bytes_spec_list l l' hin hin').trans (as_bytes_unique l l' hin hin')

/-- **round trip** `as_bytes (from_bytes b)`: the canonical encoding of `LE(b) mod 2^255` reduced mod p -/
theorem as_bytes_from_bytes (bs : List Nat) (hin : EnvIn bs Field26.pre_from_bytes) :
    ∃ limbs, Dalek.Gen.Field26.from_bytes.evalC bs = some limbs ∧ Dalek.Gen.Field26.from_bytes.evalW bs = limbs ∧
      Dalek.Gen.Field26.as_bytes.evalC limbs = some (natToLeN (leVal bs % 2 ^ 255 % P) 32) ∧
      Dalek.Gen.Field26.as_bytes.evalW limbs = natToLeN (leVal bs % 2 ^ 255 % P) 32 :=
  Decodes.encode from_bytes_spec_list as_bytes_spec_list (fun _ => limbs26_le_pre_as_bytes) bs hin

/-- decoding a canonical encoding (an integer `< p`) and re-encoding gives the same bytes back -/
theorem as_bytes_from_bytes_canonical (bs : List Nat) (hin : EnvIn bs Field26.pre_from_bytes) (hc : leVal bs < P) :
    ∃ limbs, Dalek.Gen.Field26.from_bytes.evalC bs = some limbs ∧
      Dalek.Gen.Field26.as_bytes.evalC limbs = some bs :=
  Decodes.encode_canonical from_bytes_spec_list as_bytes_spec_list (fun _ => limbs26_le_pre_as_bytes) (by decide) bs hin hc

/-! ### link to the executable specification `Dalek.Spec.Field` (byte strings as `List UInt8`) -/

/-- `as_bytes` computes `Dalek.Spec.feToBytes` of the value of the limbs -/
theorem as_bytes_spec' (l : List Nat) (hin : EnvIn l Field26.pre_as_bytes) :
    ∃ out, Dalek.Gen.Field26.as_bytes.evalC l = some out ∧ Dalek.Gen.Field26.as_bytes.evalW l = out ∧
      out.map UInt8.ofNat = Dalek.Spec.feToBytes (val26N l) :=
  Encodes.spec' as_bytes_spec_list l hin

/-- `from_bytes` computes `Dalek.Spec.feFromBytes` (the limbs even hold the unreduced 255-bit integer) -/
theorem from_bytes_spec' (bs : List UInt8) (hlen : bs.length = 32) :
    ∃ out, Dalek.Gen.Field26.from_bytes.evalC (bs.map UInt8.toNat) = some out ∧
      Dalek.Gen.Field26.from_bytes.evalW (bs.map UInt8.toNat) = out ∧ EnvIn out limbs26 ∧
      val26N out = Dalek.Spec.leToNat bs % 2 ^ 255 ∧ val26N out % P = Dalek.Spec.feFromBytes bs := by
  obtain ⟨out, hC, hW, hb, hv⟩ := Decodes.spec' from_bytes_spec_list bs hlen
  exact ⟨out, hC, hW, hb, hv, by rw [hv]; rfl⟩

/-! ### non-vacuity -/

example : EnvIn (List.replicate 32 255) Field26.pre_from_bytes := by decide +kernel
example : EnvIn [2 ^ 28 - 1, 2 ^ 27 - 1, 2 ^ 28 - 1, 2 ^ 27 - 1, 2 ^ 28 - 1, 2 ^ 27 - 1, 2 ^ 28 - 1, 2 ^ 27 - 1, 2 ^ 28 - 1, 2 ^ 27 - 1]
    Field26.pre_as_bytes := by decide +kernel
/-- a non-canonical input: `p + 1` (limbs of `2^255 - 18`) encodes as `1` -/
example : Dalek.Gen.Field26.as_bytes.evalC [2 ^ 26 - 18, 2 ^ 25 - 1, 2 ^ 26 - 1, 2 ^ 25 - 1, 2 ^ 26 - 1, 2 ^ 25 - 1, 2 ^ 26 - 1, 2 ^ 25 - 1,
      2 ^ 26 - 1, 2 ^ 25 - 1]
    = some (natToLeN 1 32) := by decide +kernel

end Dalek.Props.C01.Bytes26
