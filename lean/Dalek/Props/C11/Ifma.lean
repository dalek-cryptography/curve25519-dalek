import Dalek.IR.NormSpec
import Dalek.Gen.Norm.IfmaField
import Dalek.Proofs.IfmaField.Defs
/-!
# C11 — no lane overflow in the AVX512-IFMA vector field backend (property theorems, kernel level)

Statements are about `Dalek.Gen.IfmaField.*`: the LimbIR programs REGENERATED on every run from
`curve25519-dalek/src/backend/vector/ifma/field.rs` by lane scalarisation (an `F51x4… = [u64x4; 5]` is 20 u64 lanes;
`vpmadd52luq/huq` are translated as `z + lo52/hi52((x mod 2^52)(y mod 2^52))` with a checked 64-bit accumulation, so
`evalC` fails exactly when some u64 LANE would wrap).

The source states no numeric bounds; `docs/ifma-notes.md` requires multiplication / squaring inputs (`F51x4Reduced`) to
have limbs in `[0, 2^52)`.  Contracts: `Dalek.Model.Contracts.IfmaField.pre_<k>`.
For every kernel and every input inside its contract the lane-checked semantics `evalC` does not fail and agrees with
the wrapping semantics `evalW`, and the outputs satisfy the analysed post-condition `<k>_post`.
-/
namespace Dalek.Props.C11.Ifma
open Dalek.IR Dalek.Model.Contracts

theorem new_safe (ins : List Nat) (hin : EnvIn ins IfmaField.pre_new) :
    ∃ outs, Dalek.Gen.IfmaField.new.evalC ins = some outs ∧ Dalek.Gen.IfmaField.new.evalW ins = outs ∧
      EnvIn outs Dalek.Gen.Norm.IfmaField.new_post :=
  Prog.norm_safe Dalek.Gen.Norm.IfmaField.new_norm_ok (itvsLe_refl _) hin

theorem split_safe (ins : List Nat) (hin : EnvIn ins IfmaField.pre_split) :
    ∃ outs, Dalek.Gen.IfmaField.split.evalC ins = some outs ∧ Dalek.Gen.IfmaField.split.evalW ins = outs ∧
      EnvIn outs Dalek.Gen.Norm.IfmaField.split_post :=
  Prog.norm_safe Dalek.Gen.Norm.IfmaField.split_norm_ok (itvsLe_refl _) hin

theorem negate_lazy_safe (ins : List Nat) (hin : EnvIn ins IfmaField.pre_negate_lazy) :
    ∃ outs, Dalek.Gen.IfmaField.negate_lazy.evalC ins = some outs ∧ Dalek.Gen.IfmaField.negate_lazy.evalW ins = outs ∧
      EnvIn outs Dalek.Gen.Norm.IfmaField.negate_lazy_post :=
  Prog.norm_safe Dalek.Gen.Norm.IfmaField.negate_lazy_norm_ok (itvsLe_refl _) hin

theorem diff_sum_safe (ins : List Nat) (hin : EnvIn ins IfmaField.pre_diff_sum) :
    ∃ outs, Dalek.Gen.IfmaField.diff_sum.evalC ins = some outs ∧ Dalek.Gen.IfmaField.diff_sum.evalW ins = outs ∧
      EnvIn outs Dalek.Gen.Norm.IfmaField.diff_sum_post :=
  Prog.norm_safe Dalek.Gen.Norm.IfmaField.diff_sum_norm_ok (itvsLe_refl _) hin

theorem add_safe (ins : List Nat) (hin : EnvIn ins IfmaField.pre_add) :
    ∃ outs, Dalek.Gen.IfmaField.add.evalC ins = some outs ∧ Dalek.Gen.IfmaField.add.evalW ins = outs ∧
      EnvIn outs Dalek.Gen.Norm.IfmaField.add_post :=
  Prog.norm_safe Dalek.Gen.Norm.IfmaField.add_norm_ok (itvsLe_refl _) hin

theorem reduce_safe (ins : List Nat) (hin : EnvIn ins IfmaField.pre_reduce) :
    ∃ outs, Dalek.Gen.IfmaField.reduce.evalC ins = some outs ∧ Dalek.Gen.IfmaField.reduce.evalW ins = outs ∧
      EnvIn outs Dalek.Gen.Norm.IfmaField.reduce_post :=
  Prog.norm_safe Dalek.Gen.Norm.IfmaField.reduce_norm_ok (itvsLe_refl _) hin

theorem unreduce_safe (ins : List Nat) (hin : EnvIn ins IfmaField.pre_unreduce) :
    ∃ outs, Dalek.Gen.IfmaField.unreduce.evalC ins = some outs ∧ Dalek.Gen.IfmaField.unreduce.evalW ins = outs ∧
      EnvIn outs Dalek.Gen.Norm.IfmaField.unreduce_post :=
  Prog.norm_safe Dalek.Gen.Norm.IfmaField.unreduce_norm_ok (itvsLe_refl _) hin

theorem neg_safe (ins : List Nat) (hin : EnvIn ins IfmaField.pre_neg) :
    ∃ outs, Dalek.Gen.IfmaField.neg.evalC ins = some outs ∧ Dalek.Gen.IfmaField.neg.evalW ins = outs ∧
      EnvIn outs Dalek.Gen.Norm.IfmaField.neg_post :=
  Prog.norm_safe Dalek.Gen.Norm.IfmaField.neg_norm_ok (itvsLe_refl _) hin

theorem mul_safe (ins : List Nat) (hin : EnvIn ins IfmaField.pre_mul) :
    ∃ outs, Dalek.Gen.IfmaField.mul.evalC ins = some outs ∧ Dalek.Gen.IfmaField.mul.evalW ins = outs ∧
      EnvIn outs Dalek.Gen.Norm.IfmaField.mul_post :=
  Prog.norm_safe Dalek.Gen.Norm.IfmaField.mul_norm_ok (itvsLe_refl _) hin

theorem mul_consts_safe (ins : List Nat) (hin : EnvIn ins IfmaField.pre_mul_consts) :
    ∃ outs, Dalek.Gen.IfmaField.mul_consts.evalC ins = some outs ∧ Dalek.Gen.IfmaField.mul_consts.evalW ins = outs ∧
      EnvIn outs Dalek.Gen.Norm.IfmaField.mul_consts_post :=
  Prog.norm_safe Dalek.Gen.Norm.IfmaField.mul_consts_norm_ok (itvsLe_refl _) hin

theorem square_safe (ins : List Nat) (hin : EnvIn ins IfmaField.pre_square) :
    ∃ outs, Dalek.Gen.IfmaField.square.evalC ins = some outs ∧ Dalek.Gen.IfmaField.square.evalW ins = outs ∧
      EnvIn outs Dalek.Gen.Norm.IfmaField.square_post :=
  Prog.norm_safe Dalek.Gen.Norm.IfmaField.square_norm_ok (itvsLe_refl _) hin

theorem conditional_select_safe (ins : List Nat) (hin : EnvIn ins IfmaField.pre_conditional_select) :
    ∃ outs, Dalek.Gen.IfmaField.conditional_select.evalC ins = some outs ∧ Dalek.Gen.IfmaField.conditional_select.evalW ins = outs ∧
      EnvIn outs Dalek.Gen.Norm.IfmaField.conditional_select_post :=
  Prog.norm_safe Dalek.Gen.Norm.IfmaField.conditional_select_norm_ok (itvsLe_refl _) hin

theorem conditional_assign_safe (ins : List Nat) (hin : EnvIn ins IfmaField.pre_conditional_assign) :
    ∃ outs, Dalek.Gen.IfmaField.conditional_assign.evalC ins = some outs ∧ Dalek.Gen.IfmaField.conditional_assign.evalW ins = outs ∧
      EnvIn outs Dalek.Gen.Norm.IfmaField.conditional_assign_post :=
  Prog.norm_safe Dalek.Gen.Norm.IfmaField.conditional_assign_norm_ok (itvsLe_refl _) hin

theorem shuffle_AAAA_safe (ins : List Nat) (hin : EnvIn ins IfmaField.pre_shuffle_AAAA) :
    ∃ outs, Dalek.Gen.IfmaField.shuffle_AAAA.evalC ins = some outs ∧ Dalek.Gen.IfmaField.shuffle_AAAA.evalW ins = outs ∧
      EnvIn outs Dalek.Gen.Norm.IfmaField.shuffle_AAAA_post :=
  Prog.norm_safe Dalek.Gen.Norm.IfmaField.shuffle_AAAA_norm_ok (itvsLe_refl _) hin

theorem reduced_shuffle_AAAA_safe (ins : List Nat) (hin : EnvIn ins IfmaField.pre_reduced_shuffle_AAAA) :
    ∃ outs, Dalek.Gen.IfmaField.reduced_shuffle_AAAA.evalC ins = some outs ∧ Dalek.Gen.IfmaField.reduced_shuffle_AAAA.evalW ins = outs ∧
      EnvIn outs Dalek.Gen.Norm.IfmaField.reduced_shuffle_AAAA_post :=
  Prog.norm_safe Dalek.Gen.Norm.IfmaField.reduced_shuffle_AAAA_norm_ok (itvsLe_refl _) hin

theorem shuffle_BBBB_safe (ins : List Nat) (hin : EnvIn ins IfmaField.pre_shuffle_BBBB) :
    ∃ outs, Dalek.Gen.IfmaField.shuffle_BBBB.evalC ins = some outs ∧ Dalek.Gen.IfmaField.shuffle_BBBB.evalW ins = outs ∧
      EnvIn outs Dalek.Gen.Norm.IfmaField.shuffle_BBBB_post :=
  Prog.norm_safe Dalek.Gen.Norm.IfmaField.shuffle_BBBB_norm_ok (itvsLe_refl _) hin

theorem reduced_shuffle_BBBB_safe (ins : List Nat) (hin : EnvIn ins IfmaField.pre_reduced_shuffle_BBBB) :
    ∃ outs, Dalek.Gen.IfmaField.reduced_shuffle_BBBB.evalC ins = some outs ∧ Dalek.Gen.IfmaField.reduced_shuffle_BBBB.evalW ins = outs ∧
      EnvIn outs Dalek.Gen.Norm.IfmaField.reduced_shuffle_BBBB_post :=
  Prog.norm_safe Dalek.Gen.Norm.IfmaField.reduced_shuffle_BBBB_norm_ok (itvsLe_refl _) hin

theorem shuffle_BADC_safe (ins : List Nat) (hin : EnvIn ins IfmaField.pre_shuffle_BADC) :
    ∃ outs, Dalek.Gen.IfmaField.shuffle_BADC.evalC ins = some outs ∧ Dalek.Gen.IfmaField.shuffle_BADC.evalW ins = outs ∧
      EnvIn outs Dalek.Gen.Norm.IfmaField.shuffle_BADC_post :=
  Prog.norm_safe Dalek.Gen.Norm.IfmaField.shuffle_BADC_norm_ok (itvsLe_refl _) hin

theorem reduced_shuffle_BADC_safe (ins : List Nat) (hin : EnvIn ins IfmaField.pre_reduced_shuffle_BADC) :
    ∃ outs, Dalek.Gen.IfmaField.reduced_shuffle_BADC.evalC ins = some outs ∧ Dalek.Gen.IfmaField.reduced_shuffle_BADC.evalW ins = outs ∧
      EnvIn outs Dalek.Gen.Norm.IfmaField.reduced_shuffle_BADC_post :=
  Prog.norm_safe Dalek.Gen.Norm.IfmaField.reduced_shuffle_BADC_norm_ok (itvsLe_refl _) hin

theorem shuffle_BACD_safe (ins : List Nat) (hin : EnvIn ins IfmaField.pre_shuffle_BACD) :
    ∃ outs, Dalek.Gen.IfmaField.shuffle_BACD.evalC ins = some outs ∧ Dalek.Gen.IfmaField.shuffle_BACD.evalW ins = outs ∧
      EnvIn outs Dalek.Gen.Norm.IfmaField.shuffle_BACD_post :=
  Prog.norm_safe Dalek.Gen.Norm.IfmaField.shuffle_BACD_norm_ok (itvsLe_refl _) hin

theorem reduced_shuffle_BACD_safe (ins : List Nat) (hin : EnvIn ins IfmaField.pre_reduced_shuffle_BACD) :
    ∃ outs, Dalek.Gen.IfmaField.reduced_shuffle_BACD.evalC ins = some outs ∧ Dalek.Gen.IfmaField.reduced_shuffle_BACD.evalW ins = outs ∧
      EnvIn outs Dalek.Gen.Norm.IfmaField.reduced_shuffle_BACD_post :=
  Prog.norm_safe Dalek.Gen.Norm.IfmaField.reduced_shuffle_BACD_norm_ok (itvsLe_refl _) hin

theorem shuffle_ADDA_safe (ins : List Nat) (hin : EnvIn ins IfmaField.pre_shuffle_ADDA) :
    ∃ outs, Dalek.Gen.IfmaField.shuffle_ADDA.evalC ins = some outs ∧ Dalek.Gen.IfmaField.shuffle_ADDA.evalW ins = outs ∧
      EnvIn outs Dalek.Gen.Norm.IfmaField.shuffle_ADDA_post :=
  Prog.norm_safe Dalek.Gen.Norm.IfmaField.shuffle_ADDA_norm_ok (itvsLe_refl _) hin

theorem reduced_shuffle_ADDA_safe (ins : List Nat) (hin : EnvIn ins IfmaField.pre_reduced_shuffle_ADDA) :
    ∃ outs, Dalek.Gen.IfmaField.reduced_shuffle_ADDA.evalC ins = some outs ∧ Dalek.Gen.IfmaField.reduced_shuffle_ADDA.evalW ins = outs ∧
      EnvIn outs Dalek.Gen.Norm.IfmaField.reduced_shuffle_ADDA_post :=
  Prog.norm_safe Dalek.Gen.Norm.IfmaField.reduced_shuffle_ADDA_norm_ok (itvsLe_refl _) hin

theorem shuffle_CBCB_safe (ins : List Nat) (hin : EnvIn ins IfmaField.pre_shuffle_CBCB) :
    ∃ outs, Dalek.Gen.IfmaField.shuffle_CBCB.evalC ins = some outs ∧ Dalek.Gen.IfmaField.shuffle_CBCB.evalW ins = outs ∧
      EnvIn outs Dalek.Gen.Norm.IfmaField.shuffle_CBCB_post :=
  Prog.norm_safe Dalek.Gen.Norm.IfmaField.shuffle_CBCB_norm_ok (itvsLe_refl _) hin

theorem reduced_shuffle_CBCB_safe (ins : List Nat) (hin : EnvIn ins IfmaField.pre_reduced_shuffle_CBCB) :
    ∃ outs, Dalek.Gen.IfmaField.reduced_shuffle_CBCB.evalC ins = some outs ∧ Dalek.Gen.IfmaField.reduced_shuffle_CBCB.evalW ins = outs ∧
      EnvIn outs Dalek.Gen.Norm.IfmaField.reduced_shuffle_CBCB_post :=
  Prog.norm_safe Dalek.Gen.Norm.IfmaField.reduced_shuffle_CBCB_norm_ok (itvsLe_refl _) hin

theorem shuffle_ABDC_safe (ins : List Nat) (hin : EnvIn ins IfmaField.pre_shuffle_ABDC) :
    ∃ outs, Dalek.Gen.IfmaField.shuffle_ABDC.evalC ins = some outs ∧ Dalek.Gen.IfmaField.shuffle_ABDC.evalW ins = outs ∧
      EnvIn outs Dalek.Gen.Norm.IfmaField.shuffle_ABDC_post :=
  Prog.norm_safe Dalek.Gen.Norm.IfmaField.shuffle_ABDC_norm_ok (itvsLe_refl _) hin

theorem reduced_shuffle_ABDC_safe (ins : List Nat) (hin : EnvIn ins IfmaField.pre_reduced_shuffle_ABDC) :
    ∃ outs, Dalek.Gen.IfmaField.reduced_shuffle_ABDC.evalC ins = some outs ∧ Dalek.Gen.IfmaField.reduced_shuffle_ABDC.evalW ins = outs ∧
      EnvIn outs Dalek.Gen.Norm.IfmaField.reduced_shuffle_ABDC_post :=
  Prog.norm_safe Dalek.Gen.Norm.IfmaField.reduced_shuffle_ABDC_norm_ok (itvsLe_refl _) hin

theorem shuffle_ABAB_safe (ins : List Nat) (hin : EnvIn ins IfmaField.pre_shuffle_ABAB) :
    ∃ outs, Dalek.Gen.IfmaField.shuffle_ABAB.evalC ins = some outs ∧ Dalek.Gen.IfmaField.shuffle_ABAB.evalW ins = outs ∧
      EnvIn outs Dalek.Gen.Norm.IfmaField.shuffle_ABAB_post :=
  Prog.norm_safe Dalek.Gen.Norm.IfmaField.shuffle_ABAB_norm_ok (itvsLe_refl _) hin

theorem reduced_shuffle_ABAB_safe (ins : List Nat) (hin : EnvIn ins IfmaField.pre_reduced_shuffle_ABAB) :
    ∃ outs, Dalek.Gen.IfmaField.reduced_shuffle_ABAB.evalC ins = some outs ∧ Dalek.Gen.IfmaField.reduced_shuffle_ABAB.evalW ins = outs ∧
      EnvIn outs Dalek.Gen.Norm.IfmaField.reduced_shuffle_ABAB_post :=
  Prog.norm_safe Dalek.Gen.Norm.IfmaField.reduced_shuffle_ABAB_norm_ok (itvsLe_refl _) hin

theorem shuffle_DBBD_safe (ins : List Nat) (hin : EnvIn ins IfmaField.pre_shuffle_DBBD) :
    ∃ outs, Dalek.Gen.IfmaField.shuffle_DBBD.evalC ins = some outs ∧ Dalek.Gen.IfmaField.shuffle_DBBD.evalW ins = outs ∧
      EnvIn outs Dalek.Gen.Norm.IfmaField.shuffle_DBBD_post :=
  Prog.norm_safe Dalek.Gen.Norm.IfmaField.shuffle_DBBD_norm_ok (itvsLe_refl _) hin

theorem reduced_shuffle_DBBD_safe (ins : List Nat) (hin : EnvIn ins IfmaField.pre_reduced_shuffle_DBBD) :
    ∃ outs, Dalek.Gen.IfmaField.reduced_shuffle_DBBD.evalC ins = some outs ∧ Dalek.Gen.IfmaField.reduced_shuffle_DBBD.evalW ins = outs ∧
      EnvIn outs Dalek.Gen.Norm.IfmaField.reduced_shuffle_DBBD_post :=
  Prog.norm_safe Dalek.Gen.Norm.IfmaField.reduced_shuffle_DBBD_norm_ok (itvsLe_refl _) hin

theorem shuffle_CACA_safe (ins : List Nat) (hin : EnvIn ins IfmaField.pre_shuffle_CACA) :
    ∃ outs, Dalek.Gen.IfmaField.shuffle_CACA.evalC ins = some outs ∧ Dalek.Gen.IfmaField.shuffle_CACA.evalW ins = outs ∧
      EnvIn outs Dalek.Gen.Norm.IfmaField.shuffle_CACA_post :=
  Prog.norm_safe Dalek.Gen.Norm.IfmaField.shuffle_CACA_norm_ok (itvsLe_refl _) hin

theorem reduced_shuffle_CACA_safe (ins : List Nat) (hin : EnvIn ins IfmaField.pre_reduced_shuffle_CACA) :
    ∃ outs, Dalek.Gen.IfmaField.reduced_shuffle_CACA.evalC ins = some outs ∧ Dalek.Gen.IfmaField.reduced_shuffle_CACA.evalW ins = outs ∧
      EnvIn outs Dalek.Gen.Norm.IfmaField.reduced_shuffle_CACA_post :=
  Prog.norm_safe Dalek.Gen.Norm.IfmaField.reduced_shuffle_CACA_norm_ok (itvsLe_refl _) hin

theorem blend_D_safe (ins : List Nat) (hin : EnvIn ins IfmaField.pre_blend_D) :
    ∃ outs, Dalek.Gen.IfmaField.blend_D.evalC ins = some outs ∧ Dalek.Gen.IfmaField.blend_D.evalW ins = outs ∧
      EnvIn outs Dalek.Gen.Norm.IfmaField.blend_D_post :=
  Prog.norm_safe Dalek.Gen.Norm.IfmaField.blend_D_norm_ok (itvsLe_refl _) hin

theorem reduced_blend_D_safe (ins : List Nat) (hin : EnvIn ins IfmaField.pre_reduced_blend_D) :
    ∃ outs, Dalek.Gen.IfmaField.reduced_blend_D.evalC ins = some outs ∧ Dalek.Gen.IfmaField.reduced_blend_D.evalW ins = outs ∧
      EnvIn outs Dalek.Gen.Norm.IfmaField.reduced_blend_D_post :=
  Prog.norm_safe Dalek.Gen.Norm.IfmaField.reduced_blend_D_norm_ok (itvsLe_refl _) hin

theorem blend_C_safe (ins : List Nat) (hin : EnvIn ins IfmaField.pre_blend_C) :
    ∃ outs, Dalek.Gen.IfmaField.blend_C.evalC ins = some outs ∧ Dalek.Gen.IfmaField.blend_C.evalW ins = outs ∧
      EnvIn outs Dalek.Gen.Norm.IfmaField.blend_C_post :=
  Prog.norm_safe Dalek.Gen.Norm.IfmaField.blend_C_norm_ok (itvsLe_refl _) hin

theorem reduced_blend_C_safe (ins : List Nat) (hin : EnvIn ins IfmaField.pre_reduced_blend_C) :
    ∃ outs, Dalek.Gen.IfmaField.reduced_blend_C.evalC ins = some outs ∧ Dalek.Gen.IfmaField.reduced_blend_C.evalW ins = outs ∧
      EnvIn outs Dalek.Gen.Norm.IfmaField.reduced_blend_C_post :=
  Prog.norm_safe Dalek.Gen.Norm.IfmaField.reduced_blend_C_norm_ok (itvsLe_refl _) hin

theorem blend_AB_safe (ins : List Nat) (hin : EnvIn ins IfmaField.pre_blend_AB) :
    ∃ outs, Dalek.Gen.IfmaField.blend_AB.evalC ins = some outs ∧ Dalek.Gen.IfmaField.blend_AB.evalW ins = outs ∧
      EnvIn outs Dalek.Gen.Norm.IfmaField.blend_AB_post :=
  Prog.norm_safe Dalek.Gen.Norm.IfmaField.blend_AB_norm_ok (itvsLe_refl _) hin

theorem reduced_blend_AB_safe (ins : List Nat) (hin : EnvIn ins IfmaField.pre_reduced_blend_AB) :
    ∃ outs, Dalek.Gen.IfmaField.reduced_blend_AB.evalC ins = some outs ∧ Dalek.Gen.IfmaField.reduced_blend_AB.evalW ins = outs ∧
      EnvIn outs Dalek.Gen.Norm.IfmaField.reduced_blend_AB_post :=
  Prog.norm_safe Dalek.Gen.Norm.IfmaField.reduced_blend_AB_norm_ok (itvsLe_refl _) hin

theorem blend_AC_safe (ins : List Nat) (hin : EnvIn ins IfmaField.pre_blend_AC) :
    ∃ outs, Dalek.Gen.IfmaField.blend_AC.evalC ins = some outs ∧ Dalek.Gen.IfmaField.blend_AC.evalW ins = outs ∧
      EnvIn outs Dalek.Gen.Norm.IfmaField.blend_AC_post :=
  Prog.norm_safe Dalek.Gen.Norm.IfmaField.blend_AC_norm_ok (itvsLe_refl _) hin

theorem reduced_blend_AC_safe (ins : List Nat) (hin : EnvIn ins IfmaField.pre_reduced_blend_AC) :
    ∃ outs, Dalek.Gen.IfmaField.reduced_blend_AC.evalC ins = some outs ∧ Dalek.Gen.IfmaField.reduced_blend_AC.evalW ins = outs ∧
      EnvIn outs Dalek.Gen.Norm.IfmaField.reduced_blend_AC_post :=
  Prog.norm_safe Dalek.Gen.Norm.IfmaField.reduced_blend_AC_norm_ok (itvsLe_refl _) hin

theorem blend_AD_safe (ins : List Nat) (hin : EnvIn ins IfmaField.pre_blend_AD) :
    ∃ outs, Dalek.Gen.IfmaField.blend_AD.evalC ins = some outs ∧ Dalek.Gen.IfmaField.blend_AD.evalW ins = outs ∧
      EnvIn outs Dalek.Gen.Norm.IfmaField.blend_AD_post :=
  Prog.norm_safe Dalek.Gen.Norm.IfmaField.blend_AD_norm_ok (itvsLe_refl _) hin

theorem reduced_blend_AD_safe (ins : List Nat) (hin : EnvIn ins IfmaField.pre_reduced_blend_AD) :
    ∃ outs, Dalek.Gen.IfmaField.reduced_blend_AD.evalC ins = some outs ∧ Dalek.Gen.IfmaField.reduced_blend_AD.evalW ins = outs ∧
      EnvIn outs Dalek.Gen.Norm.IfmaField.reduced_blend_AD_post :=
  Prog.norm_safe Dalek.Gen.Norm.IfmaField.reduced_blend_AD_norm_ok (itvsLe_refl _) hin

theorem blend_BCD_safe (ins : List Nat) (hin : EnvIn ins IfmaField.pre_blend_BCD) :
    ∃ outs, Dalek.Gen.IfmaField.blend_BCD.evalC ins = some outs ∧ Dalek.Gen.IfmaField.blend_BCD.evalW ins = outs ∧
      EnvIn outs Dalek.Gen.Norm.IfmaField.blend_BCD_post :=
  Prog.norm_safe Dalek.Gen.Norm.IfmaField.blend_BCD_norm_ok (itvsLe_refl _) hin

theorem reduced_blend_BCD_safe (ins : List Nat) (hin : EnvIn ins IfmaField.pre_reduced_blend_BCD) :
    ∃ outs, Dalek.Gen.IfmaField.reduced_blend_BCD.evalC ins = some outs ∧ Dalek.Gen.IfmaField.reduced_blend_BCD.evalW ins = outs ∧
      EnvIn outs Dalek.Gen.Norm.IfmaField.reduced_blend_BCD_post :=
  Prog.norm_safe Dalek.Gen.Norm.IfmaField.reduced_blend_BCD_norm_ok (itvsLe_refl _) hin

/-! ## readable post-conditions and how they chain -/

/-- the weak reduction maps ANY twenty u64 lanes to limbs `< 2^51 + 2^18` (`< 2^52`: a valid `F51x4Reduced`) -/
theorem reduce_post_lt (ins : List Nat) (hin : EnvIn ins IfmaField.pre_reduce) :
    ∃ outs, Dalek.Gen.IfmaField.reduce.evalC ins = some outs ∧ Dalek.Gen.IfmaField.reduce.evalW ins = outs ∧
      EnvIn outs (rep 20 (ub (2 ^ 51 + 2 ^ 18 - 1))) :=
  Prog.norm_safe Dalek.Gen.Norm.IfmaField.reduce_norm_ok (by decide +kernel) hin

/-- `-x` of an `F51x4Reduced` is again reduced (limbs `< 2^51 + 2^10`) -/
theorem neg_post_lt (ins : List Nat) (hin : EnvIn ins IfmaField.pre_neg) :
    ∃ outs, Dalek.Gen.IfmaField.neg.evalC ins = some outs ∧ Dalek.Gen.IfmaField.neg.evalW ins = outs ∧
      EnvIn outs (rep 20 (ub (2 ^ 51 + 2 ^ 10 - 1))) :=
  Prog.norm_safe Dalek.Gen.Norm.IfmaField.neg_norm_ok (by decide +kernel) hin

/-- products / squares of reduced vectors have limbs `< 2^56`, products by u32 constants `< 2^53` (unreduced: they
must pass through `reduce` before the next multiplication, which the type system of the source enforces) -/
theorem mul_post_lt (ins : List Nat) (hin : EnvIn ins IfmaField.pre_mul) :
    ∃ outs, Dalek.Gen.IfmaField.mul.evalC ins = some outs ∧ Dalek.Gen.IfmaField.mul.evalW ins = outs ∧
      EnvIn outs (rep 20 (ub (2 ^ 56 - 1))) :=
  Prog.norm_safe Dalek.Gen.Norm.IfmaField.mul_norm_ok (by decide +kernel) hin

theorem square_post_lt (ins : List Nat) (hin : EnvIn ins IfmaField.pre_square) :
    ∃ outs, Dalek.Gen.IfmaField.square.evalC ins = some outs ∧ Dalek.Gen.IfmaField.square.evalW ins = outs ∧
      EnvIn outs (rep 20 (ub (2 ^ 56 - 1))) :=
  Prog.norm_safe Dalek.Gen.Norm.IfmaField.square_norm_ok (by decide +kernel) hin

theorem mul_consts_post_lt (ins : List Nat) (hin : EnvIn ins IfmaField.pre_mul_consts) :
    ∃ outs, Dalek.Gen.IfmaField.mul_consts.evalC ins = some outs ∧ Dalek.Gen.IfmaField.mul_consts.evalW ins = outs ∧
      EnvIn outs (rep 20 (ub (2 ^ 53 - 1))) :=
  Prog.norm_safe Dalek.Gen.Norm.IfmaField.mul_consts_norm_ok (by decide +kernel) hin

/-- `diff_sum` of a vector `≤ 32p` lane-wise has limbs `< 2^57` -/
theorem diff_sum_post_lt (ins : List Nat) (hin : EnvIn ins IfmaField.pre_diff_sum) :
    ∃ outs, Dalek.Gen.IfmaField.diff_sum.evalC ins = some outs ∧ Dalek.Gen.IfmaField.diff_sum.evalW ins = outs ∧
      EnvIn outs (rep 20 (ub (2 ^ 57 - 1))) :=
  Prog.norm_safe Dalek.Gen.Norm.IfmaField.diff_sum_norm_ok (by decide +kernel) hin

/-- reduced vectors are admissible everywhere: as operands of `mul`, `square`, `mul_consts`, `neg`, and (being
`≤ 32p` lane-wise) of `negate_lazy` / `diff_sum`.  The ROUND bound `< 2^56` of `mul_post_lt` is not inside the contract
of `negate_lazy` (the limbs of `32p` are `2^56 − 608`, `2^56 − 32`); the ANALYSED post-condition of a product is:
see `mul_post_le32p`. -/
theorem reduced_admissible :
    itvsLe IfmaField.reduced IfmaField.pre_negate_lazy = true ∧ itvsLe IfmaField.reduced IfmaField.pre_diff_sum = true ∧
    itvsLe (rep 20 (ub (2 ^ 51 + 2 ^ 18 - 1))) IfmaField.reduced = true ∧
    itvsLe (rep 20 (ub (2 ^ 56 - 1))) IfmaField.pre_negate_lazy = false := by decide +kernel

/-- the multiplication never wraps a lane, whatever the inputs (the 52-bit multiplier masks them); the contract
`limbs < 2^52` is needed for the VALUE (`Dalek.Props.C01.Ifma.mul_spec`), not for safety.  `negate_lazy` needs its
contract: lane 0 equal to `32 (2^51 − 19) + 1` wraps. -/
theorem headroom :
    (Dalek.Gen.IfmaField.mul.norm (rep 40 (ub (2 ^ 64 - 1)))).isSome = true ∧
    (Dalek.Gen.IfmaField.square.norm (rep 20 (ub (2 ^ 64 - 1)))).isSome = true ∧
    Dalek.Gen.IfmaField.negate_lazy.evalC ((32 * (2 ^ 51 - 19) + 1) :: List.replicate 19 0) = none := by
  rw [Prog.norm_isSome, Prog.norm_isSome]
  decide +kernel

/-! ## unreduced products are fed to `negate_lazy` / `diff_sum` (the point formulas do `(a*b).negate_lazy()`) -/

/-- The analysed post-condition of `&x * &y` for reduced operands (all limbs `< 2^52`: the loose contract
`reduced ++ reduced`) is inside the contracts of `negate_lazy` and `diff_sum` (lane `≤` lane of `32p`): a product
may be negated / `diff_sum`med without an intermediate reduction. -/
theorem mul_post_le32p :
    itvsLe Dalek.Gen.Norm.IfmaField.mul_post IfmaField.pre_negate_lazy = true ∧
    itvsLe Dalek.Gen.Norm.IfmaField.mul_post IfmaField.pre_diff_sum = true := by decide +kernel

/-- the same for `x.square()` -/
theorem square_post_le32p :
    itvsLe Dalek.Gen.Norm.IfmaField.square_post IfmaField.pre_negate_lazy = true ∧
    itvsLe Dalek.Gen.Norm.IfmaField.square_post IfmaField.pre_diff_sum = true := by decide +kernel

/-- ... and consequently, for inputs inside `pre_mul`, the output of `mul` is an admissible input of `negate_lazy` -/
theorem mul_then_negate_lazy_safe (ins : List Nat) (hin : EnvIn ins IfmaField.pre_mul) :
    ∃ prod outs, Dalek.Gen.IfmaField.mul.evalC ins = some prod ∧ Dalek.Gen.IfmaField.mul.evalW ins = prod ∧
      Dalek.Gen.IfmaField.negate_lazy.evalC prod = some outs ∧ Dalek.Gen.IfmaField.negate_lazy.evalW prod = outs := by
  obtain ⟨prod, h1, h2, h3⟩ := mul_safe ins hin
  obtain ⟨outs, g1, g2, _⟩ := negate_lazy_safe prod (EnvIn_of_itvsLe h3 mul_post_le32p.1)
  exact ⟨prod, outs, h1, h2, g1, g2⟩

/-- the exact range of the outputs of `F51x4Reduced::from` (the only way to make an `F51x4Reduced` from arbitrary
lanes): limb-0 lanes `≤ 2^51 − 1 + 19 (2^13 − 1)`, the other lanes `≤ 2^51 − 1 + (2^13 − 1)` -/
def reduceRange : List Itv :=
  rep 4 (ub (2 ^ 51 - 1 + 19 * (2 ^ 13 - 1))) ++ rep 16 (ub (2 ^ 51 - 1 + (2 ^ 13 - 1)))

/-- `reduceRange` IS the analysed post-condition of `reduce` on any twenty u64 lanes -/
theorem reduce_post_eq_reduceRange : Dalek.Gen.Norm.IfmaField.reduce_post = reduceRange := by decide +kernel

/-- **The defect fixed by /repo commit f67a738** (`negate_lazy` now subtracts from `32p` instead of `16p`).
Witness, element A only (IFMA lane order `4 i + j`; elements B, C, D are 0):
`x = [2^51 + 155627, 2^51 + 1, 2^51 + 1, 2^51 + 1, 1005830831932087]`,
`y = [2^51 + 155613, 2^51 − 1, 2^51 − 1, 2^51 − 1, 1591960409831878]`.
* Both operands are REACHABLE values of the type `F51x4Reduced`: they are the outputs of `reduce`
  (`F51x4Reduced::from`) on the u64 vectors `xin`, `yin` below, hence inside `reduceRange` (and inside `pre_mul`).
* No lane wraps in `&x * &y` (`evalC = some (evalW …)`), and the limb-4 word of element A of the product is
  `36028797018991902 = (2^55 − 16) + 27950`, LARGER than the limb `2^55 − 16 = 36028797018963952` of `16p`: the product
  is not `≤ 16p` lane-wise (`le16p`), so with the OLD constants the lane subtraction `16p − z` of `negate_lazy` wraps on
  this input -- the checked semantics of that `sub` fails (last conjunct), and the wrapping (real SIMD) semantics returns
  a word that is off by `2^64`, i.e. a wrong `(x*y).negate_lazy()`.
* With the NEW constants (`32p`) the product is inside `pre_negate_lazy`.
(The witness handed over with the fix, `y_0 = 2^51 + 155641`, lies 13 above the exact maximum `2^51 − 1 + 19·8191` of a
`reduce` output; the one used here was found by search inside the exact range.) -/
theorem mul_output_can_exceed_16p :
    let xin : List Nat := [6755399441055742, 0, 0, 0, 6755399441055743, 0, 0, 0, 6755399441055743, 0, 0, 0,
      2251799813685247, 0, 0, 0, 18445498104727798455, 0, 0, 0]
    let yin : List Nat := [2251799813685232, 0, 0, 0, 2251799813685247, 0, 0, 0, 2251799813685247, 0, 0, 0,
      2251799813685247, 0, 0, 0, 18446084234305698246, 0, 0, 0]
    let x : List Nat := [2251799813840875, 0, 0, 0, 2251799813685249, 0, 0, 0, 2251799813685249, 0, 0, 0,
      2251799813685249, 0, 0, 0, 1005830831932087, 0, 0, 0]
    let y : List Nat := [2251799813840861, 0, 0, 0, 2251799813685247, 0, 0, 0, 2251799813685247, 0, 0, 0,
      2251799813685247, 0, 0, 0, 1591960409831878, 0, 0, 0]
    let prod := Dalek.Gen.IfmaField.mul.evalW (x ++ y)
    Dalek.Gen.IfmaField.reduce.evalC xin = some x ∧ Dalek.Gen.IfmaField.reduce.evalC yin = some y ∧
    EnvIn (x ++ y) (reduceRange ++ reduceRange) ∧ EnvIn (x ++ y) IfmaField.pre_mul ∧
    Dalek.Gen.IfmaField.mul.evalC (x ++ y) = some prod ∧
    prod.getD 16 0 = 36028797018991902 ∧ prod.getD 16 0 > 36028797018963952 ∧
    ¬ EnvIn prod IfmaField.le16p ∧ EnvIn prod IfmaField.pre_negate_lazy ∧
    (E.sub 64 (.c 36028797018963952) (.v 16)).evalC prod = none := by
  intro xin yin x y prod
  -- a concrete run of `mul` is dear for the kernel (its environment grows by appending).  Inside a contract the checked
  -- run returns the value of the wrapping run (`Prog.evalC_eq_evalW_of_norm`), and that of `mul` is the value of the
  -- let-chain `mul_fn`, evaluated once
  have ev : (EnvIn xin IfmaField.pre_reduce ∧ Dalek.Gen.IfmaField.reduce.evalW xin = x) ∧
      (EnvIn yin IfmaField.pre_reduce ∧ Dalek.Gen.IfmaField.reduce.evalW yin = y) ∧
      EnvIn (x ++ y) (reduceRange ++ reduceRange) ∧ EnvIn (x ++ y) IfmaField.pre_mul ∧
      Dalek.Gen.Norm.IfmaField.mul_fn 2251799813840875 0 0 0 2251799813685249 0 0 0 2251799813685249 0 0 0
        2251799813685249 0 0 0 1005830831932087 0 0 0 2251799813840861 0 0 0 2251799813685247 0 0 0
        2251799813685247 0 0 0 2251799813685247 0 0 0 1591960409831878 0 0 0 =
      toZ [1947724638790242, 0, 0, 0, 10954899672847198, 0, 0, 0, 15458499300217690, 0, 0, 0,
        22573107901648742, 0, 0, 0, 36028797018991902, 0, 0, 0] := by decide +kernel +revert
  obtain ⟨⟨hxin, hx⟩, ⟨hyin, hy⟩, hr, hin, hfn⟩ := ev
  obtain ⟨out, hC, hW, _, hZ⟩ := Prog.norm_sound _ _ _ _ Dalek.Gen.Norm.IfmaField.mul_norm_ok _ hin
  have hp : prod = _ := hW.trans
    (List.map_injective_iff.2 Int.ofNat_injective (hZ.symm.trans ((Dalek.Gen.Norm.IfmaField.mul_fn_ok ..).trans hfn)))
  refine ⟨(Prog.evalC_eq_evalW_of_norm _ _ _ _ Dalek.Gen.Norm.IfmaField.reduce_norm_ok _ hxin).trans (congrArg some hx),
    (Prog.evalC_eq_evalW_of_norm _ _ _ _ Dalek.Gen.Norm.IfmaField.reduce_norm_ok _ hyin).trans (congrArg some hy),
    hr, hin, hC.trans (congrArg some hW.symm), ?_⟩
  rw [hp]
  decide +kernel

/-! Non-vacuity: the all-lanes-at-the-bound inputs are inside the contracts. -/
example : EnvIn (IfmaField.pre_new.map (·.hi)) IfmaField.pre_new := by decide +kernel
example : EnvIn (IfmaField.pre_negate_lazy.map (·.hi)) IfmaField.pre_negate_lazy := by decide +kernel
example : EnvIn (IfmaField.pre_diff_sum.map (·.hi)) IfmaField.pre_diff_sum := by decide +kernel
example : EnvIn (IfmaField.pre_reduce.map (·.hi)) IfmaField.pre_reduce := by decide +kernel
example : EnvIn (IfmaField.pre_neg.map (·.hi)) IfmaField.pre_neg := by decide +kernel
example : EnvIn (IfmaField.pre_add.map (·.hi)) IfmaField.pre_add := by decide +kernel
example : EnvIn (IfmaField.pre_mul_consts.map (·.hi)) IfmaField.pre_mul_consts := by decide +kernel
example : EnvIn (IfmaField.pre_square.map (·.hi)) IfmaField.pre_square := by decide +kernel
example : EnvIn (IfmaField.pre_mul.map (·.hi)) IfmaField.pre_mul := by decide +kernel
example : EnvIn (IfmaField.pre_conditional_select.map (·.hi)) IfmaField.pre_conditional_select := by decide +kernel
example : EnvIn (IfmaField.pre_blend_AB.map (·.hi)) IfmaField.pre_blend_AB := by decide +kernel
example : EnvIn (IfmaField.pre_shuffle_BADC.map (·.hi)) IfmaField.pre_shuffle_BADC := by decide +kernel
example : EnvIn (IfmaField.pre_split.map (·.hi)) IfmaField.pre_split := by decide +kernel

end Dalek.Props.C11.Ifma
