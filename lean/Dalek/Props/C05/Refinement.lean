import Dalek.Proofs.AlgRefineOk
import Dalek.Props.C03.Formulas
/-!
# C05 / C01+C11+C03 capstone — the limb-level execution of every translated formula refines its field-level meaning

The group formulas, the ladder step, the encoders / decoders and the exponent chains are translated ONCE from the
Rust source into AlgIR programs (`Dalek.Gen.Alg*`).  They are given meaning

* at the LIMB level by `limbOps B` (debug build: checked arithmetic, `none` = panic) and `limbOpsW B` (release
  build), every field operation being the regenerated limb kernel of the backend `B` (`B51`: serial u64, `B26`:
  serial u32);
* at the FIELD level by `zmodOps` over `ZMod p`, the interpretation all algebraic theorems (C03, C06, C07) are about.

`all_formulas_refine51/26` (`Dalek.Proofs.AlgRefine.Refines`): for EVERY translated formula of the table
`Dalek.Props.C11.Formulas.sigs` (all 51 items) and ALL limb inputs inside the type invariants of C11: no statement
panics in the debug build, debug = release, the outputs are inside the type invariants, and the VALUES of the output
limbs (`v51` / `v26`; a choice `[c]` has the value `c`) are exactly the outputs of the `zmodOps` run on the values of
the input limbs.  Proof: `AProg.run_rel` with the operation-wise three-way relation `specOps_rel`, whose cases are
the kernel value theorems of C01 (`mul_spec`, `sub_spec`, `add_spec`, `neg_spec`, `pow2k_spec`, `square2…`,
`as_bytes_canonical`) and the constant table.

NOTE on the hypothesis.  The C01 value theorems hold inside the DOCUMENTED CONTRACT of each kernel (they go through
the normal form the analyser computes at the contract vector), so the abstract interpretation used here is the
"contracts compose" one (`specOps`: operands inside the contract ⇒ fixed post-condition of the contract), not the
per-call analysis `boundOps` of C11; every formula passes it with the same type invariants (`all_refOk51/26`, cheap
`decide +kernel`).  The u32 `add` needed a wider contract than the registered one (`add26_wide_spec`).

Corollaries: `backends_agree_on_formulas` (C05 at formula level: the u64 and u32 executions of any formula yield
equal field values, hence — `backends_agree_on_bytes` — equal canonical encodings); `limb_add_refines51/26`
(limb-level `EdwardsPoint + EdwardsPoint` on representatives of `P`, `Q` returns a representative of `P + Q`);
`limb_decompress_agrees51` (limb-level decompression agrees with `Spec.decompress`).
-/
namespace Dalek.Props.C05.Refinement
open Dalek.IR Dalek.Gen Dalek.Model.AlgBounds Dalek.Proofs Dalek.Proofs.AlgRefine Dalek.Proofs.AlgBoundsSound
open Dalek.Props.C11.Formulas
open Dalek.Edwards
open Dalek.Bridge (Ed)

/-! ## every formula refines its field-level meaning -/

/-- serial u64: every translated formula, from the C11 type invariants -/
theorem all_formulas_refine51 : ∀ s ∈ sigs I51, Refines B51 v51 s.F s.pre s.post :=
  fun s hs => Sig.refines_of_ok spec51 (all_refOk51 s hs)

/-- serial u32: every translated formula, from the C11 type invariants -/
theorem all_formulas_refine26 : ∀ s ∈ sigs I26, Refines B26 v26 s.F s.pre s.post :=
  fun s hs => Sig.refines_of_ok spec26 (all_refOk26 s hs)

/-- what it says, unfolded, for one formula (the Montgomery ladder step, serial u32) -/
example (ins : List (List Nat)) (h : EnvsIn ins (LadderStep I26)) :
    arunBody limbOps26 AlgMontgomery.differential_add_and_double.body (ins.map some) =
      (arunBody limbOpsW26 AlgMontgomery.differential_add_and_double.body ins).map some ∧
    AlgMontgomery.differential_add_and_double.run limbOps26 (ins.map some) =
      (AlgMontgomery.differential_add_and_double.run limbOpsW26 ins).map some ∧
    EnvsIn (AlgMontgomery.differential_add_and_double.run limbOpsW26 ins) [I26.fe, I26.fe, I26.fe, I26.fe] ∧
    (AlgMontgomery.differential_add_and_double.run limbOpsW26 ins).map v26 =
      AlgMontgomery.differential_add_and_double.run zmodOps (ins.map v26) :=
  Sig.refines_of_ok spec26 (all_refOk26 (sig_Montgomery_differential_add_and_double I26) (by simp [sigs])) ins h

/-! ## (a) the two serial backends agree on every formula -/

/-- **C05 at formula level.**  For every translated formula (entry `i` of the table): if the u64 limb inputs and
the u32 limb inputs are inside their type invariants and represent the same field elements, then the u64 and the
u32 limb executions (neither of which panics) return limbs representing the SAME field elements (and equal
choices). -/
theorem backends_agree_on_formulas (i : Nat) (s51 s26 : Sig) (h51 : (sigs I51)[i]? = some s51)
    (h26 : (sigs I26)[i]? = some s26) (ins51 ins26 : List (List Nat))
    (hin51 : EnvsIn ins51 s51.pre) (hin26 : EnvsIn ins26 s26.pre) (hval : ins51.map v51 = ins26.map v26) :
    s51.F = s26.F ∧ (s51.F.run limbOpsW51 ins51).map v51 = (s26.F.run limbOpsW26 ins26).map v26 := by
  have hF : s51.F = s26.F := by
    have := congrArg (fun l => l[i]?) sigs_same_programs
    simp only [List.getElem?_map, h51, h26, Option.map_some, Option.some.injEq] at this
    exact this
  refine ⟨hF, ?_⟩
  obtain ⟨_, _, _, r51⟩ := all_formulas_refine51 s51 (List.mem_of_getElem? h51) ins51 hin51
  obtain ⟨_, _, _, r26⟩ := all_formulas_refine26 s26 (List.mem_of_getElem? h26) ins26 hin26
  show (s51.F.run (limbOpsW B51) ins51).map v51 = (s26.F.run (limbOpsW B26) ins26).map v26
  rw [r51, r26, hval, hF]

/-- … hence equal canonical bytes: limb vectors of the two backends (inside the `as_bytes` contracts) that
represent the same field element encode to the same 32 bytes, in both builds -/
theorem backends_agree_on_bytes (l51 l26 : List Nat) (h51 : EnvIn l51 C51.preBytes) (h26 : EnvIn l26 C26.preBytes)
    (hv : v51 l51 = v26 l26) :
    Field51.as_bytes.evalW l51 = Field26.as_bytes.evalW l26 ∧
    Field51.as_bytes.evalC l51 = Field26.as_bytes.evalC l26 := by
  obtain ⟨a1, a2⟩ := spec51.bytes l51 h51
  obtain ⟨b1, b2⟩ := spec26.bytes l26 h26
  have a2' : Field51.as_bytes.evalW l51 = enc (v51 l51) := a2
  have b2' : Field26.as_bytes.evalW l26 = enc (v26 l26) := b2
  have a1' : Field51.as_bytes.evalC l51 = some (Field51.as_bytes.evalW l51) := a1
  have b1' : Field26.as_bytes.evalC l26 = some (Field26.as_bytes.evalW l26) := b1
  have e : Field51.as_bytes.evalW l51 = Field26.as_bytes.evalW l26 := by rw [a2', b2', hv]
  exact ⟨e, by rw [a1', b1', e]⟩

/-! ## (b) flagship statements: limb level ⇒ group level -/

/-- generic in the backend: limb-level `&EdwardsPoint + &EdwardsPoint` -/
theorem limb_add_refines {B : Backend} {val : List Nat → Fp} {pre post : List (List Itv)}
    (h : Refines B val AlgEdwards.add pre post) {P Q : Ed} (x1 y1 z1 t1 x2 y2 z2 t2 : List Nat)
    (hin : EnvsIn [x1, y1, z1, t1, x2, y2, z2, t2] pre)
    (hP : RepExt P (val x1) (val y1) (val z1) (val t1)) (hQ : RepExt Q (val x2) (val y2) (val z2) (val t2)) :
    ∃ X Y Z T, AlgEdwards.add.run (limbOpsW B) [x1, y1, z1, t1, x2, y2, z2, t2] = [X, Y, Z, T] ∧
      AlgEdwards.add.run (limbOps B) ([x1, y1, z1, t1, x2, y2, z2, t2].map some) = [some X, some Y, some Z, some T] ∧
      EnvsIn [X, Y, Z, T] post ∧ RepExt (P + Q) (val X) (val Y) (val Z) (val T) := by
  obtain ⟨_, hC, hpost, hv⟩ := h _ hin
  obtain ⟨X', Y', Z', T', hz, hrep⟩ := Dalek.Props.C03.add_spec hP hQ
  have hz' : AlgEdwards.add.run zmodOps ([x1, y1, z1, t1, x2, y2, z2, t2].map val) = [X', Y', Z', T'] := hz
  rw [hz'] at hv
  obtain ⟨X, Y, Z, T, hl, rfl, rfl, rfl, rfl⟩ := map_eq_four hv
  rw [hl] at hC hpost
  exact ⟨X, Y, Z, T, hl, hC, hpost, hrep⟩

/-- **serial u64**: for limb vectors inside the `EdwardsPoint` invariant whose values represent the points `P` and
`Q` (`RepExt`: on the curve, `Z ≠ 0`, `XY = ZT`), the limb-level addition — in the debug build, without panic, and
identically in the release build — returns limbs inside the invariant whose values represent `P + Q`. -/
theorem limb_add_refines51 {P Q : Ed} (x1 y1 z1 t1 x2 y2 z2 t2 : List Nat)
    (hin : EnvsIn [x1, y1, z1, t1, x2, y2, z2, t2] (EdwardsPoint I51 ++ EdwardsPoint I51))
    (hP : RepExt P (v51 x1) (v51 y1) (v51 z1) (v51 t1)) (hQ : RepExt Q (v51 x2) (v51 y2) (v51 z2) (v51 t2)) :
    ∃ X Y Z T, AlgEdwards.add.run limbOpsW51 [x1, y1, z1, t1, x2, y2, z2, t2] = [X, Y, Z, T] ∧
      AlgEdwards.add.run limbOps51 ([x1, y1, z1, t1, x2, y2, z2, t2].map some) = [some X, some Y, some Z, some T] ∧
      EnvsIn [X, Y, Z, T] (EdwardsPoint I51) ∧ RepExt (P + Q) (v51 X) (v51 Y) (v51 Z) (v51 T) := by
  have h : Refines B51 v51 AlgEdwards.add (EdwardsPoint I51 ++ EdwardsPoint I51) (EdwardsPoint I51) :=
    Sig.refines_of_ok spec51 (all_refOk51 (sig_Edwards_add I51) (by simp [sigs]))
  exact limb_add_refines (B := B51) h x1 y1 z1 t1 x2 y2 z2 t2 hin hP hQ

/-- **serial u32**: the same -/
theorem limb_add_refines26 {P Q : Ed} (x1 y1 z1 t1 x2 y2 z2 t2 : List Nat)
    (hin : EnvsIn [x1, y1, z1, t1, x2, y2, z2, t2] (EdwardsPoint I26 ++ EdwardsPoint I26))
    (hP : RepExt P (v26 x1) (v26 y1) (v26 z1) (v26 t1)) (hQ : RepExt Q (v26 x2) (v26 y2) (v26 z2) (v26 t2)) :
    ∃ X Y Z T, AlgEdwards.add.run limbOpsW26 [x1, y1, z1, t1, x2, y2, z2, t2] = [X, Y, Z, T] ∧
      AlgEdwards.add.run limbOps26 ([x1, y1, z1, t1, x2, y2, z2, t2].map some) = [some X, some Y, some Z, some T] ∧
      EnvsIn [X, Y, Z, T] (EdwardsPoint I26) ∧ RepExt (P + Q) (v26 X) (v26 Y) (v26 Z) (v26 T) := by
  have h : Refines B26 v26 AlgEdwards.add (EdwardsPoint I26 ++ EdwardsPoint I26) (EdwardsPoint I26) :=
    Sig.refines_of_ok spec26 (all_refOk26 (sig_Edwards_add I26) (by simp [sigs]))
  exact limb_add_refines (B := B26) h x1 y1 z1 t1 x2 y2 z2 t2 hin hP hQ

/-- generic in the backend: limb-level Edwards decompression (both translated steps) on a decoded `y` whose value
is `Spec.feFromBytes b` agrees with `Spec.decompress b` -/
theorem limb_decompress_agrees {B : Backend} {val : List Nat → Fp} {fe : List Itv}
    (hch : ∀ c : Nat, val [c] = (c : Fp))
    (h1 : Refines B val AlgEdwards.decompress_step_1 [fe] [inv_choice, fe, fe, fe])
    (h2 : Refines B val AlgEdwards.decompress_step_2 [fe, fe, fe, inv_choice] [fe, fe, fe, fe])
    (b : List UInt8) (yL : List Nat) (hy : EnvIn yL fe) (hv : val yL = ((Spec.feFromBytes b : Nat) : Fp)) :
    ∃ okL rL yL' oneL,
      AlgEdwards.decompress_step_1.run (limbOpsW B) [yL] = [okL, rL, yL', oneL] ∧
      AlgEdwards.decompress_step_1.run (limbOps B) [some yL] = [some okL, some rL, some yL', some oneL] ∧
      (Spec.decompress b = none → okL = [0]) ∧
      (∀ p, Spec.decompress b = some p → okL = [1] ∧
        ∃ X Y Z T,
          AlgEdwards.decompress_step_2.run (limbOpsW B) [rL, yL', oneL, [if Spec.signBit b then 1 else 0]]
            = [X, Y, Z, T] ∧
          AlgEdwards.decompress_step_2.run (limbOps B)
            [some rL, some yL', some oneL, some [if Spec.signBit b then 1 else 0]] = [some X, some Y, some Z, some T] ∧
          EnvsIn [X, Y, Z, T] [fe, fe, fe, fe] ∧
          val X = (p.x : Fp) ∧ val Y = (p.y : Fp) ∧ val Z = 1 ∧ val T = (p.x : Fp) * (p.y : Fp) ∧
          ∃ h : Spec.onCurve p = true, RepExt (Dalek.Bridge.toEd p h) (val X) (val Y) (val Z) (val T)) := by
  obtain ⟨ok, r, hz1, hnone, hsome⟩ := Dalek.Props.C03.decompress_eq_spec b
  obtain ⟨_, hC1, hpost1, hv1⟩ := h1 [yL] ⟨hy, trivial⟩
  have hv1' : (AlgEdwards.decompress_step_1.run (limbOpsW B) [yL]).map val =
      [ok, r, ((Spec.feFromBytes b : Nat) : Fp), 1] := by
    rw [hv1]; show AlgEdwards.decompress_step_1.run zmodOps [val yL] = _; rw [hv, hz1]
  obtain ⟨okL, rL, yL', oneL, hl, e1, e2, e3, e4⟩ := map_eq_four hv1'
  rw [hl] at hC1 hpost1
  obtain ⟨pok, pr, py, pone, _⟩ := hpost1
  obtain ⟨c0, c1⟩ := choice_limb hch pok
  refine ⟨okL, rL, yL', oneL, hl, hC1, fun hn => c0 (by rw [e1]; exact hnone hn), fun p hp => ?_⟩
  obtain ⟨hok, hz2, hon, hrep⟩ := hsome p hp
  refine ⟨c1 (by rw [e1]; exact hok), ?_⟩
  have hs : EnvIn [if Spec.signBit b then 1 else 0] inv_choice := by
    cases Spec.signBit b <;> exact EnvIn_choice (by decide)
  obtain ⟨_, hC2, hpost2, hv2⟩ := h2 [rL, yL', oneL, [if Spec.signBit b then 1 else 0]] ⟨pr, py, pone, hs, trivial⟩
  have hsv : val [if Spec.signBit b then 1 else 0] = c2f (Spec.signBit b = true) := by
    rw [hch]; cases Spec.signBit b <;> simp [c2f]
  have hv2' : (AlgEdwards.decompress_step_2.run (limbOpsW B)
      [rL, yL', oneL, [if Spec.signBit b then 1 else 0]]).map val =
      [(p.x : Fp), (p.y : Fp), 1, (p.x : Fp) * (p.y : Fp)] := by
    rw [hv2]
    show AlgEdwards.decompress_step_2.run zmodOps
      [val rL, val yL', val oneL, val [if Spec.signBit b then 1 else 0]] = _
    rw [e2, e3, e4, hsv, hz2]
  obtain ⟨X, Y, Z, T, hl2, f1, f2, f3, f4⟩ := map_eq_four hv2'
  rw [hl2] at hC2 hpost2
  refine ⟨X, Y, Z, T, hl2, hC2, hpost2, f1, f2, f3, f4, hon, ?_⟩
  rw [f1, f2, f3, f4]; exact hrep

/-- **serial u64: limb-level decompression agrees with the specification.**  For any 32 bytes `b`:
`from_bytes` does not panic; the limb-level `decompress::step_1` on its result does not panic (debug = release) and
its validity flag is the limb `[0]` when `Spec.decompress b = none`; when `Spec.decompress b = some p` the flag is
`[1]`, and the limb-level `step_2` (on the limbs returned by step 1 and the sign bit of `b`) does not panic and
returns limbs inside the `EdwardsPoint` invariant whose values are `(x : y : 1 : x·y)` of the specification's point
`p` — a valid representative of it. -/
theorem limb_decompress_agrees51 (b : List UInt8) (hlen : b.length = 32) :
    ∃ yL okL rL yL' oneL,
      Field51.from_bytes.evalC (b.map UInt8.toNat) = some yL ∧ Field51.from_bytes.evalW (b.map UInt8.toNat) = yL ∧
      AlgEdwards.decompress_step_1.run limbOpsW51 [yL] = [okL, rL, yL', oneL] ∧
      AlgEdwards.decompress_step_1.run limbOps51 [some yL] = [some okL, some rL, some yL', some oneL] ∧
      (Spec.decompress b = none → okL = [0]) ∧
      (∀ p, Spec.decompress b = some p → okL = [1] ∧
        ∃ X Y Z T,
          AlgEdwards.decompress_step_2.run limbOpsW51 [rL, yL', oneL, [if Spec.signBit b then 1 else 0]]
            = [X, Y, Z, T] ∧
          AlgEdwards.decompress_step_2.run limbOps51
            [some rL, some yL', some oneL, some [if Spec.signBit b then 1 else 0]] = [some X, some Y, some Z, some T] ∧
          EnvsIn [X, Y, Z, T] (EdwardsPoint I51) ∧
          v51 X = (p.x : Fp) ∧ v51 Y = (p.y : Fp) ∧ v51 Z = 1 ∧ v51 T = (p.x : Fp) * (p.y : Fp) ∧
          ∃ h : Spec.onCurve p = true, RepExt (Dalek.Bridge.toEd p h) (v51 X) (v51 Y) (v51 Z) (v51 T)) := by
  obtain ⟨yL, hC, hW, hb, _, hv⟩ := Dalek.Props.C01.Bytes51.from_bytes_spec' b hlen
  have hy : EnvIn yL I51.fe := EnvIn_of_itvsLe hb (by decide +kernel)
  have hval : v51 yL = ((Spec.feFromBytes b : Nat) : Fp) := by
    unfold v51; exact natCast_eq_of_mod (by rw [← hv]; exact (Nat.mod_mod _ _).symm)
  have h1 : Refines B51 v51 AlgEdwards.decompress_step_1 [I51.fe] [inv_choice, I51.fe, I51.fe, I51.fe] :=
    Sig.refines_of_ok spec51 (all_refOk51 (sig_Edwards_decompress_step_1 I51) (by simp [sigs]))
  have h2 : Refines B51 v51 AlgEdwards.decompress_step_2 [I51.fe, I51.fe, I51.fe, inv_choice]
      [I51.fe, I51.fe, I51.fe, I51.fe] := Sig.refines_of_ok spec51 (all_refOk51 (sig_Edwards_decompress_step_2 I51) (by simp [sigs]))
  obtain ⟨okL, rL, yL', oneL, r⟩ := limb_decompress_agrees (B := B51) spec51.choice h1 h2 b yL hy hval
  exact ⟨yL, okL, rL, yL', oneL, hC, hW, r⟩

/-- **serial u32**: the same -/
theorem limb_decompress_agrees26 (b : List UInt8) (hlen : b.length = 32) :
    ∃ yL okL rL yL' oneL,
      Field26.from_bytes.evalC (b.map UInt8.toNat) = some yL ∧ Field26.from_bytes.evalW (b.map UInt8.toNat) = yL ∧
      AlgEdwards.decompress_step_1.run limbOpsW26 [yL] = [okL, rL, yL', oneL] ∧
      AlgEdwards.decompress_step_1.run limbOps26 [some yL] = [some okL, some rL, some yL', some oneL] ∧
      (Spec.decompress b = none → okL = [0]) ∧
      (∀ p, Spec.decompress b = some p → okL = [1] ∧
        ∃ X Y Z T,
          AlgEdwards.decompress_step_2.run limbOpsW26 [rL, yL', oneL, [if Spec.signBit b then 1 else 0]]
            = [X, Y, Z, T] ∧
          AlgEdwards.decompress_step_2.run limbOps26
            [some rL, some yL', some oneL, some [if Spec.signBit b then 1 else 0]] = [some X, some Y, some Z, some T] ∧
          EnvsIn [X, Y, Z, T] (EdwardsPoint I26) ∧
          v26 X = (p.x : Fp) ∧ v26 Y = (p.y : Fp) ∧ v26 Z = 1 ∧ v26 T = (p.x : Fp) * (p.y : Fp) ∧
          ∃ h : Spec.onCurve p = true, RepExt (Dalek.Bridge.toEd p h) (v26 X) (v26 Y) (v26 Z) (v26 T)) := by
  obtain ⟨yL, hC, hW, hb, _, hv⟩ := Dalek.Props.C01.Bytes26.from_bytes_spec' b hlen
  have hy : EnvIn yL I26.fe := EnvIn_of_itvsLe hb (by decide +kernel)
  have hval : v26 yL = ((Spec.feFromBytes b : Nat) : Fp) := by
    unfold v26; exact natCast_eq_of_mod (by rw [← hv]; exact (Nat.mod_mod _ _).symm)
  have h1 : Refines B26 v26 AlgEdwards.decompress_step_1 [I26.fe] [inv_choice, I26.fe, I26.fe, I26.fe] :=
    Sig.refines_of_ok spec26 (all_refOk26 (sig_Edwards_decompress_step_1 I26) (by simp [sigs]))
  have h2 : Refines B26 v26 AlgEdwards.decompress_step_2 [I26.fe, I26.fe, I26.fe, inv_choice]
      [I26.fe, I26.fe, I26.fe, I26.fe] := Sig.refines_of_ok spec26 (all_refOk26 (sig_Edwards_decompress_step_2 I26) (by simp [sigs]))
  obtain ⟨okL, rL, yL', oneL, r⟩ := limb_decompress_agrees (B := B26) spec26.choice h1 h2 b yL hy hval
  exact ⟨yL, okL, rL, yL', oneL, hC, hW, r⟩

/-! ## non-vacuity -/

/-- the hypotheses of `limb_add_refines51` are satisfiable: the limbs of the identity represent `0 : Ed` -/
example : EnvsIn (List.replicate 2 [[0, 0, 0, 0, 0], [1, 0, 0, 0, 0], [1, 0, 0, 0, 0], [0, 0, 0, 0, 0]]).flatten
      (EdwardsPoint I51 ++ EdwardsPoint I51) ∧
    RepExt (0 : Ed) (v51 [0, 0, 0, 0, 0]) (v51 [1, 0, 0, 0, 0]) (v51 [1, 0, 0, 0, 0]) (v51 [0, 0, 0, 0, 0]) := by
  refine ⟨envsIn_iff.1 (by decide +kernel), ?_⟩
  have e0 : v51 [0, 0, 0, 0, 0] = 0 := by simp [v51, Dalek.Model.FieldBytes.val51N]
  have e1 : v51 [1, 0, 0, 0, 0] = 1 := by simp [v51, Dalek.Model.FieldBytes.val51N]
  rw [e0, e1]; exact repExt_zero

/-- the all-limbs-at-the-bound inputs are inside the hypotheses of `all_formulas_refine26` for the ladder step -/
example : EnvsIn ((LadderStep I26).map (fun v => v.map (·.hi))) (sig_Montgomery_differential_add_and_double I26).pre :=
  envsIn_iff.1 (by decide +kernel)

end Dalek.Props.C05.Refinement
