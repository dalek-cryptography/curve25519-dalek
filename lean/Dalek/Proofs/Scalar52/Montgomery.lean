import Dalek.Proofs.Scalar52.Mul
/-! # Scalar52: `montgomery_reduce` divides by `R = 2^260` modulo `l` and returns the canonical representative -/
set_option exponentiation.threshold 600

namespace Dalek.Proofs.Scalar52
open Dalek.IR Dalek.Gen.Norm.Scalar52 Dalek.Gen.Consts

/-- `part1`: with `p = (sum · LFACTOR mod 2^64) mod 2^52`, `sum + p·L[0]` is divisible by `2^52`
(holds because `LFACTOR · L[0] ≡ -1 (mod 2^52)`; both are literals of the generated code). -/
theorem part1_div (s : Int) :
    (s + ((((s % 2 ^ 64) * 1439961107955227) % 2 ^ 64) % 2 ^ 52) * 671914833335277) % 2 ^ 52 = 0 := by
  omega

theorem part1_step (s n c : Int) (hn : n = (((s % 2 ^ 64) * 1439961107955227) % 2 ^ 64) % 2 ^ 52)
    (hc : c = (s + n * 671914833335277) / 2 ^ 52) :
    (0 ≤ n ∧ n < 2 ^ 52) ∧ s + n * 671914833335277 = 2 ^ 52 * c := by
  have d := part1_div s
  rw [← hn] at d
  omega

theorem part2_step (s c : Int) (hc : c = s / 2 ^ 52) : s = (s % 2 ^ 64) % 2 ^ 52 + 2 ^ 52 * c := by
  omega

theorem repZ9_nonneg (z0 z1 z2 z3 z4 z5 z6 z7 z8 : Int) (h : Lim W1 [z0, z1, z2, z3, z4, z5, z6, z7, z8]) :
    0 ≤ repZ [z0, z1, z2, z3, z4, z5, z6, z7, z8] := by
  simp only [Lim, repZ] at *
  omega

theorem top_limb_bd (r0 r1 r2 r3 r4 : Int) (hr : Lim (2 ^ 52) [r0, r1, r2, r3])
    (h0 : 0 ≤ repZ [r0, r1, r2, r3, r4]) (h : repZ [r0, r1, r2, r3, r4] < 2 * ell) : 0 ≤ r4 ∧ r4 < 2 ^ 52 := by
  simp only [Lim, repZ] at *
  rw [ell_eqZ] at h
  omega

/-- five `part1` steps (the first Montgomery factor `n0` is a parameter), four `part2` steps and `sub(·, L)` -/
def mrTail (z0 z1 z2 z3 z4 z5 z6 z7 z8 n0 : Int) : List Int :=
  let B : Int := 2 ^ 52
  let M : Int := 2 ^ 64
  let c0 := (z0 + n0 * 671914833335277) / B
  let s1 := (c0 + z1) + n0 * 3916664325105025
  let n1 := (((s1 % M) * 1439961107955227) % M) % B
  let c1 := (s1 + n1 * 671914833335277) / B
  let s2 := ((c1 + z2) + n0 * 1367801) + n1 * 3916664325105025
  let n2 := (((s2 % M) * 1439961107955227) % M) % B
  let c2 := (s2 + n2 * 671914833335277) / B
  let s3 := ((c2 + z3) + n1 * 1367801) + n2 * 3916664325105025
  let n3 := (((s3 % M) * 1439961107955227) % M) % B
  let c3 := (s3 + n3 * 671914833335277) / B
  let s4 := (((c3 + z4) + n0 * 17592186044416) + n2 * 1367801) + n3 * 3916664325105025
  let n4 := (((s4 % M) * 1439961107955227) % M) % B
  let c4 := (s4 + n4 * 671914833335277) / B
  let s5 := (((c4 + z5) + n1 * 17592186044416) + n3 * 1367801) + n4 * 3916664325105025
  let c5 := s5 / B
  let s6 := ((c5 + z6) + n2 * 17592186044416) + n4 * 1367801
  let c6 := s6 / B
  let s7 := (c6 + z7) + n3 * 17592186044416
  let c7 := s7 / B
  let s8 := (c7 + z8) + n4 * 17592186044416
  let c8 := s8 / B
  sub_fn ((s5 % M) % B) ((s6 % M) % B) ((s7 % M) % B) ((s8 % M) % B) c8
    671914833335277 3916664325105025 1367801 0 17592186044416

/-- `montgomery_reduce_fn` has this shape (structural equality, by `rfl`). -/
theorem montgomery_reduce_fn_eq (z0 z1 z2 z3 z4 z5 z6 z7 z8 : Int) :
    montgomery_reduce_fn z0 z1 z2 z3 z4 z5 z6 z7 z8 =
      mrTail z0 z1 z2 z3 z4 z5 z6 z7 z8 ((((z0 % 2 ^ 64) * 1439961107955227) % 2 ^ 64) % 2 ^ 52) := by
  kernel_rfl

/-- the arithmetic core: the intermediate `r = (N + n·l) / 2^260` -/
theorem montgomery_core (B M : Int) (hB : B = 2 ^ 52) (hM : M = 2 ^ 64) (z0 z1 z2 z3 z4 z5 z6 z7 z8 : Int)
    (n0 c0 s1 n1 c1 s2 n2 c2 s3 n3 c3 s4 n4 c4 s5 c5 s6 c6 s7 c7 s8 c8 : Int)
    (hz : Lim W1 [z0, z1, z2, z3, z4, z5, z6, z7, z8])
    (hN : repZ [z0, z1, z2, z3, z4, z5, z6, z7, z8] < 2 ^ 260 * ell)
    (hn0 : n0 = (((z0 % M) * 1439961107955227) % M) % B)
    (hc0 : c0 = (z0 + n0 * 671914833335277) / B)
    (hs1 : s1 = (c0 + z1) + n0 * 3916664325105025)
    (hn1 : n1 = (((s1 % M) * 1439961107955227) % M) % B)
    (hc1 : c1 = (s1 + n1 * 671914833335277) / B)
    (hs2 : s2 = ((c1 + z2) + n0 * 1367801) + n1 * 3916664325105025)
    (hn2 : n2 = (((s2 % M) * 1439961107955227) % M) % B)
    (hc2 : c2 = (s2 + n2 * 671914833335277) / B)
    (hs3 : s3 = ((c2 + z3) + n1 * 1367801) + n2 * 3916664325105025)
    (hn3 : n3 = (((s3 % M) * 1439961107955227) % M) % B)
    (hc3 : c3 = (s3 + n3 * 671914833335277) / B)
    (hs4 : s4 = (((c3 + z4) + n0 * 17592186044416) + n2 * 1367801) + n3 * 3916664325105025)
    (hn4 : n4 = (((s4 % M) * 1439961107955227) % M) % B)
    (hc4 : c4 = (s4 + n4 * 671914833335277) / B)
    (hs5 : s5 = (((c4 + z5) + n1 * 17592186044416) + n3 * 1367801) + n4 * 3916664325105025)
    (hc5 : c5 = s5 / B)
    (hs6 : s6 = ((c5 + z6) + n2 * 17592186044416) + n4 * 1367801)
    (hc6 : c6 = s6 / B)
    (hs7 : s7 = (c6 + z7) + n3 * 17592186044416)
    (hc7 : c7 = s7 / B)
    (hs8 : s8 = (c7 + z8) + n4 * 17592186044416)
    (hc8 : c8 = s8 / B) :
    Lim (B) [(s5 % M) % B, (s6 % M) % B, (s7 % M) % B, (s8 % M) % B, c8] ∧
    repZ [(s5 % M) % B, (s6 % M) % B, (s7 % M) % B, (s8 % M) % B, c8] < 2 * ell ∧
    2 ^ 260 * repZ [(s5 % M) % B, (s6 % M) % B, (s7 % M) % B, (s8 % M) % B, c8]
      = repZ [z0, z1, z2, z3, z4, z5, z6, z7, z8] + repZ [n0, n1, n2, n3, n4] * ell := by
  subst hB hM
  obtain ⟨b0, e0⟩ := part1_step z0 n0 c0 hn0 hc0
  obtain ⟨b1, e1⟩ := part1_step s1 n1 c1 hn1 hc1
  obtain ⟨b2, e2⟩ := part1_step s2 n2 c2 hn2 hc2
  obtain ⟨b3, e3⟩ := part1_step s3 n3 c3 hn3 hc3
  obtain ⟨b4, e4⟩ := part1_step s4 n4 c4 hn4 hc4
  have e5 := part2_step s5 c5 hc5
  have e6 := part2_step s6 c6 hc6
  have e7 := part2_step s7 c7 hc7
  have e8 := part2_step s8 c8 hc8
  have hN0 := repZ9_nonneg z0 z1 z2 z3 z4 z5 z6 z7 z8 hz
  have key : 2 ^ 260 * repZ [(s5 % 2 ^ 64) % 2 ^ 52, (s6 % 2 ^ 64) % 2 ^ 52, (s7 % 2 ^ 64) % 2 ^ 52, (s8 % 2 ^ 64) % 2 ^ 52, c8]
      = repZ [z0, z1, z2, z3, z4, z5, z6, z7, z8] + repZ [n0, n1, n2, n3, n4] * ell := by
    rw [ell_eqZ]
    simp only [repZ]
    linear_combination (-1 : Int) * e0 - 2 ^ 52 * (e1 - hs1) - 2 ^ 104 * (e2 - hs2) - 2 ^ 156 * (e3 - hs3)
      - 2 ^ 208 * (e4 - hs4) - 2 ^ 260 * (e5 - hs5) - 2 ^ 312 * (e6 - hs6) - 2 ^ 364 * (e7 - hs7) - 2 ^ 416 * (e8 - hs8)
  obtain ⟨hn', hn⟩ := repZ5_bd n0 n1 n2 n3 n4 ⟨b0, b1, b2, b3, b4, trivial⟩
  obtain ⟨hR0, h2l⟩ := lt_two_ell key hN0 hN hn' hn
  have hlr := lim_map_emod (B := 2 ^ 52) (by norm_num) [s5 % 2 ^ 64, s6 % 2 ^ 64, s7 % 2 ^ 64, s8 % 2 ^ 64]
  obtain ⟨h5, h6, h7, h8, -⟩ := hlr
  exact ⟨⟨h5, h6, h7, h8, top_limb_bd _ _ _ _ c8 ⟨h5, h6, h7, h8, trivial⟩ hR0 h2l, trivial⟩, h2l, key⟩

/-- `montgomery_reduce` (with the first factor given): canonical output `o` with `o·2^260 ≡ N (mod l)` -/
theorem mrTail_spec (z0 z1 z2 z3 z4 z5 z6 z7 z8 n0 : Int)
    (hn0 : n0 = (((z0 % 2 ^ 64) * 1439961107955227) % 2 ^ 64) % 2 ^ 52)
    (hz : Lim W1 [z0, z1, z2, z3, z4, z5, z6, z7, z8])
    (hN : repZ [z0, z1, z2, z3, z4, z5, z6, z7, z8] < 2 ^ 260 * ell) :
    ∃ o0 o1 o2 o3 o4, mrTail z0 z1 z2 z3 z4 z5 z6 z7 z8 n0 = [o0, o1, o2, o3, o4] ∧
      Lim (2 ^ 52) [o0, o1, o2, o3, o4] ∧
      (0 ≤ repZ [o0, o1, o2, o3, o4] ∧ repZ [o0, o1, o2, o3, o4] < ell) ∧
      (ell : Int) ∣ repZ [o0, o1, o2, o3, o4] * 2 ^ 260 - repZ [z0, z1, z2, z3, z4, z5, z6, z7, z8] := by
  unfold mrTail
  extract_lets B M c0 s1 n1 c1 s2 n2 c2 s3 n3 c3 s4 n4 c4 s5 c5 s6 c6 s7 c7 s8 c8
  obtain ⟨hl, h2l, key⟩ := montgomery_core B M rfl rfl z0 z1 z2 z3 z4 z5 z6 z7 z8 n0 c0 s1 n1 c1 s2 n2 c2 s3 n3 c3 s4 n4 c4
    s5 c5 s6 c6 s7 c7 s8 c8 hz hN hn0 rfl rfl rfl rfl rfl rfl rfl rfl rfl rfl rfl rfl rfl rfl rfl rfl rfl rfl rfl rfl rfl
  obtain ⟨o0, o1, o2, o3, o4, he, hlo, hv⟩ := sub_fn_L_spec _ _ _ _ _ hl h2l
  refine ⟨o0, o1, o2, o3, o4, he, hlo, ?_, ?_⟩
  · rw [hv]
    exact ⟨Int.emod_nonneg _ (by norm_num [ell]), Int.emod_lt_of_pos _ (by norm_num [ell])⟩
  · rw [hv]
    generalize repZ [(s5 % 2 ^ 64) % 2 ^ 52, (s6 % 2 ^ 64) % 2 ^ 52, (s7 % 2 ^ 64) % 2 ^ 52, (s8 % 2 ^ 64) % 2 ^ 52, c8] = R at *
    have h1 := Int.emod_add_mul_ediv R ell
    exact ⟨repZ [n0, n1, n2, n3, n4] - 2 ^ 260 * (R / ell), by linear_combination (2 : Int) ^ 260 * h1 + key⟩

theorem montgomery_reduce_fn_spec (z0 z1 z2 z3 z4 z5 z6 z7 z8 : Int)
    (hz : Lim W1 [z0, z1, z2, z3, z4, z5, z6, z7, z8])
    (hN : repZ [z0, z1, z2, z3, z4, z5, z6, z7, z8] < 2 ^ 260 * ell) :
    ∃ o0 o1 o2 o3 o4, montgomery_reduce_fn z0 z1 z2 z3 z4 z5 z6 z7 z8 = [o0, o1, o2, o3, o4] ∧
      Lim (2 ^ 52) [o0, o1, o2, o3, o4] ∧
      (0 ≤ repZ [o0, o1, o2, o3, o4] ∧ repZ [o0, o1, o2, o3, o4] < ell) ∧
      (ell : Int) ∣ repZ [o0, o1, o2, o3, o4] * 2 ^ 260 - repZ [z0, z1, z2, z3, z4, z5, z6, z7, z8] := by
  rw [montgomery_reduce_fn_eq]
  exact mrTail_spec _ _ _ _ _ _ _ _ _ _ rfl hz hN

end Dalek.Proofs.Scalar52
