import Dalek.Model.Contracts
import Dalek.IR.NormSpec
import Dalek.IR.Tactics
/-! GENERATED by tools/GenNorm.lean from the current /repo sources; do not edit. -/
namespace Dalek.Gen.Norm.FiatField26
open Dalek.IR

def add_post : List Itv := [⟨0, 67108863, 0⟩, ⟨0, 33554431, 0⟩, ⟨0, 67108864, 0⟩, ⟨0, 33554431, 0⟩, ⟨0, 67108863, 0⟩, ⟨0, 33554431, 0⟩, ⟨0, 67108863, 0⟩, ⟨0, 33554431, 0⟩, ⟨0, 67108863, 0⟩, ⟨0, 33554431, 0⟩]

def add_nprog : NProg := Prog.normProg Dalek.Gen.FiatField26.add Dalek.Model.Contracts.FiatField26.pre_add

theorem add_norm_ok : Prog.norm Dalek.Gen.FiatField26.add Dalek.Model.Contracts.FiatField26.pre_add = some (add_nprog, add_post) :=
  Prog.norm_eq_of_post (by decide +kernel)

def add_fn (x0 x1 x2 x3 x4 x5 x6 x7 x8 x9 x10 x11 x12 x13 x14 x15 x16 x17 x18 x19 : Int) : List Int :=
  let x20 : Int := (x0 + x10)
  let x21 : Int := (x1 + x11)
  let x22 : Int := (x2 + x12)
  let x23 : Int := (x3 + x13)
  let x24 : Int := (x4 + x14)
  let x25 : Int := (x5 + x15)
  let x26 : Int := (x6 + x16)
  let x27 : Int := (x7 + x17)
  let x28 : Int := (x8 + x18)
  let x29 : Int := (x9 + x19)
  let x30 : Int := ((x20 / 2 ^ (26 : Nat)) + x21)
  let x31 : Int := ((x30 / 2 ^ (25 : Nat)) + x22)
  let x32 : Int := ((x31 / 2 ^ (26 : Nat)) + x23)
  let x33 : Int := ((x32 / 2 ^ (25 : Nat)) + x24)
  let x34 : Int := ((x33 / 2 ^ (26 : Nat)) + x25)
  let x35 : Int := ((x34 / 2 ^ (25 : Nat)) + x26)
  let x36 : Int := ((x35 / 2 ^ (26 : Nat)) + x27)
  let x37 : Int := ((x36 / 2 ^ (25 : Nat)) + x28)
  let x38 : Int := ((x37 / 2 ^ (26 : Nat)) + x29)
  let x39 : Int := ((x20 % 2 ^ (26 : Nat)) + ((x38 / 2 ^ (25 : Nat)) * (19 : Int)))
  let x40 : Int := ((x39 / 2 ^ (26 : Nat)) + (x30 % 2 ^ (25 : Nat)))
  let x41 : Int := (x39 % 2 ^ (26 : Nat))
  let x42 : Int := (x40 % 2 ^ (25 : Nat))
  let x43 : Int := ((x40 / 2 ^ (25 : Nat)) + (x31 % 2 ^ (26 : Nat)))
  let x44 : Int := (x32 % 2 ^ (25 : Nat))
  let x45 : Int := (x33 % 2 ^ (26 : Nat))
  let x46 : Int := (x34 % 2 ^ (25 : Nat))
  let x47 : Int := (x35 % 2 ^ (26 : Nat))
  let x48 : Int := (x36 % 2 ^ (25 : Nat))
  let x49 : Int := (x37 % 2 ^ (26 : Nat))
  let x50 : Int := (x38 % 2 ^ (25 : Nat))
  [x41, x42, x43, x44, x45, x46, x47, x48, x49, x50]

theorem add_fn_ok (x0 x1 x2 x3 x4 x5 x6 x7 x8 x9 x10 x11 x12 x13 x14 x15 x16 x17 x18 x19 : Int) : NProg.evalZ add_nprog [x0, x1, x2, x3, x4, x5, x6, x7, x8, x9, x10, x11, x12, x13, x14, x15, x16, x17, x18, x19] = add_fn x0 x1 x2 x3 x4 x5 x6 x7 x8 x9 x10 x11 x12 x13 x14 x15 x16 x17 x18 x19 :=
  (NProg.evalZ_eq_fast _ _).trans (by kernel_rfl)

def add_ref_post : List Itv := [⟨0, 67108863, 0⟩, ⟨0, 33554431, 0⟩, ⟨0, 67108864, 0⟩, ⟨0, 33554431, 0⟩, ⟨0, 67108863, 0⟩, ⟨0, 33554431, 0⟩, ⟨0, 67108863, 0⟩, ⟨0, 33554431, 0⟩, ⟨0, 67108863, 0⟩, ⟨0, 33554431, 0⟩]

def add_ref_nprog : NProg := Prog.normProg Dalek.Gen.FiatField26.add_ref Dalek.Model.Contracts.FiatField26.pre_add_ref

theorem add_ref_norm_ok : Prog.norm Dalek.Gen.FiatField26.add_ref Dalek.Model.Contracts.FiatField26.pre_add_ref = some (add_ref_nprog, add_ref_post) :=
  Prog.norm_eq_of_post (by decide +kernel)

def add_ref_fn (x0 x1 x2 x3 x4 x5 x6 x7 x8 x9 x10 x11 x12 x13 x14 x15 x16 x17 x18 x19 : Int) : List Int :=
  let x20 : Int := (x0 + x10)
  let x21 : Int := (x1 + x11)
  let x22 : Int := (x2 + x12)
  let x23 : Int := (x3 + x13)
  let x24 : Int := (x4 + x14)
  let x25 : Int := (x5 + x15)
  let x26 : Int := (x6 + x16)
  let x27 : Int := (x7 + x17)
  let x28 : Int := (x8 + x18)
  let x29 : Int := (x9 + x19)
  let x30 : Int := ((x20 / 2 ^ (26 : Nat)) + x21)
  let x31 : Int := ((x30 / 2 ^ (25 : Nat)) + x22)
  let x32 : Int := ((x31 / 2 ^ (26 : Nat)) + x23)
  let x33 : Int := ((x32 / 2 ^ (25 : Nat)) + x24)
  let x34 : Int := ((x33 / 2 ^ (26 : Nat)) + x25)
  let x35 : Int := ((x34 / 2 ^ (25 : Nat)) + x26)
  let x36 : Int := ((x35 / 2 ^ (26 : Nat)) + x27)
  let x37 : Int := ((x36 / 2 ^ (25 : Nat)) + x28)
  let x38 : Int := ((x37 / 2 ^ (26 : Nat)) + x29)
  let x39 : Int := ((x20 % 2 ^ (26 : Nat)) + ((x38 / 2 ^ (25 : Nat)) * (19 : Int)))
  let x40 : Int := ((x39 / 2 ^ (26 : Nat)) + (x30 % 2 ^ (25 : Nat)))
  let x41 : Int := (x39 % 2 ^ (26 : Nat))
  let x42 : Int := (x40 % 2 ^ (25 : Nat))
  let x43 : Int := ((x40 / 2 ^ (25 : Nat)) + (x31 % 2 ^ (26 : Nat)))
  let x44 : Int := (x32 % 2 ^ (25 : Nat))
  let x45 : Int := (x33 % 2 ^ (26 : Nat))
  let x46 : Int := (x34 % 2 ^ (25 : Nat))
  let x47 : Int := (x35 % 2 ^ (26 : Nat))
  let x48 : Int := (x36 % 2 ^ (25 : Nat))
  let x49 : Int := (x37 % 2 ^ (26 : Nat))
  let x50 : Int := (x38 % 2 ^ (25 : Nat))
  [x41, x42, x43, x44, x45, x46, x47, x48, x49, x50]

theorem add_ref_fn_ok (x0 x1 x2 x3 x4 x5 x6 x7 x8 x9 x10 x11 x12 x13 x14 x15 x16 x17 x18 x19 : Int) : NProg.evalZ add_ref_nprog [x0, x1, x2, x3, x4, x5, x6, x7, x8, x9, x10, x11, x12, x13, x14, x15, x16, x17, x18, x19] = add_ref_fn x0 x1 x2 x3 x4 x5 x6 x7 x8 x9 x10 x11 x12 x13 x14 x15 x16 x17 x18 x19 :=
  (NProg.evalZ_eq_fast _ _).trans (by kernel_rfl)

def sub_post : List Itv := [⟨0, 67108863, 0⟩, ⟨0, 33554431, 0⟩, ⟨0, 67108864, 0⟩, ⟨0, 33554431, 0⟩, ⟨0, 67108863, 0⟩, ⟨0, 33554431, 0⟩, ⟨0, 67108863, 0⟩, ⟨0, 33554431, 0⟩, ⟨0, 67108863, 0⟩, ⟨0, 33554431, 0⟩]

def sub_nprog : NProg := Prog.normProg Dalek.Gen.FiatField26.sub Dalek.Model.Contracts.FiatField26.pre_sub

theorem sub_norm_ok : Prog.norm Dalek.Gen.FiatField26.sub Dalek.Model.Contracts.FiatField26.pre_sub = some (sub_nprog, sub_post) :=
  Prog.norm_eq_of_post (by decide +kernel)

def sub_fn (x0 x1 x2 x3 x4 x5 x6 x7 x8 x9 x10 x11 x12 x13 x14 x15 x16 x17 x18 x19 : Int) : List Int :=
  let x20 : Int := (((134217690 : Int) + x0) - x10)
  let x21 : Int := (((67108862 : Int) + x1) - x11)
  let x22 : Int := (((134217726 : Int) + x2) - x12)
  let x23 : Int := (((67108862 : Int) + x3) - x13)
  let x24 : Int := (((134217726 : Int) + x4) - x14)
  let x25 : Int := (((67108862 : Int) + x5) - x15)
  let x26 : Int := (((134217726 : Int) + x6) - x16)
  let x27 : Int := (((67108862 : Int) + x7) - x17)
  let x28 : Int := (((134217726 : Int) + x8) - x18)
  let x29 : Int := (((67108862 : Int) + x9) - x19)
  let x30 : Int := ((x20 / 2 ^ (26 : Nat)) + x21)
  let x31 : Int := ((x30 / 2 ^ (25 : Nat)) + x22)
  let x32 : Int := ((x31 / 2 ^ (26 : Nat)) + x23)
  let x33 : Int := ((x32 / 2 ^ (25 : Nat)) + x24)
  let x34 : Int := ((x33 / 2 ^ (26 : Nat)) + x25)
  let x35 : Int := ((x34 / 2 ^ (25 : Nat)) + x26)
  let x36 : Int := ((x35 / 2 ^ (26 : Nat)) + x27)
  let x37 : Int := ((x36 / 2 ^ (25 : Nat)) + x28)
  let x38 : Int := ((x37 / 2 ^ (26 : Nat)) + x29)
  let x39 : Int := ((x20 % 2 ^ (26 : Nat)) + ((x38 / 2 ^ (25 : Nat)) * (19 : Int)))
  let x40 : Int := ((x39 / 2 ^ (26 : Nat)) + (x30 % 2 ^ (25 : Nat)))
  let x41 : Int := (x39 % 2 ^ (26 : Nat))
  let x42 : Int := (x40 % 2 ^ (25 : Nat))
  let x43 : Int := ((x40 / 2 ^ (25 : Nat)) + (x31 % 2 ^ (26 : Nat)))
  let x44 : Int := (x32 % 2 ^ (25 : Nat))
  let x45 : Int := (x33 % 2 ^ (26 : Nat))
  let x46 : Int := (x34 % 2 ^ (25 : Nat))
  let x47 : Int := (x35 % 2 ^ (26 : Nat))
  let x48 : Int := (x36 % 2 ^ (25 : Nat))
  let x49 : Int := (x37 % 2 ^ (26 : Nat))
  let x50 : Int := (x38 % 2 ^ (25 : Nat))
  [x41, x42, x43, x44, x45, x46, x47, x48, x49, x50]

theorem sub_fn_ok (x0 x1 x2 x3 x4 x5 x6 x7 x8 x9 x10 x11 x12 x13 x14 x15 x16 x17 x18 x19 : Int) : NProg.evalZ sub_nprog [x0, x1, x2, x3, x4, x5, x6, x7, x8, x9, x10, x11, x12, x13, x14, x15, x16, x17, x18, x19] = sub_fn x0 x1 x2 x3 x4 x5 x6 x7 x8 x9 x10 x11 x12 x13 x14 x15 x16 x17 x18 x19 :=
  (NProg.evalZ_eq_fast _ _).trans (by kernel_rfl)

def sub_assign_post : List Itv := [⟨0, 67108863, 0⟩, ⟨0, 33554431, 0⟩, ⟨0, 67108864, 0⟩, ⟨0, 33554431, 0⟩, ⟨0, 67108863, 0⟩, ⟨0, 33554431, 0⟩, ⟨0, 67108863, 0⟩, ⟨0, 33554431, 0⟩, ⟨0, 67108863, 0⟩, ⟨0, 33554431, 0⟩]

def sub_assign_nprog : NProg := Prog.normProg Dalek.Gen.FiatField26.sub_assign Dalek.Model.Contracts.FiatField26.pre_sub_assign

theorem sub_assign_norm_ok : Prog.norm Dalek.Gen.FiatField26.sub_assign Dalek.Model.Contracts.FiatField26.pre_sub_assign = some (sub_assign_nprog, sub_assign_post) :=
  Prog.norm_eq_of_post (by decide +kernel)

def sub_assign_fn (x0 x1 x2 x3 x4 x5 x6 x7 x8 x9 x10 x11 x12 x13 x14 x15 x16 x17 x18 x19 : Int) : List Int :=
  let x20 : Int := (((134217690 : Int) + x0) - x10)
  let x21 : Int := (((67108862 : Int) + x1) - x11)
  let x22 : Int := (((134217726 : Int) + x2) - x12)
  let x23 : Int := (((67108862 : Int) + x3) - x13)
  let x24 : Int := (((134217726 : Int) + x4) - x14)
  let x25 : Int := (((67108862 : Int) + x5) - x15)
  let x26 : Int := (((134217726 : Int) + x6) - x16)
  let x27 : Int := (((67108862 : Int) + x7) - x17)
  let x28 : Int := (((134217726 : Int) + x8) - x18)
  let x29 : Int := (((67108862 : Int) + x9) - x19)
  let x30 : Int := ((x20 / 2 ^ (26 : Nat)) + x21)
  let x31 : Int := ((x30 / 2 ^ (25 : Nat)) + x22)
  let x32 : Int := ((x31 / 2 ^ (26 : Nat)) + x23)
  let x33 : Int := ((x32 / 2 ^ (25 : Nat)) + x24)
  let x34 : Int := ((x33 / 2 ^ (26 : Nat)) + x25)
  let x35 : Int := ((x34 / 2 ^ (25 : Nat)) + x26)
  let x36 : Int := ((x35 / 2 ^ (26 : Nat)) + x27)
  let x37 : Int := ((x36 / 2 ^ (25 : Nat)) + x28)
  let x38 : Int := ((x37 / 2 ^ (26 : Nat)) + x29)
  let x39 : Int := ((x20 % 2 ^ (26 : Nat)) + ((x38 / 2 ^ (25 : Nat)) * (19 : Int)))
  let x40 : Int := ((x39 / 2 ^ (26 : Nat)) + (x30 % 2 ^ (25 : Nat)))
  let x41 : Int := (x39 % 2 ^ (26 : Nat))
  let x42 : Int := (x40 % 2 ^ (25 : Nat))
  let x43 : Int := ((x40 / 2 ^ (25 : Nat)) + (x31 % 2 ^ (26 : Nat)))
  let x44 : Int := (x32 % 2 ^ (25 : Nat))
  let x45 : Int := (x33 % 2 ^ (26 : Nat))
  let x46 : Int := (x34 % 2 ^ (25 : Nat))
  let x47 : Int := (x35 % 2 ^ (26 : Nat))
  let x48 : Int := (x36 % 2 ^ (25 : Nat))
  let x49 : Int := (x37 % 2 ^ (26 : Nat))
  let x50 : Int := (x38 % 2 ^ (25 : Nat))
  [x41, x42, x43, x44, x45, x46, x47, x48, x49, x50]

theorem sub_assign_fn_ok (x0 x1 x2 x3 x4 x5 x6 x7 x8 x9 x10 x11 x12 x13 x14 x15 x16 x17 x18 x19 : Int) : NProg.evalZ sub_assign_nprog [x0, x1, x2, x3, x4, x5, x6, x7, x8, x9, x10, x11, x12, x13, x14, x15, x16, x17, x18, x19] = sub_assign_fn x0 x1 x2 x3 x4 x5 x6 x7 x8 x9 x10 x11 x12 x13 x14 x15 x16 x17 x18 x19 :=
  (NProg.evalZ_eq_fast _ _).trans (by kernel_rfl)

def mul_post : List Itv := [⟨0, 67108863, 0⟩, ⟨0, 33554431, 0⟩, ⟨0, 67108864, 0⟩, ⟨0, 33554431, 0⟩, ⟨0, 67108863, 0⟩, ⟨0, 33554431, 0⟩, ⟨0, 67108863, 0⟩, ⟨0, 33554431, 0⟩, ⟨0, 67108863, 0⟩, ⟨0, 33554431, 0⟩]

def mul_nprog : NProg := Prog.normProg Dalek.Gen.FiatField26.mul Dalek.Model.Contracts.FiatField26.pre_mul

theorem mul_norm_ok : Prog.norm Dalek.Gen.FiatField26.mul Dalek.Model.Contracts.FiatField26.pre_mul = some (mul_nprog, mul_post) :=
  Prog.norm_eq_of_post (by decide +kernel)

def mul_fn (x0 x1 x2 x3 x4 x5 x6 x7 x8 x9 x10 x11 x12 x13 x14 x15 x16 x17 x18 x19 : Int) : List Int :=
  let x20 : Int := (x9 * (x19 * (38 : Int)))
  let x21 : Int := (x9 * (x18 * (19 : Int)))
  let x22 : Int := (x9 * (x17 * (38 : Int)))
  let x23 : Int := (x9 * (x16 * (19 : Int)))
  let x24 : Int := (x9 * (x15 * (38 : Int)))
  let x25 : Int := (x9 * (x14 * (19 : Int)))
  let x26 : Int := (x9 * (x13 * (38 : Int)))
  let x27 : Int := (x9 * (x12 * (19 : Int)))
  let x28 : Int := (x9 * (x11 * (38 : Int)))
  let x29 : Int := (x8 * (x19 * (19 : Int)))
  let x30 : Int := (x8 * (x18 * (19 : Int)))
  let x31 : Int := (x8 * (x17 * (19 : Int)))
  let x32 : Int := (x8 * (x16 * (19 : Int)))
  let x33 : Int := (x8 * (x15 * (19 : Int)))
  let x34 : Int := (x8 * (x14 * (19 : Int)))
  let x35 : Int := (x8 * (x13 * (19 : Int)))
  let x36 : Int := (x8 * (x12 * (19 : Int)))
  let x37 : Int := (x7 * (x19 * (38 : Int)))
  let x38 : Int := (x7 * (x18 * (19 : Int)))
  let x39 : Int := (x7 * (x17 * (38 : Int)))
  let x40 : Int := (x7 * (x16 * (19 : Int)))
  let x41 : Int := (x7 * (x15 * (38 : Int)))
  let x42 : Int := (x7 * (x14 * (19 : Int)))
  let x43 : Int := (x7 * (x13 * (38 : Int)))
  let x44 : Int := (x6 * (x19 * (19 : Int)))
  let x45 : Int := (x6 * (x18 * (19 : Int)))
  let x46 : Int := (x6 * (x17 * (19 : Int)))
  let x47 : Int := (x6 * (x16 * (19 : Int)))
  let x48 : Int := (x6 * (x15 * (19 : Int)))
  let x49 : Int := (x6 * (x14 * (19 : Int)))
  let x50 : Int := (x5 * (x19 * (38 : Int)))
  let x51 : Int := (x5 * (x18 * (19 : Int)))
  let x52 : Int := (x5 * (x17 * (38 : Int)))
  let x53 : Int := (x5 * (x16 * (19 : Int)))
  let x54 : Int := (x5 * (x15 * (38 : Int)))
  let x55 : Int := (x4 * (x19 * (19 : Int)))
  let x56 : Int := (x4 * (x18 * (19 : Int)))
  let x57 : Int := (x4 * (x17 * (19 : Int)))
  let x58 : Int := (x4 * (x16 * (19 : Int)))
  let x59 : Int := (x3 * (x19 * (38 : Int)))
  let x60 : Int := (x3 * (x18 * (19 : Int)))
  let x61 : Int := (x3 * (x17 * (38 : Int)))
  let x62 : Int := (x2 * (x19 * (19 : Int)))
  let x63 : Int := (x2 * (x18 * (19 : Int)))
  let x64 : Int := (x1 * (x19 * (38 : Int)))
  let x65 : Int := (x9 * x10)
  let x66 : Int := (x8 * x11)
  let x67 : Int := (x8 * x10)
  let x68 : Int := (x7 * x12)
  let x69 : Int := (x7 * (x11 * (2 : Int)))
  let x70 : Int := (x7 * x10)
  let x71 : Int := (x6 * x13)
  let x72 : Int := (x6 * x12)
  let x73 : Int := (x6 * x11)
  let x74 : Int := (x6 * x10)
  let x75 : Int := (x5 * x14)
  let x76 : Int := (x5 * (x13 * (2 : Int)))
  let x77 : Int := (x5 * x12)
  let x78 : Int := (x5 * (x11 * (2 : Int)))
  let x79 : Int := (x5 * x10)
  let x80 : Int := (x4 * x15)
  let x81 : Int := (x4 * x14)
  let x82 : Int := (x4 * x13)
  let x83 : Int := (x4 * x12)
  let x84 : Int := (x4 * x11)
  let x85 : Int := (x4 * x10)
  let x86 : Int := (x3 * x16)
  let x87 : Int := (x3 * (x15 * (2 : Int)))
  let x88 : Int := (x3 * x14)
  let x89 : Int := (x3 * (x13 * (2 : Int)))
  let x90 : Int := (x3 * x12)
  let x91 : Int := (x3 * (x11 * (2 : Int)))
  let x92 : Int := (x3 * x10)
  let x93 : Int := (x2 * x17)
  let x94 : Int := (x2 * x16)
  let x95 : Int := (x2 * x15)
  let x96 : Int := (x2 * x14)
  let x97 : Int := (x2 * x13)
  let x98 : Int := (x2 * x12)
  let x99 : Int := (x2 * x11)
  let x100 : Int := (x2 * x10)
  let x101 : Int := (x1 * x18)
  let x102 : Int := (x1 * (x17 * (2 : Int)))
  let x103 : Int := (x1 * x16)
  let x104 : Int := (x1 * (x15 * (2 : Int)))
  let x105 : Int := (x1 * x14)
  let x106 : Int := (x1 * (x13 * (2 : Int)))
  let x107 : Int := (x1 * x12)
  let x108 : Int := (x1 * (x11 * (2 : Int)))
  let x109 : Int := (x1 * x10)
  let x110 : Int := (x0 * x19)
  let x111 : Int := (x0 * x18)
  let x112 : Int := (x0 * x17)
  let x113 : Int := (x0 * x16)
  let x114 : Int := (x0 * x15)
  let x115 : Int := (x0 * x14)
  let x116 : Int := (x0 * x13)
  let x117 : Int := (x0 * x12)
  let x118 : Int := (x0 * x11)
  let x119 : Int := (x0 * x10)
  let x120 : Int := (x119 + (x64 + (x63 + (x61 + (x58 + (x54 + (x49 + (x43 + (x36 + x28)))))))))
  let x121 : Int := (x120 / 2 ^ (26 : Nat))
  let x122 : Int := (x120 % 2 ^ (26 : Nat))
  let x123 : Int := (x110 + (x101 + (x93 + (x86 + (x80 + (x75 + (x71 + (x68 + (x66 + x65)))))))))
  let x124 : Int := (x111 + (x102 + (x94 + (x87 + (x81 + (x76 + (x72 + (x69 + (x67 + x20)))))))))
  let x125 : Int := (x112 + (x103 + (x95 + (x88 + (x82 + (x77 + (x73 + (x70 + (x29 + x21)))))))))
  let x126 : Int := (x113 + (x104 + (x96 + (x89 + (x83 + (x78 + (x74 + (x37 + (x30 + x22)))))))))
  let x127 : Int := (x114 + (x105 + (x97 + (x90 + (x84 + (x79 + (x44 + (x38 + (x31 + x23)))))))))
  let x128 : Int := (x115 + (x106 + (x98 + (x91 + (x85 + (x50 + (x45 + (x39 + (x32 + x24)))))))))
  let x129 : Int := (x116 + (x107 + (x99 + (x92 + (x55 + (x51 + (x46 + (x40 + (x33 + x25)))))))))
  let x130 : Int := (x117 + (x108 + (x100 + (x59 + (x56 + (x52 + (x47 + (x41 + (x34 + x26)))))))))
  let x131 : Int := (x118 + (x109 + (x62 + (x60 + (x57 + (x53 + (x48 + (x42 + (x35 + x27)))))))))
  let x132 : Int := (x121 + x131)
  let x133 : Int := (x132 / 2 ^ (25 : Nat))
  let x134 : Int := (x132 % 2 ^ (25 : Nat))
  let x135 : Int := (x133 + x130)
  let x136 : Int := (x135 / 2 ^ (26 : Nat))
  let x137 : Int := (x135 % 2 ^ (26 : Nat))
  let x138 : Int := (x136 + x129)
  let x139 : Int := (x138 / 2 ^ (25 : Nat))
  let x140 : Int := (x138 % 2 ^ (25 : Nat))
  let x141 : Int := (x139 + x128)
  let x142 : Int := (x141 / 2 ^ (26 : Nat))
  let x143 : Int := (x141 % 2 ^ (26 : Nat))
  let x144 : Int := (x142 + x127)
  let x145 : Int := (x144 / 2 ^ (25 : Nat))
  let x146 : Int := (x144 % 2 ^ (25 : Nat))
  let x147 : Int := (x145 + x126)
  let x148 : Int := (x147 / 2 ^ (26 : Nat))
  let x149 : Int := (x147 % 2 ^ (26 : Nat))
  let x150 : Int := (x148 + x125)
  let x151 : Int := (x150 / 2 ^ (25 : Nat))
  let x152 : Int := (x150 % 2 ^ (25 : Nat))
  let x153 : Int := (x151 + x124)
  let x154 : Int := (x153 / 2 ^ (26 : Nat))
  let x155 : Int := (x153 % 2 ^ (26 : Nat))
  let x156 : Int := (x154 + x123)
  let x157 : Int := (x156 / 2 ^ (25 : Nat))
  let x158 : Int := (x156 % 2 ^ (25 : Nat))
  let x159 : Int := (x157 * (19 : Int))
  let x160 : Int := (x122 + x159)
  let x161 : Int := (x160 / 2 ^ (26 : Nat))
  let x162 : Int := (x160 % 2 ^ (26 : Nat))
  let x163 : Int := (x161 + x134)
  let x164 : Int := (x163 / 2 ^ (25 : Nat))
  let x165 : Int := (x163 % 2 ^ (25 : Nat))
  let x166 : Int := (x164 + x137)
  [x162, x165, x166, x140, x143, x146, x149, x152, x155, x158]

theorem mul_fn_ok (x0 x1 x2 x3 x4 x5 x6 x7 x8 x9 x10 x11 x12 x13 x14 x15 x16 x17 x18 x19 : Int) : NProg.evalZ mul_nprog [x0, x1, x2, x3, x4, x5, x6, x7, x8, x9, x10, x11, x12, x13, x14, x15, x16, x17, x18, x19] = mul_fn x0 x1 x2 x3 x4 x5 x6 x7 x8 x9 x10 x11 x12 x13 x14 x15 x16 x17 x18 x19 :=
  (NProg.evalZ_eq_fast _ _).trans (by kernel_rfl)

def mul_assign_post : List Itv := [⟨0, 67108863, 0⟩, ⟨0, 33554431, 0⟩, ⟨0, 67108864, 0⟩, ⟨0, 33554431, 0⟩, ⟨0, 67108863, 0⟩, ⟨0, 33554431, 0⟩, ⟨0, 67108863, 0⟩, ⟨0, 33554431, 0⟩, ⟨0, 67108863, 0⟩, ⟨0, 33554431, 0⟩]

def mul_assign_nprog : NProg := Prog.normProg Dalek.Gen.FiatField26.mul_assign Dalek.Model.Contracts.FiatField26.pre_mul_assign

theorem mul_assign_norm_ok : Prog.norm Dalek.Gen.FiatField26.mul_assign Dalek.Model.Contracts.FiatField26.pre_mul_assign = some (mul_assign_nprog, mul_assign_post) :=
  Prog.norm_eq_of_post (by decide +kernel)

def mul_assign_fn (x0 x1 x2 x3 x4 x5 x6 x7 x8 x9 x10 x11 x12 x13 x14 x15 x16 x17 x18 x19 : Int) : List Int :=
  let x20 : Int := (x9 * (x19 * (38 : Int)))
  let x21 : Int := (x9 * (x18 * (19 : Int)))
  let x22 : Int := (x9 * (x17 * (38 : Int)))
  let x23 : Int := (x9 * (x16 * (19 : Int)))
  let x24 : Int := (x9 * (x15 * (38 : Int)))
  let x25 : Int := (x9 * (x14 * (19 : Int)))
  let x26 : Int := (x9 * (x13 * (38 : Int)))
  let x27 : Int := (x9 * (x12 * (19 : Int)))
  let x28 : Int := (x9 * (x11 * (38 : Int)))
  let x29 : Int := (x8 * (x19 * (19 : Int)))
  let x30 : Int := (x8 * (x18 * (19 : Int)))
  let x31 : Int := (x8 * (x17 * (19 : Int)))
  let x32 : Int := (x8 * (x16 * (19 : Int)))
  let x33 : Int := (x8 * (x15 * (19 : Int)))
  let x34 : Int := (x8 * (x14 * (19 : Int)))
  let x35 : Int := (x8 * (x13 * (19 : Int)))
  let x36 : Int := (x8 * (x12 * (19 : Int)))
  let x37 : Int := (x7 * (x19 * (38 : Int)))
  let x38 : Int := (x7 * (x18 * (19 : Int)))
  let x39 : Int := (x7 * (x17 * (38 : Int)))
  let x40 : Int := (x7 * (x16 * (19 : Int)))
  let x41 : Int := (x7 * (x15 * (38 : Int)))
  let x42 : Int := (x7 * (x14 * (19 : Int)))
  let x43 : Int := (x7 * (x13 * (38 : Int)))
  let x44 : Int := (x6 * (x19 * (19 : Int)))
  let x45 : Int := (x6 * (x18 * (19 : Int)))
  let x46 : Int := (x6 * (x17 * (19 : Int)))
  let x47 : Int := (x6 * (x16 * (19 : Int)))
  let x48 : Int := (x6 * (x15 * (19 : Int)))
  let x49 : Int := (x6 * (x14 * (19 : Int)))
  let x50 : Int := (x5 * (x19 * (38 : Int)))
  let x51 : Int := (x5 * (x18 * (19 : Int)))
  let x52 : Int := (x5 * (x17 * (38 : Int)))
  let x53 : Int := (x5 * (x16 * (19 : Int)))
  let x54 : Int := (x5 * (x15 * (38 : Int)))
  let x55 : Int := (x4 * (x19 * (19 : Int)))
  let x56 : Int := (x4 * (x18 * (19 : Int)))
  let x57 : Int := (x4 * (x17 * (19 : Int)))
  let x58 : Int := (x4 * (x16 * (19 : Int)))
  let x59 : Int := (x3 * (x19 * (38 : Int)))
  let x60 : Int := (x3 * (x18 * (19 : Int)))
  let x61 : Int := (x3 * (x17 * (38 : Int)))
  let x62 : Int := (x2 * (x19 * (19 : Int)))
  let x63 : Int := (x2 * (x18 * (19 : Int)))
  let x64 : Int := (x1 * (x19 * (38 : Int)))
  let x65 : Int := (x9 * x10)
  let x66 : Int := (x8 * x11)
  let x67 : Int := (x8 * x10)
  let x68 : Int := (x7 * x12)
  let x69 : Int := (x7 * (x11 * (2 : Int)))
  let x70 : Int := (x7 * x10)
  let x71 : Int := (x6 * x13)
  let x72 : Int := (x6 * x12)
  let x73 : Int := (x6 * x11)
  let x74 : Int := (x6 * x10)
  let x75 : Int := (x5 * x14)
  let x76 : Int := (x5 * (x13 * (2 : Int)))
  let x77 : Int := (x5 * x12)
  let x78 : Int := (x5 * (x11 * (2 : Int)))
  let x79 : Int := (x5 * x10)
  let x80 : Int := (x4 * x15)
  let x81 : Int := (x4 * x14)
  let x82 : Int := (x4 * x13)
  let x83 : Int := (x4 * x12)
  let x84 : Int := (x4 * x11)
  let x85 : Int := (x4 * x10)
  let x86 : Int := (x3 * x16)
  let x87 : Int := (x3 * (x15 * (2 : Int)))
  let x88 : Int := (x3 * x14)
  let x89 : Int := (x3 * (x13 * (2 : Int)))
  let x90 : Int := (x3 * x12)
  let x91 : Int := (x3 * (x11 * (2 : Int)))
  let x92 : Int := (x3 * x10)
  let x93 : Int := (x2 * x17)
  let x94 : Int := (x2 * x16)
  let x95 : Int := (x2 * x15)
  let x96 : Int := (x2 * x14)
  let x97 : Int := (x2 * x13)
  let x98 : Int := (x2 * x12)
  let x99 : Int := (x2 * x11)
  let x100 : Int := (x2 * x10)
  let x101 : Int := (x1 * x18)
  let x102 : Int := (x1 * (x17 * (2 : Int)))
  let x103 : Int := (x1 * x16)
  let x104 : Int := (x1 * (x15 * (2 : Int)))
  let x105 : Int := (x1 * x14)
  let x106 : Int := (x1 * (x13 * (2 : Int)))
  let x107 : Int := (x1 * x12)
  let x108 : Int := (x1 * (x11 * (2 : Int)))
  let x109 : Int := (x1 * x10)
  let x110 : Int := (x0 * x19)
  let x111 : Int := (x0 * x18)
  let x112 : Int := (x0 * x17)
  let x113 : Int := (x0 * x16)
  let x114 : Int := (x0 * x15)
  let x115 : Int := (x0 * x14)
  let x116 : Int := (x0 * x13)
  let x117 : Int := (x0 * x12)
  let x118 : Int := (x0 * x11)
  let x119 : Int := (x0 * x10)
  let x120 : Int := (x119 + (x64 + (x63 + (x61 + (x58 + (x54 + (x49 + (x43 + (x36 + x28)))))))))
  let x121 : Int := (x120 / 2 ^ (26 : Nat))
  let x122 : Int := (x120 % 2 ^ (26 : Nat))
  let x123 : Int := (x110 + (x101 + (x93 + (x86 + (x80 + (x75 + (x71 + (x68 + (x66 + x65)))))))))
  let x124 : Int := (x111 + (x102 + (x94 + (x87 + (x81 + (x76 + (x72 + (x69 + (x67 + x20)))))))))
  let x125 : Int := (x112 + (x103 + (x95 + (x88 + (x82 + (x77 + (x73 + (x70 + (x29 + x21)))))))))
  let x126 : Int := (x113 + (x104 + (x96 + (x89 + (x83 + (x78 + (x74 + (x37 + (x30 + x22)))))))))
  let x127 : Int := (x114 + (x105 + (x97 + (x90 + (x84 + (x79 + (x44 + (x38 + (x31 + x23)))))))))
  let x128 : Int := (x115 + (x106 + (x98 + (x91 + (x85 + (x50 + (x45 + (x39 + (x32 + x24)))))))))
  let x129 : Int := (x116 + (x107 + (x99 + (x92 + (x55 + (x51 + (x46 + (x40 + (x33 + x25)))))))))
  let x130 : Int := (x117 + (x108 + (x100 + (x59 + (x56 + (x52 + (x47 + (x41 + (x34 + x26)))))))))
  let x131 : Int := (x118 + (x109 + (x62 + (x60 + (x57 + (x53 + (x48 + (x42 + (x35 + x27)))))))))
  let x132 : Int := (x121 + x131)
  let x133 : Int := (x132 / 2 ^ (25 : Nat))
  let x134 : Int := (x132 % 2 ^ (25 : Nat))
  let x135 : Int := (x133 + x130)
  let x136 : Int := (x135 / 2 ^ (26 : Nat))
  let x137 : Int := (x135 % 2 ^ (26 : Nat))
  let x138 : Int := (x136 + x129)
  let x139 : Int := (x138 / 2 ^ (25 : Nat))
  let x140 : Int := (x138 % 2 ^ (25 : Nat))
  let x141 : Int := (x139 + x128)
  let x142 : Int := (x141 / 2 ^ (26 : Nat))
  let x143 : Int := (x141 % 2 ^ (26 : Nat))
  let x144 : Int := (x142 + x127)
  let x145 : Int := (x144 / 2 ^ (25 : Nat))
  let x146 : Int := (x144 % 2 ^ (25 : Nat))
  let x147 : Int := (x145 + x126)
  let x148 : Int := (x147 / 2 ^ (26 : Nat))
  let x149 : Int := (x147 % 2 ^ (26 : Nat))
  let x150 : Int := (x148 + x125)
  let x151 : Int := (x150 / 2 ^ (25 : Nat))
  let x152 : Int := (x150 % 2 ^ (25 : Nat))
  let x153 : Int := (x151 + x124)
  let x154 : Int := (x153 / 2 ^ (26 : Nat))
  let x155 : Int := (x153 % 2 ^ (26 : Nat))
  let x156 : Int := (x154 + x123)
  let x157 : Int := (x156 / 2 ^ (25 : Nat))
  let x158 : Int := (x156 % 2 ^ (25 : Nat))
  let x159 : Int := (x157 * (19 : Int))
  let x160 : Int := (x122 + x159)
  let x161 : Int := (x160 / 2 ^ (26 : Nat))
  let x162 : Int := (x160 % 2 ^ (26 : Nat))
  let x163 : Int := (x161 + x134)
  let x164 : Int := (x163 / 2 ^ (25 : Nat))
  let x165 : Int := (x163 % 2 ^ (25 : Nat))
  let x166 : Int := (x164 + x137)
  [x162, x165, x166, x140, x143, x146, x149, x152, x155, x158]

theorem mul_assign_fn_ok (x0 x1 x2 x3 x4 x5 x6 x7 x8 x9 x10 x11 x12 x13 x14 x15 x16 x17 x18 x19 : Int) : NProg.evalZ mul_assign_nprog [x0, x1, x2, x3, x4, x5, x6, x7, x8, x9, x10, x11, x12, x13, x14, x15, x16, x17, x18, x19] = mul_assign_fn x0 x1 x2 x3 x4 x5 x6 x7 x8 x9 x10 x11 x12 x13 x14 x15 x16 x17 x18 x19 :=
  (NProg.evalZ_eq_fast _ _).trans (by kernel_rfl)

def neg_post : List Itv := [⟨0, 67108863, 0⟩, ⟨0, 33554431, 0⟩, ⟨0, 67108864, 0⟩, ⟨0, 33554431, 0⟩, ⟨0, 67108863, 0⟩, ⟨0, 33554431, 0⟩, ⟨0, 67108863, 0⟩, ⟨0, 33554431, 0⟩, ⟨0, 67108863, 0⟩, ⟨0, 33554431, 0⟩]

def neg_nprog : NProg :=
  ⟨10,
   [(.sub (.c 134217690) (.v 0)),
    (.sub (.c 67108862) (.v 1)),
    (.sub (.c 134217726) (.v 2)),
    (.sub (.c 67108862) (.v 3)),
    (.sub (.c 134217726) (.v 4)),
    (.sub (.c 67108862) (.v 5)),
    (.sub (.c 134217726) (.v 6)),
    (.sub (.c 67108862) (.v 7)),
    (.sub (.c 134217726) (.v 8)),
    (.sub (.c 67108862) (.v 9)),
    (.add (.div2 (.v 10) 26) (.v 11)),
    (.add (.div2 (.v 20) 25) (.v 12)),
    (.add (.div2 (.v 21) 26) (.v 13)),
    (.add (.div2 (.v 22) 25) (.v 14)),
    (.add (.div2 (.v 23) 26) (.v 15)),
    (.add (.div2 (.v 24) 25) (.v 16)),
    (.add (.div2 (.v 25) 26) (.v 17)),
    (.add (.div2 (.v 26) 25) (.v 18)),
    (.add (.div2 (.v 27) 26) (.v 19)),
    (.add (.mod2 (.v 10) 26) (.mul (.div2 (.v 28) 25) (.c 19))),
    (.add (.div2 (.v 29) 26) (.mod2 (.v 20) 25)),
    (.mod2 (.v 29) 26),
    (.mod2 (.v 30) 25),
    (.add (.div2 (.v 30) 25) (.mod2 (.v 21) 26)),
    (.mod2 (.v 22) 25),
    (.mod2 (.v 23) 26),
    (.mod2 (.v 24) 25),
    (.mod2 (.v 25) 26),
    (.mod2 (.v 26) 25),
    (.mod2 (.v 27) 26),
    (.mod2 (.v 28) 25)],
   [31, 32, 33, 34, 35, 36, 37, 38, 39, 40]⟩

theorem neg_norm_ok : Prog.norm Dalek.Gen.FiatField26.neg Dalek.Model.Contracts.FiatField26.pre_neg = some (neg_nprog, neg_post) :=
  (Prog.normFast_eq _ _).symm.trans (by decide +kernel)

def neg_fn (x0 x1 x2 x3 x4 x5 x6 x7 x8 x9 : Int) : List Int :=
  let x10 : Int := ((134217690 : Int) - x0)
  let x11 : Int := ((67108862 : Int) - x1)
  let x12 : Int := ((134217726 : Int) - x2)
  let x13 : Int := ((67108862 : Int) - x3)
  let x14 : Int := ((134217726 : Int) - x4)
  let x15 : Int := ((67108862 : Int) - x5)
  let x16 : Int := ((134217726 : Int) - x6)
  let x17 : Int := ((67108862 : Int) - x7)
  let x18 : Int := ((134217726 : Int) - x8)
  let x19 : Int := ((67108862 : Int) - x9)
  let x20 : Int := ((x10 / 2 ^ (26 : Nat)) + x11)
  let x21 : Int := ((x20 / 2 ^ (25 : Nat)) + x12)
  let x22 : Int := ((x21 / 2 ^ (26 : Nat)) + x13)
  let x23 : Int := ((x22 / 2 ^ (25 : Nat)) + x14)
  let x24 : Int := ((x23 / 2 ^ (26 : Nat)) + x15)
  let x25 : Int := ((x24 / 2 ^ (25 : Nat)) + x16)
  let x26 : Int := ((x25 / 2 ^ (26 : Nat)) + x17)
  let x27 : Int := ((x26 / 2 ^ (25 : Nat)) + x18)
  let x28 : Int := ((x27 / 2 ^ (26 : Nat)) + x19)
  let x29 : Int := ((x10 % 2 ^ (26 : Nat)) + ((x28 / 2 ^ (25 : Nat)) * (19 : Int)))
  let x30 : Int := ((x29 / 2 ^ (26 : Nat)) + (x20 % 2 ^ (25 : Nat)))
  let x31 : Int := (x29 % 2 ^ (26 : Nat))
  let x32 : Int := (x30 % 2 ^ (25 : Nat))
  let x33 : Int := ((x30 / 2 ^ (25 : Nat)) + (x21 % 2 ^ (26 : Nat)))
  let x34 : Int := (x22 % 2 ^ (25 : Nat))
  let x35 : Int := (x23 % 2 ^ (26 : Nat))
  let x36 : Int := (x24 % 2 ^ (25 : Nat))
  let x37 : Int := (x25 % 2 ^ (26 : Nat))
  let x38 : Int := (x26 % 2 ^ (25 : Nat))
  let x39 : Int := (x27 % 2 ^ (26 : Nat))
  let x40 : Int := (x28 % 2 ^ (25 : Nat))
  [x31, x32, x33, x34, x35, x36, x37, x38, x39, x40]

theorem neg_fn_ok (x0 x1 x2 x3 x4 x5 x6 x7 x8 x9 : Int) : NProg.evalZ neg_nprog [x0, x1, x2, x3, x4, x5, x6, x7, x8, x9] = neg_fn x0 x1 x2 x3 x4 x5 x6 x7 x8 x9 :=
  (NProg.evalZ_eq_fast _ _).trans (by kernel_rfl)

def from_bytes_post : List Itv := [⟨0, 67108863, 0⟩, ⟨0, 33554431, 0⟩, ⟨0, 67108863, 0⟩, ⟨0, 33554431, 0⟩, ⟨0, 67108863, 0⟩, ⟨0, 33554431, 0⟩, ⟨0, 67108863, 0⟩, ⟨0, 33554431, 0⟩, ⟨0, 67108863, 0⟩, ⟨0, 33554431, 0⟩]

def from_bytes_nprog : NProg := Prog.normProg Dalek.Gen.FiatField26.from_bytes Dalek.Model.Contracts.FiatField26.pre_from_bytes

theorem from_bytes_norm_ok : Prog.norm Dalek.Gen.FiatField26.from_bytes Dalek.Model.Contracts.FiatField26.pre_from_bytes = some (from_bytes_nprog, from_bytes_post) :=
  Prog.norm_eq_of_post (by decide +kernel)

def from_bytes_fn (x0 x1 x2 x3 x4 x5 x6 x7 x8 x9 x10 x11 x12 x13 x14 x15 x16 x17 x18 x19 x20 x21 x22 x23 x24 x25 x26 x27 x28 x29 x30 x31 : Int) : List Int :=
  let x32 : Int := (x31 % 2 ^ (7 : Nat))
  let x33 : Int := (x32 * (262144 : Int))
  let x34 : Int := (x30 * (1024 : Int))
  let x35 : Int := (x29 * (4 : Int))
  let x36 : Int := (x28 * (1048576 : Int))
  let x37 : Int := (x27 * (4096 : Int))
  let x38 : Int := (x26 * (16 : Int))
  let x39 : Int := (x25 * (2097152 : Int))
  let x40 : Int := (x24 * (8192 : Int))
  let x41 : Int := (x23 * (32 : Int))
  let x42 : Int := (x22 * (8388608 : Int))
  let x43 : Int := (x21 * (32768 : Int))
  let x44 : Int := (x20 * (128 : Int))
  let x45 : Int := (x19 * (16777216 : Int))
  let x46 : Int := (x18 * (65536 : Int))
  let x47 : Int := (x17 * (256 : Int))
  let x48 : Int := (x15 * (262144 : Int))
  let x49 : Int := (x14 * (1024 : Int))
  let x50 : Int := (x13 * (4 : Int))
  let x51 : Int := (x12 * (524288 : Int))
  let x52 : Int := (x11 * (2048 : Int))
  let x53 : Int := (x10 * (8 : Int))
  let x54 : Int := (x9 * (2097152 : Int))
  let x55 : Int := (x8 * (8192 : Int))
  let x56 : Int := (x7 * (32 : Int))
  let x57 : Int := (x6 * (4194304 : Int))
  let x58 : Int := (x5 * (16384 : Int))
  let x59 : Int := (x4 * (64 : Int))
  let x60 : Int := (x3 * (16777216 : Int))
  let x61 : Int := (x2 * (65536 : Int))
  let x62 : Int := (x1 * (256 : Int))
  let x63 : Int := (x62 + x0)
  let x64 : Int := (x61 + x63)
  let x65 : Int := (x60 + x64)
  let x66 : Int := (x65 % 2 ^ (26 : Nat))
  let x67 : Int := (x65 / 2 ^ (26 : Nat))
  let x68 : Int := (x59 + x67)
  let x69 : Int := (x58 + x68)
  let x70 : Int := (x57 + x69)
  let x71 : Int := (x70 % 2 ^ (25 : Nat))
  let x72 : Int := (x70 / 2 ^ (25 : Nat))
  let x73 : Int := (x56 + x72)
  let x74 : Int := (x55 + x73)
  let x75 : Int := (x54 + x74)
  let x76 : Int := (x75 % 2 ^ (26 : Nat))
  let x77 : Int := (x75 / 2 ^ (26 : Nat))
  let x78 : Int := (x53 + x77)
  let x79 : Int := (x52 + x78)
  let x80 : Int := (x51 + x79)
  let x81 : Int := (x80 % 2 ^ (25 : Nat))
  let x82 : Int := (x80 / 2 ^ (25 : Nat))
  let x83 : Int := (x50 + x82)
  let x84 : Int := (x49 + x83)
  let x85 : Int := (x48 + x84)
  let x86 : Int := (x47 + x16)
  let x87 : Int := (x46 + x86)
  let x88 : Int := (x45 + x87)
  let x89 : Int := (x88 % 2 ^ (25 : Nat))
  let x90 : Int := (x88 / 2 ^ (25 : Nat))
  let x91 : Int := (x44 + x90)
  let x92 : Int := (x43 + x91)
  let x93 : Int := (x42 + x92)
  let x94 : Int := (x93 % 2 ^ (26 : Nat))
  let x95 : Int := (x93 / 2 ^ (26 : Nat))
  let x96 : Int := (x41 + x95)
  let x97 : Int := (x40 + x96)
  let x98 : Int := (x39 + x97)
  let x99 : Int := (x98 % 2 ^ (25 : Nat))
  let x100 : Int := (x98 / 2 ^ (25 : Nat))
  let x101 : Int := (x38 + x100)
  let x102 : Int := (x37 + x101)
  let x103 : Int := (x36 + x102)
  let x104 : Int := (x103 % 2 ^ (26 : Nat))
  let x105 : Int := (x103 / 2 ^ (26 : Nat))
  let x106 : Int := (x35 + x105)
  let x107 : Int := (x34 + x106)
  let x108 : Int := (x33 + x107)
  [x66, x71, x76, x81, x85, x89, x94, x99, x104, x108]

theorem from_bytes_fn_ok (x0 x1 x2 x3 x4 x5 x6 x7 x8 x9 x10 x11 x12 x13 x14 x15 x16 x17 x18 x19 x20 x21 x22 x23 x24 x25 x26 x27 x28 x29 x30 x31 : Int) : NProg.evalZ from_bytes_nprog [x0, x1, x2, x3, x4, x5, x6, x7, x8, x9, x10, x11, x12, x13, x14, x15, x16, x17, x18, x19, x20, x21, x22, x23, x24, x25, x26, x27, x28, x29, x30, x31] = from_bytes_fn x0 x1 x2 x3 x4 x5 x6 x7 x8 x9 x10 x11 x12 x13 x14 x15 x16 x17 x18 x19 x20 x21 x22 x23 x24 x25 x26 x27 x28 x29 x30 x31 :=
  (NProg.evalZ_eq_fast _ _).trans (by kernel_rfl)

def as_bytes_post : List Itv := [⟨0, 255, 0⟩, ⟨0, 255, 0⟩, ⟨0, 255, 0⟩, ⟨0, 255, 0⟩, ⟨0, 255, 0⟩, ⟨0, 255, 0⟩, ⟨0, 255, 0⟩, ⟨0, 255, 0⟩, ⟨0, 255, 0⟩, ⟨0, 255, 0⟩, ⟨0, 255, 0⟩, ⟨0, 255, 0⟩, ⟨0, 255, 0⟩, ⟨0, 255, 0⟩, ⟨0, 255, 0⟩, ⟨0, 255, 0⟩, ⟨0, 255, 0⟩, ⟨0, 255, 0⟩, ⟨0, 255, 0⟩, ⟨0, 255, 0⟩, ⟨0, 255, 0⟩, ⟨0, 255, 0⟩, ⟨0, 255, 0⟩, ⟨0, 255, 0⟩, ⟨0, 255, 0⟩, ⟨0, 255, 0⟩, ⟨0, 255, 0⟩, ⟨0, 255, 0⟩, ⟨0, 255, 0⟩, ⟨0, 255, 0⟩, ⟨0, 255, 0⟩, ⟨0, 127, 0⟩]

def as_bytes_nprog : NProg := Prog.normProg Dalek.Gen.FiatField26.as_bytes Dalek.Model.Contracts.FiatField26.pre_as_bytes

theorem as_bytes_norm_ok : Prog.norm Dalek.Gen.FiatField26.as_bytes Dalek.Model.Contracts.FiatField26.pre_as_bytes = some (as_bytes_nprog, as_bytes_post) :=
  Prog.norm_eq_of_post (by decide +kernel)

def as_bytes_fn (x0 x1 x2 x3 x4 x5 x6 x7 x8 x9 : Int) : List Int :=
  let x10 : Int := (((x0 - (0 : Int)) - (67108845 : Int)) % 2 ^ (32 : Nat))
  let x11 : Int := (x10 % 2 ^ (26 : Nat))
  let x12 : Int := (x10 / 2 ^ (31 : Nat))
  let x13 : Int := ((((x1 - x12) % 2 ^ (32 : Nat)) - (33554431 : Int)) % 2 ^ (32 : Nat))
  let x14 : Int := (x13 % 2 ^ (25 : Nat))
  let x15 : Int := (x13 / 2 ^ (31 : Nat))
  let x16 : Int := ((((x2 - x15) % 2 ^ (32 : Nat)) - (67108863 : Int)) % 2 ^ (32 : Nat))
  let x17 : Int := (x16 % 2 ^ (26 : Nat))
  let x18 : Int := (x16 / 2 ^ (31 : Nat))
  let x19 : Int := ((((x3 - x18) % 2 ^ (32 : Nat)) - (33554431 : Int)) % 2 ^ (32 : Nat))
  let x20 : Int := (x19 % 2 ^ (25 : Nat))
  let x21 : Int := (x19 / 2 ^ (31 : Nat))
  let x22 : Int := ((((x4 - x21) % 2 ^ (32 : Nat)) - (67108863 : Int)) % 2 ^ (32 : Nat))
  let x23 : Int := (x22 % 2 ^ (26 : Nat))
  let x24 : Int := (x22 / 2 ^ (31 : Nat))
  let x25 : Int := ((((x5 - x24) % 2 ^ (32 : Nat)) - (33554431 : Int)) % 2 ^ (32 : Nat))
  let x26 : Int := (x25 % 2 ^ (25 : Nat))
  let x27 : Int := (x25 / 2 ^ (31 : Nat))
  let x28 : Int := ((((x6 - x27) % 2 ^ (32 : Nat)) - (67108863 : Int)) % 2 ^ (32 : Nat))
  let x29 : Int := (x28 % 2 ^ (26 : Nat))
  let x30 : Int := (x28 / 2 ^ (31 : Nat))
  let x31 : Int := ((((x7 - x30) % 2 ^ (32 : Nat)) - (33554431 : Int)) % 2 ^ (32 : Nat))
  let x32 : Int := (x31 % 2 ^ (25 : Nat))
  let x33 : Int := (x31 / 2 ^ (31 : Nat))
  let x34 : Int := ((((x8 - x33) % 2 ^ (32 : Nat)) - (67108863 : Int)) % 2 ^ (32 : Nat))
  let x35 : Int := (x34 % 2 ^ (26 : Nat))
  let x36 : Int := (x34 / 2 ^ (31 : Nat))
  let x37 : Int := ((((x9 - x36) % 2 ^ (32 : Nat)) - (33554431 : Int)) % 2 ^ (32 : Nat))
  let x38 : Int := (x37 % 2 ^ (25 : Nat))
  let x39 : Int := (x37 / 2 ^ (31 : Nat))
  let x40 : Int := (if x39 = 0 then (0 : Int) else (67108845 : Int))
  let x41 : Int := (((0 : Int) + x11) + x40)
  let x42 : Int := (x41 % 2 ^ (26 : Nat))
  let x43 : Int := (x41 / 2 ^ (26 : Nat))
  let x44 : Int := (if x39 = 0 then (0 : Int) else (33554431 : Int))
  let x45 : Int := ((x43 + x14) + x44)
  let x46 : Int := (x45 % 2 ^ (25 : Nat))
  let x47 : Int := (x45 / 2 ^ (25 : Nat))
  let x48 : Int := (if x39 = 0 then (0 : Int) else (67108863 : Int))
  let x49 : Int := ((x47 + x17) + x48)
  let x50 : Int := (x49 % 2 ^ (26 : Nat))
  let x51 : Int := (x49 / 2 ^ (26 : Nat))
  let x52 : Int := (if x39 = 0 then (0 : Int) else (33554431 : Int))
  let x53 : Int := ((x51 + x20) + x52)
  let x54 : Int := (x53 % 2 ^ (25 : Nat))
  let x55 : Int := (x53 / 2 ^ (25 : Nat))
  let x56 : Int := (if x39 = 0 then (0 : Int) else (67108863 : Int))
  let x57 : Int := ((x55 + x23) + x56)
  let x58 : Int := (x57 % 2 ^ (26 : Nat))
  let x59 : Int := (x57 / 2 ^ (26 : Nat))
  let x60 : Int := (if x39 = 0 then (0 : Int) else (33554431 : Int))
  let x61 : Int := ((x59 + x26) + x60)
  let x62 : Int := (x61 % 2 ^ (25 : Nat))
  let x63 : Int := (x61 / 2 ^ (25 : Nat))
  let x64 : Int := (if x39 = 0 then (0 : Int) else (67108863 : Int))
  let x65 : Int := ((x63 + x29) + x64)
  let x66 : Int := (x65 % 2 ^ (26 : Nat))
  let x67 : Int := (x65 / 2 ^ (26 : Nat))
  let x68 : Int := (if x39 = 0 then (0 : Int) else (33554431 : Int))
  let x69 : Int := ((x67 + x32) + x68)
  let x70 : Int := (x69 % 2 ^ (25 : Nat))
  let x71 : Int := (x69 / 2 ^ (25 : Nat))
  let x72 : Int := (if x39 = 0 then (0 : Int) else (67108863 : Int))
  let x73 : Int := ((x71 + x35) + x72)
  let x74 : Int := (x73 % 2 ^ (26 : Nat))
  let x75 : Int := (x73 / 2 ^ (26 : Nat))
  let x76 : Int := (if x39 = 0 then (0 : Int) else (33554431 : Int))
  let x77 : Int := ((x75 + x38) + x76)
  let x78 : Int := (x77 % 2 ^ (25 : Nat))
  let x79 : Int := (x77 / 2 ^ (25 : Nat))
  let x80 : Int := (x78 * (64 : Int))
  let x81 : Int := (x74 * (16 : Int))
  let x82 : Int := (x70 * (8 : Int))
  let x83 : Int := (x66 * (2 : Int))
  let x84 : Int := (x58 * (64 : Int))
  let x85 : Int := (x54 * (32 : Int))
  let x86 : Int := (x50 * (8 : Int))
  let x87 : Int := (x46 * (4 : Int))
  let x88 : Int := (x42 % 2 ^ (8 : Nat))
  let x89 : Int := (x42 / 2 ^ (8 : Nat))
  let x90 : Int := (x89 % 2 ^ (8 : Nat))
  let x91 : Int := (x89 / 2 ^ (8 : Nat))
  let x92 : Int := (x91 % 2 ^ (8 : Nat))
  let x93 : Int := (x91 / 2 ^ (8 : Nat))
  let x94 : Int := (x87 + x93)
  let x95 : Int := (x94 % 2 ^ (8 : Nat))
  let x96 : Int := (x94 / 2 ^ (8 : Nat))
  let x97 : Int := (x96 % 2 ^ (8 : Nat))
  let x98 : Int := (x96 / 2 ^ (8 : Nat))
  let x99 : Int := (x98 % 2 ^ (8 : Nat))
  let x100 : Int := (x98 / 2 ^ (8 : Nat))
  let x101 : Int := (x86 + x100)
  let x102 : Int := (x101 % 2 ^ (8 : Nat))
  let x103 : Int := (x101 / 2 ^ (8 : Nat))
  let x104 : Int := (x103 % 2 ^ (8 : Nat))
  let x105 : Int := (x103 / 2 ^ (8 : Nat))
  let x106 : Int := (x105 % 2 ^ (8 : Nat))
  let x107 : Int := (x105 / 2 ^ (8 : Nat))
  let x108 : Int := (x85 + x107)
  let x109 : Int := (x108 % 2 ^ (8 : Nat))
  let x110 : Int := (x108 / 2 ^ (8 : Nat))
  let x111 : Int := (x110 % 2 ^ (8 : Nat))
  let x112 : Int := (x110 / 2 ^ (8 : Nat))
  let x113 : Int := (x112 % 2 ^ (8 : Nat))
  let x114 : Int := (x112 / 2 ^ (8 : Nat))
  let x115 : Int := (x84 + x114)
  let x116 : Int := (x115 % 2 ^ (8 : Nat))
  let x117 : Int := (x115 / 2 ^ (8 : Nat))
  let x118 : Int := (x117 % 2 ^ (8 : Nat))
  let x119 : Int := (x117 / 2 ^ (8 : Nat))
  let x120 : Int := (x119 % 2 ^ (8 : Nat))
  let x121 : Int := (x119 / 2 ^ (8 : Nat))
  let x122 : Int := (x62 % 2 ^ (8 : Nat))
  let x123 : Int := (x62 / 2 ^ (8 : Nat))
  let x124 : Int := (x123 % 2 ^ (8 : Nat))
  let x125 : Int := (x123 / 2 ^ (8 : Nat))
  let x126 : Int := (x125 % 2 ^ (8 : Nat))
  let x127 : Int := (x125 / 2 ^ (8 : Nat))
  let x128 : Int := (x83 + x127)
  let x129 : Int := (x128 % 2 ^ (8 : Nat))
  let x130 : Int := (x128 / 2 ^ (8 : Nat))
  let x131 : Int := (x130 % 2 ^ (8 : Nat))
  let x132 : Int := (x130 / 2 ^ (8 : Nat))
  let x133 : Int := (x132 % 2 ^ (8 : Nat))
  let x134 : Int := (x132 / 2 ^ (8 : Nat))
  let x135 : Int := (x82 + x134)
  let x136 : Int := (x135 % 2 ^ (8 : Nat))
  let x137 : Int := (x135 / 2 ^ (8 : Nat))
  let x138 : Int := (x137 % 2 ^ (8 : Nat))
  let x139 : Int := (x137 / 2 ^ (8 : Nat))
  let x140 : Int := (x139 % 2 ^ (8 : Nat))
  let x141 : Int := (x139 / 2 ^ (8 : Nat))
  let x142 : Int := (x81 + x141)
  let x143 : Int := (x142 % 2 ^ (8 : Nat))
  let x144 : Int := (x142 / 2 ^ (8 : Nat))
  let x145 : Int := (x144 % 2 ^ (8 : Nat))
  let x146 : Int := (x144 / 2 ^ (8 : Nat))
  let x147 : Int := (x146 % 2 ^ (8 : Nat))
  let x148 : Int := (x146 / 2 ^ (8 : Nat))
  let x149 : Int := (x80 + x148)
  let x150 : Int := (x149 % 2 ^ (8 : Nat))
  let x151 : Int := (x149 / 2 ^ (8 : Nat))
  let x152 : Int := (x151 % 2 ^ (8 : Nat))
  let x153 : Int := (x151 / 2 ^ (8 : Nat))
  let x154 : Int := (x153 % 2 ^ (8 : Nat))
  let x155 : Int := (x153 / 2 ^ (8 : Nat))
  [x88, x90, x92, x95, x97, x99, x102, x104, x106, x109, x111, x113, x116, x118, x120, x121, x122, x124, x126, x129, x131, x133, x136, x138, x140, x143, x145, x147, x150, x152, x154, x155]

theorem as_bytes_fn_ok (x0 x1 x2 x3 x4 x5 x6 x7 x8 x9 : Int) : NProg.evalZ as_bytes_nprog [x0, x1, x2, x3, x4, x5, x6, x7, x8, x9] = as_bytes_fn x0 x1 x2 x3 x4 x5 x6 x7 x8 x9 :=
  (NProg.evalZ_eq_fast _ _).trans (by kernel_rfl)

def square_post : List Itv := [⟨0, 67108863, 0⟩, ⟨0, 33554431, 0⟩, ⟨0, 67108864, 0⟩, ⟨0, 33554431, 0⟩, ⟨0, 67108863, 0⟩, ⟨0, 33554431, 0⟩, ⟨0, 67108863, 0⟩, ⟨0, 33554431, 0⟩, ⟨0, 67108863, 0⟩, ⟨0, 33554431, 0⟩]

def square_nprog : NProg := Prog.normProg Dalek.Gen.FiatField26.square Dalek.Model.Contracts.FiatField26.pre_square

theorem square_norm_ok : Prog.norm Dalek.Gen.FiatField26.square Dalek.Model.Contracts.FiatField26.pre_square = some (square_nprog, square_post) :=
  Prog.norm_eq_of_post (by decide +kernel)

def square_fn (x0 x1 x2 x3 x4 x5 x6 x7 x8 x9 : Int) : List Int :=
  let x10 : Int := (x9 * (19 : Int))
  let x11 : Int := (x10 * (2 : Int))
  let x12 : Int := (x9 * (2 : Int))
  let x13 : Int := (x8 * (19 : Int))
  let x14 : Int := (x13 * (2 : Int))
  let x15 : Int := (x8 * (2 : Int))
  let x16 : Int := (x7 * (19 : Int))
  let x17 : Int := (x16 * (2 : Int))
  let x18 : Int := (x7 * (2 : Int))
  let x19 : Int := (x6 * (19 : Int))
  let x20 : Int := (x19 * (2 : Int))
  let x21 : Int := (x6 * (2 : Int))
  let x22 : Int := (x5 * (19 : Int))
  let x23 : Int := (x5 * (2 : Int))
  let x24 : Int := (x4 * (2 : Int))
  let x25 : Int := (x3 * (2 : Int))
  let x26 : Int := (x2 * (2 : Int))
  let x27 : Int := (x1 * (2 : Int))
  let x28 : Int := (x9 * (x10 * (2 : Int)))
  let x29 : Int := (x8 * x11)
  let x30 : Int := (x8 * x13)
  let x31 : Int := (x7 * (x11 * (2 : Int)))
  let x32 : Int := (x7 * x14)
  let x33 : Int := (x7 * (x16 * (2 : Int)))
  let x34 : Int := (x6 * x11)
  let x35 : Int := (x6 * x14)
  let x36 : Int := (x6 * x17)
  let x37 : Int := (x6 * x19)
  let x38 : Int := (x5 * (x11 * (2 : Int)))
  let x39 : Int := (x5 * x14)
  let x40 : Int := (x5 * (x17 * (2 : Int)))
  let x41 : Int := (x5 * x20)
  let x42 : Int := (x5 * (x22 * (2 : Int)))
  let x43 : Int := (x4 * x11)
  let x44 : Int := (x4 * x14)
  let x45 : Int := (x4 * x17)
  let x46 : Int := (x4 * x20)
  let x47 : Int := (x4 * x23)
  let x48 : Int := (x4 * x4)
  let x49 : Int := (x3 * (x11 * (2 : Int)))
  let x50 : Int := (x3 * x14)
  let x51 : Int := (x3 * (x17 * (2 : Int)))
  let x52 : Int := (x3 * x21)
  let x53 : Int := (x3 * (x23 * (2 : Int)))
  let x54 : Int := (x3 * x24)
  let x55 : Int := (x3 * (x3 * (2 : Int)))
  let x56 : Int := (x2 * x11)
  let x57 : Int := (x2 * x14)
  let x58 : Int := (x2 * x18)
  let x59 : Int := (x2 * x21)
  let x60 : Int := (x2 * x23)
  let x61 : Int := (x2 * x24)
  let x62 : Int := (x2 * x25)
  let x63 : Int := (x2 * x2)
  let x64 : Int := (x1 * (x11 * (2 : Int)))
  let x65 : Int := (x1 * x15)
  let x66 : Int := (x1 * (x18 * (2 : Int)))
  let x67 : Int := (x1 * x21)
  let x68 : Int := (x1 * (x23 * (2 : Int)))
  let x69 : Int := (x1 * x24)
  let x70 : Int := (x1 * (x25 * (2 : Int)))
  let x71 : Int := (x1 * x26)
  let x72 : Int := (x1 * (x1 * (2 : Int)))
  let x73 : Int := (x0 * x12)
  let x74 : Int := (x0 * x15)
  let x75 : Int := (x0 * x18)
  let x76 : Int := (x0 * x21)
  let x77 : Int := (x0 * x23)
  let x78 : Int := (x0 * x24)
  let x79 : Int := (x0 * x25)
  let x80 : Int := (x0 * x26)
  let x81 : Int := (x0 * x27)
  let x82 : Int := (x0 * x0)
  let x83 : Int := (x82 + (x64 + (x57 + (x51 + (x46 + x42)))))
  let x84 : Int := (x83 / 2 ^ (26 : Nat))
  let x85 : Int := (x83 % 2 ^ (26 : Nat))
  let x86 : Int := (x73 + (x65 + (x58 + (x52 + x47))))
  let x87 : Int := (x74 + (x66 + (x59 + (x53 + (x48 + x28)))))
  let x88 : Int := (x75 + (x67 + (x60 + (x54 + x29))))
  let x89 : Int := (x76 + (x68 + (x61 + (x55 + (x31 + x30)))))
  let x90 : Int := (x77 + (x69 + (x62 + (x34 + x32))))
  let x91 : Int := (x78 + (x70 + (x63 + (x38 + (x35 + x33)))))
  let x92 : Int := (x79 + (x71 + (x43 + (x39 + x36))))
  let x93 : Int := (x80 + (x72 + (x49 + (x44 + (x40 + x37)))))
  let x94 : Int := (x81 + (x56 + (x50 + (x45 + x41))))
  let x95 : Int := (x84 + x94)
  let x96 : Int := (x95 / 2 ^ (25 : Nat))
  let x97 : Int := (x95 % 2 ^ (25 : Nat))
  let x98 : Int := (x96 + x93)
  let x99 : Int := (x98 / 2 ^ (26 : Nat))
  let x100 : Int := (x98 % 2 ^ (26 : Nat))
  let x101 : Int := (x99 + x92)
  let x102 : Int := (x101 / 2 ^ (25 : Nat))
  let x103 : Int := (x101 % 2 ^ (25 : Nat))
  let x104 : Int := (x102 + x91)
  let x105 : Int := (x104 / 2 ^ (26 : Nat))
  let x106 : Int := (x104 % 2 ^ (26 : Nat))
  let x107 : Int := (x105 + x90)
  let x108 : Int := (x107 / 2 ^ (25 : Nat))
  let x109 : Int := (x107 % 2 ^ (25 : Nat))
  let x110 : Int := (x108 + x89)
  let x111 : Int := (x110 / 2 ^ (26 : Nat))
  let x112 : Int := (x110 % 2 ^ (26 : Nat))
  let x113 : Int := (x111 + x88)
  let x114 : Int := (x113 / 2 ^ (25 : Nat))
  let x115 : Int := (x113 % 2 ^ (25 : Nat))
  let x116 : Int := (x114 + x87)
  let x117 : Int := (x116 / 2 ^ (26 : Nat))
  let x118 : Int := (x116 % 2 ^ (26 : Nat))
  let x119 : Int := (x117 + x86)
  let x120 : Int := (x119 / 2 ^ (25 : Nat))
  let x121 : Int := (x119 % 2 ^ (25 : Nat))
  let x122 : Int := (x120 * (19 : Int))
  let x123 : Int := (x85 + x122)
  let x124 : Int := (x123 / 2 ^ (26 : Nat))
  let x125 : Int := (x123 % 2 ^ (26 : Nat))
  let x126 : Int := (x124 + x97)
  let x127 : Int := (x126 / 2 ^ (25 : Nat))
  let x128 : Int := (x126 % 2 ^ (25 : Nat))
  let x129 : Int := (x127 + x100)
  [x125, x128, x129, x103, x106, x109, x112, x115, x118, x121]

theorem square_fn_ok (x0 x1 x2 x3 x4 x5 x6 x7 x8 x9 : Int) : NProg.evalZ square_nprog [x0, x1, x2, x3, x4, x5, x6, x7, x8, x9] = square_fn x0 x1 x2 x3 x4 x5 x6 x7 x8 x9 :=
  (NProg.evalZ_eq_fast _ _).trans (by kernel_rfl)

def square2_post : List Itv := [⟨0, 67108863, 0⟩, ⟨0, 33554431, 0⟩, ⟨0, 67108864, 0⟩, ⟨0, 33554431, 0⟩, ⟨0, 67108863, 0⟩, ⟨0, 33554431, 0⟩, ⟨0, 67108863, 0⟩, ⟨0, 33554431, 0⟩, ⟨0, 67108863, 0⟩, ⟨0, 33554431, 0⟩]

def square2_nprog : NProg := Prog.normProg Dalek.Gen.FiatField26.square2 Dalek.Model.Contracts.FiatField26.pre_square2

theorem square2_norm_ok : Prog.norm Dalek.Gen.FiatField26.square2 Dalek.Model.Contracts.FiatField26.pre_square2 = some (square2_nprog, square2_post) :=
  Prog.norm_eq_of_post (by decide +kernel)

def square2_fn (x0 x1 x2 x3 x4 x5 x6 x7 x8 x9 : Int) : List Int :=
  let x10 : Int := (x9 * (19 : Int))
  let x11 : Int := (x10 * (2 : Int))
  let x12 : Int := (x9 * (2 : Int))
  let x13 : Int := (x8 * (19 : Int))
  let x14 : Int := (x13 * (2 : Int))
  let x15 : Int := (x8 * (2 : Int))
  let x16 : Int := (x7 * (19 : Int))
  let x17 : Int := (x16 * (2 : Int))
  let x18 : Int := (x7 * (2 : Int))
  let x19 : Int := (x6 * (19 : Int))
  let x20 : Int := (x19 * (2 : Int))
  let x21 : Int := (x6 * (2 : Int))
  let x22 : Int := (x5 * (19 : Int))
  let x23 : Int := (x5 * (2 : Int))
  let x24 : Int := (x4 * (2 : Int))
  let x25 : Int := (x3 * (2 : Int))
  let x26 : Int := (x2 * (2 : Int))
  let x27 : Int := (x1 * (2 : Int))
  let x28 : Int := (x9 * (x10 * (2 : Int)))
  let x29 : Int := (x8 * x11)
  let x30 : Int := (x8 * x13)
  let x31 : Int := (x7 * (x11 * (2 : Int)))
  let x32 : Int := (x7 * x14)
  let x33 : Int := (x7 * (x16 * (2 : Int)))
  let x34 : Int := (x6 * x11)
  let x35 : Int := (x6 * x14)
  let x36 : Int := (x6 * x17)
  let x37 : Int := (x6 * x19)
  let x38 : Int := (x5 * (x11 * (2 : Int)))
  let x39 : Int := (x5 * x14)
  let x40 : Int := (x5 * (x17 * (2 : Int)))
  let x41 : Int := (x5 * x20)
  let x42 : Int := (x5 * (x22 * (2 : Int)))
  let x43 : Int := (x4 * x11)
  let x44 : Int := (x4 * x14)
  let x45 : Int := (x4 * x17)
  let x46 : Int := (x4 * x20)
  let x47 : Int := (x4 * x23)
  let x48 : Int := (x4 * x4)
  let x49 : Int := (x3 * (x11 * (2 : Int)))
  let x50 : Int := (x3 * x14)
  let x51 : Int := (x3 * (x17 * (2 : Int)))
  let x52 : Int := (x3 * x21)
  let x53 : Int := (x3 * (x23 * (2 : Int)))
  let x54 : Int := (x3 * x24)
  let x55 : Int := (x3 * (x3 * (2 : Int)))
  let x56 : Int := (x2 * x11)
  let x57 : Int := (x2 * x14)
  let x58 : Int := (x2 * x18)
  let x59 : Int := (x2 * x21)
  let x60 : Int := (x2 * x23)
  let x61 : Int := (x2 * x24)
  let x62 : Int := (x2 * x25)
  let x63 : Int := (x2 * x2)
  let x64 : Int := (x1 * (x11 * (2 : Int)))
  let x65 : Int := (x1 * x15)
  let x66 : Int := (x1 * (x18 * (2 : Int)))
  let x67 : Int := (x1 * x21)
  let x68 : Int := (x1 * (x23 * (2 : Int)))
  let x69 : Int := (x1 * x24)
  let x70 : Int := (x1 * (x25 * (2 : Int)))
  let x71 : Int := (x1 * x26)
  let x72 : Int := (x1 * (x1 * (2 : Int)))
  let x73 : Int := (x0 * x12)
  let x74 : Int := (x0 * x15)
  let x75 : Int := (x0 * x18)
  let x76 : Int := (x0 * x21)
  let x77 : Int := (x0 * x23)
  let x78 : Int := (x0 * x24)
  let x79 : Int := (x0 * x25)
  let x80 : Int := (x0 * x26)
  let x81 : Int := (x0 * x27)
  let x82 : Int := (x0 * x0)
  let x83 : Int := (x82 + (x64 + (x57 + (x51 + (x46 + x42)))))
  let x84 : Int := (x83 / 2 ^ (26 : Nat))
  let x85 : Int := (x83 % 2 ^ (26 : Nat))
  let x86 : Int := (x73 + (x65 + (x58 + (x52 + x47))))
  let x87 : Int := (x74 + (x66 + (x59 + (x53 + (x48 + x28)))))
  let x88 : Int := (x75 + (x67 + (x60 + (x54 + x29))))
  let x89 : Int := (x76 + (x68 + (x61 + (x55 + (x31 + x30)))))
  let x90 : Int := (x77 + (x69 + (x62 + (x34 + x32))))
  let x91 : Int := (x78 + (x70 + (x63 + (x38 + (x35 + x33)))))
  let x92 : Int := (x79 + (x71 + (x43 + (x39 + x36))))
  let x93 : Int := (x80 + (x72 + (x49 + (x44 + (x40 + x37)))))
  let x94 : Int := (x81 + (x56 + (x50 + (x45 + x41))))
  let x95 : Int := (x84 + x94)
  let x96 : Int := (x95 / 2 ^ (25 : Nat))
  let x97 : Int := (x95 % 2 ^ (25 : Nat))
  let x98 : Int := (x96 + x93)
  let x99 : Int := (x98 / 2 ^ (26 : Nat))
  let x100 : Int := (x98 % 2 ^ (26 : Nat))
  let x101 : Int := (x99 + x92)
  let x102 : Int := (x101 / 2 ^ (25 : Nat))
  let x103 : Int := (x101 % 2 ^ (25 : Nat))
  let x104 : Int := (x102 + x91)
  let x105 : Int := (x104 / 2 ^ (26 : Nat))
  let x106 : Int := (x104 % 2 ^ (26 : Nat))
  let x107 : Int := (x105 + x90)
  let x108 : Int := (x107 / 2 ^ (25 : Nat))
  let x109 : Int := (x107 % 2 ^ (25 : Nat))
  let x110 : Int := (x108 + x89)
  let x111 : Int := (x110 / 2 ^ (26 : Nat))
  let x112 : Int := (x110 % 2 ^ (26 : Nat))
  let x113 : Int := (x111 + x88)
  let x114 : Int := (x113 / 2 ^ (25 : Nat))
  let x115 : Int := (x113 % 2 ^ (25 : Nat))
  let x116 : Int := (x114 + x87)
  let x117 : Int := (x116 / 2 ^ (26 : Nat))
  let x118 : Int := (x116 % 2 ^ (26 : Nat))
  let x119 : Int := (x117 + x86)
  let x120 : Int := (x119 / 2 ^ (25 : Nat))
  let x121 : Int := (x119 % 2 ^ (25 : Nat))
  let x122 : Int := (x120 * (19 : Int))
  let x123 : Int := (x85 + x122)
  let x124 : Int := (x123 / 2 ^ (26 : Nat))
  let x125 : Int := (x123 % 2 ^ (26 : Nat))
  let x126 : Int := (x124 + x97)
  let x127 : Int := (x126 / 2 ^ (25 : Nat))
  let x128 : Int := (x126 % 2 ^ (25 : Nat))
  let x129 : Int := (x127 + x100)
  let x130 : Int := (x125 + x125)
  let x131 : Int := (x128 + x128)
  let x132 : Int := (x129 + x129)
  let x133 : Int := (x103 + x103)
  let x134 : Int := (x106 + x106)
  let x135 : Int := (x109 + x109)
  let x136 : Int := (x112 + x112)
  let x137 : Int := (x115 + x115)
  let x138 : Int := (x118 + x118)
  let x139 : Int := (x121 + x121)
  let x140 : Int := ((x130 / 2 ^ (26 : Nat)) + x131)
  let x141 : Int := ((x140 / 2 ^ (25 : Nat)) + x132)
  let x142 : Int := ((x141 / 2 ^ (26 : Nat)) + x133)
  let x143 : Int := ((x142 / 2 ^ (25 : Nat)) + x134)
  let x144 : Int := ((x143 / 2 ^ (26 : Nat)) + x135)
  let x145 : Int := ((x144 / 2 ^ (25 : Nat)) + x136)
  let x146 : Int := ((x145 / 2 ^ (26 : Nat)) + x137)
  let x147 : Int := ((x146 / 2 ^ (25 : Nat)) + x138)
  let x148 : Int := ((x147 / 2 ^ (26 : Nat)) + x139)
  let x149 : Int := ((x130 % 2 ^ (26 : Nat)) + ((x148 / 2 ^ (25 : Nat)) * (19 : Int)))
  let x150 : Int := ((x149 / 2 ^ (26 : Nat)) + (x140 % 2 ^ (25 : Nat)))
  let x151 : Int := (x149 % 2 ^ (26 : Nat))
  let x152 : Int := (x150 % 2 ^ (25 : Nat))
  let x153 : Int := ((x150 / 2 ^ (25 : Nat)) + (x141 % 2 ^ (26 : Nat)))
  let x154 : Int := (x142 % 2 ^ (25 : Nat))
  let x155 : Int := (x143 % 2 ^ (26 : Nat))
  let x156 : Int := (x144 % 2 ^ (25 : Nat))
  let x157 : Int := (x145 % 2 ^ (26 : Nat))
  let x158 : Int := (x146 % 2 ^ (25 : Nat))
  let x159 : Int := (x147 % 2 ^ (26 : Nat))
  let x160 : Int := (x148 % 2 ^ (25 : Nat))
  [x151, x152, x153, x154, x155, x156, x157, x158, x159, x160]

theorem square2_fn_ok (x0 x1 x2 x3 x4 x5 x6 x7 x8 x9 : Int) : NProg.evalZ square2_nprog [x0, x1, x2, x3, x4, x5, x6, x7, x8, x9] = square2_fn x0 x1 x2 x3 x4 x5 x6 x7 x8 x9 :=
  (NProg.evalZ_eq_fast _ _).trans (by kernel_rfl)

def pow2k_body_post : List Itv := [⟨0, 67108863, 0⟩, ⟨0, 33554431, 0⟩, ⟨0, 67108864, 0⟩, ⟨0, 33554431, 0⟩, ⟨0, 67108863, 0⟩, ⟨0, 33554431, 0⟩, ⟨0, 67108863, 0⟩, ⟨0, 33554431, 0⟩, ⟨0, 67108863, 0⟩, ⟨0, 33554431, 0⟩]

def pow2k_body_nprog : NProg := Prog.normProg Dalek.Gen.FiatField26.pow2k_body Dalek.Model.Contracts.FiatField26.pre_pow2k_body

theorem pow2k_body_norm_ok : Prog.norm Dalek.Gen.FiatField26.pow2k_body Dalek.Model.Contracts.FiatField26.pre_pow2k_body = some (pow2k_body_nprog, pow2k_body_post) :=
  Prog.norm_eq_of_post (by decide +kernel)

def pow2k_body_fn (x0 x1 x2 x3 x4 x5 x6 x7 x8 x9 : Int) : List Int :=
  let x10 : Int := (x9 * (19 : Int))
  let x11 : Int := (x10 * (2 : Int))
  let x12 : Int := (x9 * (2 : Int))
  let x13 : Int := (x8 * (19 : Int))
  let x14 : Int := (x13 * (2 : Int))
  let x15 : Int := (x8 * (2 : Int))
  let x16 : Int := (x7 * (19 : Int))
  let x17 : Int := (x16 * (2 : Int))
  let x18 : Int := (x7 * (2 : Int))
  let x19 : Int := (x6 * (19 : Int))
  let x20 : Int := (x19 * (2 : Int))
  let x21 : Int := (x6 * (2 : Int))
  let x22 : Int := (x5 * (19 : Int))
  let x23 : Int := (x5 * (2 : Int))
  let x24 : Int := (x4 * (2 : Int))
  let x25 : Int := (x3 * (2 : Int))
  let x26 : Int := (x2 * (2 : Int))
  let x27 : Int := (x1 * (2 : Int))
  let x28 : Int := (x9 * (x10 * (2 : Int)))
  let x29 : Int := (x8 * x11)
  let x30 : Int := (x8 * x13)
  let x31 : Int := (x7 * (x11 * (2 : Int)))
  let x32 : Int := (x7 * x14)
  let x33 : Int := (x7 * (x16 * (2 : Int)))
  let x34 : Int := (x6 * x11)
  let x35 : Int := (x6 * x14)
  let x36 : Int := (x6 * x17)
  let x37 : Int := (x6 * x19)
  let x38 : Int := (x5 * (x11 * (2 : Int)))
  let x39 : Int := (x5 * x14)
  let x40 : Int := (x5 * (x17 * (2 : Int)))
  let x41 : Int := (x5 * x20)
  let x42 : Int := (x5 * (x22 * (2 : Int)))
  let x43 : Int := (x4 * x11)
  let x44 : Int := (x4 * x14)
  let x45 : Int := (x4 * x17)
  let x46 : Int := (x4 * x20)
  let x47 : Int := (x4 * x23)
  let x48 : Int := (x4 * x4)
  let x49 : Int := (x3 * (x11 * (2 : Int)))
  let x50 : Int := (x3 * x14)
  let x51 : Int := (x3 * (x17 * (2 : Int)))
  let x52 : Int := (x3 * x21)
  let x53 : Int := (x3 * (x23 * (2 : Int)))
  let x54 : Int := (x3 * x24)
  let x55 : Int := (x3 * (x3 * (2 : Int)))
  let x56 : Int := (x2 * x11)
  let x57 : Int := (x2 * x14)
  let x58 : Int := (x2 * x18)
  let x59 : Int := (x2 * x21)
  let x60 : Int := (x2 * x23)
  let x61 : Int := (x2 * x24)
  let x62 : Int := (x2 * x25)
  let x63 : Int := (x2 * x2)
  let x64 : Int := (x1 * (x11 * (2 : Int)))
  let x65 : Int := (x1 * x15)
  let x66 : Int := (x1 * (x18 * (2 : Int)))
  let x67 : Int := (x1 * x21)
  let x68 : Int := (x1 * (x23 * (2 : Int)))
  let x69 : Int := (x1 * x24)
  let x70 : Int := (x1 * (x25 * (2 : Int)))
  let x71 : Int := (x1 * x26)
  let x72 : Int := (x1 * (x1 * (2 : Int)))
  let x73 : Int := (x0 * x12)
  let x74 : Int := (x0 * x15)
  let x75 : Int := (x0 * x18)
  let x76 : Int := (x0 * x21)
  let x77 : Int := (x0 * x23)
  let x78 : Int := (x0 * x24)
  let x79 : Int := (x0 * x25)
  let x80 : Int := (x0 * x26)
  let x81 : Int := (x0 * x27)
  let x82 : Int := (x0 * x0)
  let x83 : Int := (x82 + (x64 + (x57 + (x51 + (x46 + x42)))))
  let x84 : Int := (x83 / 2 ^ (26 : Nat))
  let x85 : Int := (x83 % 2 ^ (26 : Nat))
  let x86 : Int := (x73 + (x65 + (x58 + (x52 + x47))))
  let x87 : Int := (x74 + (x66 + (x59 + (x53 + (x48 + x28)))))
  let x88 : Int := (x75 + (x67 + (x60 + (x54 + x29))))
  let x89 : Int := (x76 + (x68 + (x61 + (x55 + (x31 + x30)))))
  let x90 : Int := (x77 + (x69 + (x62 + (x34 + x32))))
  let x91 : Int := (x78 + (x70 + (x63 + (x38 + (x35 + x33)))))
  let x92 : Int := (x79 + (x71 + (x43 + (x39 + x36))))
  let x93 : Int := (x80 + (x72 + (x49 + (x44 + (x40 + x37)))))
  let x94 : Int := (x81 + (x56 + (x50 + (x45 + x41))))
  let x95 : Int := (x84 + x94)
  let x96 : Int := (x95 / 2 ^ (25 : Nat))
  let x97 : Int := (x95 % 2 ^ (25 : Nat))
  let x98 : Int := (x96 + x93)
  let x99 : Int := (x98 / 2 ^ (26 : Nat))
  let x100 : Int := (x98 % 2 ^ (26 : Nat))
  let x101 : Int := (x99 + x92)
  let x102 : Int := (x101 / 2 ^ (25 : Nat))
  let x103 : Int := (x101 % 2 ^ (25 : Nat))
  let x104 : Int := (x102 + x91)
  let x105 : Int := (x104 / 2 ^ (26 : Nat))
  let x106 : Int := (x104 % 2 ^ (26 : Nat))
  let x107 : Int := (x105 + x90)
  let x108 : Int := (x107 / 2 ^ (25 : Nat))
  let x109 : Int := (x107 % 2 ^ (25 : Nat))
  let x110 : Int := (x108 + x89)
  let x111 : Int := (x110 / 2 ^ (26 : Nat))
  let x112 : Int := (x110 % 2 ^ (26 : Nat))
  let x113 : Int := (x111 + x88)
  let x114 : Int := (x113 / 2 ^ (25 : Nat))
  let x115 : Int := (x113 % 2 ^ (25 : Nat))
  let x116 : Int := (x114 + x87)
  let x117 : Int := (x116 / 2 ^ (26 : Nat))
  let x118 : Int := (x116 % 2 ^ (26 : Nat))
  let x119 : Int := (x117 + x86)
  let x120 : Int := (x119 / 2 ^ (25 : Nat))
  let x121 : Int := (x119 % 2 ^ (25 : Nat))
  let x122 : Int := (x120 * (19 : Int))
  let x123 : Int := (x85 + x122)
  let x124 : Int := (x123 / 2 ^ (26 : Nat))
  let x125 : Int := (x123 % 2 ^ (26 : Nat))
  let x126 : Int := (x124 + x97)
  let x127 : Int := (x126 / 2 ^ (25 : Nat))
  let x128 : Int := (x126 % 2 ^ (25 : Nat))
  let x129 : Int := (x127 + x100)
  [x125, x128, x129, x103, x106, x109, x112, x115, x118, x121]

theorem pow2k_body_fn_ok (x0 x1 x2 x3 x4 x5 x6 x7 x8 x9 : Int) : NProg.evalZ pow2k_body_nprog [x0, x1, x2, x3, x4, x5, x6, x7, x8, x9] = pow2k_body_fn x0 x1 x2 x3 x4 x5 x6 x7 x8 x9 :=
  (NProg.evalZ_eq_fast _ _).trans (by kernel_rfl)

def conditional_select_post : List Itv := [⟨0, 4294967295, 0⟩, ⟨0, 4294967295, 0⟩, ⟨0, 4294967295, 0⟩, ⟨0, 4294967295, 0⟩, ⟨0, 4294967295, 0⟩, ⟨0, 4294967295, 0⟩, ⟨0, 4294967295, 0⟩, ⟨0, 4294967295, 0⟩, ⟨0, 4294967295, 0⟩, ⟨0, 4294967295, 0⟩]

def conditional_select_nprog : NProg := Prog.normProg Dalek.Gen.FiatField26.conditional_select Dalek.Model.Contracts.FiatField26.pre_conditional_select

theorem conditional_select_norm_ok : Prog.norm Dalek.Gen.FiatField26.conditional_select Dalek.Model.Contracts.FiatField26.pre_conditional_select = some (conditional_select_nprog, conditional_select_post) :=
  Prog.norm_eq_of_post (by decide +kernel)

def conditional_select_fn (x0 x1 x2 x3 x4 x5 x6 x7 x8 x9 x10 x11 x12 x13 x14 x15 x16 x17 x18 x19 x20 : Int) : List Int :=
  let x21 : Int := x20
  let x22 : Int := (if x21 = 0 then x0 else x10)
  let x23 : Int := (if x21 = 0 then x1 else x11)
  let x24 : Int := (if x21 = 0 then x2 else x12)
  let x25 : Int := (if x21 = 0 then x3 else x13)
  let x26 : Int := (if x21 = 0 then x4 else x14)
  let x27 : Int := (if x21 = 0 then x5 else x15)
  let x28 : Int := (if x21 = 0 then x6 else x16)
  let x29 : Int := (if x21 = 0 then x7 else x17)
  let x30 : Int := (if x21 = 0 then x8 else x18)
  let x31 : Int := (if x21 = 0 then x9 else x19)
  [x22, x23, x24, x25, x26, x27, x28, x29, x30, x31]

theorem conditional_select_fn_ok (x0 x1 x2 x3 x4 x5 x6 x7 x8 x9 x10 x11 x12 x13 x14 x15 x16 x17 x18 x19 x20 : Int) : NProg.evalZ conditional_select_nprog [x0, x1, x2, x3, x4, x5, x6, x7, x8, x9, x10, x11, x12, x13, x14, x15, x16, x17, x18, x19, x20] = conditional_select_fn x0 x1 x2 x3 x4 x5 x6 x7 x8 x9 x10 x11 x12 x13 x14 x15 x16 x17 x18 x19 x20 :=
  (NProg.evalZ_eq_fast _ _).trans (by kernel_rfl)

def conditional_assign_post : List Itv := [⟨0, 4294967295, 0⟩, ⟨0, 4294967295, 0⟩, ⟨0, 4294967295, 0⟩, ⟨0, 4294967295, 0⟩, ⟨0, 4294967295, 0⟩, ⟨0, 4294967295, 0⟩, ⟨0, 4294967295, 0⟩, ⟨0, 4294967295, 0⟩, ⟨0, 4294967295, 0⟩, ⟨0, 4294967295, 0⟩]

def conditional_assign_nprog : NProg := Prog.normProg Dalek.Gen.FiatField26.conditional_assign Dalek.Model.Contracts.FiatField26.pre_conditional_assign

theorem conditional_assign_norm_ok : Prog.norm Dalek.Gen.FiatField26.conditional_assign Dalek.Model.Contracts.FiatField26.pre_conditional_assign = some (conditional_assign_nprog, conditional_assign_post) :=
  Prog.norm_eq_of_post (by decide +kernel)

def conditional_assign_fn (x0 x1 x2 x3 x4 x5 x6 x7 x8 x9 x10 x11 x12 x13 x14 x15 x16 x17 x18 x19 x20 : Int) : List Int :=
  let x21 : Int := x20
  let x22 : Int := (if x21 = 0 then x0 else x10)
  let x23 : Int := (if x21 = 0 then x1 else x11)
  let x24 : Int := (if x21 = 0 then x2 else x12)
  let x25 : Int := (if x21 = 0 then x3 else x13)
  let x26 : Int := (if x21 = 0 then x4 else x14)
  let x27 : Int := (if x21 = 0 then x5 else x15)
  let x28 : Int := (if x21 = 0 then x6 else x16)
  let x29 : Int := (if x21 = 0 then x7 else x17)
  let x30 : Int := (if x21 = 0 then x8 else x18)
  let x31 : Int := (if x21 = 0 then x9 else x19)
  [x22, x23, x24, x25, x26, x27, x28, x29, x30, x31]

theorem conditional_assign_fn_ok (x0 x1 x2 x3 x4 x5 x6 x7 x8 x9 x10 x11 x12 x13 x14 x15 x16 x17 x18 x19 x20 : Int) : NProg.evalZ conditional_assign_nprog [x0, x1, x2, x3, x4, x5, x6, x7, x8, x9, x10, x11, x12, x13, x14, x15, x16, x17, x18, x19, x20] = conditional_assign_fn x0 x1 x2 x3 x4 x5 x6 x7 x8 x9 x10 x11 x12 x13 x14 x15 x16 x17 x18 x19 x20 :=
  (NProg.evalZ_eq_fast _ _).trans (by kernel_rfl)

def conditional_swap_post : List Itv := [⟨0, 4294967295, 0⟩, ⟨0, 4294967295, 0⟩, ⟨0, 4294967295, 0⟩, ⟨0, 4294967295, 0⟩, ⟨0, 4294967295, 0⟩, ⟨0, 4294967295, 0⟩, ⟨0, 4294967295, 0⟩, ⟨0, 4294967295, 0⟩, ⟨0, 4294967295, 0⟩, ⟨0, 4294967295, 0⟩, ⟨0, 4294967295, 0⟩, ⟨0, 4294967295, 0⟩, ⟨0, 4294967295, 0⟩, ⟨0, 4294967295, 0⟩, ⟨0, 4294967295, 0⟩, ⟨0, 4294967295, 0⟩, ⟨0, 4294967295, 0⟩, ⟨0, 4294967295, 0⟩, ⟨0, 4294967295, 0⟩, ⟨0, 4294967295, 0⟩]

def conditional_swap_nprog : NProg := Prog.normProg Dalek.Gen.FiatField26.conditional_swap Dalek.Model.Contracts.FiatField26.pre_conditional_swap

theorem conditional_swap_norm_ok : Prog.norm Dalek.Gen.FiatField26.conditional_swap Dalek.Model.Contracts.FiatField26.pre_conditional_swap = some (conditional_swap_nprog, conditional_swap_post) :=
  Prog.norm_eq_of_post (by decide +kernel)

def conditional_swap_fn (x0 x1 x2 x3 x4 x5 x6 x7 x8 x9 x10 x11 x12 x13 x14 x15 x16 x17 x18 x19 x20 : Int) : List Int :=
  let x21 : Int := (if x20 = 0 then x0 else x10)
  let x22 : Int := (if x20 = 0 then x10 else x0)
  let x23 : Int := (if x20 = 0 then x1 else x11)
  let x24 : Int := (if x20 = 0 then x11 else x1)
  let x25 : Int := (if x20 = 0 then x2 else x12)
  let x26 : Int := (if x20 = 0 then x12 else x2)
  let x27 : Int := (if x20 = 0 then x3 else x13)
  let x28 : Int := (if x20 = 0 then x13 else x3)
  let x29 : Int := (if x20 = 0 then x4 else x14)
  let x30 : Int := (if x20 = 0 then x14 else x4)
  let x31 : Int := (if x20 = 0 then x5 else x15)
  let x32 : Int := (if x20 = 0 then x15 else x5)
  let x33 : Int := (if x20 = 0 then x6 else x16)
  let x34 : Int := (if x20 = 0 then x16 else x6)
  let x35 : Int := (if x20 = 0 then x7 else x17)
  let x36 : Int := (if x20 = 0 then x17 else x7)
  let x37 : Int := (if x20 = 0 then x8 else x18)
  let x38 : Int := (if x20 = 0 then x18 else x8)
  let x39 : Int := (if x20 = 0 then x9 else x19)
  let x40 : Int := (if x20 = 0 then x19 else x9)
  [x21, x23, x25, x27, x29, x31, x33, x35, x37, x39, x22, x24, x26, x28, x30, x32, x34, x36, x38, x40]

theorem conditional_swap_fn_ok (x0 x1 x2 x3 x4 x5 x6 x7 x8 x9 x10 x11 x12 x13 x14 x15 x16 x17 x18 x19 x20 : Int) : NProg.evalZ conditional_swap_nprog [x0, x1, x2, x3, x4, x5, x6, x7, x8, x9, x10, x11, x12, x13, x14, x15, x16, x17, x18, x19, x20] = conditional_swap_fn x0 x1 x2 x3 x4 x5 x6 x7 x8 x9 x10 x11 x12 x13 x14 x15 x16 x17 x18 x19 x20 :=
  (NProg.evalZ_eq_fast _ _).trans (by kernel_rfl)

end Dalek.Gen.Norm.FiatField26
