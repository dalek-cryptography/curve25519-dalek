import Dalek.Model.ConstCheck
import Dalek.Proofs.CurveOrder.Structure
import Dalek.Proofs.Bridge.FastEdwards
/-!
# C12 — every precomputed constant and table entry equals its definition

All statements are about the literals of `Dalek.Gen.Consts`, REGENERATED from the Rust sources
(`curve25519-dalek/src/{constants.rs, backend/serial/{u64,u32}/constants.rs,
backend/vector/{avx2,ifma}/constants.rs}`, `ed25519-dalek/src/constants.rs`, `x25519-dalek/src/x25519.rs`)
by `tools/rs2lean` on every run, and the executable specification `Dalek.Spec.*`.  Each theorem is
`check… = true` for a checker defined (with its meaning documented) in `Dalek/Model/ConstCheck.lean`, proved
by kernel evaluation (`decide +kernel`): a changed literal makes the corresponding theorem fail to
type-check, and `Dalek.Model.ConstCheck.report` / `tableFailures` name the offending check / entry.

Decoding: `val51 l = Σ lᵢ 2^(51 i) mod p` (u64 backend), `val26 l = Σ lᵢ 2^⌈25.5 i⌉ mod p` (u32 backend),
`laneAvx2`/`laneIfma` for the vector layouts, `val52`/`val29` for scalars.  `P`, `L`, `D`, `B`, `compress`,
`eightTorsion`, `Ristretto.encode`, `toMontgomery` are those of `Dalek.Spec`.

Multiples of the basepoint are computed from the SPECIFICATION's `B` by chains of additions/doublings in
extended coordinates (`Dalek.Model.EPt`, the complete HWCD formulas) and compared by cross-multiplication.
-/
namespace Dalek.Props.C12
open Dalek.Spec Dalek.Model Dalek.Model.ConstCheck
open Dalek.Gen.Consts

/-! ## Field constants: defining equations, in both serial representations -/

/-- `MINUS_ONE = -1` (u64 and u32) -/
theorem MINUS_ONE_ok :
    (checkMinusOne (val51 U64.MINUS_ONE) && checkMinusOne (val26 U32.MINUS_ONE)) = true := by
  decide +kernel

/-- `EDWARDS_D · 121666 = -121665` -/
theorem EDWARDS_D_ok :
    (checkD (val51 U64.EDWARDS_D) && checkD (val26 U32.EDWARDS_D)) = true := by decide +kernel

/-- the same, spelled out -/
theorem EDWARDS_D_u64_eq : val51 U64.EDWARDS_D * 121666 % P = P - 121665 := by decide +kernel
theorem EDWARDS_D_u32_eq : val26 U32.EDWARDS_D * 121666 % P = P - 121665 := by decide +kernel

/-- `EDWARDS_D2 = 2·EDWARDS_D` -/
theorem EDWARDS_D2_ok :
    (checkD2 (val51 U64.EDWARDS_D) (val51 U64.EDWARDS_D2) &&
     checkD2 (val26 U32.EDWARDS_D) (val26 U32.EDWARDS_D2)) = true := by decide +kernel

theorem EDWARDS_D2_u64_eq : val51 U64.EDWARDS_D2 = 2 * val51 U64.EDWARDS_D % P := by decide +kernel
theorem EDWARDS_D2_u32_eq : val26 U32.EDWARDS_D2 = 2 * val26 U32.EDWARDS_D % P := by decide +kernel

/-- `SQRT_M1² = -1`, and `SQRT_M1` is the non-negative (even) root -/
theorem SQRT_M1_ok :
    (checkSqrtM1 (val51 U64.SQRT_M1) && checkSqrtM1 (val26 U32.SQRT_M1)) = true := by decide +kernel

theorem SQRT_M1_u64_sq : val51 U64.SQRT_M1 * val51 U64.SQRT_M1 % P = P - 1 := by decide +kernel
theorem SQRT_M1_u32_sq : val26 U32.SQRT_M1 * val26 U32.SQRT_M1 % P = P - 1 := by decide +kernel
theorem SQRT_M1_u64_even : val51 U64.SQRT_M1 % 2 = 0 := by decide +kernel
theorem SQRT_M1_u32_even : val26 U32.SQRT_M1 % 2 = 0 := by decide +kernel

/-- `ONE_MINUS_EDWARDS_D_SQUARED = 1 - d²` -/
theorem ONE_MINUS_EDWARDS_D_SQUARED_ok :
    (checkOneMinusDSq (val51 U64.EDWARDS_D) (val51 U64.ONE_MINUS_EDWARDS_D_SQUARED) &&
     checkOneMinusDSq (val26 U32.EDWARDS_D) (val26 U32.ONE_MINUS_EDWARDS_D_SQUARED)) = true := by
  decide +kernel

/-- `EDWARDS_D_MINUS_ONE_SQUARED = (d - 1)²` -/
theorem EDWARDS_D_MINUS_ONE_SQUARED_ok :
    (checkDMinusOneSq (val51 U64.EDWARDS_D) (val51 U64.EDWARDS_D_MINUS_ONE_SQUARED) &&
     checkDMinusOneSq (val26 U32.EDWARDS_D) (val26 U32.EDWARDS_D_MINUS_ONE_SQUARED)) = true := by
  decide +kernel

/-- `SQRT_AD_MINUS_ONE² = ad - 1 = -d - 1` -/
theorem SQRT_AD_MINUS_ONE_ok :
    (checkSqrtAdMinusOne (val51 U64.EDWARDS_D) (val51 U64.SQRT_AD_MINUS_ONE) &&
     checkSqrtAdMinusOne (val26 U32.EDWARDS_D) (val26 U32.SQRT_AD_MINUS_ONE)) = true := by
  decide +kernel

/-- `INVSQRT_A_MINUS_D² · (a - d) = 1`, `a - d = -1 - d` -/
theorem INVSQRT_A_MINUS_D_ok :
    (checkInvsqrtAMinusD (val51 U64.EDWARDS_D) (val51 U64.INVSQRT_A_MINUS_D) &&
     checkInvsqrtAMinusD (val26 U32.EDWARDS_D) (val26 U32.INVSQRT_A_MINUS_D)) = true := by
  decide +kernel

/-- `APLUS2_OVER_FOUR = 121666 = (A + 2)/4` -/
theorem APLUS2_OVER_FOUR_ok :
    (checkAplus2Over4 (val51 U64.APLUS2_OVER_FOUR) (val51 U64.MONTGOMERY_A) &&
     checkAplus2Over4 (val26 U32.APLUS2_OVER_FOUR) (val26 U32.MONTGOMERY_A)) = true := by
  decide +kernel

/-- `MONTGOMERY_A = 486662` -/
theorem MONTGOMERY_A_ok :
    (checkMontA (val51 U64.MONTGOMERY_A) && checkMontA (val26 U32.MONTGOMERY_A)) = true := by
  decide +kernel

/-- `MONTGOMERY_A_NEG = -486662` -/
theorem MONTGOMERY_A_NEG_ok :
    (checkMontANeg (val51 U64.MONTGOMERY_A_NEG) && checkMontANeg (val26 U32.MONTGOMERY_A_NEG)) = true := by
  decide +kernel

/-- every field-constant literal is the canonical encoding of its value: limbs `< 2^51`
(resp. `< 2^26 / 2^25`) and denoted integer `< p` -/
theorem field_consts_canonical :
    (checkFieldCanon51 u64Consts && checkFieldCanon26 u32Consts) = true := by decide +kernel

/-- `repr_agree`: the u64 and u32 literals of each of the eleven field constants denote the same value -/
theorem field_consts_repr_agree : checkFieldReprAgree = true := by decide +kernel

/-- the literal constants of the executable specification (`Spec.D`, `Spec.SQRT_M1`, RFC 9496's
`INVSQRT_A_MINUS_D`, `SQRT_AD_MINUS_ONE`, `ONE_MINUS_D_SQ`, `D_MINUS_ONE_SQ`, `MONTGOMERY_A`, `a24 + 1`) are the
values of the crate's literals — in particular the two Ristretto square roots have the RFC's sign -/
theorem spec_consts_agree :
    (checkSpecConsts val51 u64Consts && checkSpecConsts val26 u32Consts) = true := by decide +kernel

/-! ## Scalar constants -/

/-- `L` denotes `l = 2^252 + 27742317777372353535851937790883648493` (52-bit and 29-bit limbs) -/
theorem L_ok : (checkL52 && checkL29) = true := by decide +kernel
theorem L_u64_eq : val52 U64.L = L := by decide +kernel
theorem L_u32_eq : val29 U32.L = L := by decide +kernel

/-- `R = 2^260 mod l` (u64), `R = 2^261 mod l` (u32) -/
theorem R_ok : (checkR52 && checkR29) = true := by decide +kernel
theorem R_u64_eq : val52 U64.R = 2 ^ 260 % L := by decide +kernel
theorem R_u32_eq : val29 U32.R = 2 ^ 261 % L := by decide +kernel

/-- `RR = R² mod l` -/
theorem RR_ok : (checkRR52 && checkRR29) = true := by decide +kernel
theorem RR_u64_eq : val52 U64.RR = val52 U64.R * val52 U64.R % L := by decide +kernel
theorem RR_u32_eq : val29 U32.RR = val29 U32.R * val29 U32.R % L := by decide +kernel

/-- `LFACTOR · L[0] ≡ -1 (mod 2^52)` resp. `(mod 2^29)` -/
theorem LFACTOR_ok : (checkLFACTOR52 && checkLFACTOR29) = true := by decide +kernel
theorem LFACTOR_u64_eq : U64.LFACTOR * U64.L.getD 0 0 % 2 ^ 52 = 2 ^ 52 - 1 := by decide +kernel
theorem LFACTOR_u32_eq : U32.LFACTOR * U32.L.getD 0 0 % 2 ^ 29 = 2 ^ 29 - 1 := by decide +kernel

/-- `BASEPOINT_ORDER` (and `BASEPOINT_ORDER_PRIVATE`) are the 32 little-endian bytes of `l` -/
theorem BASEPOINT_ORDER_ok : checkBasepointOrder = true := by decide +kernel

/-- `repr_agree` for the scalar constants (`L` equal; `LFACTOR₃₂ = LFACTOR₆₄ mod 2^29`;
`R₃₂ = 2 R₆₄`, `RR₃₂ = 4 RR₆₄ mod l`, the radices being 2^261 and 2^260 by design) -/
theorem scalar_consts_repr_agree : checkScalarReprAgree = true := by decide +kernel

/-! ## AVX2 / IFMA lane constants -/

/-- `[P_TIMES_2_LO, P_TIMES_2_HI ×4]` is limb-wise `2 ×` the radix-2^25.5 limbs of `p` in all four lanes,
each lane denotes exactly `2p`, every limb is `≥ 2^(w+0.999)` (and fits in 32 bits) -/
theorem P_TIMES_2_ok : checkPTimes2 = true := by decide +kernel

/-- `[P_TIMES_16_LO, P_TIMES_16_HI ×4]` is limb-wise `16 ×` the limbs of `p`, each lane denotes exactly `16p`,
every limb is `≥ 2^(w+3.999)` (and fits in 32 bits) -/
theorem P_TIMES_16_ok : checkPTimes16 = true := by decide +kernel

/-- AVX2 `EXTENDEDPOINT_IDENTITY` = lanes `(0,1,1,0)`; `CACHEDPOINT_IDENTITY` ≡ `CachedPoint::from(identity)`
= `(121666, 121666, 243332, 0)` lane-wise mod p, bounded with `b < 0.007` -/
theorem avx2_identity_ok : checkAvx2Identity = true := by decide +kernel

/-- IFMA `EXTENDEDPOINT_IDENTITY`, `CACHEDPOINT_IDENTITY`: same, within the `F51x4Reduced` range -/
theorem ifma_identity_ok : checkIfmaIdentity = true := by decide +kernel

/-! ## Basepoint -/

/-- `ED25519_BASEPOINT_POINT` (u64, u32): canonical coordinates, on the curve, `5y = 4`, `x` even, `Z = 1`,
`T = XY`, and equal to the specification's `B` -/
theorem ED25519_BASEPOINT_POINT_ok :
    (checkBasepoint val51 canon51 U64.ED25519_BASEPOINT_POINT &&
     checkBasepoint val26 canon26 U32.ED25519_BASEPOINT_POINT) = true := by decide +kernel

/-- `[l]B = O` and `B ≠ O` -/
theorem basepoint_order_ok :
    (checkBasepointOrderL val51 U64.ED25519_BASEPOINT_POINT &&
     checkBasepointOrderL val26 U32.ED25519_BASEPOINT_POINT) = true := by decide +kernel

/-- `ED25519_BASEPOINT_COMPRESSED = compress B` (and decompresses to `B`) -/
theorem ED25519_BASEPOINT_COMPRESSED_ok : checkBasepointCompressed = true := by decide +kernel

/-- `X25519_BASEPOINT = 9 = (1+y_B)/(1-y_B)`; x25519-dalek's `X25519_BASEPOINT_BYTES` is the same string -/
theorem X25519_BASEPOINT_ok : checkX25519Basepoint = true := by decide +kernel

/-- `RISTRETTO_BASEPOINT_COMPRESSED` = RFC 9496 ENCODE(`B`) (and DECODEs to an element EQUAL to `B`) -/
theorem RISTRETTO_BASEPOINT_COMPRESSED_ok : checkRistrettoBasepointCompressed = true := by
  decide +kernel

/-! ## Torsion -/

/-- `EIGHT_TORSION` (u64, u32): `T[i] = [i]·T[1]` for all 8 (and `= Spec.eightTorsion[i]`), canonical
normalised points on the curve, pairwise distinct, `[8]T[i] = O`, `[4]T[1] ≠ O`, `T[7] + T[1] = O` -/
theorem EIGHT_TORSION_ok :
    (checkEightTorsion val51 canon51 U64.EIGHT_TORSION &&
     checkEightTorsion val26 canon26 U32.EIGHT_TORSION) = true := by decide +kernel

/-! ## ed25519-dalek lengths -/

theorem ed25519_lengths_ok : checkEdLengths = true := by decide +kernel

/-! ## Tables -/

/-- u64: every `ED25519_BASEPOINT_TABLE[i][j]` (32 × 8) is the affine Niels form `(y+x, y-x, 2dxy)` of
`(j+1)·256^i·B` -/
theorem ED25519_BASEPOINT_TABLE_u64_ok :
    checkBasepointTable val51 U64.ED25519_BASEPOINT_TABLE = true := by decide +kernel

/-- u32: the same -/
theorem ED25519_BASEPOINT_TABLE_u32_ok :
    checkBasepointTable val26 U32.ED25519_BASEPOINT_TABLE = true := by decide +kernel

/-- the same as an explicit "no failing entry" statement -/
theorem ED25519_BASEPOINT_TABLE_no_failing_entry :
    (failingEntries val51 U64.ED25519_BASEPOINT_TABLE).isEmpty = true ∧
    (failingEntries val26 U32.ED25519_BASEPOINT_TABLE).isEmpty = true := by
  have h1 := ED25519_BASEPOINT_TABLE_u64_ok
  have h2 := ED25519_BASEPOINT_TABLE_u32_ok
  simp only [checkBasepointTable, Bool.and_eq_true] at h1 h2
  exact ⟨h1.2, h2.2⟩

/-- u64: every `AFFINE_ODD_MULTIPLES_OF_BASEPOINT[i]` (64) is the affine Niels form of `(2i+1)·B` -/
theorem AFFINE_ODD_MULTIPLES_OF_BASEPOINT_u64_ok :
    checkOddTable val51 U64.AFFINE_ODD_MULTIPLES_OF_BASEPOINT = true := by decide +kernel

/-- u32: the same -/
theorem AFFINE_ODD_MULTIPLES_OF_BASEPOINT_u32_ok :
    checkOddTable val26 U32.AFFINE_ODD_MULTIPLES_OF_BASEPOINT = true := by decide +kernel

/-- AVX2: every `BASEPOINT_ODD_LOOKUP_TABLE[i]` (64) has lanes `(A:B:C:D)` projectively equal to the
`CachedPoint` `(Y-X : Y+X : 2Z : 2dT)` of `(2i+1)·B` -/
theorem BASEPOINT_ODD_LOOKUP_TABLE_avx2_ok :
    checkCachedTable laneAvx2 Avx2.BASEPOINT_ODD_LOOKUP_TABLE = true := by decide +kernel

/-- IFMA: the same -/
theorem BASEPOINT_ODD_LOOKUP_TABLE_ifma_ok :
    checkCachedTable laneIfma Ifma.BASEPOINT_ODD_LOOKUP_TABLE = true := by decide +kernel

/-- limb ranges of all serial table entries: `y_minus_x`, `xy2d` reduced (`< 2^51`; `< 2^26/2^25`),
`y_plus_x` (an unreduced sum) one bit more (`< 2^52`; `< 2^27/2^26`) -/
theorem serial_table_ranges_ok : checkTableRanges = true := by decide +kernel

/-- coefficient ranges of all vector table entries: AVX2 `b < 0.007`, IFMA `F51x4Reduced` range -/
theorem vector_table_ranges_ok : checkVectorTableRanges = true := by decide +kernel

/-- `repr_agree`: the u64 and u32 literals of the basepoint, the torsion points and ALL table entries
denote the same field values -/
theorem point_repr_agree : checkPointReprAgree = true := by decide +kernel

/-- `repr_agree`: the AVX2 and IFMA literals (identity constants, all 64 table entries) denote the same
lane values mod p; entry 0 is exactly dalek's `CachedPoint::from(B)` -/
theorem vector_repr_agree : checkVectorReprAgree = true := by decide +kernel

/-- `AFFINE_ODD_MULTIPLES_OF_BASEPOINT[k]` and `ED25519_BASEPOINT_TABLE[0][2k]` (k < 4) are the same literal -/
theorem tables_overlap_ok : checkTablesOverlap = true := by decide +kernel

/-! ## Everything at once -/

/-- every check that `Dalek.Model.ConstCheck.reportC12` (the list the driver prints) names succeeds -/
theorem reportC12_all_ok : reportC12.all (fun nb => nb.2) = true := by
  have h := And.intro MINUS_ONE_ok <| And.intro EDWARDS_D_ok <| And.intro EDWARDS_D2_ok <| And.intro SQRT_M1_ok
    <| And.intro ONE_MINUS_EDWARDS_D_SQUARED_ok <| And.intro EDWARDS_D_MINUS_ONE_SQUARED_ok <| And.intro
    SQRT_AD_MINUS_ONE_ok <| And.intro INVSQRT_A_MINUS_D_ok <| And.intro APLUS2_OVER_FOUR_ok <| And.intro
    MONTGOMERY_A_ok <| And.intro MONTGOMERY_A_NEG_ok <| And.intro field_consts_canonical <| And.intro
    field_consts_repr_agree <| And.intro spec_consts_agree <| And.intro L_ok <| And.intro R_ok <| And.intro
    RR_ok <| And.intro LFACTOR_ok <| And.intro BASEPOINT_ORDER_ok <| And.intro scalar_consts_repr_agree <|
    And.intro P_TIMES_2_ok <| And.intro P_TIMES_16_ok <| And.intro avx2_identity_ok <| And.intro
    ifma_identity_ok <| And.intro ED25519_BASEPOINT_POINT_ok <| And.intro basepoint_order_ok <| And.intro
    EIGHT_TORSION_ok <| And.intro ED25519_BASEPOINT_COMPRESSED_ok <| And.intro X25519_BASEPOINT_ok <| And.intro
    RISTRETTO_BASEPOINT_COMPRESSED_ok <| And.intro ed25519_lengths_ok <| And.intro
    ED25519_BASEPOINT_TABLE_u64_ok <| And.intro ED25519_BASEPOINT_TABLE_u32_ok <| And.intro
    AFFINE_ODD_MULTIPLES_OF_BASEPOINT_u64_ok <| And.intro AFFINE_ODD_MULTIPLES_OF_BASEPOINT_u32_ok <| And.intro
    BASEPOINT_ODD_LOOKUP_TABLE_avx2_ok <| And.intro BASEPOINT_ODD_LOOKUP_TABLE_ifma_ok <| And.intro
    serial_table_ranges_ok <| And.intro vector_table_ranges_ok <| And.intro point_repr_agree <| And.intro
    vector_repr_agree <| tables_overlap_ok
  simp only [Bool.and_eq_true, u64Consts, u32Consts] at h
  simp only [reportC12, withPrefix, fieldChecks, u64Consts, u32Consts, List.map_cons, List.map_nil,
    List.cons_append, List.nil_append, List.all_cons, List.all_nil, h, Bool.and_self]

/-! ## `EIGHT_TORSION` is ALL of the 8-torsion

`Dalek/Proofs/CurveOrder.lean` proves that the group `Ed` of the curve (`Dalek.Bridge.Ed`, a commutative group by
`Proofs/EdwardsGroup.lean`) has exactly `8ℓ` points, and `Dalek/Proofs/CurveOrder/Structure.lean` that its 8-torsion
is cyclic of order 8, generated by the point denoted by `eightTorsion[1]`.  `Rep p Q` (`Proofs/Bridge/Edwards.lean`)
says that the specification point `p` denotes `Q`; `ERep e Q` (`Proofs/Bridge/FastEdwards.lean`) that the
extended-coordinates point `e` does. -/

/-- **Every point `Q` of the curve with `8·Q = 0` is one of the eight `EIGHT_TORSION` constants**: for some
`i < 8`, `Q` is denoted by the specification's `eightTorsion[i]`, by the u64 literal `EIGHT_TORSION[i]` and by the
u32 literal `EIGHT_TORSION[i]`; and there are exactly 8 such points. -/
theorem EIGHT_TORSION_is_all_of_E8 :
    (∀ Q : Dalek.Bridge.Ed, 8 • Q = 0 →
      ∃ i, i < 8 ∧ Dalek.Bridge.Rep (eightTorsion.getD i Pt.zero) Q ∧
        Dalek.Bridge.ERep (decodePt val51 (U64.EIGHT_TORSION.getD i [])) Q ∧
        Dalek.Bridge.ERep (decodePt val26 (U32.EIGHT_TORSION.getD i [])) Q) ∧
    Nat.card {Q : Dalek.Bridge.Ed // 8 • Q = 0} = 8 := by
  refine ⟨?_, Dalek.CurveOrder.card_small_order⟩
  intro Q h8
  obtain ⟨i, hi, hr⟩ := Dalek.CurveOrder.torsion8_rep h8
  have key : ∀ (e : EPt) (s : Pt), e.X = s.x % P → e.Y = s.y % P → e.Z = 1 → e.T = fmul s.x s.y →
      Dalek.Bridge.Rep s Q → Dalek.Bridge.ERep e Q := by
    intro e s hX hY hZ hT hs
    rw [show e = EPt.ofAffine s from EPt.ext hX hY hZ hT]; exact Dalek.Bridge.erep_ofAffine hs
  have h64 : ∀ i, i < 8 →
      (decodePt val51 (U64.EIGHT_TORSION.getD i [])).X = (eightTorsion.getD i Pt.zero).x % P ∧
      (decodePt val51 (U64.EIGHT_TORSION.getD i [])).Y = (eightTorsion.getD i Pt.zero).y % P ∧
      (decodePt val51 (U64.EIGHT_TORSION.getD i [])).Z = 1 ∧
      (decodePt val51 (U64.EIGHT_TORSION.getD i [])).T
        = fmul (eightTorsion.getD i Pt.zero).x (eightTorsion.getD i Pt.zero).y := by decide +kernel
  have h32 : ∀ i, i < 8 →
      (decodePt val26 (U32.EIGHT_TORSION.getD i [])).X = (eightTorsion.getD i Pt.zero).x % P ∧
      (decodePt val26 (U32.EIGHT_TORSION.getD i [])).Y = (eightTorsion.getD i Pt.zero).y % P ∧
      (decodePt val26 (U32.EIGHT_TORSION.getD i [])).Z = 1 ∧
      (decodePt val26 (U32.EIGHT_TORSION.getD i [])).T
        = fmul (eightTorsion.getD i Pt.zero).x (eightTorsion.getD i Pt.zero).y := by decide +kernel
  obtain ⟨a1, a2, a3, a4⟩ := h64 i hi
  obtain ⟨b1, b2, b3, b4⟩ := h32 i hi
  exact ⟨i, hi, hr, key _ _ a1 a2 a3 a4 hr, key _ _ b1 b2 b3 b4 hr⟩

/-- conversely, each of the eight constants has small order (also part of `EIGHT_TORSION_ok`) -/
theorem EIGHT_TORSION_small_order {i : Nat} (hi : i < 8) {Q : Dalek.Bridge.Ed}
    (h : Dalek.Bridge.Rep (eightTorsion.getD i Pt.zero) Q) : 8 • Q = 0 :=
  Dalek.CurveOrder.eightTorsion_small_order hi h

/-- info: 'Dalek.Props.C12.EIGHT_TORSION_is_all_of_E8' depends on axioms: [propext, Classical.choice, Quot.sound] -/
#guard_msgs in #print axioms EIGHT_TORSION_is_all_of_E8

end Dalek.Props.C12
