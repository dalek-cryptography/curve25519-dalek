/-
Projective / extended / completed coordinate systems used by curve25519-dalek
(`backend/serial/curve_models/mod.rs`) and the refinement of the affine group law by
the dalek formulas: mixed additions (`EdwardsPoint ± ProjectiveNielsPoint`,
`EdwardsPoint ± AffineNielsPoint`), the unified `add-2008-hwcd-3` formula, doubling
(`ProjectivePoint::double`) and the conversions out of `CompletedPoint`.
-/
import Dalek.Proofs.Edwards.Group

namespace Dalek.Edwards

variable {K : Type*} [Field K] {c : EdParams K}

/-- `(X : Y : Z)` (ℙ², dalek `ProjectivePoint`) represents the affine point `P`. -/
def RepProj (P : EdPoint c) (X Y Z : K) : Prop :=
  Z ≠ 0 ∧ P.x = X / Z ∧ P.y = Y / Z

/-- `(X : Y : Z : T)` (extended coordinates, dalek `EdwardsPoint`) represents `P`. -/
def RepExt (P : EdPoint c) (X Y Z T : K) : Prop :=
  Z ≠ 0 ∧ P.x = X / Z ∧ P.y = Y / Z ∧ X * Y = Z * T

/-- `((X : Z), (Y : T))` (ℙ¹ × ℙ¹, dalek `CompletedPoint`) represents `P`. -/
def RepCompleted (P : EdPoint c) (X Y Z T : K) : Prop :=
  Z ≠ 0 ∧ T ≠ 0 ∧ P.x = X / Z ∧ P.y = Y / T

theorem RepExt.toProj {P : EdPoint c} {X Y Z T : K} (h : RepExt P X Y Z T) : RepProj P X Y Z :=
  ⟨h.1, h.2.1, h.2.2.1⟩

/-- `T = X*Y/Z` in extended coordinates. -/
theorem RepExt.T_eq {P : EdPoint c} {X Y Z T : K} (h : RepExt P X Y Z T) : T = X * Y / Z := by
  obtain ⟨hZ, -, -, hT⟩ := h
  field_simp; linear_combination -hT

/-- The neutral element is `(0 : 1 : 1 : 0)`. -/
theorem repExt_zero : RepExt (0 : EdPoint c) 0 1 1 0 := by
  refine ⟨one_ne_zero, ?_, ?_, ?_⟩ <;> simp

/-- Affine coordinates as extended coordinates. -/
theorem repExt_affine (P : EdPoint c) : RepExt P P.x P.y 1 (P.x * P.y) := by
  refine ⟨one_ne_zero, ?_, ?_, ?_⟩ <;> simp

/-- Negation in extended coordinates. -/
theorem RepExt.neg {P : EdPoint c} {X Y Z T : K} (h : RepExt P X Y Z T) :
    RepExt (-P) (-X) Y Z (-T) := by
  obtain ⟨hZ, hx, hy, hT⟩ := h
  refine ⟨hZ, ?_, ?_, ?_⟩
  · rw [EdPoint.neg_x, hx, neg_div]
  · rw [EdPoint.neg_y, hy]
  · linear_combination -hT

/-- `CompletedPoint::as_projective`. -/
theorem RepCompleted.as_projective {P : EdPoint c} {X Y Z T : K} (h : RepCompleted P X Y Z T) :
    RepProj P (X * T) (Y * Z) (Z * T) := by
  obtain ⟨hZ, hT, hx, hy⟩ := h
  refine ⟨mul_ne_zero hZ hT, ?_, ?_⟩
  · rw [hx]; field_simp
  · rw [hy]; field_simp

/-- `CompletedPoint::as_extended`. -/
theorem RepCompleted.as_extended {P : EdPoint c} {X Y Z T : K} (h : RepCompleted P X Y Z T) :
    RepExt P (X * T) (Y * Z) (Z * T) (X * Y) := by
  obtain ⟨hZ, hT, hx, hy⟩ := h
  refine ⟨mul_ne_zero hZ hT, ?_, ?_, by ring⟩
  · rw [hx]; field_simp
  · rw [hy]; field_simp

/-- `ProjectivePoint::as_extended`. -/
theorem RepProj.as_extended {P : EdPoint c} {X Y Z : K} (h : RepProj P X Y Z) :
    RepExt P (X * Z) (Y * Z) (Z ^ 2) (X * Y) := by
  obtain ⟨hZ, hx, hy⟩ := h
  refine ⟨pow_ne_zero 2 hZ, ?_, ?_, by ring⟩
  · rw [hx]; field_simp
  · rw [hy]; field_simp

/-! ### Addition -/

/-- Field-level core of the mixed addition (cf. probe p5): the dalek
`EdwardsPoint + ProjectiveNielsPoint` output, as a completed point, has the affine sum
as its value, and its two denominators are `2 Z1 Z2 (1 ± d x1 x2 y1 y2)`. -/
theorem add_pniels_raw (d X1 Y1 Z1 T1 X2 Y2 Z2 T2 : K) (h2 : (2 : K) ≠ 0)
    (hZ1 : Z1 ≠ 0) (hZ2 : Z2 ≠ 0) (hT1 : X1 * Y1 = Z1 * T1) (hT2 : X2 * Y2 = Z2 * T2)
    (hden1 : 1 + d * (X1/Z1) * (X2/Z2) * (Y1/Z1) * (Y2/Z2) ≠ 0)
    (hden2 : 1 - d * (X1/Z1) * (X2/Z2) * (Y1/Z1) * (Y2/Z2) ≠ 0) :
    let PP := (Y1 + X1) * (Y2 + X2)
    let MM := (Y1 - X1) * (Y2 - X2)
    let TT2d := T1 * (T2 * (2 * d))
    let ZZ := Z1 * Z2
    let ZZ2 := ZZ + ZZ
    ZZ2 + TT2d ≠ 0 ∧ ZZ2 - TT2d ≠ 0 ∧
    addX d (X1/Z1) (Y1/Z1) (X2/Z2) (Y2/Z2) = (PP - MM) / (ZZ2 + TT2d) ∧
    addY d (X1/Z1) (Y1/Z1) (X2/Z2) (Y2/Z2) = (PP + MM) / (ZZ2 - TT2d) := by
  intro PP MM TT2d ZZ ZZ2
  have hT1' : T1 = X1 * Y1 / Z1 := by field_simp; linear_combination -hT1
  have hT2' : T2 = X2 * Y2 / Z2 := by field_simp; linear_combination -hT2
  have e1 : ZZ2 + TT2d = 2 * Z1 * Z2 * (1 + d * (X1/Z1) * (X2/Z2) * (Y1/Z1) * (Y2/Z2)) := by
    simp only [ZZ2, ZZ, TT2d, hT1', hT2']; field_simp; ring
  have e2 : ZZ2 - TT2d = 2 * Z1 * Z2 * (1 - d * (X1/Z1) * (X2/Z2) * (Y1/Z1) * (Y2/Z2)) := by
    simp only [ZZ2, ZZ, TT2d, hT1', hT2']; field_simp; ring
  have hz : 2 * Z1 * Z2 ≠ 0 := mul_ne_zero (mul_ne_zero h2 hZ1) hZ2
  refine ⟨?_, ?_, ?_, ?_⟩
  · rw [e1]; exact mul_ne_zero hz hden1
  · rw [e2]; exact mul_ne_zero hz hden2
  · rw [e1, addX]; simp only [PP, MM]; field_simp; ring
  · rw [e2, addY]; simp only [PP, MM]; field_simp; ring

/-- dalek `&EdwardsPoint + &ProjectiveNielsPoint` (the Niels point being
`(Y2+X2, Y2-X2, Z2, 2d·T2)`) computes the group law. -/
theorem add_projectiveNiels {P Q : EdPoint c} {X1 Y1 Z1 T1 X2 Y2 Z2 T2 : K}
    (hP : RepExt P X1 Y1 Z1 T1) (hQ : RepExt Q X2 Y2 Z2 T2) :
    let PP := (Y1 + X1) * (Y2 + X2)
    let MM := (Y1 - X1) * (Y2 - X2)
    let TT2d := T1 * (T2 * (2 * c.d))
    let ZZ := Z1 * Z2
    let ZZ2 := ZZ + ZZ
    RepCompleted (P + Q) (PP - MM) (PP + MM) (ZZ2 + TT2d) (ZZ2 - TT2d) := by
  intro PP MM TT2d ZZ ZZ2
  obtain ⟨hZ1, hx1, hy1, hT1⟩ := hP
  obtain ⟨hZ2, hx2, hy2, hT2⟩ := hQ
  have hd := EdPoint.add_den_ne_zero P Q
  rw [hx1, hy1, hx2, hy2] at hd
  obtain ⟨a, b, ex, ey⟩ := add_pniels_raw c.d X1 Y1 Z1 T1 X2 Y2 Z2 T2 c.two_ne_zero
    hZ1 hZ2 hT1 hT2 hd.1 hd.2
  refine ⟨a, b, ?_, ?_⟩
  · rw [EdPoint.add_x', hx1, hy1, hx2, hy2]; exact ex
  · rw [EdPoint.add_y', hx1, hy1, hx2, hy2]; exact ey

/-- dalek `&EdwardsPoint - &ProjectiveNielsPoint`. -/
theorem sub_projectiveNiels {P Q : EdPoint c} {X1 Y1 Z1 T1 X2 Y2 Z2 T2 : K}
    (hP : RepExt P X1 Y1 Z1 T1) (hQ : RepExt Q X2 Y2 Z2 T2) :
    let PM := (Y1 + X1) * (Y2 - X2)
    let MP := (Y1 - X1) * (Y2 + X2)
    let TT2d := T1 * (T2 * (2 * c.d))
    let ZZ := Z1 * Z2
    let ZZ2 := ZZ + ZZ
    RepCompleted (P - Q) (PM - MP) (PM + MP) (ZZ2 - TT2d) (ZZ2 + TT2d) := by
  intro PM MP TT2d ZZ ZZ2
  have h := add_projectiveNiels hP hQ.neg
  rw [sub_eq_add_neg]
  simp only at h
  convert h using 1 <;> simp only [PM, MP, TT2d, ZZ2, ZZ] <;> ring

/-- dalek `&EdwardsPoint + &AffineNielsPoint` (the Niels point being
`(y2+x2, y2-x2, 2d·x2·y2)`). -/
theorem add_affineNiels {P Q : EdPoint c} {X1 Y1 Z1 T1 : K} (hP : RepExt P X1 Y1 Z1 T1) :
    let PP := (Y1 + X1) * (Q.y + Q.x)
    let MM := (Y1 - X1) * (Q.y - Q.x)
    let Txy2d := T1 * (Q.x * Q.y * (2 * c.d))
    let Z2 := Z1 + Z1
    RepCompleted (P + Q) (PP - MM) (PP + MM) (Z2 + Txy2d) (Z2 - Txy2d) := by
  intro PP MM Txy2d Z2
  have h := add_projectiveNiels hP (repExt_affine Q)
  simp only [mul_one] at h
  exact h

/-- dalek `&EdwardsPoint - &AffineNielsPoint`. -/
theorem sub_affineNiels {P Q : EdPoint c} {X1 Y1 Z1 T1 : K} (hP : RepExt P X1 Y1 Z1 T1) :
    let PM := (Y1 + X1) * (Q.y - Q.x)
    let MP := (Y1 - X1) * (Q.y + Q.x)
    let Txy2d := T1 * (Q.x * Q.y * (2 * c.d))
    let Z2 := Z1 + Z1
    RepCompleted (P - Q) (PM - MP) (PM + MP) (Z2 - Txy2d) (Z2 + Txy2d) := by
  intro PM MP Txy2d Z2
  have h := sub_projectiveNiels hP (repExt_affine Q)
  simp only [mul_one] at h
  exact h

/-- The unified extended-coordinates addition `add-2008-hwcd-3` (a = -1, `k = 2d`)
computes the group law, with `Z3 ≠ 0` and a consistent `T3`. -/
theorem add_hwcd3 {P Q : EdPoint c} {X1 Y1 Z1 T1 X2 Y2 Z2 T2 : K}
    (hP : RepExt P X1 Y1 Z1 T1) (hQ : RepExt Q X2 Y2 Z2 T2) :
    let A := (Y1 - X1) * (Y2 - X2)
    let B := (Y1 + X1) * (Y2 + X2)
    let C := T1 * (2 * c.d) * T2
    let D := 2 * Z1 * Z2
    let E := B - A
    let F := D - C
    let G := D + C
    let H := B + A
    RepExt (P + Q) (E * F) (G * H) (F * G) (E * H) := by
  intro A B C D E F G H
  have h := (add_projectiveNiels hP hQ).as_extended
  convert h using 1 <;> simp only [A, B, C, D, E, F, G, H] <;> ring

/-! ### Doubling -/

/-- dalek `ProjectivePoint::double` computes `P + P` (as a completed point). -/
theorem double_projective {P : EdPoint c} {X Y Z : K} (hP : RepProj P X Y Z) :
    let XX := X ^ 2
    let YY := Y ^ 2
    let ZZ2 := 2 * Z ^ 2
    let X_plus_Y_sq := (X + Y) ^ 2
    let YY_plus_XX := YY + XX
    let YY_minus_XX := YY - XX
    RepCompleted (P + P) (X_plus_Y_sq - YY_plus_XX) YY_plus_XX YY_minus_XX (ZZ2 - YY_minus_XX) := by
  intro XX YY ZZ2 X_plus_Y_sq YY_plus_XX YY_minus_XX
  obtain ⟨hZ, hx, hy⟩ := hP
  have hd := EdPoint.add_den_ne_zero P P
  have hon := P.on
  unfold onCurve at hon
  rw [hx, hy] at hd hon
  have hZ2 : Z ^ 2 ≠ 0 := pow_ne_zero 2 hZ
  -- the curve equation in projective form
  have hcurve : (Y ^ 2 - X ^ 2) = Z ^ 2 * (1 + c.d * (X / Z) * (X / Z) * (Y / Z) * (Y / Z)) := by
    have : -(X / Z) ^ 2 + (Y / Z) ^ 2 = (Y ^ 2 - X ^ 2) / Z ^ 2 := by field_simp; ring
    rw [this] at hon
    rw [div_eq_iff hZ2] at hon
    linear_combination hon
  have e1 : YY_minus_XX = Z ^ 2 * (1 + c.d * (X / Z) * (X / Z) * (Y / Z) * (Y / Z)) := hcurve
  have e2 : ZZ2 - YY_minus_XX = Z ^ 2 * (1 - c.d * (X / Z) * (X / Z) * (Y / Z) * (Y / Z)) := by
    simp only [ZZ2, YY_minus_XX, YY, XX]; linear_combination -hcurve
  refine ⟨?_, ?_, ?_, ?_⟩
  · rw [e1]; exact mul_ne_zero hZ2 hd.1
  · rw [e2]; exact mul_ne_zero hZ2 hd.2
  · rw [e1, EdPoint.add_x, hx, hy]; simp only [X_plus_Y_sq, YY_plus_XX, YY, XX]
    field_simp; ring
  · rw [e2, EdPoint.add_y, hx, hy]; simp only [YY_plus_XX, YY, XX]
    field_simp

/-- Same, stated for `2 • P`, with the squares written as products. -/
theorem double_projective_nsmul {P : EdPoint c} {X Y Z : K} (hP : RepProj P X Y Z) :
    RepCompleted (2 • P) ((X + Y) * (X + Y) - (Y * Y + X * X)) (Y * Y + X * X) (Y * Y - X * X)
      (2 * (Z * Z) - (Y * Y - X * X)) := by
  have h := double_projective hP
  simp only [sq] at h
  rw [two_nsmul]; exact h

end Dalek.Edwards
