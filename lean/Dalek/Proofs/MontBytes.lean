/-
Byte-level plumbing of the Montgomery ladder model: `Scalar::bits_le().rev().skip(1)` is `Spec.bitsBE · 255`
of the little-endian value, and the x25519 byte function of the model is RFC 7748 `X25519`.
-/
import Dalek.Proofs.MontLadder
import Dalek.Proofs.Bridge.Bytes
import Dalek.Proofs.Bridge.Scalar
import Mathlib.Tactic.IntervalCases

namespace Dalek.Proofs.Mont
open Dalek.IR Dalek.Spec Dalek.Model Dalek.Bridge Dalek.Model.Ladder

theorem bitsBE_eq (k n : Nat) :
    bitsBE k n = ((List.range n).map (fun t => (k >>> t) % 2 == 1)).reverse := by
  induction n with
  | zero => rfl
  | succ n ih => rw [bitsBE, ih, List.range_succ, List.map_append, List.reverse_append]; rfl

theorem byte_bit (n j : Nat) : (n >>> j) &&& 1 = 1 ↔ n / 2 ^ j % 2 = 1 := by
  rw [Nat.shiftRight_eq_div_pow, Nat.and_one_is_mod]

theorem u8_bit (x : UInt8) (j : Nat) (hj : j < 8) :
    (((x >>> UInt8.ofNat j) &&& 1) == 1) = (x.toNat / 2 ^ j % 2 == 1) := by
  have hj' : (UInt8.ofNat j).toNat % 8 = j := by
    rw [UInt8.toNat_ofNat']; omega
  have h1 : (1 : UInt8).toNat = 1 := by decide
  rw [Bool.eq_iff_iff, beq_iff_eq, beq_iff_eq, ← UInt8.toNat_inj, UInt8.toNat_and, UInt8.toNat_shiftRight, hj', h1]
  exact byte_bit _ j

/-- bit `i` of a little-endian byte string, as read by `Scalar::bits_le` -/
theorem scalar_bit (bytes : List UInt8) (i : Nat) (hi : i / 8 < bytes.length) :
    (((bytes.getD (i >>> 3) 0 >>> UInt8.ofNat (i &&& 7)) &&& 1) == 1) = ((leToNat bytes >>> i) % 2 == 1) := by
  have e3 : i >>> 3 = i / 8 := by rw [Nat.shiftRight_eq_div_pow]
  have e7 : i &&& 7 = i % 8 := Nat.and_two_pow_sub_one_eq_mod i 3
  rw [e3, e7, u8_bit _ _ (Nat.mod_lt _ (by norm_num)), getD_toNat bytes _ hi, Nat.shiftRight_eq_div_pow]
  congr 1
  have hi8 : i = 8 * (i / 8) + i % 8 := by omega
  have e : (2 : Nat) ^ i = 256 ^ (i / 8) * 2 ^ (i % 8) := by
    conv_lhs => rw [hi8, Nat.pow_add, Nat.pow_mul]
  rw [e, ← Nat.div_div_eq_div_mul]
  generalize leToNat bytes / 256 ^ (i / 8) = m
  have hr : i % 8 < 8 := Nat.mod_lt _ (by norm_num)
  generalize i % 8 = r at hr
  -- `m % (2^r · 2^(8-r)) / 2^r = m / 2^r % 2^(8-r)`, and `2 ∣ 2^(8-r)`
  rw [show 256 = 2 ^ r * 2 ^ (8 - r) by rw [← Nat.pow_add, Nat.add_sub_cancel' hr.le],
    Nat.mod_mul_right_div_self, Nat.mod_mod_of_dvd _ (dvd_pow_self 2 (by omega))]

/-- `scalar.bits_le().rev().skip(1)` = bits 254 … 0 of the integer value, most significant first -/
theorem scalarBits_eq (bytes : List UInt8) (hlen : bytes.length = 32) :
    (scalarBitsLE bytes).reverse.drop 1 = bitsBE (leToNat bytes) 255 := by
  have h : scalarBitsLE bytes = (List.range 256).map (fun t => (leToNat bytes >>> t) % 2 == 1) := by
    unfold scalarBitsLE
    apply List.map_congr_left
    intro i hi
    rw [List.mem_range] at hi
    exact scalar_bit bytes i (by omega)
  rw [h, bitsBE_eq, List.drop_reverse, List.length_map, List.length_range, ← List.map_take, List.take_range]
  rfl

/-- `&MontgomeryPoint * &Scalar` of the model is `Spec.montMul` -/
theorem montMul_eq (u sc : List UInt8) (hlen : sc.length = 32) : Ladder.montMul u sc = Spec.montMul u sc := by
  unfold Ladder.montMul Spec.montMul montMulBitsBE
  rw [scalarBits_eq sc hlen, mulBitsBE_nat _ (feFromBytes_lt u)]

end Dalek.Proofs.Mont
