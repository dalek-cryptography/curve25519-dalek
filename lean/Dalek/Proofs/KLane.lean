import Dalek.IR.KProg
import Dalek.IR.LimbPost
import Dalek.IR.AlgSound
import Dalek.Proofs.VecEdwards
import Dalek.Proofs.IfmaField.Defs
/-!
# KLane — a VERIFIED lane scalariser for `KProg`s (kernel-call programs of the vector point formulas)

The translator emits every parallel point formula of `backend/vector/{avx2,ifma}/edwards.rs` twice:
as a `KProg` (calls of the translated limb kernels, `Dalek.Gen.K*Edwards`) and as a lane-scalarised AlgIR program over
field values (`Dalek.Gen.Alg*Edwards`), the second using a table "method ↦ lane meaning" that lives in the translator.
This file replaces the trust in that table by a proof:

* `Term`: symbolic lane expressions (the free term algebra of the AlgIR signature over input-lane variables);
  `symRun A` runs an `AProg` symbolically, `symRun_sound` relates it to `AProg.run zmodOpsV`.
* `KSpec`: an entry of a LANE-SEMANTICS TABLE: a kernel, its bound contract, the sorts of its arguments / result and the
  four result lanes as `Term`s over the argument lanes; `KSpec.Valid` is its meaning (a theorem about the wrapping run
  of the kernel on ALL inputs inside the contract), proved per kernel from the `*_spec` theorems of
  `Props/C01/{Avx2,Ifma}.lean` (`Proofs/KLane/{Avx2,Ifma}Table.lean`).
* `KProg.scal`: the scalariser; it walks the calls of a `KProg`, propagating (1) the verified interval analysis
  `Prog.norm` exactly as `KProg.check` does, (2) the sorts, (3) the symbolic lanes of every value, and checks at every
  call that the argument intervals are inside the contract of the table entry.
* `KProg.scal_sound`: for all inputs inside the pre-intervals the checked and the wrapping run of the `KProg` succeed,
  agree, and the lane values of the outputs are the evaluation of the computed `Term`s at the lane values of the
  inputs.
* `refOk` / `refines_of_refOk`: "the scalarised `KProg` and the translator's AlgIR item are the same lane terms" is a closed
  Boolean.  Per formula the Lean kernel evaluates `laneOk` (`decide +kernel`): `refOk`, and the post-intervals are inside
  the invariant.  Since the interval part of the scalariser IS `KProg.checkH` without hints (`KProg.checkH_of_scal`), this
  one evaluation also yields `KProg.chainOk`, the statement of `Props/C11/VecChain` (`chainOk_of_laneOk`).
-/
namespace Dalek.Proofs.KLane
open Dalek.IR Dalek.Proofs Dalek.Proofs.Avx2Field Dalek.Proofs.IfmaField

/-! ## 1. symbolic lane expressions -/

/-- symbolic lane expression: `var i` = the `i`-th input lane value, `lit n` = the field element `n`,
`app op a b c` = the AlgIR operation `op` applied to (at most three) arguments -/
inductive Term where
  | var (i : Nat)
  | lit (n : Nat)
  | dflt
  | app (op : FOp) (a b c : Term)
deriving DecidableEq, Repr, Inhabited

/-- the symbolic interpretation of the AlgIR signature; constants are looked up in the constant table of the vector
modules (`vecConstTable`) and reduced modulo `p` -/
def termOps : FOps Term where
  add a b := .app .add a b .dflt
  sub a b := .app .sub a b .dflt
  mul a b := .app .mul a b .dflt
  neg a := .app .neg a .dflt .dflt
  square a := .app .square a .dflt .dflt
  square2 a := .app .square2 a .dflt .dflt
  pow2k a k := .app (.pow2k k) a .dflt .dflt
  const i := .lit (vecConstTable.getD i 0 % Dalek.Proofs.Field26.P)
  ctEq a b := .app .ctEq a b .dflt
  isNeg a := .app .isNeg a .dflt .dflt
  isZero a := .app .isZero a .dflt .dflt
  cand a b := .app .cand a b .dflt
  cor a b := .app .cor a b .dflt
  cxor a b := .app .cxor a b .dflt
  cnot a := .app .cnot a .dflt .dflt
  csel c a b := .app .csel c a b
  dflt := .dflt

/-- value of a symbolic lane expression at the input lane values `L` (in the field, interpretation `zmodOpsV`) -/
noncomputable def Term.eval (L : List Fp) : Term → Fp
  | .var i => L.getD i 0
  | .lit n => (n : Fp)
  | .dflt => 0
  | .app op a b c => zmodOpsV.apply op [a.eval L, b.eval L, c.eval L]

def Term.subst (σ : List Term) : Term → Term
  | .var i => σ.getD i .dflt
  | .lit n => .lit n
  | .dflt => .dflt
  | .app op a b c => .app op (a.subst σ) (b.subst σ) (c.subst σ)

theorem getD_map_eval (L : List Fp) (σ : List Term) (i : Nat) :
    (σ.map (Term.eval L)).getD i 0 = (σ.getD i .dflt).eval L := by
  induction σ generalizing i with
  | nil => simp [Term.eval]
  | cons t σ ih =>
    cases i with
    | zero => simp
    | succ n => simpa using ih n

theorem Term.eval_subst (L : List Fp) (σ : List Term) : ∀ t : Term, (t.subst σ).eval L = t.eval (σ.map (Term.eval L))
  | .var i => by simp only [Term.subst, Term.eval, getD_map_eval]
  | .lit n => rfl
  | .dflt => rfl
  | .app op a b c => by
      simp only [Term.subst, Term.eval, Term.eval_subst L σ a, Term.eval_subst L σ b, Term.eval_subst L σ c]

theorem termOps_rel (L : List Fp) : FOps.Rel (fun t v => Term.eval L t = v) termOps zmodOpsV where
  add := by intro a b a' b' ha hb; subst ha hb; rfl
  sub := by intro a b a' b' ha hb; subst ha hb; rfl
  mul := by intro a b a' b' ha hb; subst ha hb; rfl
  neg := by intro a a' ha; subst ha; rfl
  square := by intro a a' ha; subst ha; rfl
  square2 := by intro a a' ha; subst ha; rfl
  pow2k := by intro a a' k ha; subst ha; rfl
  const := by
    intro i
    show ((vecConstTable.getD i 0 % Dalek.Proofs.Field26.P : Nat) : Fp) = ((vecConstTable.getD i 0 : Nat) : Fp)
    exact ZMod.natCast_mod _ _
  ctEq := by intro a b a' b' ha hb; subst ha hb; rfl
  isNeg := by intro a a' ha; subst ha; rfl
  isZero := by intro a a' ha; subst ha; rfl
  cand := by intro a b a' b' ha hb; subst ha hb; rfl
  cor := by intro a b a' b' ha hb; subst ha hb; rfl
  cxor := by intro a b a' b' ha hb; subst ha hb; rfl
  cnot := by intro a a' ha; subst ha; rfl
  csel := by intro c a b c' a' b' hc ha hb; subst hc ha hb; rfl
  dflt := rfl

/-- symbolic run of an AlgIR program on its input variables -/
def symRun (p : AProg) : List Term := p.run termOps ((List.range p.nIn).map Term.var)

theorem ListRel.of_forall {V W : Type} {R : V → W → Prop} : ∀ {xs : List V} {ys : List W}, xs.length = ys.length →
    (∀ i (h1 : i < xs.length) (h2 : i < ys.length), R xs[i] ys[i]) → ListRel R xs ys
  | [], [], _, _ => .nil
  | x :: xs, y :: ys, hl, h => by
      refine .cons (h 0 (by simp) (by simp)) (ListRel.of_forall (by simpa using hl) ?_)
      intro i h1 h2
      exact h (i + 1) (by simpa using h1) (by simpa using h2)
  | [], _ :: _, hl, _ => by simp at hl
  | _ :: _, [], hl, _ => by simp at hl

theorem ListRel.map_eq {V W : Type} {f : V → W} : ∀ {xs : List V} {ys : List W},
    ListRel (fun t v => f t = v) xs ys → xs.map f = ys
  | _, _, .nil => rfl
  | _, _, .cons h t => by simp [h, ListRel.map_eq t]

/-- the symbolic run evaluates to the run in the field -/
theorem symRun_sound (p : AProg) (L : List Fp) (h : L.length = p.nIn) :
    (symRun p).map (Term.eval L) = p.run zmodOpsV L := by
  refine ListRel.map_eq (AProg.run_rel (termOps_rel L) p (ListRel.of_forall (by simp [h]) ?_))
  intro i h1 h2
  simp only [List.getElem_map, List.getElem_range, Term.eval]
  simp [List.getD_eq_getElem?_getD, h2]

/-! ## 2. sorts of values and their lane meaning -/

/-- sort of a `KProg` value: AVX2 vector (40 u32 lanes), IFMA vector (20 u64 lanes), four serial `FieldElement51`
(20 limbs), one serial `FieldElement51` (5 limbs), four `u32` scalars, a `Choice` -/
inductive VSort where
  | v26 | v51 | ser | fe | sc | ch
deriving DecidableEq, Repr, Inhabited

/-- number of machine words -/
def VSort.width : VSort → Nat
  | .v26 => 40 | .v51 => 20 | .ser => 20 | .fe => 5 | .sc => 4 | .ch => 1

/-- number of field values -/
def VSort.arity : VSort → Nat
  | .fe => 1 | .ch => 1 | .v26 => 4 | .v51 => 4 | .ser => 4 | .sc => 4

/-- the lane values of a value as integers (computable; used for literals) -/
def meaningZ : VSort → List Nat → List Int
  | .v26, v => [Dalek.Proofs.Field26.rep26 (vecLimbs .A v), Dalek.Proofs.Field26.rep26 (vecLimbs .B v),
      Dalek.Proofs.Field26.rep26 (vecLimbs .C v), Dalek.Proofs.Field26.rep26 (vecLimbs .D v)]
  | .v51, v => [Dalek.Proofs.Field51.rep51 (vecLimbs51 .A v), Dalek.Proofs.Field51.rep51 (vecLimbs51 .B v),
      Dalek.Proofs.Field51.rep51 (vecLimbs51 .C v), Dalek.Proofs.Field51.rep51 (vecLimbs51 .D v)]
  | .ser, v => [Dalek.Proofs.Field51.rep51 (elem51 .A (toZ v)), Dalek.Proofs.Field51.rep51 (elem51 .B (toZ v)),
      Dalek.Proofs.Field51.rep51 (elem51 .C (toZ v)), Dalek.Proofs.Field51.rep51 (elem51 .D (toZ v))]
  | .fe, v => [Dalek.Proofs.Field51.rep51 (toZ v)]
  | .sc, v => [((v.getD 0 0 : Nat) : Int), ((v.getD 1 0 : Nat) : Int), ((v.getD 2 0 : Nat) : Int), ((v.getD 3 0 : Nat) : Int)]
  | .ch, v => [((v.getD 0 0 : Nat) : Int)]

/-- the lane values of a value in the field: for a vector `[vecVal A v, vecVal B v, vecVal C v, vecVal D v]`
(resp. `vecVal51`), for four serial elements `[elemVal A v, …]`, for one serial element its value, for scalars and a
choice their casts -/
noncomputable def meaning (s : VSort) (v : List Nat) : List Fp := (meaningZ s v).map (fun z => ((z : Int) : Fp))

theorem meaning_v26 (v : List Nat) : meaning .v26 v = [vecVal .A v, vecVal .B v, vecVal .C v, vecVal .D v] := rfl
theorem meaning_v51 (v : List Nat) : meaning .v51 v = [vecVal51 .A v, vecVal51 .B v, vecVal51 .C v, vecVal51 .D v] := rfl
theorem meaning_ser (v : List Nat) : meaning .ser v = [elemVal .A v, elemVal .B v, elemVal .C v, elemVal .D v] := rfl
/-- value of a serial `FieldElement51` (five u64 limbs, radix 2^51) in the field -/
noncomputable def feVal (v : List Nat) : Fp := ((Dalek.Proofs.Field51.rep51 (toZ v) : Int) : Fp)
theorem meaning_fe (v : List Nat) : meaning .fe v = [feVal v] := rfl
theorem meaning_sc (v : List Nat) :
    meaning .sc v = [((v.getD 0 0 : Nat) : Fp), ((v.getD 1 0 : Nat) : Fp), ((v.getD 2 0 : Nat) : Fp), ((v.getD 3 0 : Nat) : Fp)] := by
  simp [meaning, meaningZ]
theorem meaning_ch (v : List Nat) : meaning .ch v = [((v.getD 0 0 : Nat) : Fp)] := by
  simp [meaning, meaningZ]

theorem meaning_length (s : VSort) (v : List Nat) : (meaning s v).length = s.arity := by
  cases s <;> rfl

/-- literal term for the field element `z mod p` -/
def litTerm (z : Int) : Term := .lit (z % (Dalek.Proofs.Field26.P : Int)).toNat

theorem eval_litTerm (L : List Fp) (z : Int) : (litTerm z).eval L = ((z : Int) : Fp) := by
  show (((z % (Dalek.Proofs.Field26.P : Int)).toNat : Nat) : Fp) = _
  have hnn : 0 ≤ z % (Dalek.Proofs.Field26.P : Int) := Int.emod_nonneg _ (by decide)
  have h1 : (((z % (Dalek.Proofs.Field26.P : Int)).toNat : Nat) : Int) = z % (Dalek.Proofs.Field26.P : Int) :=
    Int.toNat_of_nonneg hnn
  have h2 : (((z % (Dalek.Proofs.Field26.P : Int)).toNat : Nat) : Fp)
      = (((((z % (Dalek.Proofs.Field26.P : Int)).toNat : Nat) : Int)) : Fp) := by push_cast; rfl
  rw [h2, h1]
  exact ZMod.intCast_mod z _

/-! ## 3. the lane-semantics table -/

/-- an entry of the lane-semantics table -/
structure KSpec where
  /-- the kernel -/
  k : Prog
  /-- bound contract on the concatenated arguments -/
  pre : List Itv
  argSorts : List VSort
  outSort : VSort
  /-- the lanes of the result as terms over the concatenated lane values of the arguments -/
  sem : List Term

/-- lane values of a list of values of the given sorts, concatenated -/
noncomputable def lanesOf (sorts : List VSort) (args : List (List Nat)) : List Fp :=
  (List.zipWith meaning sorts args).flatten

/-- MEANING of a table entry: for all arguments of the right widths inside the contract, the lane values of the result
of the WRAPPING run of the kernel are `sem` evaluated at the lane values of the arguments -/
def KSpec.Valid (e : KSpec) : Prop :=
  ∀ args : List (List Nat), args.map List.length = e.argSorts.map VSort.width → EnvIn args.flatten e.pre →
    meaning e.outSort (e.k.evalW args.flatten) = e.sem.map (Term.eval (lanesOf e.argSorts args))

/-! ## 4. the scalariser -/

/-- symbolic lanes of one argument of expected sort `s` -/
def argS (senv : List VSort) (aenv : List (List Term)) (s : VSort) : KArg → Option (List Term)
  | .var i => if senv[i]? = some s then aenv[i]? else none
  | .lit xs => if xs.length = s.width then some ((meaningZ s xs).map litTerm) else none

def gatherS (senv : List VSort) (aenv : List (List Term)) : List VSort → List KArg → Option (List Term)
  | [], [] => some []
  | s :: ss, a :: as =>
    match argS senv aenv s a, gatherS senv aenv ss as with
    | some t, some r => some (t ++ r)
    | _, _ => none
  | _, _ => none

/-- walk the calls: interval analysis (as `kcheck`; `Prog.post` is the interval half of `Prog.norm`), sorts, symbolic
lanes; every call must be in the table, its arguments of the sorts of the entry and its argument intervals inside the
contract of the entry -/
def kscal (T : List KSpec) : List KStmt → List (List Itv) → List VSort → List (List Term) →
    Option (List (List Itv) × List VSort × List (List Term))
  | [], ienv, senv, aenv => some (ienv, senv, aenv)
  | s :: ss, ienv, senv, aenv =>
    match T.find? (fun e => decide (e.k = s.k)) with
    | none => none
    | some e =>
      match gatherI ienv s.args, gatherS senv aenv e.argSorts s.args with
      | some ai, some ta =>
        if itvsLe ai e.pre then
          match s.k.post ai with
          | some post =>
            if post.length = e.outSort.width then
              kscal T ss (ienv ++ [post]) (senv ++ [e.outSort]) (aenv ++ [e.sem.map (Term.subst ta)])
            else none
          | none => none
        else none
      | _, _ => none

/-- the input lane variables: value `j` of sort `s` gets `s.arity` consecutive variables -/
def initA : Nat → List VSort → List (List Term)
  | _, [] => []
  | off, s :: ss => ((List.range s.arity).map (fun j => Term.var (off + j))) :: initA (off + s.arity) ss

/-- the scalariser: post-intervals, sorts and symbolic lanes of the outputs of `p` for inputs of the sorts `sorts` inside
`pre` -/
def _root_.Dalek.IR.KProg.scal (T : List KSpec) (p : KProg) (pre : List (List Itv)) (sorts : List VSort) :
    Option (List (List Itv) × List (VSort × List Term)) :=
  if pre.length = p.nIn ∧ pre.map List.length = sorts.map VSort.width then
    match kscal T p.body pre sorts (initA 0 sorts) with
    | some (ienv, senv, aenv) =>
      match kpick ienv p.outs, kpick (senv.zip aenv) p.outs with
      | some post, some o => some (post, o)
      | _, _ => none
    | none => none
  else none

/-- the interval part of `kscal` is the analysis `kcheckH` without hints -/
theorem kcheckH_of_kscal (T : List KSpec) : ∀ (ss : List KStmt) (pos : Nat) (ienv : List (List Itv)) (senv : List VSort)
    (aenv : List (List Term)) (res : List (List Itv) × List VSort × List (List Term)),
    kscal T ss ienv senv aenv = some res → kcheckH [] pos ss ienv = some res.1
  | [], pos, ienv, senv, aenv, res, h => by
      simp only [kscal, Option.some.injEq] at h
      subst h
      rfl
  | s :: ss, pos, ienv, senv, aenv, res, h => by
      unfold kscal at h
      split at h
      · simp at h
      · split at h
        · rename_i ai ta hai hta
          split at h
          · split at h
            · rename_i post hp
              obtain ⟨q, hn⟩ := Prog.norm_of_post hp
              split at h
              · simp only [kcheckH, hai, findHint, hn]
                exact kcheckH_of_kscal T ss (pos + 1) _ _ _ res h
              · simp at h
            · simp at h
          · simp at h
        · simp at h

/-- the post-intervals of the scalariser are those of `KProg.checkH` without hints -/
theorem _root_.Dalek.IR.KProg.checkH_of_scal {T : List KSpec} {p : KProg} {pre : List (List Itv)} {sorts : List VSort}
    {post : List (List Itv)} {o : List (VSort × List Term)} (h : p.scal T pre sorts = some (post, o)) :
    p.checkH [] pre = some post := by
  unfold KProg.scal at h
  split at h
  · rename_i hpre
    split at h
    · rename_i ienv senv aenv hc
      split at h
      · rename_i post' o' hp _
        simp only [Option.some.injEq, Prod.mk.injEq] at h
        simp only [KProg.checkH, hpre.1, if_true, kcheckH_of_kscal T _ 0 _ _ _ _ hc, hp, h.1]
      · simp at h
    · simp at h
  · simp at h

/-! ## 5. soundness -/

/-- every value has the width of its sort and its lane values are the evaluation of its symbolic lanes -/
def StInv (L : List Fp) : List (List Nat) → List VSort → List (List Term) → Prop
  | [], [], [] => True
  | x :: xs, s :: ss, t :: ts => (x.length = s.width ∧ meaning s x = t.map (Term.eval L)) ∧ StInv L xs ss ts
  | _, _, _ => False

theorem StInv_get (L : List Fp) : ∀ {env : List (List Nat)} {senv : List VSort} {aenv : List (List Term)},
    StInv L env senv aenv → ∀ {i : Nat} {s : VSort} {t : List Term}, senv[i]? = some s → aenv[i]? = some t →
    ∃ x, env[i]? = some x ∧ x.length = s.width ∧ meaning s x = t.map (Term.eval L)
  | x :: xs, s' :: ss, t' :: ts, h, 0, s, t, hs, ht => by
      simp only [List.getElem?_cons_zero, Option.some.injEq] at hs ht
      subst hs ht
      exact ⟨x, by simp, h.1.1, h.1.2⟩
  | x :: xs, s' :: ss, t' :: ts, h, i + 1, s, t, hs, ht => by
      simp only [List.getElem?_cons_succ] at hs ht ⊢
      exact StInv_get L h.2 hs ht
  | [], [], [], _, i, s, t, hs, _ => by simp at hs
  | [], [], _ :: _, h, _, _, _, _, _ => by simp [StInv] at h
  | [], _ :: _, _, h, _, _, _, _, _ => by simp [StInv] at h
  | _ :: _, [], _, h, _, _, _, _, _ => by simp [StInv] at h
  | _ :: _, _ :: _, [], h, _, _, _, _, _ => by simp [StInv] at h

theorem StInv_snoc (L : List Fp) : ∀ {env : List (List Nat)} {senv : List VSort} {aenv : List (List Term)}
    {x : List Nat} {s : VSort} {t : List Term}, StInv L env senv aenv → x.length = s.width →
    meaning s x = t.map (Term.eval L) → StInv L (env ++ [x]) (senv ++ [s]) (aenv ++ [t])
  | [], [], [], x, s, t, _, h1, h2 => by simp [StInv, h1, h2]
  | y :: env, s' :: senv, t' :: aenv, x, s, t, h, h1, h2 => by
      simp only [List.cons_append, StInv]
      exact ⟨h.1, StInv_snoc L h.2 h1 h2⟩
  | [], [], _ :: _, _, _, _, h, _, _ => by simp [StInv] at h
  | [], _ :: _, _, _, _, _, h, _, _ => by simp [StInv] at h
  | _ :: _, [], _, _, _, _, h, _, _ => by simp [StInv] at h
  | _ :: _, _ :: _, [], _, _, _, h, _, _ => by simp [StInv] at h

theorem StInv_zip_get (L : List Fp) : ∀ {env : List (List Nat)} {senv : List VSort} {aenv : List (List Term)},
    StInv L env senv aenv → ∀ {i : Nat} {s : VSort} {t : List Term}, (senv.zip aenv)[i]? = some (s, t) →
    ∃ x, env[i]? = some x ∧ meaning s x = t.map (Term.eval L) := by
  intro env senv aenv h i s t hz
  rw [List.getElem?_zip_eq_some] at hz
  obtain ⟨x, hx, _, hm⟩ := StInv_get L h hz.1 hz.2
  exact ⟨x, hx, hm⟩

theorem argS_sound (L : List Fp) {env : List (List Nat)} {senv : List VSort} {aenv : List (List Term)}
    (h : StInv L env senv aenv) (s : VSort) :
    ∀ (a : KArg) (t : List Term), argS senv aenv s a = some t →
      ∃ x, a.val env = some x ∧ x.length = s.width ∧ meaning s x = t.map (Term.eval L)
  | .var i, t, ht => by
      simp only [argS] at ht
      split at ht
      · rename_i hs
        exact StInv_get L h hs ht
      · simp at ht
  | .lit xs, t, ht => by
      simp only [argS] at ht
      split at ht
      · rename_i hl
        simp only [Option.some.injEq] at ht
        subst ht
        refine ⟨xs, rfl, hl, ?_⟩
        simp only [meaning, List.map_map]
        apply List.map_congr_left
        intro z _
        exact (eval_litTerm L z).symm
      · simp at ht

theorem gatherS_sound (L : List Fp) {env : List (List Nat)} {senv : List VSort} {aenv : List (List Term)}
    (h : StInv L env senv aenv) :
    ∀ (sorts : List VSort) (as : List KArg) (ta : List Term), gatherS senv aenv sorts as = some ta →
      ∃ args : List (List Nat), gather env as = some args.flatten ∧ args.map List.length = sorts.map VSort.width ∧
        lanesOf sorts args = ta.map (Term.eval L)
  | [], [], ta, ht => by
      simp only [gatherS, Option.some.injEq] at ht
      subst ht
      exact ⟨[], rfl, rfl, rfl⟩
  | s :: ss, a :: as, ta, ht => by
      unfold gatherS at ht
      split at ht
      · rename_i t r h1 h2
        simp only [Option.some.injEq] at ht
        subst ht
        obtain ⟨x, hx, hxl, hxm⟩ := argS_sound L h s a t h1
        obtain ⟨args, hg, hal, ham⟩ := gatherS_sound L h ss as r h2
        refine ⟨x :: args, ?_, ?_, ?_⟩
        · simp [gather, hx, hg]
        · simp [hxl, hal]
        · simp only [lanesOf] at ham ⊢
          simp [hxm, ham]
      · simp at ht
  | [], _ :: _, _, ht => by simp [gatherS] at ht
  | _ :: _, [], _, ht => by simp [gatherS] at ht

theorem kscal_sound (T : List KSpec) (hT : ∀ e ∈ T, e.Valid) (L : List Fp) :
    ∀ (ss : List KStmt) (ienv : List (List Itv)) (senv : List VSort) (aenv : List (List Term))
      (env : List (List Nat)) (res : List (List Itv) × List VSort × List (List Term)),
      EnvIn2 env ienv → StInv L env senv aenv → kscal T ss ienv senv aenv = some res →
      ∃ env', krunC ss env = some env' ∧ krunW ss env = some env' ∧ EnvIn2 env' res.1 ∧ StInv L env' res.2.1 res.2.2
  | [], ienv, senv, aenv, env, res, h, hs, hc => by
      simp only [kscal, Option.some.injEq] at hc
      subst hc
      exact ⟨env, rfl, rfl, h, hs⟩
  | s :: ss, ienv, senv, aenv, env, res, h, hs, hc => by
      unfold kscal at hc
      split at hc
      · simp at hc
      · rename_i e hfind
        have hmem : e ∈ T := List.mem_of_find?_eq_some hfind
        have hk : e.k = s.k := by simpa using List.find?_some hfind
        split at hc
        · rename_i ai ta hai hta
          split at hc
          · rename_i hle
            split at hc
            · rename_i post hp
              obtain ⟨q, hn⟩ := Prog.norm_of_post hp
              split at hc
              · rename_i hpl
                obtain ⟨x, hx, hxm⟩ := gather_sound h s.args ai hai
                obtain ⟨args, hg, hal, ham⟩ := gatherS_sound L hs e.argSorts s.args ta hta
                have hxa : x = args.flatten := by
                  rw [hg] at hx
                  exact (Option.some.inj hx).symm
                obtain ⟨o, ho1, ho2, ho3, _⟩ := Prog.norm_sound s.k ai q post hn x hxm
                have hv := hT e hmem args hal (hxa ▸ EnvIn_of_itvsLe hxm hle)
                rw [hk, ← hxa, ho2, ham] at hv
                have hinv : StInv L (env ++ [o]) (senv ++ [e.outSort]) (aenv ++ [e.sem.map (Term.subst ta)]) := by
                  refine StInv_snoc L hs ?_ ?_
                  · rw [EnvIn_length ho3, hpl]
                  · rw [hv, List.map_map]
                    apply List.map_congr_left
                    intro t _
                    exact (Term.eval_subst L ta t).symm
                obtain ⟨env', h1, h2, h3, h4⟩ :=
                  kscal_sound T hT L ss (ienv ++ [post]) (senv ++ [e.outSort]) (aenv ++ [e.sem.map (Term.subst ta)])
                    (env ++ [o]) res (EnvIn2_snoc h ho3) hinv hc
                refine ⟨env', ?_, ?_, h3, h4⟩
                · simp [krunC, hx, ho1, h1]
                · simp [krunW, hx, ho2, h2]
              · simp at hc
            · simp at hc
          · simp at hc
        · simp at hc

theorem getD_append_add {α : Type} (pfx xs rest : List α) (d : α) (j : Nat) (hj : j < xs.length) :
    (pfx ++ (xs ++ rest)).getD (pfx.length + j) d = xs.getD j d := by
  rw [List.getD_eq_getElem?_getD, List.getD_eq_getElem?_getD, List.getElem?_append_right (by omega)]
  simp [List.getElem?_append_left hj]

theorem initA_inv : ∀ (sorts : List VSort) (ins : List (List Nat)) (pre : List (List Itv)) (pfx : List Fp),
    EnvIn2 ins pre → pre.map List.length = sorts.map VSort.width →
    StInv (pfx ++ lanesOf sorts ins) ins sorts (initA pfx.length sorts)
  | [], [], [], _, _, _ => trivial
  | s :: sorts, x :: ins, t :: pre, pfx, h, hl => by
      simp only [List.map_cons, List.cons.injEq] at hl
      refine ⟨⟨by rw [EnvIn_length h.1, hl.1], ?_⟩, ?_⟩
      · apply List.ext_getElem
        · simp [meaning_length]
        · intro j h1 h2
          have hj : j < (meaning s x).length := h1
          simp only [List.getElem_map, List.getElem_range, Term.eval, lanesOf, List.zipWith_cons_cons,
            List.flatten_cons]
          rw [getD_append_add pfx (meaning s x) _ 0 j hj]
          simp [List.getD_eq_getElem?_getD, hj]
      · have := initA_inv sorts ins pre (pfx ++ meaning s x) h.2 hl.2
        simp only [List.length_append, meaning_length, List.append_assoc] at this
        simpa only [lanesOf, List.zipWith_cons_cons, List.flatten_cons] using this
  | [], _ :: _, [], _, h, _ => by simp [EnvIn2] at h
  | [], _, _ :: _, _, _, hl => by simp at hl
  | _ :: _, _, [], _, _, hl => by simp at hl
  | _ :: _, [], _ :: _, _, h, _ => by simp [EnvIn2] at h

/-- outputs: lane values = evaluated symbolic lanes -/
def OutRel (L : List Fp) : List (List Nat) → List (VSort × List Term) → Prop
  | [], [] => True
  | x :: xs, st :: r => meaning st.1 x = st.2.map (Term.eval L) ∧ OutRel L xs r
  | _, _ => False

theorem kpick_out (L : List Fp) {env : List (List Nat)} {senv : List VSort} {aenv : List (List Term)}
    (h : StInv L env senv aenv) :
    ∀ (outs : List Nat) (r : List (VSort × List Term)), kpick (senv.zip aenv) outs = some r →
      ∃ o, kpick env outs = some o ∧ OutRel L o r
  | [], r, hp => by
      simp only [kpick, Option.some.injEq] at hp
      subst hp
      exact ⟨[], rfl, trivial⟩
  | i :: is, r, hp => by
      unfold kpick at hp
      split at hp
      · rename_i st r' hst hr
        simp only [Option.some.injEq] at hp
        subst hp
        obtain ⟨x, hx, hxm⟩ := StInv_zip_get L h (s := st.1) (t := st.2) hst
        obtain ⟨o, ho, hom⟩ := kpick_out L h is r' hr
        exact ⟨x :: o, by simp [kpick, hx, ho], hxm, hom⟩
      · simp at hp

/-- **Soundness of the scalariser.**  If every table entry is valid and `p.scal T pre sorts = some (post, outsT)`, then
for ALL inputs inside `pre`: no kernel call overflows or fails an assertion, checked and wrapping runs agree, and the
lane values of the outputs are the terms `outsT` evaluated at the lane values of the inputs. -/
theorem _root_.Dalek.IR.KProg.scal_sound (T : List KSpec) (hT : ∀ e ∈ T, e.Valid) (p : KProg) (pre : List (List Itv))
    (sorts : List VSort) (post : List (List Itv)) (outsT : List (VSort × List Term))
    (h : p.scal T pre sorts = some (post, outsT)) (ins : List (List Nat)) (hin : EnvIn2 ins pre) :
    ∃ outs, p.evalC ins = some outs ∧ p.evalW ins = some outs ∧ OutRel (lanesOf sorts ins) outs outsT := by
  unfold KProg.scal at h
  split at h
  · rename_i hpre
    split at h
    · rename_i ienv senv aenv hc
      split at h
      · rename_i post' o' _ hp
        simp only [Option.some.injEq, Prod.mk.injEq] at h
        obtain ⟨_, rfl⟩ := h
        have hinit := initA_inv sorts ins pre [] hin hpre.2
        simp only [List.nil_append, List.length_nil] at hinit
        obtain ⟨env', h1, h2, _, h4⟩ := kscal_sound T hT (lanesOf sorts ins) p.body pre sorts (initA 0 sorts) ins
          (ienv, senv, aenv) hin hinit hc
        obtain ⟨o, ho, hom⟩ := kpick_out _ h4 p.outs o' hp
        have hl : ins.length = p.nIn := by rw [EnvIn2_length hin, hpre.1]
        exact ⟨o, by simp [KProg.evalC, hl, h1, ho], by simp [KProg.evalW, hl, h2, ho], hom⟩
      · simp at h
    · simp at h
  · simp at h

/-! ## 6. the per-formula check -/

/-- the scalarised `KProg` has one output of sort `s` whose symbolic lanes are exactly the symbolic outputs of the
translator's AlgIR item `A` -/
def refOk (T : List KSpec) (p : KProg) (pre : List (List Itv)) (sorts : List VSort) (s : VSort) (A : AProg) : Bool :=
  match p.scal T pre sorts with
  | some (_, o) => decide (o = [(s, symRun A)]) && decide (A.nIn = (sorts.map VSort.arity).sum)
  | none => false

/-- the closed Boolean statement evaluated by the Lean kernel for every formula: `refOk`, and the post-intervals of the
same run of the scalariser are inside `inv` -/
def laneOk (T : List KSpec) (p : KProg) (pre : List (List Itv)) (sorts : List VSort) (s : VSort) (A : AProg)
    (inv : List (List Itv)) : Bool :=
  match p.scal T pre sorts with
  | some (post, o) =>
    itvs2Le post inv && (decide (o = [(s, symRun A)]) && decide (A.nIn = (sorts.map VSort.arity).sum))
  | none => false

theorem refOk_of_laneOk {T : List KSpec} {p : KProg} {pre : List (List Itv)} {sorts : List VSort} {s : VSort}
    {A : AProg} {inv : List (List Itv)} (h : laneOk T p pre sorts s A inv = true) : refOk T p pre sorts s A = true := by
  unfold laneOk at h
  unfold refOk
  split at h
  · exact ((Bool.and_eq_true _ _).mp h).2
  · simp at h

/-- the interval half of `laneOk` is `KProg.chainOk` without hints -/
theorem chainOk_of_laneOk {T : List KSpec} {p : KProg} {pre : List (List Itv)} {sorts : List VSort} {s : VSort}
    {A : AProg} {inv : List (List Itv)} (h : laneOk T p pre sorts s A inv = true) : p.chainOk [] pre inv = true := by
  unfold laneOk at h
  split at h
  · rename_i hs
    simp only [KProg.chainOk, KProg.checkH_of_scal hs, ((Bool.and_eq_true _ _).mp h).1]
  · simp at h

theorem lanesOf_length : ∀ (sorts : List VSort) (ins : List (List Nat)), ins.length = sorts.length →
    (lanesOf sorts ins).length = (sorts.map VSort.arity).sum
  | [], [], _ => rfl
  | s :: sorts, x :: ins, h => by
      have := lanesOf_length sorts ins (by simpa using h)
      simp only [lanesOf] at this ⊢
      simp [meaning_length, this]
  | [], _ :: _, h => by simp at h
  | _ :: _, [], h => by simp at h

/-- **Refinement.**  `refOk` ⟹ for all inputs inside `pre` the `KProg` runs (checked = wrapping) to ONE output whose
lane values are the run of the AlgIR item `A` in the field on the lane values of the inputs. -/
theorem refines_of_refOk (T : List KSpec) (hT : ∀ e ∈ T, e.Valid) (p : KProg) (pre : List (List Itv))
    (sorts : List VSort) (s : VSort) (A : AProg) (h : refOk T p pre sorts s A = true)
    (ins : List (List Nat)) (hin : EnvIn2 ins pre) :
    ∃ out, p.evalC ins = some [out] ∧ p.evalW ins = some [out] ∧
      meaning s out = A.run zmodOpsV (lanesOf sorts ins) := by
  unfold refOk at h
  split at h
  · rename_i post o hs
    simp only [Bool.and_eq_true, decide_eq_true_eq] at h
    obtain ⟨rfl, hn⟩ := h
    obtain ⟨outs, h1, h2, h3⟩ := p.scal_sound T hT pre sorts _ _ hs ins hin
    have hlen : ins.length = sorts.length := by
      have hp : pre.map List.length = sorts.map VSort.width := by
        unfold KProg.scal at hs
        split at hs
        · rename_i hpre; exact hpre.2
        · simp at hs
      have := congrArg List.length hp
      simp only [List.length_map] at this
      rw [EnvIn2_length hin, this]
    match outs, h3 with
    | [out], h3 =>
      refine ⟨out, h1, h2, ?_⟩
      rw [h3.1]
      exact symRun_sound A _ (by rw [lanesOf_length sorts ins hlen, hn])
    | [], h3 => simp [OutRel] at h3
    | _ :: _ :: _, h3 => simp [OutRel] at h3
  · simp at h

/-! ## 7. helpers for the validity proofs of the tables -/

theorem forall_len_zero {P : List Nat → Prop} (h : P []) : ∀ X : List Nat, X.length = 0 → P X := by
  intro X hX
  rw [List.eq_nil_of_length_eq_zero hX]
  exact h

theorem forall_len_succ {n : Nat} {P : List Nat → Prop} (h : ∀ x : Nat, ∀ X : List Nat, X.length = n → P (x :: X)) :
    ∀ X : List Nat, X.length = n + 1 → P X := by
  intro X hX
  match X, hX with
  | x :: X, hX => exact h x X (by simpa using hX)

theorem forall_len1 {P : List Nat → Prop}
    (h : ∀ x0 : Nat, P (x0 :: [])) :
    ∀ X : List Nat, X.length = 1 → P X :=
  forall_len_succ fun x0 => forall_len_zero (h x0)

theorem forall_len4 {P : List Nat → Prop}
    (h : ∀ x0 x1 x2 x3 : Nat, P (x0 :: x1 :: x2 :: x3 :: [])) :
    ∀ X : List Nat, X.length = 4 → P X :=
  forall_len_succ fun x0 => forall_len_succ fun x1 => forall_len_succ fun x2 => forall_len_succ fun x3 => forall_len_zero (h x0 x1 x2 x3)

theorem forall_len5 {P : List Nat → Prop}
    (h : ∀ x0 x1 x2 x3 x4 : Nat, P (x0 :: x1 :: x2 :: x3 :: x4 :: [])) :
    ∀ X : List Nat, X.length = 5 → P X :=
  forall_len_succ fun x0 => forall_len_succ fun x1 => forall_len_succ fun x2 => forall_len_succ fun x3 => forall_len_succ fun x4 => forall_len_zero (h x0 x1 x2 x3 x4)

theorem forall_len20 {P : List Nat → Prop}
    (h : ∀ x0 x1 x2 x3 x4 x5 x6 x7 x8 x9 x10 x11 x12 x13 x14 x15 x16 x17 x18 x19 : Nat, P (x0 :: x1 :: x2 :: x3 :: x4 :: x5 :: x6 :: x7 :: x8 :: x9 :: x10 :: x11 :: x12 :: x13 :: x14 :: x15 :: x16 :: x17 :: x18 :: x19 :: [])) :
    ∀ X : List Nat, X.length = 20 → P X :=
  forall_len_succ fun x0 => forall_len_succ fun x1 => forall_len_succ fun x2 => forall_len_succ fun x3 => forall_len_succ fun x4 => forall_len_succ fun x5 => forall_len_succ fun x6 => forall_len_succ fun x7 => forall_len_succ fun x8 => forall_len_succ fun x9 => forall_len_succ fun x10 => forall_len_succ fun x11 => forall_len_succ fun x12 => forall_len_succ fun x13 => forall_len_succ fun x14 => forall_len_succ fun x15 => forall_len_succ fun x16 => forall_len_succ fun x17 => forall_len_succ fun x18 => forall_len_succ fun x19 => forall_len_zero (h x0 x1 x2 x3 x4 x5 x6 x7 x8 x9 x10 x11 x12 x13 x14 x15 x16 x17 x18 x19)

theorem forall_len40 {P : List Nat → Prop}
    (h : ∀ x0 x1 x2 x3 x4 x5 x6 x7 x8 x9 x10 x11 x12 x13 x14 x15 x16 x17 x18 x19 x20 x21 x22 x23 x24 x25 x26 x27 x28 x29 x30 x31 x32 x33 x34 x35 x36 x37 x38 x39 : Nat, P (x0 :: x1 :: x2 :: x3 :: x4 :: x5 :: x6 :: x7 :: x8 :: x9 :: x10 :: x11 :: x12 :: x13 :: x14 :: x15 :: x16 :: x17 :: x18 :: x19 :: x20 :: x21 :: x22 :: x23 :: x24 :: x25 :: x26 :: x27 :: x28 :: x29 :: x30 :: x31 :: x32 :: x33 :: x34 :: x35 :: x36 :: x37 :: x38 :: x39 :: [])) :
    ∀ X : List Nat, X.length = 40 → P X :=
  forall_len_succ fun x0 => forall_len_succ fun x1 => forall_len_succ fun x2 => forall_len_succ fun x3 => forall_len_succ fun x4 => forall_len_succ fun x5 => forall_len_succ fun x6 => forall_len_succ fun x7 => forall_len_succ fun x8 => forall_len_succ fun x9 => forall_len_succ fun x10 => forall_len_succ fun x11 => forall_len_succ fun x12 => forall_len_succ fun x13 => forall_len_succ fun x14 => forall_len_succ fun x15 => forall_len_succ fun x16 => forall_len_succ fun x17 => forall_len_succ fun x18 => forall_len_succ fun x19 => forall_len_succ fun x20 => forall_len_succ fun x21 => forall_len_succ fun x22 => forall_len_succ fun x23 => forall_len_succ fun x24 => forall_len_succ fun x25 => forall_len_succ fun x26 => forall_len_succ fun x27 => forall_len_succ fun x28 => forall_len_succ fun x29 => forall_len_succ fun x30 => forall_len_succ fun x31 => forall_len_succ fun x32 => forall_len_succ fun x33 => forall_len_succ fun x34 => forall_len_succ fun x35 => forall_len_succ fun x36 => forall_len_succ fun x37 => forall_len_succ fun x38 => forall_len_succ fun x39 => forall_len_zero (h x0 x1 x2 x3 x4 x5 x6 x7 x8 x9 x10 x11 x12 x13 x14 x15 x16 x17 x18 x19 x20 x21 x22 x23 x24 x25 x26 x27 x28 x29 x30 x31 x32 x33 x34 x35 x36 x37 x38 x39)


/-- `iterate n intro`: introduce the `n` words of a destructured list -/
macro "intro_words " n:num : tactic => `(tactic| iterate $n intro)

theorem args1 {args : List (List Nat)} {w : Nat} (h : args.map List.length = [w]) :
    ∃ X, args = [X] ∧ X.length = w := by
  match args, h with
  | [X], h => exact ⟨X, rfl, by simpa using h⟩

theorem args2 {args : List (List Nat)} {w1 w2 : Nat} (h : args.map List.length = [w1, w2]) :
    ∃ X Y, args = [X, Y] ∧ X.length = w1 ∧ Y.length = w2 := by
  match args, h with
  | [X, Y], h =>
    simp only [List.map_cons, List.map_nil, List.cons.injEq, and_true] at h
    exact ⟨X, Y, rfl, h.1, h.2⟩

theorem args3 {args : List (List Nat)} {w1 w2 w3 : Nat} (h : args.map List.length = [w1, w2, w3]) :
    ∃ X Y Z, args = [X, Y, Z] ∧ X.length = w1 ∧ Y.length = w2 ∧ Z.length = w3 := by
  match args, h with
  | [X, Y, Z], h =>
    simp only [List.map_cons, List.map_nil, List.cons.injEq, and_true] at h
    exact ⟨X, Y, Z, rfl, h.1, h.2.1, h.2.2⟩

theorem args4 {args : List (List Nat)} {w1 w2 w3 w4 : Nat} (h : args.map List.length = [w1, w2, w3, w4]) :
    ∃ X Y Z W, args = [X, Y, Z, W] ∧ X.length = w1 ∧ Y.length = w2 ∧ Z.length = w3 ∧ W.length = w4 := by
  match args, h with
  | [X, Y, Z, W], h =>
    simp only [List.map_cons, List.map_nil, List.cons.injEq, and_true] at h
    exact ⟨X, Y, Z, W, rfl, h.1, h.2.1, h.2.2.1, h.2.2.2⟩

/-- validity of an entry with one argument -/
theorem valid_un {k : Prog} {pre : List Itv} {sIn sOut : VSort} {sem : List Term}
    (h : ∀ X : List Nat, X.length = sIn.width → EnvIn X pre →
      meaning sOut (k.evalW X) = sem.map (Term.eval (meaning sIn X))) :
    (KSpec.mk k pre [sIn] sOut sem).Valid := by
  intro args hlen hin
  obtain ⟨X, rfl, hX⟩ := args1 hlen
  simp only [List.flatten_cons, List.flatten_nil, List.append_nil, lanesOf, List.zipWith_cons_cons,
    List.zipWith_nil_right] at hin ⊢
  exact h X hX hin

/-- validity of an entry with two arguments -/
theorem valid_bin {k : Prog} {pre : List Itv} {s1 s2 sOut : VSort} {sem : List Term}
    (h : ∀ X : List Nat, X.length = s1.width → ∀ Y : List Nat, Y.length = s2.width → EnvIn (X ++ Y) pre →
      meaning sOut (k.evalW (X ++ Y)) = sem.map (Term.eval (meaning s1 X ++ meaning s2 Y))) :
    (KSpec.mk k pre [s1, s2] sOut sem).Valid := by
  intro args hlen hin
  obtain ⟨X, Y, rfl, hX, hY⟩ := args2 hlen
  simp only [List.flatten_cons, List.flatten_nil, List.append_nil, lanesOf, List.zipWith_cons_cons,
    List.zipWith_nil_right] at hin ⊢
  exact h X hX Y hY hin

/-- validity of an entry with three arguments -/
theorem valid_tern {k : Prog} {pre : List Itv} {s1 s2 s3 sOut : VSort} {sem : List Term}
    (h : ∀ X : List Nat, X.length = s1.width → ∀ Y : List Nat, Y.length = s2.width →
      ∀ Z : List Nat, Z.length = s3.width → EnvIn (X ++ Y ++ Z) pre →
      meaning sOut (k.evalW (X ++ Y ++ Z)) = sem.map (Term.eval (meaning s1 X ++ (meaning s2 Y ++ meaning s3 Z)))) :
    (KSpec.mk k pre [s1, s2, s3] sOut sem).Valid := by
  intro args hlen hin
  obtain ⟨X, Y, Z, rfl, hX, hY, hZ⟩ := args3 hlen
  simp only [List.flatten_cons, List.flatten_nil, List.append_nil, lanesOf, List.zipWith_cons_cons,
    List.zipWith_nil_right, ← List.append_assoc] at hin ⊢
  simp only [List.append_assoc (meaning s1 X)]
  exact h X hX Y hY Z hZ hin

/-- validity of an entry with four arguments -/
theorem valid_quad {k : Prog} {pre : List Itv} {s1 s2 s3 s4 sOut : VSort} {sem : List Term}
    (h : ∀ X : List Nat, X.length = s1.width → ∀ Y : List Nat, Y.length = s2.width →
      ∀ Z : List Nat, Z.length = s3.width → ∀ W : List Nat, W.length = s4.width → EnvIn (X ++ (Y ++ (Z ++ W))) pre →
      meaning sOut (k.evalW (X ++ (Y ++ (Z ++ W)))) =
        sem.map (Term.eval (meaning s1 X ++ (meaning s2 Y ++ (meaning s3 Z ++ meaning s4 W))))) :
    (KSpec.mk k pre [s1, s2, s3, s4] sOut sem).Valid := by
  intro args hlen hin
  obtain ⟨X, Y, Z, W, rfl, hX, hY, hZ, hW⟩ := args4 hlen
  simp only [List.flatten_cons, List.flatten_nil, List.append_nil, lanesOf, List.zipWith_cons_cons,
    List.zipWith_nil_right] at hin ⊢
  exact h X hX Y hY Z hZ W hW hin

/-- short names for the table entries -/
def v (i : Nat) : Term := .var i

/-- a word within the interval `ub 1` of a precondition is a `Choice` -/
theorem choice_le_one {I : List Nat} {pre : List Itv} (hin : EnvIn I pre) (i : Nat) (c : Nat)
    (hp : pre[i]? = some (Dalek.Model.Contracts.ub 1)) (hc : I[i]? = some c) : c = 0 ∨ c = 1 := by
  obtain ⟨x, hx, hm⟩ := EnvIn_get hin hp
  rw [hc] at hx
  obtain rfl := Option.some.inj hx
  have : c ≤ 1 := hm.2.1
  omega

/-- lane-wise `csel` of two four-lane values by a `Choice` word `c`: what `conditional_select` computes in either backend -/
theorem meaning_csel (s : VSort) (hs : s.arity = 4) (X Y : List Nat) (c : Nat) (hc : c = 0 ∨ c = 1) :
    meaning s (if c = 0 then X else Y) =
      [termOps.csel (v 8) (v 0) (v 4), termOps.csel (v 8) (v 1) (v 5), termOps.csel (v 8) (v 2) (v 6),
        termOps.csel (v 8) (v 3) (v 7)].map (Term.eval (meaning s X ++ (meaning s Y ++ meaning .ch [c]))) := by
  obtain ⟨a0, a1, a2, a3, hX⟩ := List.length_eq_four.mp ((meaning_length s X).trans hs)
  obtain ⟨b0, b1, b2, b3, hY⟩ := List.length_eq_four.mp ((meaning_length s Y).trans hs)
  rcases hc with rfl | rfl
  · rw [if_pos rfl, hX, hY, meaning_ch]
    simp only [List.map, Term.eval, termOps, v, FOps.apply, zmodOpsV_csel, List.cons_append, List.nil_append,
      List.getD_cons_zero, List.getD_cons_succ, Nat.cast_zero, if_true]
  · rw [if_neg one_ne_zero, hX, hY, meaning_ch]
    simp only [List.map, Term.eval, termOps, v, FOps.apply, zmodOpsV_csel, List.cons_append, List.nil_append,
      List.getD_cons_zero, List.getD_cons_succ, Nat.cast_one, one_ne_zero, if_false]

end Dalek.Proofs.KLane
