/-
C04 layer 2, helper lemmas (part 1): the scalar-multiplication models of `Dalek.Model.ScalarMul`, with the
point operations interpreted as the operations of an arbitrary commutative group `G`
(`groupOps`), compute the expected ℤ-linear combinations.

Contents: `groupOps`, `mulByPow2`, lookup tables (`tableGo`, `lookupTableFrom`, `nafTableFrom`), `selectModel`,
`nafSelect`/`nafStep`, the Horner lemma `horner_fold`, `variableBaseMul(Vec)`, the basepoint tables.
Everything here is at DIGIT level (hypotheses: digit ranges and digit sums); the byte-level statements
(using the layer-1 recoding theorems) are in `ScalarMulBytes.lean`.
-/
import Dalek.Model.ScalarMul
import Mathlib.Algebra.BigOperators.Group.Finset.Basic
import Mathlib.Algebra.BigOperators.Group.List.Basic
import Mathlib.Algebra.Module.Basic
import Mathlib.Algebra.Module.BigOperators
import Mathlib.Algebra.BigOperators.GroupWithZero.Action
import Mathlib.Tactic.Module
import Mathlib.Tactic.Abel
import Mathlib.Tactic.Ring
import Mathlib.Tactic.Linarith
import Mathlib.Tactic.NormNum

namespace Dalek.Proofs.ScalarMul
open Dalek.Model.ScalarMul Dalek.Model.Recode

variable {G : Type} [AddCommGroup G]

/-- The point operations of a commutative group. -/
def groupOps : PointOps G := ⟨0, (· + ·), (· - ·), (- ·), fun P => P + P⟩

@[simp] theorem groupOps_zero : (groupOps : PointOps G).zero = 0 := rfl
@[simp] theorem groupOps_add (a b : G) : (groupOps : PointOps G).add a b = a + b := rfl
@[simp] theorem groupOps_sub (a b : G) : (groupOps : PointOps G).sub a b = a - b := rfl
@[simp] theorem groupOps_neg (a : G) : (groupOps : PointOps G).neg a = -a := rfl
@[simp] theorem groupOps_double (a : G) : (groupOps : PointOps G).double a = (2 : ℤ) • a := by
  show a + a = _
  module

/-! ### `mul_by_pow_2` -/

@[simp] theorem mulByPow2_eq (k : ℕ) (P : G) : mulByPow2 groupOps k P = ((2 : ℤ) ^ k) • P := by
  induction k generalizing P with
  | zero => simp [mulByPow2]
  | succ k ih =>
    rw [mulByPow2, ih, groupOps_double, smul_smul, pow_succ]

/-! ### tables -/

theorem tableGo_length (D : G) (n : ℕ) (cur : G) : (tableGo groupOps D n cur).length = n := by
  induction n generalizing cur with
  | zero => rfl
  | succ n ih => simp [tableGo, ih]

theorem tableGo_getD (D : G) (n : ℕ) (cur : G) (j : ℕ) (h : j < n) :
    (tableGo groupOps D n cur).getD j 0 = cur + (j : ℤ) • D := by
  induction n generalizing cur j with
  | zero => omega
  | succ n ih =>
    cases j with
    | zero => simp [tableGo]
    | succ j =>
      rw [tableGo, List.getD_cons_succ, ih _ _ (by omega), groupOps_add]
      push_cast
      module

/-- A list of points is the table `[P, 2P, …, nP]`. -/
def IsTable (table : List G) (n : ℕ) (P : G) : Prop :=
  table.length = n ∧ ∀ j, j < n → table.getD j 0 = ((j : ℤ) + 1) • P

/-- A list of points is the table `[A, 3A, 5A, …, (2n-1)A]`. -/
def IsOddTable (table : List G) (n : ℕ) (A : G) : Prop :=
  table.length = n ∧ ∀ j, j < n → table.getD j 0 = (2 * (j : ℤ) + 1) • A

theorem lookupTableFrom_isTable (n : ℕ) (P : G) : IsTable (lookupTableFrom groupOps n P) n P := by
  refine ⟨tableGo_length _ _ _, fun j hj => ?_⟩
  rw [lookupTableFrom, tableGo_getD _ _ _ _ hj]
  module

theorem nafTableFrom_isOddTable (n : ℕ) (A : G) : IsOddTable (nafTableFrom groupOps n A) n A := by
  refine ⟨tableGo_length _ _ _, fun j hj => ?_⟩
  rw [nafTableFrom, tableGo_getD _ _ _ _ hj, groupOps_double]
  module

/-! ### `select` -/

theorem int_not_eq (a : ℤ) : ~~~a = -a - 1 := by
  cases a with
  | ofNat n => show Int.negSucc n = _; rw [Int.negSucc_eq]; simp; ring
  | negSucc n => show Int.ofNat n = _; rw [Int.negSucc_eq]; simp

theorem shr7_of_nonneg {x : ℤ} (h0 : 0 ≤ x) (h1 : x ≤ 127) : x >>> 7 = 0 := by
  rw [Int.shiftRight_eq_div_pow]; norm_num; omega

theorem shr7_of_neg {x : ℤ} (h0 : -128 ≤ x) (h1 : x < 0) : x >>> 7 = -1 := by
  rw [Int.shiftRight_eq_div_pow]; norm_num; omega

/-- the constant-time scan `for j in 1..=n { if xabs == j { t = table[j-1] } }` -/
theorem scan_eq (table : List G) (xabs : ℤ) (n : ℕ) :
    (List.range n).foldl
      (fun t j0 => if xabs == Int.ofNat (j0 + 1) then table.getD j0 (groupOps : PointOps G).zero else t)
      (groupOps : PointOps G).zero
    = if 0 < xabs ∧ xabs ≤ n then table.getD (xabs.toNat - 1) 0 else 0 := by
  induction n with
  | zero =>
    simp only [List.range_zero, List.foldl_nil, groupOps_zero]
    rw [if_neg]; intro h; have := h.1; have := h.2; push_cast at *; omega
  | succ n ih =>
    rw [List.range_succ, List.foldl_append, ih]
    simp only [List.foldl_cons, List.foldl_nil, groupOps_zero, beq_iff_eq, Int.ofNat_eq_natCast]
    by_cases h : xabs = ((n + 1 : ℕ) : ℤ)
    · rw [if_pos h, if_pos (by constructor <;> omega)]
      congr 1; omega
    · rw [if_neg h]
      by_cases h2 : 0 < xabs ∧ xabs ≤ (n : ℤ)
      · rw [if_pos h2, if_pos (by push_cast; constructor <;> omega)]
      · rw [if_neg h2, if_neg (by push_cast at *; omega)]

/-- `LookupTable*::select`: for a table `[P, …, nP]` and `-n ≤ x ≤ n` (`x` an `i8`) the result is `x•P`. -/
theorem selectModel_eq {table : List G} {n : ℕ} {P : G} (ht : IsTable table n P) {x : ℤ}
    (hlo : -(n : ℤ) ≤ x) (hhi : x ≤ n) (h8lo : -128 ≤ x) (h8hi : x ≤ 127) :
    selectModel groupOps table x = x • P := by
  obtain ⟨hlen, hent⟩ := ht
  unfold selectModel
  simp only
  rw [hlen, scan_eq]
  rcases lt_or_ge x 0 with hneg | hpos
  · rw [shr7_of_neg h8lo hneg]
    have habs : xorMask (x + -1) (-1) = -x := by
      unfold xorMask; simp only [beq_self_eq_true, if_true]; rw [int_not_eq]; ring
    have e1 : (((-1 : ℤ) % 2 == 1) = true) := by decide
    rw [habs, if_pos e1, if_pos (by constructor <;> omega), groupOps_neg,
      hent _ (by omega)]
    have : (((-x).toNat - 1 : ℕ) : ℤ) = -x - 1 := by omega
    rw [this]; module
  · rw [shr7_of_nonneg hpos h8hi]
    have habs : xorMask (x + 0) 0 = x := by
      unfold xorMask; simp
    have e0 : ¬ (((0 : ℤ) % 2 == 1) = true) := by decide
    rw [habs, if_neg e0]
    by_cases hx0 : x = 0
    · subst hx0; simp
    · rw [if_pos (by constructor <;> omega), hent _ (by omega)]
      have : ((x.toNat - 1 : ℕ) : ℤ) = x - 1 := by omega
      rw [this]; module

/-! ### `NafLookupTable::select` and the signed-digit step -/

/-- for a table of odd multiples `[A, 3A, …, (2n-1)A]` and a digit `d` that is `0` or odd with `|d| < 2n`:
`nafStep t table d = t + d•A`. -/
theorem nafStep_eq {table : List G} {n : ℕ} {A : G} (ht : IsOddTable table n A) (t : G) {d : ℤ}
    (hd : d = 0 ∨ (d % 2 = 1 ∧ -(2 * n : ℤ) < d ∧ d < 2 * n)) :
    nafStep groupOps t table d = t + d • A := by
  obtain ⟨hlen, hent⟩ := ht
  unfold nafStep nafSelect
  rcases hd with rfl | ⟨hodd, hlo, hhi⟩
  · simp
  · rcases lt_trichotomy d 0 with hneg | h0 | hpos
    · rw [if_neg (by omega), if_pos hneg, groupOps_sub, groupOps_zero, hent _ (by omega)]
      have : (((-d).toNat / 2 : ℕ) : ℤ) = (-d - 1) / 2 := by omega
      rw [this]
      have h2 : 2 * ((-d - 1) / 2) + 1 = -d := by omega
      rw [h2]; module
    · omega
    · rw [if_pos hpos, groupOps_add, groupOps_zero, hent _ (by omega)]
      have : ((d.toNat / 2 : ℕ) : ℤ) = (d - 1) / 2 := by omega
      rw [this]
      have h2 : 2 * ((d - 1) / 2) + 1 = d := by omega
      rw [h2]

/-- index safety of `NafLookupTable::select`: `x / 2 < n` for `|d| < 2n`. -/
theorem nafSelect_index_ok {n : ℕ} {d : ℤ} (hlo : -(2 * n : ℤ) < d) (hhi : d < 2 * n) :
    d.toNat / 2 < n ∧ (-d).toNat / 2 < n := by
  constructor <;> omega

/-! ### Horner folds -/

theorem range_succ_reverse (n : ℕ) : (List.range (n + 1)).reverse = n :: (List.range n).reverse := by
  rw [List.range_succ, List.reverse_append]; rfl

/-- `for i in (0..n).rev() { acc = 2^w • acc + c i }` -/
theorem horner_fold (w : ℕ) (c : ℕ → G) (n : ℕ) (z : G) :
    (List.range n).reverse.foldl (fun acc i => ((2 : ℤ) ^ w) • acc + c i) z
      = ((2 : ℤ) ^ (w * n)) • z + ∑ i ∈ Finset.range n, ((2 : ℤ) ^ (w * i)) • c i := by
  induction n generalizing z with
  | zero => simp
  | succ n ih =>
    rw [range_succ_reverse, List.foldl_cons, ih, Finset.sum_range_succ]
    have : (2 : ℤ) ^ (w * (n + 1)) = 2 ^ (w * n) * 2 ^ w := by rw [← pow_add]; ring_nf
    rw [this]
    module

/-- `foldl` of `acc + f x` -/
theorem foldl_add_eq {α : Type} (f : α → G) (l : List α) (z : G) :
    l.foldl (fun acc x => acc + f x) z = z + (l.map f).sum := by
  induction l generalizing z with
  | nil => simp
  | cons a l ih => rw [List.foldl_cons, ih, List.map_cons, List.sum_cons]; abel

/-- pulling a weighted finite sum through a list sum -/
theorem sum_smul_list_sum {α : Type} (R : Finset ℕ) (a : ℕ → ℤ) (f : ℕ → α → G) (l : List α) :
    ∑ i ∈ R, a i • (l.map (f i)).sum = (l.map fun x => ∑ i ∈ R, a i • f i x).sum := by
  induction l with
  | nil => simp
  | cons x l ih =>
    simp only [List.map_cons, List.sum_cons, smul_add, Finset.sum_add_distrib, ih]

/-- `Σ aᵢ • (dᵢ • P) = (Σ dᵢ aᵢ) • P` -/
theorem sum_smul_smul (R : Finset ℕ) (a d : ℕ → ℤ) (P : G) :
    ∑ i ∈ R, a i • (d i • P) = (∑ i ∈ R, d i * a i) • P := by
  rw [Finset.sum_smul]
  refine Finset.sum_congr rfl fun i _ => ?_
  rw [smul_smul, mul_comm]

/-! ### `variable_base::mul` (both copies), digit level -/

/-- The radix-16 digit hypotheses delivered by `radix16_spec`. -/
structure Radix16Digits (d : List ℤ) (s : ℤ) : Prop where
  sum : ∑ i ∈ Finset.range 64, d.getD i 0 * 16 ^ i = s
  lo : ∀ i, i < 64 → -8 ≤ d.getD i 0
  hi : ∀ i, i < 64 → d.getD i 0 ≤ 8

/-- digit ranges of `as_radix_16` (all 64 digits in `[-8, 8]`) -/
def Radix16Range (d : List ℤ) : Prop := ∀ i, i < 64 → -8 ≤ d.getD i 0 ∧ d.getD i 0 ≤ 8

theorem select16 {d : List ℤ} (h : Radix16Range d) (P : G) (i : ℕ) (hi : i < 64) :
    selectModel groupOps (lookupTableFrom groupOps 8 P) (d.getD i 0) = d.getD i 0 • P := by
  have := h i hi
  exact selectModel_eq (lookupTableFrom_isTable 8 P) (by push_cast; omega) (by push_cast; omega)
    (by omega) (by omega)

theorem Radix16Digits.select {d : List ℤ} {s : ℤ} (h : Radix16Digits d s) (P : G) (i : ℕ) (hi : i < 64) :
    selectModel groupOps (lookupTableFrom groupOps 8 P) (d.getD i 0) = d.getD i 0 • P :=
  select16 (fun i hi => ⟨h.lo i hi, h.hi i hi⟩) P i hi

theorem foldl_congr_mem {α β : Type} (f g : β → α → β) (l : List α) (z : β)
    (h : ∀ acc, ∀ x ∈ l, f acc x = g acc x) : l.foldl f z = l.foldl g z := by
  induction l generalizing z with
  | nil => rfl
  | cons a l ih =>
    rw [List.foldl_cons, List.foldl_cons, h z a (by simp)]
    exact ih _ fun acc x hx => h acc x (by simp [hx])

theorem pow_four_mul (i : ℕ) : (2 : ℤ) ^ (4 * i) = 16 ^ i := by
  rw [pow_mul]; norm_num

theorem variableBaseMulVec_eq {d : List ℤ} {s : ℤ} (h : Radix16Digits d s) (P : G) :
    variableBaseMulVec groupOps d P = s • P := by
  unfold variableBaseMulVec
  simp only
  rw [foldl_congr_mem _ (fun acc i => ((2 : ℤ) ^ 4) • acc + d.getD i 0 • P)]
  · rw [horner_fold, groupOps_zero, smul_zero, zero_add, sum_smul_smul, ← h.sum]
    simp only [pow_four_mul]
  · intro acc i hi
    rw [List.mem_reverse, List.mem_range] at hi
    rw [groupOps_add, mulByPow2_eq, h.select P i hi]

theorem variableBaseMul_eq {d : List ℤ} {s : ℤ} (h : Radix16Digits d s) (P : G) :
    variableBaseMul groupOps d P = s • P := by
  unfold variableBaseMul
  simp only
  rw [foldl_congr_mem _ (fun acc i => ((2 : ℤ) ^ 4) • acc + d.getD i 0 • P)]
  · have hs : s = ∑ i ∈ Finset.range 63, d.getD i 0 * 16 ^ i + d.getD 63 0 * 16 ^ 63 := by
      rw [← h.sum, Finset.sum_range_succ]
    rw [horner_fold, groupOps_zero, groupOps_add, zero_add, h.select P 63 (by omega), smul_smul,
      sum_smul_smul, ← add_smul, hs]
    simp only [pow_four_mul]
    congr 1
    ring
  · intro acc i hi
    rw [List.mem_reverse, List.mem_range] at hi
    rw [groupOps_add, mulByPow2_eq, h.select P i (by omega)]

/-! ### basepoint tables (`impl_basepoint_table!`), digit level -/

/-- `tables[i] = [1·(2^(2w))^i B, …, 2^(w-1)·(2^(2w))^i B]` for `i < 32`: what `create` builds and what the
shipped constant `ED25519_BASEPOINT_TABLE` is (C12). -/
def IsBasepointTable (tables : List (List G)) (w : ℕ) (B : G) : Prop :=
  ∀ i, i < 32 → IsTable (tables.getD i []) (2 ^ (w - 1)) (((2 : ℤ) ^ (2 * w * i)) • B)

theorem basepointTableCreate_go_getD (w : ℕ) (n : ℕ) (P : G) (i : ℕ) (hi : i < n) :
    (basepointTableCreate.go groupOps w n P).getD i []
      = lookupTableFrom groupOps (2 ^ (w - 1)) (((2 : ℤ) ^ (2 * w * i)) • P) := by
  induction n generalizing P i with
  | zero => omega
  | succ n ih =>
    cases i with
    | zero => simp [basepointTableCreate.go]
    | succ i =>
      rw [basepointTableCreate.go, List.getD_cons_succ, ih _ _ (by omega), mulByPow2_eq, smul_smul]
      congr 2
      rw [← pow_add]; congr 1; ring

theorem basepointTableCreate_isBasepointTable (w : ℕ) (P : G) :
    IsBasepointTable (basepointTableCreate groupOps w P) w P := by
  intro i hi
  rw [basepointTableCreate, basepointTableCreate_go_getD _ _ _ _ hi]
  exact lookupTableFrom_isTable _ _

/-- The radix-`2^w` digit hypotheses delivered by `radix2w_spec` (`h = basepointAdditions w`). -/
structure Radix2wDigits (w : ℕ) (d : List ℤ) (s : ℤ) : Prop where
  sum : ∑ i ∈ Finset.range 64, d.getD i 0 * 2 ^ (w * i) = s
  zero : ∀ i, basepointAdditions w ≤ i → d.getD i 0 = 0
  lo : ∀ i, -(2 ^ (w - 1) : ℤ) ≤ d.getD i 0
  hi : ∀ i, d.getD i 0 ≤ 2 ^ (w - 1)
  i8lo : ∀ i, -128 ≤ d.getD i 0
  i8hi : ∀ i, d.getD i 0 ≤ 127

theorem list_range_map_sum (f : ℕ → G) (n : ℕ) :
    ((List.range n).map f).sum = ∑ i ∈ Finset.range n, f i := by
  induction n with
  | zero => simp
  | succ n ih => rw [List.range_succ, List.map_append, List.sum_append, ih, Finset.sum_range_succ]; simp

theorem filter_split_sum (l : List ℕ) (p : ℕ → Bool) (f g : ℕ → G) :
    ((l.filter p).map f).sum + ((l.filter fun i => !p i).map g).sum
      = (l.map fun i => if p i then f i else g i).sum := by
  induction l with
  | nil => simp
  | cons a l ih =>
    cases hp : p a
    · simp only [List.filter_cons, hp, Bool.false_eq_true, if_false, Bool.not_false, if_true,
        List.map_cons, List.sum_cons, ← ih]
      abel
    · simp only [List.filter_cons, hp, if_true, Bool.not_true, Bool.false_eq_true, if_false,
        List.map_cons, List.sum_cons, ← ih]
      abel

theorem list_smul_sum {α : Type} (a : ℤ) (f : α → G) (l : List α) :
    a • (l.map f).sum = (l.map fun x => a • f x).sum := by
  induction l with
  | nil => simp
  | cons x l ih => simp only [List.map_cons, List.sum_cons, smul_add, ih]

theorem basepointAdditions_le (w : ℕ) : basepointAdditions w ≤ 64 := by
  unfold basepointAdditions; split <;> omega

theorem even_filter_eq : (fun x : ℕ => x % 2 == 0) = fun x => !(x % 2 == 1) := by
  funext x
  rcases Nat.mod_two_eq_zero_or_one x with h | h <;> simp [h]

/-- `mul_base` with correct tables and correct digits returns `s • B`. -/
theorem basepointTableMulBase_eq {w : ℕ} {tables : List (List G)} {B : G}
    (ht : IsBasepointTable tables w B) {d : List ℤ} {s : ℤ} (hd : Radix2wDigits w d s) :
    basepointTableMulBase groupOps w tables d = s • B := by
  have hsel : ∀ i, i < basepointAdditions w →
      selectModel groupOps (tables.getD (i / 2) []) (d.getD i 0)
        = d.getD i 0 • (((2 : ℤ) ^ (2 * w * (i / 2))) • B) := by
    intro i hi
    have h64 := basepointAdditions_le w
    refine selectModel_eq (ht (i / 2) (by omega)) ?_ ?_ (hd.i8lo i) (hd.i8hi i)
    · push_cast; exact hd.lo i
    · push_cast; exact hd.hi i
  unfold basepointTableMulBase
  simp only
  rw [foldl_congr_mem _ (fun P i => P + d.getD i 0 • (((2 : ℤ) ^ (2 * w * (i / 2))) • B)),
    foldl_congr_mem _ (fun P i => P + d.getD i 0 • (((2 : ℤ) ^ (2 * w * (i / 2))) • B))
      ((List.range (basepointAdditions w)).filter (· % 2 == 1))]
  · rw [foldl_add_eq, foldl_add_eq, groupOps_zero, zero_add, mulByPow2_eq, list_smul_sum, even_filter_eq,
      filter_split_sum, list_range_map_sum, ← hd.sum, Finset.sum_smul]
    rw [← Finset.sum_subset (Finset.range_subset_range.2 (basepointAdditions_le w))]
    · refine Finset.sum_congr rfl fun i _ => ?_
      rcases Nat.mod_two_eq_zero_or_one i with h | h
      · have e : (i % 2 == 1) = false := by simp [h]
        rw [e]; simp only [Bool.false_eq_true, if_false]
        rw [smul_smul]
        have : 2 * w * (i / 2) = w * i := by
          have := Nat.div_add_mod i 2
          calc 2 * w * (i / 2) = w * (2 * (i / 2)) := by ring
            _ = w * i := by congr 1; omega
        rw [this]
      · have e : (i % 2 == 1) = true := by simp [h]
        rw [e]; simp only [if_true]
        rw [smul_smul, smul_smul]
        have : w + 2 * w * (i / 2) = w * i := by
          have := Nat.div_add_mod i 2
          calc w + 2 * w * (i / 2) = w * (2 * (i / 2) + 1) := by ring
            _ = w * i := by congr 1; omega
        rw [← this, pow_add]
        congr 1; ring
    · intro i _ hi
      rw [Finset.mem_range, not_lt] at hi
      rw [hd.zero i hi, zero_mul, zero_smul]
  · intro acc i hi
    rw [List.mem_filter, List.mem_range] at hi
    rw [groupOps_add, hsel i hi.1]
  · intro acc i hi
    rw [List.mem_filter, List.mem_range] at hi
    rw [groupOps_add, hsel i hi.1]

/-- `BasepointTable::basepoint` returns the point the table was made for. -/
theorem basepointTableBasepoint_eq {w : ℕ} {tables : List (List G)} {B : G}
    (ht : IsBasepointTable tables w B) : basepointTableBasepoint groupOps tables = B := by
  unfold basepointTableBasepoint
  have h1 : (1 : ℤ) ≤ 2 ^ (w - 1) := one_le_pow₀ (by norm_num)
  rw [groupOps_add, groupOps_zero, zero_add,
    selectModel_eq (ht 0 (by omega)) (by push_cast; omega) (by push_cast; omega) (by omega) (by omega)]
  simp

end Dalek.Proofs.ScalarMul
