/-
**The group of the Ed25519 curve has exactly `8·ℓ` points** (`card_Ed`), by an elementary argument
(no Hasse bound, no point counting):

* upper bound: a point of the curve is determined by its `y`-coordinate and the parity ("sign") of its
  `x`-coordinate (`x² (d y² + 1) = y² − 1` with `d y² + 1 ≠ 0` because `d` is a non-square and `−1` is a square;
  `p` is odd so `x` and `−x` have different parities unless `x = 0`), hence `#E ≤ 2p`;
* lower structure: the basepoint `B` has order `ℓ` (prime), the point `T₈ = EIGHT_TORSION[1]` has order `8`,
  the group is commutative and `gcd(8, ℓ) = 1`, so `B + T₈` has order `8ℓ` and `8ℓ ∣ #E` (Lagrange);
* arithmetic: `2p < 2·(8ℓ)`, hence `#E = 8ℓ`.

Corollaries (second half of the file; the subgroup structure is in `CurveOrder/Structure.lean`):
`eight_L_nsmul`, `clear_cofactor_in_prime_subgroup`, `isAddCyclic_Ed`.
-/
import Dalek.Proofs.Bridge.Edwards
import Dalek.Proofs.Bridge.Order
import Dalek.Proofs.Primes
import Mathlib.GroupTheory.OrderOfElement
import Mathlib.GroupTheory.Index
import Mathlib.SetTheory.Cardinal.Finite
import Mathlib.Data.ZMod.QuotientGroup

namespace Dalek.CurveOrder

open Dalek.Spec Dalek.Bridge
open Dalek.Edwards (EdPoint)

/-! ## Finiteness -/

/-- the coordinates of a curve point -/
def coords (Q : Ed) : Fp × Fp := (Q.x, Q.y)

theorem coords_injective : Function.Injective coords := fun _ _ h =>
  EdPoint.ext (congrArg Prod.fst h) (congrArg Prod.snd h)

instance instFiniteEd : Finite Ed := Finite.of_injective coords coords_injective

/-! ## Upper bound: `#E ≤ 2p` -/

/-- `y` and the parity of the canonical representative of `x` (this is the information in the 32-byte
compressed encoding of a point) -/
def ySign (Q : Ed) : Fp × Bool := (Q.y, decide (Q.x.val % 2 = 1))

/-- for `x ≠ 0`, `x` and `−x` have canonical representatives of different parities (`p` is odd) -/
theorem val_neg_parity {x : Fp} (hx : x ≠ 0) : ¬ ((-x).val % 2 = 1 ↔ x.val % 2 = 1) := by
  have hlt := ZMod.val_lt x
  have hpos : 0 < x.val := Nat.pos_of_ne_zero (fun h => hx ((ZMod.val_eq_zero x).1 h))
  have hneg : (-x).val = P - x.val := by rw [ZMod.neg_val, if_neg hx]
  have hP := P_odd
  rw [hneg]; omega

/-- two curve points with the same `y` have `x' = ± x` -/
theorem x_eq_or_eq_neg {Q R : Ed} (hy : Q.y = R.y) : Q.x = R.x ∨ Q.x = -R.x := by
  have hQ := (onCurve_iff_ratio Q.x Q.y).1 (by have := Q.on; rwa [edParams_d] at this)
  have hR := (onCurve_iff_ratio R.x R.y).1 (by have := R.on; rwa [edParams_d] at this)
  rw [hy] at hQ
  have hne := dyy_add_one_ne_zero R.y
  have h : (Q.x - R.x) * (Q.x + R.x) * (Dalek.FieldFacts.d * R.y ^ 2 + 1) = 0 := by
    linear_combination hQ - hR
  rcases mul_eq_zero.1 h with h' | h'
  · rcases mul_eq_zero.1 h' with h'' | h''
    · left; linear_combination h''
    · right; linear_combination h''
  · exact absurd h' hne

/-- **A curve point is determined by `y` and the sign of `x`.** -/
theorem ySign_injective : Function.Injective ySign := by
  intro Q R h
  have hy : Q.y = R.y := congrArg Prod.fst h
  have hs : decide (Q.x.val % 2 = 1) = decide (R.x.val % 2 = 1) := congrArg Prod.snd h
  have hs' : Q.x.val % 2 = 1 ↔ R.x.val % 2 = 1 := by simpa using hs
  refine EdPoint.ext ?_ hy
  rcases x_eq_or_eq_neg hy with hx | hx
  · exact hx
  · by_cases h0 : R.x = 0
    · rw [hx, h0, neg_zero]
    · exfalso
      rw [hx] at hs'
      exact val_neg_parity h0 hs'

/-- `#E ≤ 2p` -/
theorem card_Ed_le : Nat.card Ed ≤ 2 * P := by
  have h := Nat.card_le_card_of_injective ySign ySign_injective
  have hb : Nat.card Bool = 2 := by rw [Nat.card_eq_fintype_card, Fintype.card_bool]
  rw [Nat.card_prod, Nat.card_zmod, hb] at h
  omega

/-! ## A point of order `8` -/

/-- `EIGHT_TORSION[1]` of the specification -/
def T8pt : Pt := eightTorsion.getD 1 Pt.zero

theorem onCurve_T8pt : onCurve T8pt = true := by decide +kernel

theorem canon_T8pt : Canon T8pt := by decide +kernel

/-- `EIGHT_TORSION[1]` as an element of the group -/
def T8 : Ed := toEd T8pt onCurve_T8pt

theorem rep_T8 : Rep T8pt T8 := rep_toEd _ _

/-- `8·T₈ = 0` and `4·T₈ ≠ 0` are evaluated in extended coordinates, which need no inversion. -/
theorem eight_nsmul_T8 : 8 • T8 = 0 :=
  (isSmallOrder_iff_E (erep_ofAffine rep_T8)).1 (by decide +kernel)

theorem four_nsmul_T8_ne_zero : 4 • T8 ≠ 0 := by
  intro h
  have := (isIdentity_iff_E (erep_mulByPow2 (erep_ofAffine rep_T8) 2)).2 h
  revert this
  decide +kernel

/-- **`T₈` has order exactly `8`.** -/
theorem addOrderOf_T8 : addOrderOf T8 = 8 := by
  have e8 : (8 : Nat) = 2 ^ (2 + 1) := by norm_num
  rw [e8]
  exact addOrderOf_eq_prime_pow (by simpa using four_nsmul_T8_ne_zero) (by simpa using eight_nsmul_T8)

theorem prime_L : Nat.Prime L := Dalek.Primes.prime_l

theorem coprime_L_8 : Nat.Coprime L 8 := by
  have : Nat.Coprime L 2 := (Nat.coprime_primes prime_L Nat.prime_two).2 (by norm_num)
  exact Nat.Coprime.pow_right 3 this

/-- `B + T₈` has order `8ℓ` -/
theorem addOrderOf_Bpt_add_T8 : addOrderOf (Bpt + T8) = 8 * L := by
  have h := (AddCommute.all Bpt T8).addOrderOf_add_eq_mul_addOrderOf_of_coprime
    (by rw [addOrderOf_Bpt, addOrderOf_T8]; exact coprime_L_8)
  rw [h, addOrderOf_Bpt, addOrderOf_T8, Nat.mul_comm]

/-! ## The order of the group -/

theorem two_P_lt : 2 * P < 2 * (8 * L) := by norm_num [P, L]

/-- **THEOREM: the Ed25519 curve has exactly `8·ℓ` rational points.** -/
theorem card_Ed : Nat.card Ed = 8 * L := by
  have hdvd : 8 * L ∣ Nat.card Ed := by
    rw [← addOrderOf_Bpt_add_T8]; exact addOrderOf_dvd_natCard _
  obtain ⟨k, hk⟩ := hdvd
  have hle := card_Ed_le
  have hlt := two_P_lt
  have hpos : 0 < Nat.card Ed := Nat.card_pos
  rw [hk] at hle hpos ⊢
  have hk1 : k = 1 := by
    rcases k with _ | _ | k
    · simp at hpos
    · rfl
    · exfalso
      have : 8 * L * 2 ≤ 8 * L * (k + 1 + 1) := Nat.mul_le_mul_left _ (by omega)
      omega
  rw [hk1, Nat.mul_one]

/-- the same with `Fintype.card`, for any `Fintype` instance -/
theorem fintype_card_Ed [Fintype Ed] : Fintype.card Ed = 8 * L := by
  rw [← Nat.card_eq_fintype_card, card_Ed]

/-! ## First corollaries -/

/-- **Every point is annihilated by `8ℓ`.** -/
theorem eight_L_nsmul (Q : Ed) : (8 * L) • Q = 0 := by
  rw [← card_Ed]; exact card_nsmul_eq_zero'

/-- **Clearing the cofactor lands in the `ℓ`-torsion**: `ℓ·(8·Q) = 0` for every point. -/
theorem clear_cofactor_in_prime_subgroup (Q : Ed) : L • (8 • Q) = 0 := by
  rw [← mul_nsmul, Nat.mul_comm]; exact eight_L_nsmul Q

/-- `8·(ℓ·Q) = 0` for every point. -/
theorem L_nsmul_small_order (Q : Ed) : 8 • (L • Q) = 0 := by
  rw [← mul_nsmul]; exact eight_L_nsmul Q

/-- The group of the curve is cyclic (generated by `B + T₈`). -/
theorem isAddCyclic_Ed : IsAddCyclic Ed :=
  isAddCyclic_of_addOrderOf_eq_card (Bpt + T8) (by rw [addOrderOf_Bpt_add_T8, card_Ed])

/-- the generator -/
theorem zmultiples_Bpt_add_T8 : AddSubgroup.zmultiples (Bpt + T8) = ⊤ := by
  apply AddSubgroup.eq_top_of_card_eq
  rw [Nat.card_zmultiples, addOrderOf_Bpt_add_T8, card_Ed]

/-! ## Axiom audit -/

/-- info: 'Dalek.CurveOrder.card_Ed' depends on axioms: [propext, Classical.choice, Quot.sound] -/
#guard_msgs in #print axioms card_Ed

/-- info: 'Dalek.CurveOrder.eight_L_nsmul' depends on axioms: [propext, Classical.choice, Quot.sound] -/
#guard_msgs in #print axioms eight_L_nsmul

/-- info: 'Dalek.CurveOrder.ySign_injective' depends on axioms: [propext, Classical.choice, Quot.sound] -/
#guard_msgs in #print axioms ySign_injective

end Dalek.CurveOrder
