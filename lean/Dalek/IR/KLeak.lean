import Dalek.IR.KProg
import Dalek.IR.Leak
/-! Leakage of kernel-call programs: the trace of a `KProg` is the concatenation of the traces of the called kernels. -/
namespace Dalek.IR

def kleakBody : List KStmt → List (List Nat) → Leak
  | [], _ => []
  | s :: ss, env =>
    let a := (gather env s.args).getD []
    s.k.leakW a ++ kleakBody ss (env ++ [s.k.evalW a])

def kopsBody : List KStmt → Leak
  | [] => []
  | s :: ss => s.k.ops ++ kopsBody ss

/-- what running the formula (release semantics) reveals -/
def KProg.leakW (p : KProg) (ins : List (List Nat)) : Leak := kleakBody p.body ins

/-- the static opcode sequence -/
def KProg.ops (p : KProg) : Leak := kopsBody p.body

theorem kleakBody_eq_ops : ∀ (ss : List KStmt) (env : List (List Nat)), kleakBody ss env = kopsBody ss
  | [], _ => rfl
  | s :: ss, env => by
      simp only [kleakBody, kopsBody, Prog.leakW_eq_ops, kleakBody_eq_ops ss]

theorem KProg.leakW_eq_ops (p : KProg) (ins : List (List Nat)) : p.leakW ins = p.ops :=
  kleakBody_eq_ops p.body ins

theorem kopsBody_all_limbOp (ss : List KStmt) : (kopsBody ss).all LeakEvent.isLimbOp = true := by
  induction ss with
  | nil => rfl
  | cons s ss ih => simp [kopsBody, Prog.ops, opsBody_all_limbOp, ih]

/-- the trace of a kernel-call program does not depend on its inputs -/
theorem kprog_leak_const (p : KProg) (ins₁ ins₂ : List (List Nat)) : p.leakW ins₁ = p.leakW ins₂ := by
  rw [p.leakW_eq_ops, p.leakW_eq_ops]

end Dalek.IR
