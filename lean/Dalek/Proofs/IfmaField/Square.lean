import Dalek.Proofs.IfmaField.Defs
import Dalek.Gen.Norm.IfmaField
/-! `square` of the IFMA backend. -/
set_option maxRecDepth 100000
set_option linter.unusedSimpArgs false
namespace Dalek.Proofs.IfmaField
open Dalek Dalek.Gen.Norm.IfmaField Dalek.Proofs.Field26 Dalek.Proofs.Avx2Field

theorem square_correct_A (x0 x1 x2 x3 x4 x5 x6 x7 x8 x9 x10 x11 x12 x13 x14 x15 x16 x17 x18 x19 : Int) :
    laneVal51 .A (square_fn x0 x1 x2 x3 x4 x5 x6 x7 x8 x9 x10 x11 x12 x13 x14 x15 x16 x17 x18 x19) = laneVal51 .A (x0 :: x1 :: x2 :: x3 :: x4 :: x5 :: x6 :: x7 :: x8 :: x9 :: x10 :: x11 :: x12 :: x13 :: x14 :: x15 :: x16 :: x17 :: x18 :: x19 :: []) ^ 2 := by
  lane_lets square_fn
  ifma_goal; slice_hyps; lane_finish

/-- `(A,B,C,D) ↦ (A², B², C², D²)`.  The four lanes run the same program on disjoint variables: the statement for B, C, D
is the one for A with the two lanes exchanged in the arguments, and both unfold to the same term. -/
theorem square_correct (k : Lane) (x0 x1 x2 x3 x4 x5 x6 x7 x8 x9 x10 x11 x12 x13 x14 x15 x16 x17 x18 x19 : Int) :
    laneVal51 k (square_fn x0 x1 x2 x3 x4 x5 x6 x7 x8 x9 x10 x11 x12 x13 x14 x15 x16 x17 x18 x19) = laneVal51 k (x0 :: x1 :: x2 :: x3 :: x4 :: x5 :: x6 :: x7 :: x8 :: x9 :: x10 :: x11 :: x12 :: x13 :: x14 :: x15 :: x16 :: x17 :: x18 :: x19 :: []) ^ 2 := by
  cases k
  · exact square_correct_A ..
  · exact Eq.mp (by kernel_rfl) (square_correct_A x1 x0 x2 x3 x5 x4 x6 x7 x9 x8 x10 x11 x13 x12 x14 x15 x17 x16 x18 x19)
  · exact Eq.mp (by kernel_rfl) (square_correct_A x2 x1 x0 x3 x6 x5 x4 x7 x10 x9 x8 x11 x14 x13 x12 x15 x18 x17 x16 x19)
  · exact Eq.mp (by kernel_rfl) (square_correct_A x3 x1 x2 x0 x7 x5 x6 x4 x11 x9 x10 x8 x15 x13 x14 x12 x19 x17 x18 x16)

end Dalek.Proofs.IfmaField
