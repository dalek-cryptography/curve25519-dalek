import Dalek.Proofs.Scalar29.Compose
import Dalek.Proofs.Scalar52.Bytes
/-! # Scalar29: the byte codecs `from_bytes` and `as_bytes` -/
set_option exponentiation.threshold 600

namespace Dalek.Proofs.Scalar29
open Dalek.IR Dalek.Gen.Norm.Scalar29 Dalek.Gen.Consts Dalek.Model.FieldBytes Dalek.Proofs.Radix
open Dalek.Proofs.Scalar52 (Lim leValZ_nil Lim_split4)

/-- little-endian `u32` from four bytes, in the shape produced by the translator -/
def word32 (b0 b1 b2 b3 : Int) : Int := ((((0 + b0 * 1) + b1 * 256) + b2 * 65536) + b3 * 16777216)

theorem word32_bd {b0 b1 b2 b3 : Int} (h : Lim 256 [b0, b1, b2, b3]) :
    0 ≤ word32 b0 b1 b2 b3 ∧ word32 b0 b1 b2 b3 < 2 ^ 32 := by
  simp only [Lim, word32] at *
  omega

/-- the nine limbs of `from_bytes` as functions of the eight words -/
def limbs8 (w0 w1 w2 w3 w4 w5 w6 w7 : Int) : List Int :=
  let B : Int := 2 ^ 29
  let M : Int := 2 ^ 32
  [w0 % B,
   ((w0 / B) + ((w1 * 8) % M)) % B,
   ((w1 / 2 ^ 26) + ((w2 * 64) % M)) % B,
   ((w2 / 2 ^ 23) + ((w3 * 512) % M)) % B,
   ((w3 / 2 ^ 20) + ((w4 * 4096) % M)) % B,
   ((w4 / 2 ^ 17) + ((w5 * 32768) % M)) % B,
   ((w5 / 2 ^ 14) + ((w6 * 262144) % M)) % B,
   ((w6 / 2 ^ 11) + ((w7 * 2097152) % M)) % B,
   w7 / 2 ^ 8]

theorem from_bytes_fn_eq (x0 x1 x2 x3 x4 x5 x6 x7 x8 x9 x10 x11 x12 x13 x14 x15 x16 x17 x18 x19 x20 x21 x22 x23 x24 x25 x26 x27 x28 x29 x30 x31 : Int) :
    from_bytes_fn x0 x1 x2 x3 x4 x5 x6 x7 x8 x9 x10 x11 x12 x13 x14 x15 x16 x17 x18 x19 x20 x21 x22 x23 x24 x25 x26 x27 x28 x29 x30 x31 = limbs8 (word32 x0 x1 x2 x3) (word32 x4 x5 x6 x7) (word32 x8 x9 x10 x11) (word32 x12 x13 x14 x15) (word32 x16 x17 x18 x19) (word32 x20 x21 x22 x23) (word32 x24 x25 x26 x27) (word32 x28 x29 x30 x31) := rfl

theorem limbs8_spec (w0 w1 w2 w3 w4 w5 w6 w7 : Int)
    (h0 : 0 ≤ w0 ∧ w0 < 2 ^ 32)
    (h1 : 0 ≤ w1 ∧ w1 < 2 ^ 32)
    (h2 : 0 ≤ w2 ∧ w2 < 2 ^ 32)
    (h3 : 0 ≤ w3 ∧ w3 < 2 ^ 32)
    (h4 : 0 ≤ w4 ∧ w4 < 2 ^ 32)
    (h5 : 0 ≤ w5 ∧ w5 < 2 ^ 32)
    (h6 : 0 ≤ w6 ∧ w6 < 2 ^ 32)
    (h7 : 0 ≤ w7 ∧ w7 < 2 ^ 32) :
    ∃ o0 o1 o2 o3 o4 o5 o6 o7 o8, limbs8 w0 w1 w2 w3 w4 w5 w6 w7 = [o0, o1, o2, o3, o4, o5, o6, o7, o8] ∧ Lim (2 ^ 29) [o0, o1, o2, o3, o4, o5, o6, o7] ∧
      (0 ≤ o8 ∧ o8 < 2 ^ 24) ∧
      repZ [o0, o1, o2, o3, o4, o5, o6, o7, o8] = w0 + 2 ^ 32 * (w1 + 2 ^ 32 * (w2 + 2 ^ 32 * (w3 + 2 ^ 32 * (w4 + 2 ^ 32 * (w5 + 2 ^ 32 * (w6 + 2 ^ 32 * w7)))))) := by
  refine ⟨_, _, _, _, _, _, _, _, _, rfl, ⟨emod_lim _ 29, emod_lim _ 29, emod_lim _ 29, emod_lim _ 29, emod_lim _ 29,
    emod_lim _ 29, emod_lim _ 29, emod_lim _ 29, trivial⟩, by omega, ?_⟩
  simp only [repZ]
  rw [cut_step 29 3 26 8 w0 w1 _ (by norm_num) h0 (by norm_num),
    cut_step 26 6 23 64 w1 w2 _ (by norm_num) h1 (by norm_num),
    cut_step 23 9 20 512 w2 w3 _ (by norm_num) h2 (by norm_num),
    cut_step 20 12 17 4096 w3 w4 _ (by norm_num) h3 (by norm_num),
    cut_step 17 15 14 32768 w4 w5 _ (by norm_num) h4 (by norm_num),
    cut_step 14 18 11 262144 w5 w6 _ (by norm_num) h5 (by norm_num),
    cut_step 11 21 8 2097152 w6 w7 _ (by norm_num) h6 (by norm_num), mul_zero, add_zero, Int.emod_add_mul_ediv]

/-- four more bytes are one more `u32` word -/
theorem leValZ_cons4 (b0 b1 b2 b3 : Int) (r : List Int) :
    leValZ (b0 :: b1 :: b2 :: b3 :: r) = word32 b0 b1 b2 b3 + 2 ^ 32 * leValZ r := by
  simp only [leValZ, word32]; ring

theorem from_bytes_fn_spec (x0 x1 x2 x3 x4 x5 x6 x7 x8 x9 x10 x11 x12 x13 x14 x15 x16 x17 x18 x19 x20 x21 x22 x23 x24 x25 x26 x27 x28 x29 x30 x31 : Int) (h : Lim 256 [x0, x1, x2, x3, x4, x5, x6, x7, x8, x9, x10, x11, x12, x13, x14, x15, x16, x17, x18, x19, x20, x21, x22, x23, x24, x25, x26, x27, x28, x29, x30, x31]) :
    ∃ o0 o1 o2 o3 o4 o5 o6 o7 o8, from_bytes_fn x0 x1 x2 x3 x4 x5 x6 x7 x8 x9 x10 x11 x12 x13 x14 x15 x16 x17 x18 x19 x20 x21 x22 x23 x24 x25 x26 x27 x28 x29 x30 x31 = [o0, o1, o2, o3, o4, o5, o6, o7, o8] ∧ Lim (2 ^ 29) [o0, o1, o2, o3, o4, o5, o6, o7] ∧
      (0 ≤ o8 ∧ o8 < 2 ^ 24) ∧ repZ [o0, o1, o2, o3, o4, o5, o6, o7, o8] = leValZ [x0, x1, x2, x3, x4, x5, x6, x7, x8, x9, x10, x11, x12, x13, x14, x15, x16, x17, x18, x19, x20, x21, x22, x23, x24, x25, x26, x27, x28, x29, x30, x31] := by
  obtain ⟨hb0, h⟩ := Lim_split4 h
  obtain ⟨hb1, h⟩ := Lim_split4 h
  obtain ⟨hb2, h⟩ := Lim_split4 h
  obtain ⟨hb3, h⟩ := Lim_split4 h
  obtain ⟨hb4, h⟩ := Lim_split4 h
  obtain ⟨hb5, h⟩ := Lim_split4 h
  obtain ⟨hb6, h⟩ := Lim_split4 h
  obtain ⟨hb7, h⟩ := Lim_split4 h
  rw [from_bytes_fn_eq]
  simp only [leValZ_cons4, leValZ_nil, mul_zero, add_zero]
  exact limbs8_spec _ _ _ _ _ _ _ _ (word32_bd hb0) (word32_bd hb1) (word32_bd hb2) (word32_bd hb3) (word32_bd hb4) (word32_bd hb5) (word32_bd hb6) (word32_bd hb7)

/-! ## `as_bytes` -/

theorem emod_emod_8_32 (t : Int) : t % 2 ^ 32 % 2 ^ 8 = t % 2 ^ 8 := Int.emod_emod_of_dvd _ (by norm_num)

theorem as_bytes_fn_spec (a0 a1 a2 a3 a4 a5 a6 a7 a8 : Int) (ha : Lim (2 ^ 29) [a0, a1, a2, a3, a4, a5, a6, a7]) (h8 : 0 ≤ a8 ∧ a8 < 2 ^ 24) :
    leValZ (as_bytes_fn a0 a1 a2 a3 a4 a5 a6 a7 a8) = repZ [a0, a1, a2, a3, a4, a5, a6, a7, a8] := by
  simp only [as_bytes_fn]
  rw [leValZ_bytes3, leValZ, leValZ_bytes3, leValZ, leValZ_bytes2, leValZ, leValZ_bytes3, leValZ, leValZ_bytes3, leValZ,
    leValZ_bytes2, leValZ, leValZ_bytes3, leValZ, leValZ_bytes2, leValZ, leValZ_bytes3, leValZ]
  simp only [Lim, and_true] at ha
  simp only [repZ, mul_zero, add_zero]
  obtain ⟨h0, h1, h2, h3, h4, h5, h6, h7⟩ := ha
  have e7 : ∀ R : Int, a7 % 2 ^ 5 + 2 ^ 5 * (a7 / 2 ^ 5 % 2 ^ 16 + 2 ^ 16 * (a7 / 2 ^ 21 + 256 * R)) = a7 + 2 ^ 29 * R := by
    intro R; omega
  have e8 : a8 / 2 ^ 0 % 2 ^ 24 = a8 := by omega
  have e0 : ∀ R : Int, a0 / 2 ^ 0 % 2 ^ 24 + R = a0 % 2 ^ 0 + 2 ^ 0 * (a0 / 2 ^ 0 % 2 ^ 24 + R) := by
    intro R; rw [pow_zero, Int.emod_one, one_mul, zero_add]
  rw [e0, pack_step 0 24 5 3 32 a0 a1 _ _ rfl (by norm_num) h0 (emod_emod_8_32 _),
    pack_step 3 24 2 6 4 a1 a2 _ _ rfl (by norm_num) h1 rfl,
    pack_step 6 16 7 1 128 a2 a3 _ _ rfl (by norm_num) h2 (emod_emod_8_32 _),
    pack_step 1 24 4 4 16 a3 a4 _ _ rfl (by norm_num) h3 (emod_emod_8_32 _),
    pack_step 4 24 1 7 2 a4 a5 _ _ rfl (by norm_num) h4 rfl,
    pack_step 7 16 6 2 64 a5 a6 _ _ rfl (by norm_num) h5 (emod_emod_8_32 _),
    pack_step 2 24 3 5 8 a6 a7 _ _ rfl (by norm_num) h6 rfl, e7, e8]

theorem top_limb_lt_of_lt (a0 a1 a2 a3 a4 a5 a6 a7 a8 : Int) (ha : Lim (2 ^ 29) [a0, a1, a2, a3, a4, a5, a6, a7])
    (h : repZ [a0, a1, a2, a3, a4, a5, a6, a7, a8] < 2 ^ 256) : a8 < 2 ^ 24 := by
  simp only [Lim, repZ] at *
  omega

end Dalek.Proofs.Scalar29
