import Dalek.Proofs.ScalarApi29Gen
import Dalek.Spec.Scalar
/-!
# `Scalar` API glue over an abstract backend, part 2: `montgomery_invert`, `invert`, `batch_invert`

The addition chain is backend independent: `invertChain`, its abstract interpretation `invertChain_rel` and the
exponent computation `invertChain_exponent` (`= l - 2`) are REUSED from the 64-bit development
(`Dalek/Proofs/ScalarApiInvert.lean`); only the two operations it is run on come from the backend `K`.

For `batch_invert` the second pass is first described as a function `pass2F` on FIELD elements that makes no
non-zero assumption (`pass2_val`); with all inputs non-zero it yields the inverses (`pass2F_inv`), and for arbitrary
canonical inputs it shows that any two backends return the same bytes (`batchInvert_agree`).
-/
set_option exponentiation.threshold 600

namespace Dalek.Proofs.ScalarApiGen
open Dalek.IR Dalek.Model.Contracts Dalek.Gen.Consts
open Dalek.Model (ScalarKernels)
open Dalek.Model.FieldBytes (leVal natToLeN)
open Dalek.Props.C02.Scalar52 (l)
open Dalek.Proofs.ScalarApi (F Canonical IsSc ZERO_isSc ONE_isSc invertChain_rel invertChain_exponent
  pow_l_sub_two forall2_isSc_of_canonical cast_ne_zero mul_mod_eq_one)
open Dalek.Proofs.Bytes51 (envIn_bytes eq_natToLeN_of_leVal)

variable {K : ScalarKernels}

/-! ## the chain -/

/-- `montgomery_invert` on a Montgomery representative of `u`: a Montgomery representative of `u^(l-2) = u⁻¹` -/
theorem montgomeryInvert_isLm {ok : KernelsOk K} {a : List Nat} {u : F} (ha : IsLm ok a (u * Rm ok)) :
    IsLm ok (K.montgomeryInvert a) (u⁻¹ * Rm ok) := by
  have key := invertChain_rel (fun (a : List Nat) (e : Nat) => IsLm ok a (u ^ e * Rm ok))
    (sq := K.montgomerySquare) (mm := K.montgomeryMul) (sq' := fun e => 2 * e) (mm' := fun a b => a + b)
    (by
      intro a e h
      have := h.montgomerySquare
      have e2 : u ^ e * Rm ok * (u ^ e * Rm ok) * (Rm ok)⁻¹ = u ^ (2 * e) * Rm ok := by
        have := Rm_ne_zero ok
        rw [two_mul, pow_add]; field_simp
      rwa [e2] at this)
    (by
      intro a e c f h1 h2
      have := h1.montgomeryMul h2
      have e2 : u ^ e * Rm ok * (u ^ f * Rm ok) * (Rm ok)⁻¹ = u ^ (e + f) * Rm ok := by
        have := Rm_ne_zero ok
        rw [pow_add]; field_simp
      rwa [e2] at this)
    a 1 (by simpa using ha)
  rw [invertChain_exponent, pow_l_sub_two] at key
  exact key

/-- `Scalar::invert` is the field inverse (total: `invert 0 = 0`) -/
theorem invert_isSc (ok : KernelsOk K) {b : List Nat} {u : F} (hb : IsSc b u) : IsSc (K.invert b) u⁻¹ := by
  have h := (montgomeryInvert_isLm (toLimbs ok hb).asMontgomery).fromMontgomery
  rw [mul_Rm_cancel] at h
  exact h.toBytes

/-! ## `batch_invert` -/

/-- post-condition of the first pass on the list of `(input, scratch)` pairs: with `q` the product of the inputs
before the current position, `input` holds the Montgomery form of `x` and `scratch` the Montgomery form of `q` -/
def Pass1Post (ok : KernelsOk K) : List (List Nat × List Nat) → List F → F → Prop
  | [], [], _ => True
  | (i, s) :: ps, x :: xs, q => IsSc i (x * Rm ok) ∧ IsLm ok s (q * Rm ok) ∧ Pass1Post ok ps xs (q * x)
  | _, _, _ => False

theorem pass1_spec (ok : KernelsOk K) : ∀ {ps : List (List Nat × List Nat)} {xs : List F} (acc : List Nat) (q : F),
    List.Forall₂ (fun p x => IsSc p.1 x) ps xs → IsLm ok acc (q * Rm ok) →
    Pass1Post ok (K.batchPass1 ps acc).1 xs q ∧ IsLm ok (K.batchPass1 ps acc).2 (q * xs.prod * Rm ok)
  | _, _, acc, q, .nil, ha => by
      simp only [ScalarKernels.batchPass1, Pass1Post, List.prod_nil, mul_one, true_and]; exact ha
  | (i, s) :: ps, x :: xs, acc, q, .cons hi hps, ha => by
      have htmp := (toLimbs ok hi).asMontgomery
      have hacc : IsLm ok (K.montgomeryMul acc (K.asMontgomery (K.unpack i))) (q * x * Rm ok) := by
        have := ha.montgomeryMul htmp
        have e : q * Rm ok * (x * Rm ok) * (Rm ok)⁻¹ = q * x * Rm ok := by
          have := Rm_ne_zero ok
          field_simp
        rwa [e] at this
      obtain ⟨h1, h2⟩ := pass1_spec ok (K.montgomeryMul acc (K.asMontgomery (K.unpack i))) (q * x) hps hacc
      simp only [ScalarKernels.batchPass1, Pass1Post, List.prod_cons]
      refine ⟨⟨htmp.toBytes, ha, h1⟩, ?_⟩
      rw [← mul_assoc]
      exact h2

/-- the second pass on field elements: `q` is the product of the inputs before the current position, `A` the value
of `acc` entering the loop (at the END of the list); returns the outputs and the final `acc` -/
def pass2F : List F → F → F → List F × F
  | [], _, A => ([], A)
  | x :: xs, q, A => ((pass2F xs (q * x) A).2 * q :: (pass2F xs (q * x) A).1, (pass2F xs (q * x) A).2 * x)

/-- the second pass computes `pass2F` — for ALL inputs (no non-zero hypothesis) -/
theorem pass2_val (ok : KernelsOk K) : ∀ {ps : List (List Nat × List Nat)} {xs : List F} (acc : List Nat) (q A : F),
    Pass1Post ok ps xs q → IsLm ok acc A →
    List.Forall₂ IsSc (K.batchPass2 ps acc).1 (pass2F xs q A).1 ∧ IsLm ok (K.batchPass2 ps acc).2 (pass2F xs q A).2
  | [], [], acc, q, A, _, ha => by
      simp only [ScalarKernels.batchPass2, pass2F]
      exact ⟨.nil, ha⟩
  | [], _ :: _, _, _, _, h, _ => by simp [Pass1Post] at h
  | _ :: _, [], _, _, _, h, _ => by simp [Pass1Post] at h
  | (i, s) :: ps, x :: xs, acc, q, A, h, ha => by
      simp only [Pass1Post] at h
      obtain ⟨hi, hs, hps⟩ := h
      obtain ⟨h1, h2⟩ := pass2_val ok acc (q * x) A hps ha
      simp only [ScalarKernels.batchPass2, pass2F]
      refine ⟨.cons ?_ h1, ?_⟩
      · have := (h2.montgomeryMul hs).toBytes
        rwa [← mul_assoc, mul_Rm_cancel] at this
      · have := h2.montgomeryMul (toLimbs ok hi)
        rwa [← mul_assoc, mul_Rm_cancel] at this

/-- with all inputs (and the prefix product) non-zero and `A = (q·∏xs)⁻¹`, `pass2F` yields the inverses -/
theorem pass2F_inv : ∀ (xs : List F) (q : F), q ≠ 0 → (∀ x ∈ xs, x ≠ 0) →
    pass2F xs q (q * xs.prod)⁻¹ = (xs.map (fun x => x⁻¹), q⁻¹)
  | [], q, _, _ => by simp [pass2F]
  | x :: xs, q, hq, hx => by
      have hx0 : x ≠ 0 := hx x (by simp)
      have ih := pass2F_inv xs (q * x) (mul_ne_zero hq hx0) (fun y hy => hx y (by simp [hy]))
      have e : (q * (x :: xs).prod)⁻¹ = (q * x * xs.prod)⁻¹ := by rw [List.prod_cons, ← mul_assoc]
      rw [e]
      simp only [pass2F, ih, List.map_cons]
      refine Prod.ext ?_ ?_
      · refine List.cons_eq_cons.2 ⟨?_, rfl⟩
        field_simp
      · show (q * x)⁻¹ * x = q⁻¹
        field_simp

theorem forall2_zip_replicate {c : List Nat} : ∀ {bs : List (List Nat)} {xs : List F},
    List.Forall₂ IsSc bs xs →
    List.Forall₂ (fun (p : List Nat × List Nat) x => IsSc p.1 x) (bs.zip (List.replicate bs.length c)) xs
  | _, _, .nil => .nil
  | _, _, .cons h hs => by
      simp only [List.length_cons, List.replicate_succ, List.zip_cons_cons]
      exact .cons h (forall2_zip_replicate hs)

/-- the Montgomery form of one, the initial `acc` -/
theorem one_mont_isLm (ok : KernelsOk K) : IsLm ok (K.asMontgomery (K.unpack ScalarRs.ONE)) (1 * Rm ok) :=
  (toLimbs ok ONE_isSc).asMontgomery

/-- the value tested by `debug_assert!(acc.pack() != Scalar::ZERO)` represents the Montgomery form of the product -/
theorem batchInvert_acc (ok : KernelsOk K) {bs : List (List Nat)} {xs : List F} (h : List.Forall₂ IsSc bs xs) :
    IsSc (K.batchInvertAccPacked bs) (xs.prod * Rm ok) := by
  have := (pass1_spec ok _ 1 (forall2_zip_replicate (c := K.asMontgomery (K.unpack ScalarRs.ONE)) h)
    (one_mont_isLm ok)).2.toBytes
  rw [one_mul] at this
  exact this

/-- `batch_invert` for ALL canonical inputs (zero included): the outputs are the field function `pass2F` of the
inputs, the returned scalar the (total) inverse of their product -/
theorem batchInvert_val (ok : KernelsOk K) {bs : List (List Nat)} {xs : List F} (h : List.Forall₂ IsSc bs xs) :
    List.Forall₂ IsSc (K.batchInvert bs).1 (pass2F xs 1 (1 * xs.prod)⁻¹).1 ∧ IsSc (K.batchInvert bs).2 xs.prod⁻¹ := by
  obtain ⟨h1, h2⟩ := pass1_spec ok _ 1 (forall2_zip_replicate (c := K.asMontgomery (K.unpack ScalarRs.ONE)) h)
    (one_mont_isLm ok)
  have hacc := (montgomeryInvert_isLm h2).fromMontgomery
  rw [mul_Rm_cancel] at hacc
  refine ⟨(pass2_val ok _ 1 _ h1 hacc).1, ?_⟩
  have := hacc.toBytes
  rw [one_mul] at this
  exact this

/-- `batch_invert`: every input is replaced by its inverse; the inverse of the product is returned -/
theorem batchInvert_isSc (ok : KernelsOk K) {bs : List (List Nat)} {xs : List F} (h : List.Forall₂ IsSc bs xs)
    (hx : ∀ x ∈ xs, x ≠ 0) :
    List.Forall₂ (fun o x => IsSc o x⁻¹) (K.batchInvert bs).1 xs ∧ IsSc (K.batchInvert bs).2 xs.prod⁻¹ := by
  obtain ⟨h1, h2⟩ := batchInvert_val ok h
  refine ⟨?_, h2⟩
  rw [pass2F_inv xs 1 one_ne_zero hx] at h1
  exact List.forall₂_map_right_iff.1 h1

/-- `batch_invert` returns canonical scalars for ALL canonical inputs (zero included) -/
theorem batchInvert_canonical (ok : KernelsOk K) {bs : List (List Nat)} {xs : List F} (h : List.Forall₂ IsSc bs xs) :
    (∀ o ∈ (K.batchInvert bs).1, Canonical o) ∧ Canonical (K.batchInvert bs).2 := by
  obtain ⟨h1, h2⟩ := batchInvert_val ok h
  refine ⟨?_, h2.canonical⟩
  generalize (K.batchInvert bs).1 = os at h1
  generalize (pass2F xs 1 (1 * xs.prod)⁻¹).1 = ys at h1
  intro o ho
  induction h1 with
  | nil => simp at ho
  | cons hh _ ih =>
    rcases List.mem_cons.1 ho with rfl | ho
    · exact hh.canonical
    · exact ih ho


/-! ## the statements about byte strings and naturals, for any backend

`Dalek/Props/C02/Api.lean` (u64) and `Api29.lean` (u32) are these at `ok52` and `ok29`. -/

section api
variable (ok : KernelsOk K)
include ok

/-- `unpack` then `pack` is the identity on ALL 32-byte strings: the limbs hold the full 256-bit integer -/
theorem pack_unpack (b : List Nat) (hb : EnvIn b (bytes 32)) : K.pack (K.unpack b) = b := by
  obtain ⟨h1, h2, h3⟩ := unpack_any ok hb
  obtain ⟨h4, h5⟩ := pack_ok ok h1 h3
  obtain ⟨hl, hbb⟩ := (envIn_bytes 32 b).1 hb
  obtain ⟨hl', hbb'⟩ := (envIn_bytes 32 _).1 h4
  exact (eq_natToLeN_of_leVal hl' hbb' (h5.trans h2)).trans (eq_natToLeN_of_leVal hl hbb rfl).symm

theorem reduce_spec (b : List Nat) (hb : EnvIn b (bytes 32)) :
    Canonical (K.reduce b) ∧ leVal (K.reduce b) = leVal b % l :=
  (reduce_isSc ok hb).spec

theorem reduce_spec_bytes (b : List UInt8) (hb : b.length = 32) :
    Dalek.Spec.leToNat ((K.reduce (b.map UInt8.toNat)).map UInt8.ofNat) = Dalek.Spec.scFromBytesModOrder b := by
  have hin : EnvIn (b.map UInt8.toNat) (bytes 32) :=
    (envIn_bytes 32 _).2 ⟨by simpa using hb, Dalek.Proofs.Bytes51.allBytes_map_toNat b⟩
  obtain ⟨hc, hv⟩ := reduce_spec ok _ hin
  rw [Dalek.Proofs.Bytes51.leToNat_map_ofNat _ ((envIn_bytes 32 _).1 hc.1).2, hv,
    Dalek.Proofs.Bytes51.leVal_map_toNat]
  rfl

theorem wide_spec (b : List Nat) (hb : EnvIn b (bytes 64)) :
    Canonical (K.fromBytesModOrderWide b) ∧ leVal (K.fromBytesModOrderWide b) = leVal b % l :=
  (wide_isSc ok hb).spec

/-- `is_canonical` decides `LE(b) < l`, for ALL 32-byte inputs -/
theorem isCanonical_spec (b : List Nat) (hb : EnvIn b (bytes 32)) : K.isCanonical b = true ↔ leVal b < l := by
  have hr := reduce_isSc ok hb
  simp only [ScalarKernels.isCanonical, beq_iff_eq]
  constructor
  · intro h
    rw [h]; exact hr.1.2
  · intro h
    refine (Canonical.isSc ⟨hb, h⟩).unique ?_
    rw [← Nat.mod_eq_of_lt h, ZMod.natCast_mod]; exact hr

theorem fromCanonicalBytes_spec (b : List Nat) (hb : EnvIn b (bytes 32)) :
    ((K.fromCanonicalBytes b).isSome ↔ leVal b < l) ∧ (∀ s, K.fromCanonicalBytes b = some s → s = b) ∧
      K.fromCanonicalBytes b = if leVal b < l then some b else none := by
  have key : K.fromCanonicalBytes b = if leVal b < l then some b else none := by
    by_cases h : leVal b < l
    · have h1 := Canonical.high_bit (b := b) ⟨hb, h⟩
      have h2 := (isCanonical_spec ok b hb).2 h
      simp only [ScalarKernels.fromCanonicalBytes, h1, h2, h, beq_self_eq_true, Bool.and_self, ↓reduceIte]
    · have h2 : K.isCanonical b = false := by
        rw [← Bool.not_eq_true]; exact fun h' => h ((isCanonical_spec ok b hb).1 h')
      simp only [ScalarKernels.fromCanonicalBytes, h2, h, Bool.and_false, Bool.false_eq_true, ↓reduceIte]
  refine ⟨?_, ?_, key⟩
  · rw [key]; split <;> simp [*]
  · intro s hs
    rw [key] at hs
    split at hs
    · exact (Option.some.inj hs).symm
    · cases hs

theorem add_spec (a b : List Nat) (ha : Canonical a) (hb : Canonical b) :
    Canonical (K.add a b) ∧ leVal (K.add a b) = (leVal a + leVal b) % l :=
  IsSc.spec (by rw [Nat.cast_add]; exact add_isSc ok ha.isSc hb.isSc)

theorem sub_spec (a b : List Nat) (ha : Canonical a) (hb : Canonical b) :
    Canonical (K.sub a b) ∧ leVal (K.sub a b) = (leVal a + l - leVal b) % l := by
  have h : IsSc (K.sub a b) ((leVal a + (l - leVal b) : Nat) : F) := by
    rw [Nat.cast_add, Nat.cast_sub hb.2.le, ZMod.natCast_self, zero_sub, ← sub_eq_add_neg]
    exact sub_isSc ok ha.isSc hb.isSc
  rw [Nat.add_sub_assoc hb.2.le]
  exact h.spec

theorem mul_spec (a b : List Nat) (ha : Canonical a) (hb : Canonical b) :
    Canonical (K.mul a b) ∧ leVal (K.mul a b) = leVal a * leVal b % l :=
  IsSc.spec (by rw [Nat.cast_mul]; exact mul_isSc ok ha.isSc hb.isSc)

theorem neg_spec (a : List Nat) (ha : Canonical a) :
    Canonical (K.neg a) ∧ leVal (K.neg a) = (l - leVal a) % l :=
  IsSc.spec (by rw [Nat.cast_sub ha.2.le, ZMod.natCast_self, zero_sub]; exact neg_isSc ok ha.isSc)

/-- the negation of zero is zero (the case a `sub(L, x)` rewrite of `Neg` gets wrong) -/
theorem neg_zero : K.neg ScalarRs.ZERO = ScalarRs.ZERO := by
  have h := neg_isSc ok ZERO_isSc
  rw [_root_.neg_zero] at h
  exact h.unique ZERO_isSc

theorem sum_spec (bs : List (List Nat)) (h : ∀ b ∈ bs, Canonical b) :
    Canonical (K.sum bs) ∧ leVal (K.sum bs) = (bs.map leVal).sum % l := by
  have hs := sum_isSc ok (forall2_isSc_of_canonical h) ZERO_isSc
  rw [zero_add, show (bs.map (fun b => ((leVal b : Nat) : F))).sum = (((bs.map leVal).sum : Nat) : F) by
    rw [Nat.cast_list_sum, List.map_map]; rfl] at hs
  exact hs.spec

theorem product_spec (bs : List (List Nat)) (h : ∀ b ∈ bs, Canonical b) :
    Canonical (K.product bs) ∧ leVal (K.product bs) = (bs.map leVal).prod % l := by
  have hs := product_isSc ok (forall2_isSc_of_canonical h) ONE_isSc
  rw [one_mul, show (bs.map (fun b => ((leVal b : Nat) : F))).prod = (((bs.map leVal).prod : Nat) : F) by
    rw [Nat.cast_list_prod, List.map_map]; rfl] at hs
  exact hs.spec

theorem invert_pow_spec (x : List Nat) (hx : Canonical x) :
    Canonical (K.invert x) ∧ leVal (K.invert x) = leVal x ^ (l - 2) % l :=
  IsSc.spec (by rw [Nat.cast_pow, pow_l_sub_two]; exact invert_isSc ok hx.isSc)

theorem invert_spec (x : List Nat) (hx : Canonical x) (h0 : leVal x ≠ 0) :
    Canonical (K.invert x) ∧ leVal (K.invert x) * leVal x % l = 1 :=
  have h := invert_isSc ok hx.isSc
  ⟨h.canonical, mul_mod_eq_one h.2 (cast_ne_zero h0 hx.2)⟩

theorem invert_zero : K.invert ScalarRs.ZERO = ScalarRs.ZERO := by
  have h := invert_isSc ok ZERO_isSc
  rw [inv_zero] at h
  exact h.unique ZERO_isSc

theorem batch_invert_spec (inputs : List (List Nat)) (hc : ∀ b ∈ inputs, Canonical b)
    (h0 : ∀ b ∈ inputs, leVal b ≠ 0) :
    List.Forall₂ (fun out inp => Canonical out ∧ leVal out * leVal inp % l = 1) (K.batchInvert inputs).1 inputs ∧
      Canonical (K.batchInvert inputs).2 ∧
      leVal (K.batchInvert inputs).2 * (inputs.map leVal).prod % l = 1 := by
  have hne : ∀ x ∈ inputs.map (fun b => ((leVal b : Nat) : F)), x ≠ 0 := by
    intro x hx
    obtain ⟨b, hb, rfl⟩ := List.mem_map.1 hx
    exact cast_ne_zero (h0 b hb) (hc b hb).2
  obtain ⟨h1, h2⟩ := batchInvert_isSc ok (forall2_isSc_of_canonical hc) hne
  refine ⟨?_, h2.canonical, ?_⟩
  · rw [List.forall₂_map_right_iff] at h1
    clear h2
    generalize (K.batchInvert inputs).1 = os at h1
    induction h1 with
    | nil => exact .nil
    | @cons o b _ _ h _ ih =>
      exact .cons ⟨h.canonical, mul_mod_eq_one h.2 (cast_ne_zero (h0 b (by simp)) (hc b (by simp)).2)⟩
        (ih (fun x hx => hc x (by simp [hx])) (fun x hx => h0 x (by simp [hx]))
          (fun x hx => hne x (by simp [hx])))
  · refine mul_mod_eq_one (h2.2.trans ?_) ?_ <;>
      rw [Nat.cast_list_prod, List.map_map]
    · rfl
    · exact List.prod_ne_zero (fun h => hne 0 h rfl)

theorem batch_invert_nil : K.batchInvert [] = ([], ScalarRs.ONE) := by
  have h := (batchInvert_isSc ok (bs := []) (xs := []) .nil (by simp)).2
  rw [List.prod_nil, inv_one] at h
  exact Prod.ext rfl (h.unique ONE_isSc)

/-- every public constructor/operator returns 32 bytes whose value is `< l` — for ALL byte inputs of the reducing
constructors and all canonical operands (`batch_invert`: also for inputs containing zero) -/
theorem canonical_invariant :
    (∀ b, EnvIn b (bytes 32) → Canonical (K.fromBytesModOrder b)) ∧
    (∀ b, EnvIn b (bytes 64) → Canonical (K.fromBytesModOrderWide b)) ∧
    (∀ d, EnvIn d (bytes 64) → Canonical (K.fromHash d)) ∧
    (∀ b s, EnvIn b (bytes 32) → K.fromCanonicalBytes b = some s → Canonical s) ∧
    (∀ k x, k ≤ 16 → x < 256 ^ k → Canonical (Dalek.Model.ScalarApi.fromUInt k x)) ∧
    Canonical ScalarRs.ZERO ∧ Canonical ScalarRs.ONE ∧
    (∀ a b, Canonical a → Canonical b → Canonical (K.add a b)) ∧
    (∀ a b, Canonical a → Canonical b → Canonical (K.sub a b)) ∧
    (∀ a b, Canonical a → Canonical b → Canonical (K.mul a b)) ∧
    (∀ a, Canonical a → Canonical (K.neg a)) ∧
    (∀ bs, (∀ b ∈ bs, Canonical b) → Canonical (K.sum bs)) ∧
    (∀ bs, (∀ b ∈ bs, Canonical b) → Canonical (K.product bs)) ∧
    (∀ a, Canonical a → Canonical (K.invert a)) ∧
    (∀ bs, (∀ b ∈ bs, Canonical b) →
      (∀ o ∈ (K.batchInvert bs).1, Canonical o) ∧ Canonical (K.batchInvert bs).2) := by
  refine ⟨fun b hb => (reduce_spec ok b hb).1, fun b hb => (wide_spec ok b hb).1,
    fun d hd => (wide_spec ok d hd).1, ?_, fun k x hk hx => (Dalek.Proofs.ScalarApi.fromUInt_isSc hk hx).canonical,
    ZERO_isSc.canonical, ONE_isSc.canonical,
    fun a b ha hb => (add_spec ok a b ha hb).1, fun a b ha hb => (sub_spec ok a b ha hb).1,
    fun a b ha hb => (mul_spec ok a b ha hb).1, fun a ha => (neg_spec ok a ha).1,
    fun bs h => (sum_spec ok bs h).1, fun bs h => (product_spec ok bs h).1,
    fun a ha => (invert_pow_spec ok a ha).1,
    fun bs h => batchInvert_canonical ok (forall2_isSc_of_canonical h)⟩
  intro b s hb hs
  obtain ⟨h1, h2, -⟩ := fromCanonicalBytes_spec ok b hb
  obtain rfl := h2 s hs
  exact ⟨hb, h1.1 (by rw [hs]; rfl)⟩

end api

/-! ## two backends agree -/

/-- lists of canonical scalars representing the same field elements are equal -/
theorem forall2_isSc_unique : ∀ {os os' : List (List Nat)} {xs : List F},
    List.Forall₂ IsSc os xs → List.Forall₂ IsSc os' xs → os = os'
  | _, _, _, .nil, .nil => rfl
  | _, _, _, .cons h hs, .cons h' hs' => by
      rw [h.unique h', forall2_isSc_unique hs hs']

/-- any two backends satisfying the kernel theorems return the same bytes from `batch_invert`, for ALL lists of
canonical inputs (zero included) -/
theorem batchInvert_agree {K K' : ScalarKernels} (ok : KernelsOk K) (ok' : KernelsOk K') {bs : List (List Nat)}
    {xs : List F} (h : List.Forall₂ IsSc bs xs) : K.batchInvert bs = K'.batchInvert bs := by
  obtain ⟨h1, h2⟩ := batchInvert_val ok h
  obtain ⟨h1', h2'⟩ := batchInvert_val ok' h
  exact Prod.ext (forall2_isSc_unique h1 h1') (h2.unique h2')

end Dalek.Proofs.ScalarApiGen
