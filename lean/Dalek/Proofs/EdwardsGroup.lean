/-
Twisted Edwards curve with `a = -1` over an arbitrary field `K` (char ≠ 2, `-1` a square,
`d` a non-square): the affine points form a commutative group under the complete addition law.

* `Edwards/Basic.lean`      definitions (`EdParams`, `onCurve`, `EdPoint`), completeness, closure
* `Edwards/Frac.lean`       numerator/denominator form of the addition law on fractions
* `Edwards/AssocCert.lean`  polynomial certificates for associativity (checked by `ring`)
* `Edwards/Group.lean`      `instance : AddCommGroup (EdPoint c)`
* `Edwards/Extended.lean`   projective/extended/completed coordinates; the dalek addition and
                            doubling formulas refine the affine group law
-/
import Dalek.Proofs.Edwards.Basic
import Dalek.Proofs.Edwards.Frac
import Dalek.Proofs.Edwards.AssocCert
import Dalek.Proofs.Edwards.Group
import Dalek.Proofs.Edwards.Extended

namespace Dalek.Edwards

/-- info: 'Dalek.Edwards.EdPoint.instAddCommGroup' depends on axioms: [propext, Classical.choice, Quot.sound] -/
#guard_msgs in
#print axioms EdPoint.instAddCommGroup

/-- info: 'Dalek.Edwards.EdPoint.add_assoc'' depends on axioms: [propext, Classical.choice, Quot.sound] -/
#guard_msgs in
#print axioms EdPoint.add_assoc'

/-- info: 'Dalek.Edwards.complete' depends on axioms: [propext, Classical.choice, Quot.sound] -/
#guard_msgs in
#print axioms complete

/-- info: 'Dalek.Edwards.add_hwcd3' depends on axioms: [propext, Classical.choice, Quot.sound] -/
#guard_msgs in
#print axioms add_hwcd3

/-- info: 'Dalek.Edwards.double_projective' depends on axioms: [propext, Classical.choice, Quot.sound] -/
#guard_msgs in
#print axioms double_projective

end Dalek.Edwards
