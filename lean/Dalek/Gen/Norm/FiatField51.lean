import Dalek.Model.Contracts
import Dalek.IR.NormSpec
import Dalek.IR.Tactics
/-! GENERATED by tools/GenNorm.lean from the current /repo sources; do not edit. -/
namespace Dalek.Gen.Norm.FiatField51
open Dalek.IR

def add_post : List Itv := [⟨0, 2251799813685247, 0⟩, ⟨0, 2251799813685247, 0⟩, ⟨0, 2251799813685248, 0⟩, ⟨0, 2251799813685247, 0⟩, ⟨0, 2251799813685247, 0⟩]

def add_nprog : NProg := Prog.normProg Dalek.Gen.FiatField51.add Dalek.Model.Contracts.FiatField51.pre_add

theorem add_norm_ok : Prog.norm Dalek.Gen.FiatField51.add Dalek.Model.Contracts.FiatField51.pre_add = some (add_nprog, add_post) :=
  Prog.norm_eq_of_post (by decide +kernel)

def add_fn (x0 x1 x2 x3 x4 x5 x6 x7 x8 x9 : Int) : List Int :=
  let x10 : Int := (x0 + x5)
  let x11 : Int := (x1 + x6)
  let x12 : Int := (x2 + x7)
  let x13 : Int := (x3 + x8)
  let x14 : Int := (x4 + x9)
  let x15 : Int := ((x10 / 2 ^ (51 : Nat)) + x11)
  let x16 : Int := ((x15 / 2 ^ (51 : Nat)) + x12)
  let x17 : Int := ((x16 / 2 ^ (51 : Nat)) + x13)
  let x18 : Int := ((x17 / 2 ^ (51 : Nat)) + x14)
  let x19 : Int := ((x10 % 2 ^ (51 : Nat)) + ((x18 / 2 ^ (51 : Nat)) * (19 : Int)))
  let x20 : Int := ((x19 / 2 ^ (51 : Nat)) + (x15 % 2 ^ (51 : Nat)))
  let x21 : Int := (x19 % 2 ^ (51 : Nat))
  let x22 : Int := (x20 % 2 ^ (51 : Nat))
  let x23 : Int := ((x20 / 2 ^ (51 : Nat)) + (x16 % 2 ^ (51 : Nat)))
  let x24 : Int := (x17 % 2 ^ (51 : Nat))
  let x25 : Int := (x18 % 2 ^ (51 : Nat))
  [x21, x22, x23, x24, x25]

theorem add_fn_ok (x0 x1 x2 x3 x4 x5 x6 x7 x8 x9 : Int) : NProg.evalZ add_nprog [x0, x1, x2, x3, x4, x5, x6, x7, x8, x9] = add_fn x0 x1 x2 x3 x4 x5 x6 x7 x8 x9 :=
  (NProg.evalZ_eq_fast _ _).trans (by kernel_rfl)

def add_ref_post : List Itv := [⟨0, 2251799813685247, 0⟩, ⟨0, 2251799813685247, 0⟩, ⟨0, 2251799813685248, 0⟩, ⟨0, 2251799813685247, 0⟩, ⟨0, 2251799813685247, 0⟩]

def add_ref_nprog : NProg := Prog.normProg Dalek.Gen.FiatField51.add_ref Dalek.Model.Contracts.FiatField51.pre_add_ref

theorem add_ref_norm_ok : Prog.norm Dalek.Gen.FiatField51.add_ref Dalek.Model.Contracts.FiatField51.pre_add_ref = some (add_ref_nprog, add_ref_post) :=
  Prog.norm_eq_of_post (by decide +kernel)

def add_ref_fn (x0 x1 x2 x3 x4 x5 x6 x7 x8 x9 : Int) : List Int :=
  let x10 : Int := (x0 + x5)
  let x11 : Int := (x1 + x6)
  let x12 : Int := (x2 + x7)
  let x13 : Int := (x3 + x8)
  let x14 : Int := (x4 + x9)
  let x15 : Int := ((x10 / 2 ^ (51 : Nat)) + x11)
  let x16 : Int := ((x15 / 2 ^ (51 : Nat)) + x12)
  let x17 : Int := ((x16 / 2 ^ (51 : Nat)) + x13)
  let x18 : Int := ((x17 / 2 ^ (51 : Nat)) + x14)
  let x19 : Int := ((x10 % 2 ^ (51 : Nat)) + ((x18 / 2 ^ (51 : Nat)) * (19 : Int)))
  let x20 : Int := ((x19 / 2 ^ (51 : Nat)) + (x15 % 2 ^ (51 : Nat)))
  let x21 : Int := (x19 % 2 ^ (51 : Nat))
  let x22 : Int := (x20 % 2 ^ (51 : Nat))
  let x23 : Int := ((x20 / 2 ^ (51 : Nat)) + (x16 % 2 ^ (51 : Nat)))
  let x24 : Int := (x17 % 2 ^ (51 : Nat))
  let x25 : Int := (x18 % 2 ^ (51 : Nat))
  [x21, x22, x23, x24, x25]

theorem add_ref_fn_ok (x0 x1 x2 x3 x4 x5 x6 x7 x8 x9 : Int) : NProg.evalZ add_ref_nprog [x0, x1, x2, x3, x4, x5, x6, x7, x8, x9] = add_ref_fn x0 x1 x2 x3 x4 x5 x6 x7 x8 x9 :=
  (NProg.evalZ_eq_fast _ _).trans (by kernel_rfl)

def sub_post : List Itv := [⟨0, 2251799813685247, 0⟩, ⟨0, 2251799813685247, 0⟩, ⟨0, 2251799813685248, 0⟩, ⟨0, 2251799813685247, 0⟩, ⟨0, 2251799813685247, 0⟩]

def sub_nprog : NProg := Prog.normProg Dalek.Gen.FiatField51.sub Dalek.Model.Contracts.FiatField51.pre_sub

theorem sub_norm_ok : Prog.norm Dalek.Gen.FiatField51.sub Dalek.Model.Contracts.FiatField51.pre_sub = some (sub_nprog, sub_post) :=
  Prog.norm_eq_of_post (by decide +kernel)

def sub_fn (x0 x1 x2 x3 x4 x5 x6 x7 x8 x9 : Int) : List Int :=
  let x10 : Int := (((4503599627370458 : Int) + x0) - x5)
  let x11 : Int := (((4503599627370494 : Int) + x1) - x6)
  let x12 : Int := (((4503599627370494 : Int) + x2) - x7)
  let x13 : Int := (((4503599627370494 : Int) + x3) - x8)
  let x14 : Int := (((4503599627370494 : Int) + x4) - x9)
  let x15 : Int := ((x10 / 2 ^ (51 : Nat)) + x11)
  let x16 : Int := ((x15 / 2 ^ (51 : Nat)) + x12)
  let x17 : Int := ((x16 / 2 ^ (51 : Nat)) + x13)
  let x18 : Int := ((x17 / 2 ^ (51 : Nat)) + x14)
  let x19 : Int := ((x10 % 2 ^ (51 : Nat)) + ((x18 / 2 ^ (51 : Nat)) * (19 : Int)))
  let x20 : Int := ((x19 / 2 ^ (51 : Nat)) + (x15 % 2 ^ (51 : Nat)))
  let x21 : Int := (x19 % 2 ^ (51 : Nat))
  let x22 : Int := (x20 % 2 ^ (51 : Nat))
  let x23 : Int := ((x20 / 2 ^ (51 : Nat)) + (x16 % 2 ^ (51 : Nat)))
  let x24 : Int := (x17 % 2 ^ (51 : Nat))
  let x25 : Int := (x18 % 2 ^ (51 : Nat))
  [x21, x22, x23, x24, x25]

theorem sub_fn_ok (x0 x1 x2 x3 x4 x5 x6 x7 x8 x9 : Int) : NProg.evalZ sub_nprog [x0, x1, x2, x3, x4, x5, x6, x7, x8, x9] = sub_fn x0 x1 x2 x3 x4 x5 x6 x7 x8 x9 :=
  (NProg.evalZ_eq_fast _ _).trans (by kernel_rfl)

def sub_assign_post : List Itv := [⟨0, 2251799813685247, 0⟩, ⟨0, 2251799813685247, 0⟩, ⟨0, 2251799813685248, 0⟩, ⟨0, 2251799813685247, 0⟩, ⟨0, 2251799813685247, 0⟩]

def sub_assign_nprog : NProg := Prog.normProg Dalek.Gen.FiatField51.sub_assign Dalek.Model.Contracts.FiatField51.pre_sub_assign

theorem sub_assign_norm_ok : Prog.norm Dalek.Gen.FiatField51.sub_assign Dalek.Model.Contracts.FiatField51.pre_sub_assign = some (sub_assign_nprog, sub_assign_post) :=
  Prog.norm_eq_of_post (by decide +kernel)

def sub_assign_fn (x0 x1 x2 x3 x4 x5 x6 x7 x8 x9 : Int) : List Int :=
  let x10 : Int := (((4503599627370458 : Int) + x0) - x5)
  let x11 : Int := (((4503599627370494 : Int) + x1) - x6)
  let x12 : Int := (((4503599627370494 : Int) + x2) - x7)
  let x13 : Int := (((4503599627370494 : Int) + x3) - x8)
  let x14 : Int := (((4503599627370494 : Int) + x4) - x9)
  let x15 : Int := ((x10 / 2 ^ (51 : Nat)) + x11)
  let x16 : Int := ((x15 / 2 ^ (51 : Nat)) + x12)
  let x17 : Int := ((x16 / 2 ^ (51 : Nat)) + x13)
  let x18 : Int := ((x17 / 2 ^ (51 : Nat)) + x14)
  let x19 : Int := ((x10 % 2 ^ (51 : Nat)) + ((x18 / 2 ^ (51 : Nat)) * (19 : Int)))
  let x20 : Int := ((x19 / 2 ^ (51 : Nat)) + (x15 % 2 ^ (51 : Nat)))
  let x21 : Int := (x19 % 2 ^ (51 : Nat))
  let x22 : Int := (x20 % 2 ^ (51 : Nat))
  let x23 : Int := ((x20 / 2 ^ (51 : Nat)) + (x16 % 2 ^ (51 : Nat)))
  let x24 : Int := (x17 % 2 ^ (51 : Nat))
  let x25 : Int := (x18 % 2 ^ (51 : Nat))
  [x21, x22, x23, x24, x25]

theorem sub_assign_fn_ok (x0 x1 x2 x3 x4 x5 x6 x7 x8 x9 : Int) : NProg.evalZ sub_assign_nprog [x0, x1, x2, x3, x4, x5, x6, x7, x8, x9] = sub_assign_fn x0 x1 x2 x3 x4 x5 x6 x7 x8 x9 :=
  (NProg.evalZ_eq_fast _ _).trans (by kernel_rfl)

def mul_post : List Itv := [⟨0, 2251799813685247, 0⟩, ⟨0, 2251799813685247, 0⟩, ⟨0, 2251799813685248, 0⟩, ⟨0, 2251799813685247, 0⟩, ⟨0, 2251799813685247, 0⟩]

def mul_nprog : NProg := Prog.normProg Dalek.Gen.FiatField51.mul Dalek.Model.Contracts.FiatField51.pre_mul

theorem mul_norm_ok : Prog.norm Dalek.Gen.FiatField51.mul Dalek.Model.Contracts.FiatField51.pre_mul = some (mul_nprog, mul_post) :=
  Prog.norm_eq_of_post (by decide +kernel)

def mul_fn (x0 x1 x2 x3 x4 x5 x6 x7 x8 x9 : Int) : List Int :=
  let x10 : Int := (x4 * (x9 * (19 : Int)))
  let x11 : Int := (x4 * (x8 * (19 : Int)))
  let x12 : Int := (x4 * (x7 * (19 : Int)))
  let x13 : Int := (x4 * (x6 * (19 : Int)))
  let x14 : Int := (x3 * (x9 * (19 : Int)))
  let x15 : Int := (x3 * (x8 * (19 : Int)))
  let x16 : Int := (x3 * (x7 * (19 : Int)))
  let x17 : Int := (x2 * (x9 * (19 : Int)))
  let x18 : Int := (x2 * (x8 * (19 : Int)))
  let x19 : Int := (x1 * (x9 * (19 : Int)))
  let x20 : Int := (x4 * x5)
  let x21 : Int := (x3 * x6)
  let x22 : Int := (x3 * x5)
  let x23 : Int := (x2 * x7)
  let x24 : Int := (x2 * x6)
  let x25 : Int := (x2 * x5)
  let x26 : Int := (x1 * x8)
  let x27 : Int := (x1 * x7)
  let x28 : Int := (x1 * x6)
  let x29 : Int := (x1 * x5)
  let x30 : Int := (x0 * x9)
  let x31 : Int := (x0 * x8)
  let x32 : Int := (x0 * x7)
  let x33 : Int := (x0 * x6)
  let x34 : Int := (x0 * x5)
  let x35 : Int := (x34 + (x19 + (x18 + (x16 + x13))))
  let x36 : Int := (x35 / 2 ^ (51 : Nat))
  let x37 : Int := (x35 % 2 ^ (51 : Nat))
  let x38 : Int := (x30 + (x26 + (x23 + (x21 + x20))))
  let x39 : Int := (x31 + (x27 + (x24 + (x22 + x10))))
  let x40 : Int := (x32 + (x28 + (x25 + (x14 + x11))))
  let x41 : Int := (x33 + (x29 + (x17 + (x15 + x12))))
  let x42 : Int := (x36 + x41)
  let x43 : Int := (x42 / 2 ^ (51 : Nat))
  let x44 : Int := (x42 % 2 ^ (51 : Nat))
  let x45 : Int := (x43 + x40)
  let x46 : Int := (x45 / 2 ^ (51 : Nat))
  let x47 : Int := (x45 % 2 ^ (51 : Nat))
  let x48 : Int := (x46 + x39)
  let x49 : Int := (x48 / 2 ^ (51 : Nat))
  let x50 : Int := (x48 % 2 ^ (51 : Nat))
  let x51 : Int := (x49 + x38)
  let x52 : Int := (x51 / 2 ^ (51 : Nat))
  let x53 : Int := (x51 % 2 ^ (51 : Nat))
  let x54 : Int := (x52 * (19 : Int))
  let x55 : Int := (x37 + x54)
  let x56 : Int := (x55 / 2 ^ (51 : Nat))
  let x57 : Int := (x55 % 2 ^ (51 : Nat))
  let x58 : Int := (x56 + x44)
  let x59 : Int := (x58 / 2 ^ (51 : Nat))
  let x60 : Int := (x58 % 2 ^ (51 : Nat))
  let x61 : Int := (x59 + x47)
  [x57, x60, x61, x50, x53]

theorem mul_fn_ok (x0 x1 x2 x3 x4 x5 x6 x7 x8 x9 : Int) : NProg.evalZ mul_nprog [x0, x1, x2, x3, x4, x5, x6, x7, x8, x9] = mul_fn x0 x1 x2 x3 x4 x5 x6 x7 x8 x9 :=
  (NProg.evalZ_eq_fast _ _).trans (by kernel_rfl)

def mul_assign_post : List Itv := [⟨0, 2251799813685247, 0⟩, ⟨0, 2251799813685247, 0⟩, ⟨0, 2251799813685248, 0⟩, ⟨0, 2251799813685247, 0⟩, ⟨0, 2251799813685247, 0⟩]

def mul_assign_nprog : NProg := Prog.normProg Dalek.Gen.FiatField51.mul_assign Dalek.Model.Contracts.FiatField51.pre_mul_assign

theorem mul_assign_norm_ok : Prog.norm Dalek.Gen.FiatField51.mul_assign Dalek.Model.Contracts.FiatField51.pre_mul_assign = some (mul_assign_nprog, mul_assign_post) :=
  Prog.norm_eq_of_post (by decide +kernel)

def mul_assign_fn (x0 x1 x2 x3 x4 x5 x6 x7 x8 x9 : Int) : List Int :=
  let x10 : Int := (x4 * (x9 * (19 : Int)))
  let x11 : Int := (x4 * (x8 * (19 : Int)))
  let x12 : Int := (x4 * (x7 * (19 : Int)))
  let x13 : Int := (x4 * (x6 * (19 : Int)))
  let x14 : Int := (x3 * (x9 * (19 : Int)))
  let x15 : Int := (x3 * (x8 * (19 : Int)))
  let x16 : Int := (x3 * (x7 * (19 : Int)))
  let x17 : Int := (x2 * (x9 * (19 : Int)))
  let x18 : Int := (x2 * (x8 * (19 : Int)))
  let x19 : Int := (x1 * (x9 * (19 : Int)))
  let x20 : Int := (x4 * x5)
  let x21 : Int := (x3 * x6)
  let x22 : Int := (x3 * x5)
  let x23 : Int := (x2 * x7)
  let x24 : Int := (x2 * x6)
  let x25 : Int := (x2 * x5)
  let x26 : Int := (x1 * x8)
  let x27 : Int := (x1 * x7)
  let x28 : Int := (x1 * x6)
  let x29 : Int := (x1 * x5)
  let x30 : Int := (x0 * x9)
  let x31 : Int := (x0 * x8)
  let x32 : Int := (x0 * x7)
  let x33 : Int := (x0 * x6)
  let x34 : Int := (x0 * x5)
  let x35 : Int := (x34 + (x19 + (x18 + (x16 + x13))))
  let x36 : Int := (x35 / 2 ^ (51 : Nat))
  let x37 : Int := (x35 % 2 ^ (51 : Nat))
  let x38 : Int := (x30 + (x26 + (x23 + (x21 + x20))))
  let x39 : Int := (x31 + (x27 + (x24 + (x22 + x10))))
  let x40 : Int := (x32 + (x28 + (x25 + (x14 + x11))))
  let x41 : Int := (x33 + (x29 + (x17 + (x15 + x12))))
  let x42 : Int := (x36 + x41)
  let x43 : Int := (x42 / 2 ^ (51 : Nat))
  let x44 : Int := (x42 % 2 ^ (51 : Nat))
  let x45 : Int := (x43 + x40)
  let x46 : Int := (x45 / 2 ^ (51 : Nat))
  let x47 : Int := (x45 % 2 ^ (51 : Nat))
  let x48 : Int := (x46 + x39)
  let x49 : Int := (x48 / 2 ^ (51 : Nat))
  let x50 : Int := (x48 % 2 ^ (51 : Nat))
  let x51 : Int := (x49 + x38)
  let x52 : Int := (x51 / 2 ^ (51 : Nat))
  let x53 : Int := (x51 % 2 ^ (51 : Nat))
  let x54 : Int := (x52 * (19 : Int))
  let x55 : Int := (x37 + x54)
  let x56 : Int := (x55 / 2 ^ (51 : Nat))
  let x57 : Int := (x55 % 2 ^ (51 : Nat))
  let x58 : Int := (x56 + x44)
  let x59 : Int := (x58 / 2 ^ (51 : Nat))
  let x60 : Int := (x58 % 2 ^ (51 : Nat))
  let x61 : Int := (x59 + x47)
  [x57, x60, x61, x50, x53]

theorem mul_assign_fn_ok (x0 x1 x2 x3 x4 x5 x6 x7 x8 x9 : Int) : NProg.evalZ mul_assign_nprog [x0, x1, x2, x3, x4, x5, x6, x7, x8, x9] = mul_assign_fn x0 x1 x2 x3 x4 x5 x6 x7 x8 x9 :=
  (NProg.evalZ_eq_fast _ _).trans (by kernel_rfl)

def neg_post : List Itv := [⟨0, 2251799813685247, 0⟩, ⟨0, 2251799813685247, 0⟩, ⟨0, 2251799813685248, 0⟩, ⟨0, 2251799813685247, 0⟩, ⟨0, 2251799813685247, 0⟩]

def neg_nprog : NProg :=
  ⟨5,
   [(.sub (.c 4503599627370458) (.v 0)),
    (.sub (.c 4503599627370494) (.v 1)),
    (.sub (.c 4503599627370494) (.v 2)),
    (.sub (.c 4503599627370494) (.v 3)),
    (.sub (.c 4503599627370494) (.v 4)),
    (.add (.div2 (.v 5) 51) (.v 6)),
    (.add (.div2 (.v 10) 51) (.v 7)),
    (.add (.div2 (.v 11) 51) (.v 8)),
    (.add (.div2 (.v 12) 51) (.v 9)),
    (.add (.mod2 (.v 5) 51) (.mul (.div2 (.v 13) 51) (.c 19))),
    (.add (.div2 (.v 14) 51) (.mod2 (.v 10) 51)),
    (.mod2 (.v 14) 51),
    (.mod2 (.v 15) 51),
    (.add (.div2 (.v 15) 51) (.mod2 (.v 11) 51)),
    (.mod2 (.v 12) 51),
    (.mod2 (.v 13) 51)],
   [16, 17, 18, 19, 20]⟩

theorem neg_norm_ok : Prog.norm Dalek.Gen.FiatField51.neg Dalek.Model.Contracts.FiatField51.pre_neg = some (neg_nprog, neg_post) :=
  (Prog.normFast_eq _ _).symm.trans (by decide +kernel)

def neg_fn (x0 x1 x2 x3 x4 : Int) : List Int :=
  let x5 : Int := ((4503599627370458 : Int) - x0)
  let x6 : Int := ((4503599627370494 : Int) - x1)
  let x7 : Int := ((4503599627370494 : Int) - x2)
  let x8 : Int := ((4503599627370494 : Int) - x3)
  let x9 : Int := ((4503599627370494 : Int) - x4)
  let x10 : Int := ((x5 / 2 ^ (51 : Nat)) + x6)
  let x11 : Int := ((x10 / 2 ^ (51 : Nat)) + x7)
  let x12 : Int := ((x11 / 2 ^ (51 : Nat)) + x8)
  let x13 : Int := ((x12 / 2 ^ (51 : Nat)) + x9)
  let x14 : Int := ((x5 % 2 ^ (51 : Nat)) + ((x13 / 2 ^ (51 : Nat)) * (19 : Int)))
  let x15 : Int := ((x14 / 2 ^ (51 : Nat)) + (x10 % 2 ^ (51 : Nat)))
  let x16 : Int := (x14 % 2 ^ (51 : Nat))
  let x17 : Int := (x15 % 2 ^ (51 : Nat))
  let x18 : Int := ((x15 / 2 ^ (51 : Nat)) + (x11 % 2 ^ (51 : Nat)))
  let x19 : Int := (x12 % 2 ^ (51 : Nat))
  let x20 : Int := (x13 % 2 ^ (51 : Nat))
  [x16, x17, x18, x19, x20]

theorem neg_fn_ok (x0 x1 x2 x3 x4 : Int) : NProg.evalZ neg_nprog [x0, x1, x2, x3, x4] = neg_fn x0 x1 x2 x3 x4 :=
  (NProg.evalZ_eq_fast _ _).trans (by kernel_rfl)

def reduce_post : List Itv := [⟨0, 2251799813685247, 0⟩, ⟨0, 2251799813685247, 0⟩, ⟨0, 2251799813685248, 0⟩, ⟨0, 2251799813685247, 0⟩, ⟨0, 2251799813685247, 0⟩]

def reduce_nprog : NProg := Prog.normProg Dalek.Gen.FiatField51.reduce Dalek.Model.Contracts.FiatField51.pre_reduce

theorem reduce_norm_ok : Prog.norm Dalek.Gen.FiatField51.reduce Dalek.Model.Contracts.FiatField51.pre_reduce = some (reduce_nprog, reduce_post) :=
  Prog.norm_eq_of_post (by decide +kernel)

def reduce_fn (x0 x1 x2 x3 x4 : Int) : List Int :=
  let x5 : Int := ((x0 / 2 ^ (51 : Nat)) + x1)
  let x6 : Int := ((x5 / 2 ^ (51 : Nat)) + x2)
  let x7 : Int := ((x6 / 2 ^ (51 : Nat)) + x3)
  let x8 : Int := ((x7 / 2 ^ (51 : Nat)) + x4)
  let x9 : Int := ((x0 % 2 ^ (51 : Nat)) + ((x8 / 2 ^ (51 : Nat)) * (19 : Int)))
  let x10 : Int := ((x9 / 2 ^ (51 : Nat)) + (x5 % 2 ^ (51 : Nat)))
  let x11 : Int := (x9 % 2 ^ (51 : Nat))
  let x12 : Int := (x10 % 2 ^ (51 : Nat))
  let x13 : Int := ((x10 / 2 ^ (51 : Nat)) + (x6 % 2 ^ (51 : Nat)))
  let x14 : Int := (x7 % 2 ^ (51 : Nat))
  let x15 : Int := (x8 % 2 ^ (51 : Nat))
  [x11, x12, x13, x14, x15]

theorem reduce_fn_ok (x0 x1 x2 x3 x4 : Int) : NProg.evalZ reduce_nprog [x0, x1, x2, x3, x4] = reduce_fn x0 x1 x2 x3 x4 :=
  (NProg.evalZ_eq_fast _ _).trans (by kernel_rfl)

def from_bytes_post : List Itv := [⟨0, 2251799813685247, 0⟩, ⟨0, 2251799813685247, 0⟩, ⟨0, 2251799813685247, 0⟩, ⟨0, 2251799813685247, 0⟩, ⟨0, 2251799813685247, 0⟩]

def from_bytes_nprog : NProg := Prog.normProg Dalek.Gen.FiatField51.from_bytes Dalek.Model.Contracts.FiatField51.pre_from_bytes

theorem from_bytes_norm_ok : Prog.norm Dalek.Gen.FiatField51.from_bytes Dalek.Model.Contracts.FiatField51.pre_from_bytes = some (from_bytes_nprog, from_bytes_post) :=
  Prog.norm_eq_of_post (by decide +kernel)

def from_bytes_fn (x0 x1 x2 x3 x4 x5 x6 x7 x8 x9 x10 x11 x12 x13 x14 x15 x16 x17 x18 x19 x20 x21 x22 x23 x24 x25 x26 x27 x28 x29 x30 x31 : Int) : List Int :=
  let x32 : Int := (x31 % 2 ^ (7 : Nat))
  let x33 : Int := (x32 * (17592186044416 : Int))
  let x34 : Int := (x30 * (68719476736 : Int))
  let x35 : Int := (x29 * (268435456 : Int))
  let x36 : Int := (x28 * (1048576 : Int))
  let x37 : Int := (x27 * (4096 : Int))
  let x38 : Int := (x26 * (16 : Int))
  let x39 : Int := (x25 * (140737488355328 : Int))
  let x40 : Int := (x24 * (549755813888 : Int))
  let x41 : Int := (x23 * (2147483648 : Int))
  let x42 : Int := (x22 * (8388608 : Int))
  let x43 : Int := (x21 * (32768 : Int))
  let x44 : Int := (x20 * (128 : Int))
  let x45 : Int := (x19 * (1125899906842624 : Int))
  let x46 : Int := (x18 * (4398046511104 : Int))
  let x47 : Int := (x17 * (17179869184 : Int))
  let x48 : Int := (x16 * (67108864 : Int))
  let x49 : Int := (x15 * (262144 : Int))
  let x50 : Int := (x14 * (1024 : Int))
  let x51 : Int := (x13 * (4 : Int))
  let x52 : Int := (x12 * (35184372088832 : Int))
  let x53 : Int := (x11 * (137438953472 : Int))
  let x54 : Int := (x10 * (536870912 : Int))
  let x55 : Int := (x9 * (2097152 : Int))
  let x56 : Int := (x8 * (8192 : Int))
  let x57 : Int := (x7 * (32 : Int))
  let x58 : Int := (x6 * (281474976710656 : Int))
  let x59 : Int := (x5 * (1099511627776 : Int))
  let x60 : Int := (x4 * (4294967296 : Int))
  let x61 : Int := (x3 * (16777216 : Int))
  let x62 : Int := (x2 * (65536 : Int))
  let x63 : Int := (x1 * (256 : Int))
  let x64 : Int := (x63 + x0)
  let x65 : Int := (x62 + x64)
  let x66 : Int := (x61 + x65)
  let x67 : Int := (x60 + x66)
  let x68 : Int := (x59 + x67)
  let x69 : Int := (x58 + x68)
  let x70 : Int := (x69 % 2 ^ (51 : Nat))
  let x71 : Int := (x69 / 2 ^ (51 : Nat))
  let x72 : Int := (x57 + x71)
  let x73 : Int := (x56 + x72)
  let x74 : Int := (x55 + x73)
  let x75 : Int := (x54 + x74)
  let x76 : Int := (x53 + x75)
  let x77 : Int := (x52 + x76)
  let x78 : Int := (x77 % 2 ^ (51 : Nat))
  let x79 : Int := (x77 / 2 ^ (51 : Nat))
  let x80 : Int := (x51 + x79)
  let x81 : Int := (x50 + x80)
  let x82 : Int := (x49 + x81)
  let x83 : Int := (x48 + x82)
  let x84 : Int := (x47 + x83)
  let x85 : Int := (x46 + x84)
  let x86 : Int := (x45 + x85)
  let x87 : Int := (x86 % 2 ^ (51 : Nat))
  let x88 : Int := (x86 / 2 ^ (51 : Nat))
  let x89 : Int := (x44 + x88)
  let x90 : Int := (x43 + x89)
  let x91 : Int := (x42 + x90)
  let x92 : Int := (x41 + x91)
  let x93 : Int := (x40 + x92)
  let x94 : Int := (x39 + x93)
  let x95 : Int := (x94 % 2 ^ (51 : Nat))
  let x96 : Int := (x94 / 2 ^ (51 : Nat))
  let x97 : Int := (x38 + x96)
  let x98 : Int := (x37 + x97)
  let x99 : Int := (x36 + x98)
  let x100 : Int := (x35 + x99)
  let x101 : Int := (x34 + x100)
  let x102 : Int := (x33 + x101)
  [x70, x78, x87, x95, x102]

theorem from_bytes_fn_ok (x0 x1 x2 x3 x4 x5 x6 x7 x8 x9 x10 x11 x12 x13 x14 x15 x16 x17 x18 x19 x20 x21 x22 x23 x24 x25 x26 x27 x28 x29 x30 x31 : Int) : NProg.evalZ from_bytes_nprog [x0, x1, x2, x3, x4, x5, x6, x7, x8, x9, x10, x11, x12, x13, x14, x15, x16, x17, x18, x19, x20, x21, x22, x23, x24, x25, x26, x27, x28, x29, x30, x31] = from_bytes_fn x0 x1 x2 x3 x4 x5 x6 x7 x8 x9 x10 x11 x12 x13 x14 x15 x16 x17 x18 x19 x20 x21 x22 x23 x24 x25 x26 x27 x28 x29 x30 x31 :=
  (NProg.evalZ_eq_fast _ _).trans (by kernel_rfl)

def as_bytes_post : List Itv := [⟨0, 255, 0⟩, ⟨0, 255, 0⟩, ⟨0, 255, 0⟩, ⟨0, 255, 0⟩, ⟨0, 255, 0⟩, ⟨0, 255, 0⟩, ⟨0, 255, 0⟩, ⟨0, 255, 0⟩, ⟨0, 255, 0⟩, ⟨0, 255, 0⟩, ⟨0, 255, 0⟩, ⟨0, 255, 0⟩, ⟨0, 255, 0⟩, ⟨0, 255, 0⟩, ⟨0, 255, 0⟩, ⟨0, 255, 0⟩, ⟨0, 255, 0⟩, ⟨0, 255, 0⟩, ⟨0, 255, 0⟩, ⟨0, 255, 0⟩, ⟨0, 255, 0⟩, ⟨0, 255, 0⟩, ⟨0, 255, 0⟩, ⟨0, 255, 0⟩, ⟨0, 255, 0⟩, ⟨0, 255, 0⟩, ⟨0, 255, 0⟩, ⟨0, 255, 0⟩, ⟨0, 255, 0⟩, ⟨0, 255, 0⟩, ⟨0, 255, 0⟩, ⟨0, 127, 0⟩]

def as_bytes_nprog : NProg := Prog.normProg Dalek.Gen.FiatField51.as_bytes Dalek.Model.Contracts.FiatField51.pre_as_bytes

theorem as_bytes_norm_ok : Prog.norm Dalek.Gen.FiatField51.as_bytes Dalek.Model.Contracts.FiatField51.pre_as_bytes = some (as_bytes_nprog, as_bytes_post) :=
  Prog.norm_eq_of_post (by decide +kernel)

def as_bytes_fn (x0 x1 x2 x3 x4 : Int) : List Int :=
  let x5 : Int := (((x0 - (0 : Int)) - (2251799813685229 : Int)) % 2 ^ (64 : Nat))
  let x6 : Int := (x5 % 2 ^ (51 : Nat))
  let x7 : Int := (x5 / 2 ^ (63 : Nat))
  let x8 : Int := ((((x1 - x7) % 2 ^ (64 : Nat)) - (2251799813685247 : Int)) % 2 ^ (64 : Nat))
  let x9 : Int := (x8 % 2 ^ (51 : Nat))
  let x10 : Int := (x8 / 2 ^ (63 : Nat))
  let x11 : Int := ((((x2 - x10) % 2 ^ (64 : Nat)) - (2251799813685247 : Int)) % 2 ^ (64 : Nat))
  let x12 : Int := (x11 % 2 ^ (51 : Nat))
  let x13 : Int := (x11 / 2 ^ (63 : Nat))
  let x14 : Int := ((((x3 - x13) % 2 ^ (64 : Nat)) - (2251799813685247 : Int)) % 2 ^ (64 : Nat))
  let x15 : Int := (x14 % 2 ^ (51 : Nat))
  let x16 : Int := (x14 / 2 ^ (63 : Nat))
  let x17 : Int := ((((x4 - x16) % 2 ^ (64 : Nat)) - (2251799813685247 : Int)) % 2 ^ (64 : Nat))
  let x18 : Int := (x17 % 2 ^ (51 : Nat))
  let x19 : Int := (x17 / 2 ^ (63 : Nat))
  let x20 : Int := (if x19 = 0 then (0 : Int) else (2251799813685229 : Int))
  let x21 : Int := (((0 : Int) + x6) + x20)
  let x22 : Int := (x21 % 2 ^ (51 : Nat))
  let x23 : Int := (x21 / 2 ^ (51 : Nat))
  let x24 : Int := (if x19 = 0 then (0 : Int) else (2251799813685247 : Int))
  let x25 : Int := ((x23 + x9) + x24)
  let x26 : Int := (x25 % 2 ^ (51 : Nat))
  let x27 : Int := (x25 / 2 ^ (51 : Nat))
  let x28 : Int := (if x19 = 0 then (0 : Int) else (2251799813685247 : Int))
  let x29 : Int := ((x27 + x12) + x28)
  let x30 : Int := (x29 % 2 ^ (51 : Nat))
  let x31 : Int := (x29 / 2 ^ (51 : Nat))
  let x32 : Int := (if x19 = 0 then (0 : Int) else (2251799813685247 : Int))
  let x33 : Int := ((x31 + x15) + x32)
  let x34 : Int := (x33 % 2 ^ (51 : Nat))
  let x35 : Int := (x33 / 2 ^ (51 : Nat))
  let x36 : Int := (if x19 = 0 then (0 : Int) else (2251799813685247 : Int))
  let x37 : Int := ((x35 + x18) + x36)
  let x38 : Int := (x37 % 2 ^ (51 : Nat))
  let x39 : Int := (x37 / 2 ^ (51 : Nat))
  let x40 : Int := (x38 * (16 : Int))
  let x41 : Int := (x34 * (2 : Int))
  let x42 : Int := (x30 * (64 : Int))
  let x43 : Int := (x26 * (8 : Int))
  let x44 : Int := (x22 % 2 ^ (8 : Nat))
  let x45 : Int := (x22 / 2 ^ (8 : Nat))
  let x46 : Int := (x45 % 2 ^ (8 : Nat))
  let x47 : Int := (x45 / 2 ^ (8 : Nat))
  let x48 : Int := (x47 % 2 ^ (8 : Nat))
  let x49 : Int := (x47 / 2 ^ (8 : Nat))
  let x50 : Int := (x49 % 2 ^ (8 : Nat))
  let x51 : Int := (x49 / 2 ^ (8 : Nat))
  let x52 : Int := (x51 % 2 ^ (8 : Nat))
  let x53 : Int := (x51 / 2 ^ (8 : Nat))
  let x54 : Int := (x53 % 2 ^ (8 : Nat))
  let x55 : Int := (x53 / 2 ^ (8 : Nat))
  let x56 : Int := (x43 + x55)
  let x57 : Int := (x56 % 2 ^ (8 : Nat))
  let x58 : Int := (x56 / 2 ^ (8 : Nat))
  let x59 : Int := (x58 % 2 ^ (8 : Nat))
  let x60 : Int := (x58 / 2 ^ (8 : Nat))
  let x61 : Int := (x60 % 2 ^ (8 : Nat))
  let x62 : Int := (x60 / 2 ^ (8 : Nat))
  let x63 : Int := (x62 % 2 ^ (8 : Nat))
  let x64 : Int := (x62 / 2 ^ (8 : Nat))
  let x65 : Int := (x64 % 2 ^ (8 : Nat))
  let x66 : Int := (x64 / 2 ^ (8 : Nat))
  let x67 : Int := (x66 % 2 ^ (8 : Nat))
  let x68 : Int := (x66 / 2 ^ (8 : Nat))
  let x69 : Int := (x42 + x68)
  let x70 : Int := (x69 % 2 ^ (8 : Nat))
  let x71 : Int := (x69 / 2 ^ (8 : Nat))
  let x72 : Int := (x71 % 2 ^ (8 : Nat))
  let x73 : Int := (x71 / 2 ^ (8 : Nat))
  let x74 : Int := (x73 % 2 ^ (8 : Nat))
  let x75 : Int := (x73 / 2 ^ (8 : Nat))
  let x76 : Int := (x75 % 2 ^ (8 : Nat))
  let x77 : Int := (x75 / 2 ^ (8 : Nat))
  let x78 : Int := (x77 % 2 ^ (8 : Nat))
  let x79 : Int := (x77 / 2 ^ (8 : Nat))
  let x80 : Int := (x79 % 2 ^ (8 : Nat))
  let x81 : Int := (x79 / 2 ^ (8 : Nat))
  let x82 : Int := (x81 % 2 ^ (8 : Nat))
  let x83 : Int := (x81 / 2 ^ (8 : Nat))
  let x84 : Int := (x41 + x83)
  let x85 : Int := (x84 % 2 ^ (8 : Nat))
  let x86 : Int := (x84 / 2 ^ (8 : Nat))
  let x87 : Int := (x86 % 2 ^ (8 : Nat))
  let x88 : Int := (x86 / 2 ^ (8 : Nat))
  let x89 : Int := (x88 % 2 ^ (8 : Nat))
  let x90 : Int := (x88 / 2 ^ (8 : Nat))
  let x91 : Int := (x90 % 2 ^ (8 : Nat))
  let x92 : Int := (x90 / 2 ^ (8 : Nat))
  let x93 : Int := (x92 % 2 ^ (8 : Nat))
  let x94 : Int := (x92 / 2 ^ (8 : Nat))
  let x95 : Int := (x94 % 2 ^ (8 : Nat))
  let x96 : Int := (x94 / 2 ^ (8 : Nat))
  let x97 : Int := (x40 + x96)
  let x98 : Int := (x97 % 2 ^ (8 : Nat))
  let x99 : Int := (x97 / 2 ^ (8 : Nat))
  let x100 : Int := (x99 % 2 ^ (8 : Nat))
  let x101 : Int := (x99 / 2 ^ (8 : Nat))
  let x102 : Int := (x101 % 2 ^ (8 : Nat))
  let x103 : Int := (x101 / 2 ^ (8 : Nat))
  let x104 : Int := (x103 % 2 ^ (8 : Nat))
  let x105 : Int := (x103 / 2 ^ (8 : Nat))
  let x106 : Int := (x105 % 2 ^ (8 : Nat))
  let x107 : Int := (x105 / 2 ^ (8 : Nat))
  let x108 : Int := (x107 % 2 ^ (8 : Nat))
  let x109 : Int := (x107 / 2 ^ (8 : Nat))
  [x44, x46, x48, x50, x52, x54, x57, x59, x61, x63, x65, x67, x70, x72, x74, x76, x78, x80, x82, x85, x87, x89, x91, x93, x95, x98, x100, x102, x104, x106, x108, x109]

theorem as_bytes_fn_ok (x0 x1 x2 x3 x4 : Int) : NProg.evalZ as_bytes_nprog [x0, x1, x2, x3, x4] = as_bytes_fn x0 x1 x2 x3 x4 :=
  (NProg.evalZ_eq_fast _ _).trans (by kernel_rfl)

def square_post : List Itv := [⟨0, 2251799813685247, 0⟩, ⟨0, 2251799813685247, 0⟩, ⟨0, 2251799813685248, 0⟩, ⟨0, 2251799813685247, 0⟩, ⟨0, 2251799813685247, 0⟩]

def square_nprog : NProg := Prog.normProg Dalek.Gen.FiatField51.square Dalek.Model.Contracts.FiatField51.pre_square

theorem square_norm_ok : Prog.norm Dalek.Gen.FiatField51.square Dalek.Model.Contracts.FiatField51.pre_square = some (square_nprog, square_post) :=
  Prog.norm_eq_of_post (by decide +kernel)

def square_fn (x0 x1 x2 x3 x4 : Int) : List Int :=
  let x5 : Int := (x4 * (19 : Int))
  let x6 : Int := (x5 * (2 : Int))
  let x7 : Int := (x4 * (2 : Int))
  let x8 : Int := (x3 * (19 : Int))
  let x9 : Int := (x8 * (2 : Int))
  let x10 : Int := (x3 * (2 : Int))
  let x11 : Int := (x2 * (2 : Int))
  let x12 : Int := (x1 * (2 : Int))
  let x13 : Int := (x4 * x5)
  let x14 : Int := (x3 * x6)
  let x15 : Int := (x3 * x8)
  let x16 : Int := (x2 * x6)
  let x17 : Int := (x2 * x9)
  let x18 : Int := (x2 * x2)
  let x19 : Int := (x1 * x6)
  let x20 : Int := (x1 * x10)
  let x21 : Int := (x1 * x11)
  let x22 : Int := (x1 * x1)
  let x23 : Int := (x0 * x7)
  let x24 : Int := (x0 * x10)
  let x25 : Int := (x0 * x11)
  let x26 : Int := (x0 * x12)
  let x27 : Int := (x0 * x0)
  let x28 : Int := (x27 + (x19 + x17))
  let x29 : Int := (x28 / 2 ^ (51 : Nat))
  let x30 : Int := (x28 % 2 ^ (51 : Nat))
  let x31 : Int := (x23 + (x20 + x18))
  let x32 : Int := (x24 + (x21 + x13))
  let x33 : Int := (x25 + (x22 + x14))
  let x34 : Int := (x26 + (x16 + x15))
  let x35 : Int := (x29 + x34)
  let x36 : Int := (x35 / 2 ^ (51 : Nat))
  let x37 : Int := (x35 % 2 ^ (51 : Nat))
  let x38 : Int := (x36 + x33)
  let x39 : Int := (x38 / 2 ^ (51 : Nat))
  let x40 : Int := (x38 % 2 ^ (51 : Nat))
  let x41 : Int := (x39 + x32)
  let x42 : Int := (x41 / 2 ^ (51 : Nat))
  let x43 : Int := (x41 % 2 ^ (51 : Nat))
  let x44 : Int := (x42 + x31)
  let x45 : Int := (x44 / 2 ^ (51 : Nat))
  let x46 : Int := (x44 % 2 ^ (51 : Nat))
  let x47 : Int := (x45 * (19 : Int))
  let x48 : Int := (x30 + x47)
  let x49 : Int := (x48 / 2 ^ (51 : Nat))
  let x50 : Int := (x48 % 2 ^ (51 : Nat))
  let x51 : Int := (x49 + x37)
  let x52 : Int := (x51 / 2 ^ (51 : Nat))
  let x53 : Int := (x51 % 2 ^ (51 : Nat))
  let x54 : Int := (x52 + x40)
  [x50, x53, x54, x43, x46]

theorem square_fn_ok (x0 x1 x2 x3 x4 : Int) : NProg.evalZ square_nprog [x0, x1, x2, x3, x4] = square_fn x0 x1 x2 x3 x4 :=
  (NProg.evalZ_eq_fast _ _).trans (by kernel_rfl)

def square2_post : List Itv := [⟨0, 2251799813685247, 0⟩, ⟨0, 2251799813685247, 0⟩, ⟨0, 2251799813685248, 0⟩, ⟨0, 2251799813685247, 0⟩, ⟨0, 2251799813685247, 0⟩]

def square2_nprog : NProg := Prog.normProg Dalek.Gen.FiatField51.square2 Dalek.Model.Contracts.FiatField51.pre_square2

theorem square2_norm_ok : Prog.norm Dalek.Gen.FiatField51.square2 Dalek.Model.Contracts.FiatField51.pre_square2 = some (square2_nprog, square2_post) :=
  Prog.norm_eq_of_post (by decide +kernel)

def square2_fn (x0 x1 x2 x3 x4 : Int) : List Int :=
  let x5 : Int := (x4 * (19 : Int))
  let x6 : Int := (x5 * (2 : Int))
  let x7 : Int := (x4 * (2 : Int))
  let x8 : Int := (x3 * (19 : Int))
  let x9 : Int := (x8 * (2 : Int))
  let x10 : Int := (x3 * (2 : Int))
  let x11 : Int := (x2 * (2 : Int))
  let x12 : Int := (x1 * (2 : Int))
  let x13 : Int := (x4 * x5)
  let x14 : Int := (x3 * x6)
  let x15 : Int := (x3 * x8)
  let x16 : Int := (x2 * x6)
  let x17 : Int := (x2 * x9)
  let x18 : Int := (x2 * x2)
  let x19 : Int := (x1 * x6)
  let x20 : Int := (x1 * x10)
  let x21 : Int := (x1 * x11)
  let x22 : Int := (x1 * x1)
  let x23 : Int := (x0 * x7)
  let x24 : Int := (x0 * x10)
  let x25 : Int := (x0 * x11)
  let x26 : Int := (x0 * x12)
  let x27 : Int := (x0 * x0)
  let x28 : Int := (x27 + (x19 + x17))
  let x29 : Int := (x28 / 2 ^ (51 : Nat))
  let x30 : Int := (x28 % 2 ^ (51 : Nat))
  let x31 : Int := (x23 + (x20 + x18))
  let x32 : Int := (x24 + (x21 + x13))
  let x33 : Int := (x25 + (x22 + x14))
  let x34 : Int := (x26 + (x16 + x15))
  let x35 : Int := (x29 + x34)
  let x36 : Int := (x35 / 2 ^ (51 : Nat))
  let x37 : Int := (x35 % 2 ^ (51 : Nat))
  let x38 : Int := (x36 + x33)
  let x39 : Int := (x38 / 2 ^ (51 : Nat))
  let x40 : Int := (x38 % 2 ^ (51 : Nat))
  let x41 : Int := (x39 + x32)
  let x42 : Int := (x41 / 2 ^ (51 : Nat))
  let x43 : Int := (x41 % 2 ^ (51 : Nat))
  let x44 : Int := (x42 + x31)
  let x45 : Int := (x44 / 2 ^ (51 : Nat))
  let x46 : Int := (x44 % 2 ^ (51 : Nat))
  let x47 : Int := (x45 * (19 : Int))
  let x48 : Int := (x30 + x47)
  let x49 : Int := (x48 / 2 ^ (51 : Nat))
  let x50 : Int := (x48 % 2 ^ (51 : Nat))
  let x51 : Int := (x49 + x37)
  let x52 : Int := (x51 / 2 ^ (51 : Nat))
  let x53 : Int := (x51 % 2 ^ (51 : Nat))
  let x54 : Int := (x52 + x40)
  let x55 : Int := (x50 + x50)
  let x56 : Int := (x53 + x53)
  let x57 : Int := (x54 + x54)
  let x58 : Int := (x43 + x43)
  let x59 : Int := (x46 + x46)
  let x60 : Int := ((x55 / 2 ^ (51 : Nat)) + x56)
  let x61 : Int := ((x60 / 2 ^ (51 : Nat)) + x57)
  let x62 : Int := ((x61 / 2 ^ (51 : Nat)) + x58)
  let x63 : Int := ((x62 / 2 ^ (51 : Nat)) + x59)
  let x64 : Int := ((x55 % 2 ^ (51 : Nat)) + ((x63 / 2 ^ (51 : Nat)) * (19 : Int)))
  let x65 : Int := ((x64 / 2 ^ (51 : Nat)) + (x60 % 2 ^ (51 : Nat)))
  let x66 : Int := (x64 % 2 ^ (51 : Nat))
  let x67 : Int := (x65 % 2 ^ (51 : Nat))
  let x68 : Int := ((x65 / 2 ^ (51 : Nat)) + (x61 % 2 ^ (51 : Nat)))
  let x69 : Int := (x62 % 2 ^ (51 : Nat))
  let x70 : Int := (x63 % 2 ^ (51 : Nat))
  [x66, x67, x68, x69, x70]

theorem square2_fn_ok (x0 x1 x2 x3 x4 : Int) : NProg.evalZ square2_nprog [x0, x1, x2, x3, x4] = square2_fn x0 x1 x2 x3 x4 :=
  (NProg.evalZ_eq_fast _ _).trans (by kernel_rfl)

def pow2k_body_post : List Itv := [⟨0, 2251799813685247, 0⟩, ⟨0, 2251799813685247, 0⟩, ⟨0, 2251799813685248, 0⟩, ⟨0, 2251799813685247, 0⟩, ⟨0, 2251799813685247, 0⟩]

def pow2k_body_nprog : NProg := Prog.normProg Dalek.Gen.FiatField51.pow2k_body Dalek.Model.Contracts.FiatField51.pre_pow2k_body

theorem pow2k_body_norm_ok : Prog.norm Dalek.Gen.FiatField51.pow2k_body Dalek.Model.Contracts.FiatField51.pre_pow2k_body = some (pow2k_body_nprog, pow2k_body_post) :=
  Prog.norm_eq_of_post (by decide +kernel)

def pow2k_body_fn (x0 x1 x2 x3 x4 : Int) : List Int :=
  let x5 : Int := (x4 * (19 : Int))
  let x6 : Int := (x5 * (2 : Int))
  let x7 : Int := (x4 * (2 : Int))
  let x8 : Int := (x3 * (19 : Int))
  let x9 : Int := (x8 * (2 : Int))
  let x10 : Int := (x3 * (2 : Int))
  let x11 : Int := (x2 * (2 : Int))
  let x12 : Int := (x1 * (2 : Int))
  let x13 : Int := (x4 * x5)
  let x14 : Int := (x3 * x6)
  let x15 : Int := (x3 * x8)
  let x16 : Int := (x2 * x6)
  let x17 : Int := (x2 * x9)
  let x18 : Int := (x2 * x2)
  let x19 : Int := (x1 * x6)
  let x20 : Int := (x1 * x10)
  let x21 : Int := (x1 * x11)
  let x22 : Int := (x1 * x1)
  let x23 : Int := (x0 * x7)
  let x24 : Int := (x0 * x10)
  let x25 : Int := (x0 * x11)
  let x26 : Int := (x0 * x12)
  let x27 : Int := (x0 * x0)
  let x28 : Int := (x27 + (x19 + x17))
  let x29 : Int := (x28 / 2 ^ (51 : Nat))
  let x30 : Int := (x28 % 2 ^ (51 : Nat))
  let x31 : Int := (x23 + (x20 + x18))
  let x32 : Int := (x24 + (x21 + x13))
  let x33 : Int := (x25 + (x22 + x14))
  let x34 : Int := (x26 + (x16 + x15))
  let x35 : Int := (x29 + x34)
  let x36 : Int := (x35 / 2 ^ (51 : Nat))
  let x37 : Int := (x35 % 2 ^ (51 : Nat))
  let x38 : Int := (x36 + x33)
  let x39 : Int := (x38 / 2 ^ (51 : Nat))
  let x40 : Int := (x38 % 2 ^ (51 : Nat))
  let x41 : Int := (x39 + x32)
  let x42 : Int := (x41 / 2 ^ (51 : Nat))
  let x43 : Int := (x41 % 2 ^ (51 : Nat))
  let x44 : Int := (x42 + x31)
  let x45 : Int := (x44 / 2 ^ (51 : Nat))
  let x46 : Int := (x44 % 2 ^ (51 : Nat))
  let x47 : Int := (x45 * (19 : Int))
  let x48 : Int := (x30 + x47)
  let x49 : Int := (x48 / 2 ^ (51 : Nat))
  let x50 : Int := (x48 % 2 ^ (51 : Nat))
  let x51 : Int := (x49 + x37)
  let x52 : Int := (x51 / 2 ^ (51 : Nat))
  let x53 : Int := (x51 % 2 ^ (51 : Nat))
  let x54 : Int := (x52 + x40)
  [x50, x53, x54, x43, x46]

theorem pow2k_body_fn_ok (x0 x1 x2 x3 x4 : Int) : NProg.evalZ pow2k_body_nprog [x0, x1, x2, x3, x4] = pow2k_body_fn x0 x1 x2 x3 x4 :=
  (NProg.evalZ_eq_fast _ _).trans (by kernel_rfl)

def conditional_select_post : List Itv := [⟨0, 18446744073709551615, 0⟩, ⟨0, 18446744073709551615, 0⟩, ⟨0, 18446744073709551615, 0⟩, ⟨0, 18446744073709551615, 0⟩, ⟨0, 18446744073709551615, 0⟩]

def conditional_select_nprog : NProg := Prog.normProg Dalek.Gen.FiatField51.conditional_select Dalek.Model.Contracts.FiatField51.pre_conditional_select

theorem conditional_select_norm_ok : Prog.norm Dalek.Gen.FiatField51.conditional_select Dalek.Model.Contracts.FiatField51.pre_conditional_select = some (conditional_select_nprog, conditional_select_post) :=
  Prog.norm_eq_of_post (by decide +kernel)

def conditional_select_fn (x0 x1 x2 x3 x4 x5 x6 x7 x8 x9 x10 : Int) : List Int :=
  let x11 : Int := x10
  let x12 : Int := (if x11 = 0 then x0 else x5)
  let x13 : Int := (if x11 = 0 then x1 else x6)
  let x14 : Int := (if x11 = 0 then x2 else x7)
  let x15 : Int := (if x11 = 0 then x3 else x8)
  let x16 : Int := (if x11 = 0 then x4 else x9)
  [x12, x13, x14, x15, x16]

theorem conditional_select_fn_ok (x0 x1 x2 x3 x4 x5 x6 x7 x8 x9 x10 : Int) : NProg.evalZ conditional_select_nprog [x0, x1, x2, x3, x4, x5, x6, x7, x8, x9, x10] = conditional_select_fn x0 x1 x2 x3 x4 x5 x6 x7 x8 x9 x10 :=
  (NProg.evalZ_eq_fast _ _).trans (by kernel_rfl)

def conditional_assign_post : List Itv := [⟨0, 18446744073709551615, 0⟩, ⟨0, 18446744073709551615, 0⟩, ⟨0, 18446744073709551615, 0⟩, ⟨0, 18446744073709551615, 0⟩, ⟨0, 18446744073709551615, 0⟩]

def conditional_assign_nprog : NProg := Prog.normProg Dalek.Gen.FiatField51.conditional_assign Dalek.Model.Contracts.FiatField51.pre_conditional_assign

theorem conditional_assign_norm_ok : Prog.norm Dalek.Gen.FiatField51.conditional_assign Dalek.Model.Contracts.FiatField51.pre_conditional_assign = some (conditional_assign_nprog, conditional_assign_post) :=
  Prog.norm_eq_of_post (by decide +kernel)

def conditional_assign_fn (x0 x1 x2 x3 x4 x5 x6 x7 x8 x9 x10 : Int) : List Int :=
  let x11 : Int := x10
  let x12 : Int := (if x11 = 0 then x0 else x5)
  let x13 : Int := (if x11 = 0 then x1 else x6)
  let x14 : Int := (if x11 = 0 then x2 else x7)
  let x15 : Int := (if x11 = 0 then x3 else x8)
  let x16 : Int := (if x11 = 0 then x4 else x9)
  [x12, x13, x14, x15, x16]

theorem conditional_assign_fn_ok (x0 x1 x2 x3 x4 x5 x6 x7 x8 x9 x10 : Int) : NProg.evalZ conditional_assign_nprog [x0, x1, x2, x3, x4, x5, x6, x7, x8, x9, x10] = conditional_assign_fn x0 x1 x2 x3 x4 x5 x6 x7 x8 x9 x10 :=
  (NProg.evalZ_eq_fast _ _).trans (by kernel_rfl)

def conditional_swap_post : List Itv := [⟨0, 18446744073709551615, 0⟩, ⟨0, 18446744073709551615, 0⟩, ⟨0, 18446744073709551615, 0⟩, ⟨0, 18446744073709551615, 0⟩, ⟨0, 18446744073709551615, 0⟩, ⟨0, 18446744073709551615, 0⟩, ⟨0, 18446744073709551615, 0⟩, ⟨0, 18446744073709551615, 0⟩, ⟨0, 18446744073709551615, 0⟩, ⟨0, 18446744073709551615, 0⟩]

def conditional_swap_nprog : NProg := Prog.normProg Dalek.Gen.FiatField51.conditional_swap Dalek.Model.Contracts.FiatField51.pre_conditional_swap

theorem conditional_swap_norm_ok : Prog.norm Dalek.Gen.FiatField51.conditional_swap Dalek.Model.Contracts.FiatField51.pre_conditional_swap = some (conditional_swap_nprog, conditional_swap_post) :=
  Prog.norm_eq_of_post (by decide +kernel)

def conditional_swap_fn (x0 x1 x2 x3 x4 x5 x6 x7 x8 x9 x10 : Int) : List Int :=
  let x11 : Int := (if x10 = 0 then x0 else x5)
  let x12 : Int := (if x10 = 0 then x5 else x0)
  let x13 : Int := (if x10 = 0 then x1 else x6)
  let x14 : Int := (if x10 = 0 then x6 else x1)
  let x15 : Int := (if x10 = 0 then x2 else x7)
  let x16 : Int := (if x10 = 0 then x7 else x2)
  let x17 : Int := (if x10 = 0 then x3 else x8)
  let x18 : Int := (if x10 = 0 then x8 else x3)
  let x19 : Int := (if x10 = 0 then x4 else x9)
  let x20 : Int := (if x10 = 0 then x9 else x4)
  [x11, x13, x15, x17, x19, x12, x14, x16, x18, x20]

theorem conditional_swap_fn_ok (x0 x1 x2 x3 x4 x5 x6 x7 x8 x9 x10 : Int) : NProg.evalZ conditional_swap_nprog [x0, x1, x2, x3, x4, x5, x6, x7, x8, x9, x10] = conditional_swap_fn x0 x1 x2 x3 x4 x5 x6 x7 x8 x9 x10 :=
  (NProg.evalZ_eq_fast _ _).trans (by kernel_rfl)

end Dalek.Gen.Norm.FiatField51
