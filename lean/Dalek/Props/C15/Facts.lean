import Dalek.Props.C02.Api
import Dalek.Props.C04.Algorithms
import Dalek.Props.C07.Conversions
import Dalek.Proofs.RisBatchModel
import Dalek.Gen.Norm.Clamp
import Dalek.Spec.Ed25519
/-!
# C15 — the mathematical facts the panic-site table relies on (`Dalek.Model.PanicTable`, class `provedBy`)

Each theorem below discharges the table entries that name it:

* `elligator_on_curve` — `nonspec_map_to_curve`'s `.expect(..)` on the Elligator output (proved in C07);
* `batch_invert_acc_nonzero` — `assert!(!acc.is_zero())` of `FieldElement::batch_invert` (and the scalar analogue,
  the `debug_assert!` of `Scalar::batch_invert`, for non-zero inputs);
* `scalar_invariant_high_bit_clear` — `debug_assert!(self[31] <= 127)` of `Scalar::as_radix_16`;
* `verify_batch_sizes_equal` — the three `assert_eq!`s on the size hints in `optional_multiscalar_mul`, reached
  from `verify_batch`;
* `optional_some_of_all_some` — the two `.expect("should return some point")` of the provided trait methods.

The statements are about the models named in each doc comment; what ties those models to the source is stated
there.
-/
set_option exponentiation.threshold 600

namespace Dalek.Props.C15.Facts
open Dalek.IR Dalek.Model.Contracts

/-! ## `elligator_on_curve` -/

/-- `EdwardsPoint::nonspec_map_to_curve`: for every field element `r_0` and sign bit,
`elligator_encode(r_0).to_edwards(sign)` is `Some` (on the executable specification `Dalek.Spec`, to which the
translated formulas are tied by `Dalek.Props.C07.elligator_encode_eq_spec` / `to_edwards_eq_spec`). -/
theorem elligator_on_curve (r0 : Nat) (sign : Bool) :
    Dalek.Spec.toEdwards (Dalek.Spec.elligatorEncode r0) sign ≠ none :=
  Dalek.Props.C07.elligator_on_curve r0 sign

/-! ## `batch_invert_acc_nonzero` -/

section field
variable {K : Type} [MulZeroClass K] [NoZeroDivisors K] [DecidableEq K]

/-- the accumulator of the first pass of `FieldElement::batch_invert` over any domain:
`acc.conditional_assign(&(&acc * input), !input.is_zero())` -/
def accSkipZeros : List K → K → K
  | [], acc => acc
  | x :: xs, acc => accSkipZeros xs (if x = 0 then acc else acc * x)

/-- in a ring without zero divisors (e.g. the field `ZMod p`) the product of the non-zero inputs is non-zero -/
theorem accSkipZeros_ne_zero : ∀ (xs : List K) (acc : K), acc ≠ 0 → accSkipZeros xs acc ≠ 0
  | [], _, h => h
  | x :: xs, acc, h => by
      simp only [accSkipZeros]
      apply accSkipZeros_ne_zero xs
      split
      · exact h
      · exact mul_ne_zero h ‹_›

end field

/-- over `ZMod p`, starting from `FieldElement::ONE` -/
theorem batch_invert_acc_nonzero_zmod (xs : List (ZMod (2 ^ 255 - 19))) : accSkipZeros xs 1 ≠ 0 :=
  accSkipZeros_ne_zero xs 1 one_ne_zero

/-- **`FieldElement::batch_invert`: `assert!(bool::from(!acc.is_zero()))` never fires**, for EVERY input slice
(zeros included): on the hand model `Dalek.Model.RistrettoDalek.batchFwd` of the first pass (field.rs:173-177; the
model used for `double_and_compress_batch` in C09) the final accumulator is non-zero modulo `p`. -/
theorem batch_invert_acc_nonzero (xs : List Nat) :
    (Dalek.Model.RistrettoDalek.batchFwd xs 1).2 % Dalek.Spec.P ≠ 0 := by
  have h := Dalek.Proofs.Ris.batchFwd_ne_zero xs 1 (by simp)
  exact fun h0 => h ((Dalek.Bridge.cast_eq_zero_iff _).2 h0)

/-- the scalar analogue, `debug_assert!(acc.pack() != Scalar::ZERO)` of `Scalar::batch_invert` (scalar.rs:815):
for canonical NON-ZERO inputs the packed accumulator of `Dalek.Model.ScalarApi.batchInvert` is not `Scalar::ZERO`
(`ZMod l` is a field).  (This site is classified `documentedContract`: zero inputs violate the documented
precondition.) -/
theorem batch_invert_acc_nonzero_scalar (inputs : List (List Nat))
    (hc : ∀ b ∈ inputs, Dalek.Proofs.ScalarApi.Canonical b)
    (h0 : ∀ b ∈ inputs, Dalek.Model.FieldBytes.leVal b ≠ 0) :
    Dalek.Model.ScalarApi.batchInvertAccPacked inputs ≠ Dalek.Gen.Consts.ScalarRs.ZERO := by
  open Dalek.Proofs.ScalarApi Dalek.Proofs.ScalarApiGen in
  intro hz
  have h := batchInvert_acc ok52 (forall2_isSc_of_canonical hc)
  rw [← gen52_batchInvertAccPacked, hz] at h
  have hv : (0 : F) = _ := ZERO_isSc.2.symm.trans h.2
  have hp : (inputs.map (fun b => ((Dalek.Model.FieldBytes.leVal b : Nat) : F))).prod ≠ 0 := by
    apply List.prod_ne_zero
    intro hm
    obtain ⟨b, hb, hb0⟩ := List.mem_map.1 hm
    exact cast_ne_zero (h0 b hb) (hc b hb).2 hb0
  exact mul_ne_zero hp (Rm_ne_zero ok52) hv.symm

/-! ## `scalar_invariant_high_bit_clear` -/

/-- **Scalar invariant #1 (`bytes[31] <= 127`)**, the condition of `debug_assert!(self[31] <= 127)` in
`Scalar::as_radix_16`: every canonical scalar has it, hence (by `Dalek.Props.C02.Api.canonical_invariant`) every
scalar produced by a constructor or operator of the API model (`from_bytes_mod_order[_wide]`, `from_hash`,
`from_canonical_bytes`, `From<uN>`, `ZERO`, `ONE`, `+ − * neg`, `Sum`, `Product`, `invert`, `batch_invert`); and the
only other way to build a `Scalar`, `Scalar { bytes: clamp_integer(b) }` (`mul_clamped`, `mul_base_clamped`;
`from_bits` masks the same bit), has it for ALL 32-byte inputs (translated kernel `Dalek.Gen.Clamp.clamp_integer`). -/
theorem scalar_invariant_high_bit_clear :
    (∀ b, Dalek.Proofs.ScalarApi.Canonical b → b.getD 31 0 ≤ 127) ∧
    (∀ b, EnvIn b (bytes 32) → (Dalek.Model.ScalarApi.fromBytesModOrder b).getD 31 0 ≤ 127) ∧
    (∀ b, EnvIn b (bytes 64) → (Dalek.Model.ScalarApi.fromBytesModOrderWide b).getD 31 0 ≤ 127) ∧
    (∀ b s, EnvIn b (bytes 32) → Dalek.Model.ScalarApi.fromCanonicalBytes b = some s → s.getD 31 0 ≤ 127) ∧
    (∀ b, EnvIn b (bytes 32) → (Dalek.Gen.Clamp.clamp_integer.evalW b).getD 31 0 ≤ 127) := by
  have key : ∀ b, Dalek.Proofs.ScalarApi.Canonical b → b.getD 31 0 ≤ 127 := fun b hb => by
    have := hb.byte31; omega
  obtain ⟨c1, c2, -, c4, -⟩ := Dalek.Props.C02.Api.canonical_invariant
  refine ⟨key, fun b hb => key _ (c1 b hb), fun b hb => key _ (c2 b hb), fun b s hb hs => key _ (c4 b s hb hs), ?_⟩
  intro b hb
  obtain ⟨outs, -, hW, hpost, -⟩ :=
    Prog.norm_sound _ _ _ _ Dalek.Gen.Norm.Clamp.clamp_integer_norm_ok b hb
  subst hW
  obtain ⟨x, hx, hm⟩ := EnvIn_get hpost (i := 31) (t := ⟨0, 127, 0⟩) (by decide +kernel)
  rw [List.getD_eq_getElem?_getD, hx]
  exact hm.2.1

/-! ## `verify_batch_sizes_equal` -/

/-- `Iterator::size_hint`: `(lower, upper)` -/
abbrev SizeHint := Nat × Option Nat

/-- `usize::MAX` on the 64-bit targets -/
def usizeMax : Nat := 2 ^ 64 - 1

/-- `Once` -/
def shOnce : SizeHint := (1, some 1)
/-- `slice::Iter` over `n` elements; `Cloned` and `Map` forward the hint of the inner iterator -/
def shSlice (n : Nat) : SizeHint := (n, some n)
/-- `Zip::size_hint` (core): the minimum of the lower bounds; the minimum of the upper bounds that exist -/
def shZip (a b : SizeHint) : SizeHint :=
  (min a.1 b.1,
   match a.2, b.2 with
   | some x, some y => some (min x y)
   | some x, none => some x
   | none, some y => some y
   | none, none => none)
/-- `Chain::size_hint` (core): `lower = a.saturating_add(b)`, `upper = a.checked_add(b)` -/
def shChain (a b : SizeHint) : SizeHint :=
  (min (a.1 + b.1) usizeMax,
   match a.2, b.2 with
   | some x, some y => if x + y ≤ usizeMax then some (x + y) else none
   | _, _ => none)

/-- the `scalars` argument of `verify_batch`'s call (batch.rs:229):
`once(-B_coefficient).chain(zs.iter().cloned()).chain(zhrams)` with
`zhrams = hrams.iter().zip(zs.iter()).map(..)`; `zs`, `hrams` are `Vec`s collected from maps over
`signatures` resp. `0..signatures.len()`, so both have `nSigs` elements -/
def batchScalarsHint (nSigs : Nat) : SizeHint :=
  shChain (shChain shOnce (shSlice nSigs)) (shZip (shSlice nSigs) (shSlice nSigs))

/-- the `points` argument (batch.rs:230): `B.chain(Rs).chain(As)` with `Rs = signatures.iter().map(..)` and
`As = verifying_keys.iter().map(..)` -/
def batchPointsHint (nSigs nKeys : Nat) : SizeHint :=
  shChain (shChain shOnce (shSlice nSigs)) (shSlice nKeys)

/-- **`verify_batch` never trips the three `assert_eq!`s of `optional_multiscalar_mul`**
(`assert_eq!(s_lo, p_lo)`, `assert_eq!(s_hi, Some(s_lo))`, `assert_eq!(p_hi, Some(p_lo))`, edwards.rs): past the
length check at the entry of `verify_batch` (`signatures.len() = messages.len() = verifying_keys.len() = n`,
otherwise `Err`), both iterators have the exact size hint `(2n+1, Some(2n+1))`.  `n ≤ 2^57` holds for every slice
of 64-byte `Signature`s (a slice occupies at most `isize::MAX` bytes).  Model: the `size_hint` algebra of the core
iterator adaptors above, composed as in batch.rs:217-231 (hand-transcribed). -/
theorem verify_batch_sizes_equal (nSigs nMsgs nKeys : Nat)
    (hcheck : ¬ (nSigs ≠ nMsgs ∨ nSigs ≠ nKeys ∨ nKeys ≠ nMsgs)) (hn : nSigs ≤ 2 ^ 57) :
    let s := batchScalarsHint nSigs
    let p := batchPointsHint nSigs nKeys
    s.1 = p.1 ∧ s.2 = some s.1 ∧ p.2 = some p.1 ∧ s.1 = 2 * nSigs + 1 := by
  have hk : nKeys = nSigs := by omega
  rw [hk]
  have h1 : 1 + nSigs ≤ usizeMax := by unfold usizeMax; omega
  have h2 : 1 + nSigs + nSigs ≤ usizeMax := by unfold usizeMax; omega
  have e1 : min (1 + nSigs) usizeMax = 1 + nSigs := Nat.min_eq_left h1
  have e2 : min (1 + nSigs + nSigs) usizeMax = 1 + nSigs + nSigs := Nat.min_eq_left h2
  simp only [batchScalarsHint, batchPointsHint, shChain, shOnce, shSlice, shZip, Nat.min_self, e1, e2, h1, h2,
    if_true]
  exact ⟨trivial, trivial, trivial, by omega⟩

/-- the same fact on lists: the two argument sequences have the same number of elements `2n+1` -/
theorem verify_batch_lengths_equal {S P Sig Key : Type} (signatures : List Sig) (keys : List Key)
    (hlen : signatures.length = keys.length)
    (negB : S) (z : Sig → S) (hram : Nat → S) (mul : S → S → S) (B : P) (R : Sig → P) (A : Key → P) :
    let zs := signatures.map z
    let hrams := (List.range signatures.length).map hram
    ([negB] ++ zs ++ List.zipWith mul hrams zs).length = ([B] ++ signatures.map R ++ keys.map A).length ∧
      ([negB] ++ zs ++ List.zipWith mul hrams zs).length = 2 * signatures.length + 1 := by
  simp only [List.length_append, List.length_map, List.length_zipWith, List.length_range, List.length_cons,
    List.length_nil, Nat.min_self]
  omega

/-- and the model of `verify_batch` returns `false` (= `Err`) without reaching the call when the lengths differ -/
theorem verify_batch_len_mismatch (ops : Dalek.Spec.Ed25519.Ops) (legacy : Bool) (msgs sigs vks : List (List UInt8))
    (h : msgs.length ≠ sigs.length ∨ sigs.length ≠ vks.length) :
    Dalek.Spec.Ed25519.verifyBatchWith ops legacy msgs sigs vks = false := by
  unfold Dalek.Spec.Ed25519.verifyBatchWith
  rw [if_pos]
  rcases h with h | h <;> simp [h]

/-! ## `optional_some_of_all_some` -/

section msm
open Dalek.Model.ScalarMul Dalek.Model.Recode Dalek.Proofs.ScalarMul Dalek.Props.C04.Algorithms
variable {G : Type} [AddCommGroup G]

/-- **the provided methods' `.expect("should return some point")` never fire** (traits.rs:258 and 378): when
every point is wrapped in `Some` — which is what `vartime_multiscalar_mul` and `vartime_mixed_multiscalar_mul`
do — `optional_multiscalar_mul` (any dispatch thresholds: Straus or Pippenger with `w = 6, 7, 8`) and
`optional_mixed_multiscalar_mul` (precomputed Straus) return `Some(point)`, not `None`.  On the hand models
`Dalek.Model.ScalarMul` (C04); `Panics`-level `none` (the length `assert`s) is excluded by the length hypothesis,
which for the first is the documented contract of the trait. -/
theorem optional_some_of_all_some (t190 t500 t800 : ℕ) (scalars : List (List UInt8)) (points : List G)
    (hs : ∀ b ∈ scalars, Scalar255 b) (hlen : scalars.length = points.length) :
    (∃ Q, optionalMultiscalarMulWith groupOps t190 t500 t800 scalars (points.map some) = some (some Q)) ∧
    (∀ (staticPoints : List G) (staticScalars : List (List UInt8)),
      (∀ b ∈ staticScalars, Scalar255 b) →
      optionalMixedMultiscalarMul groupOps (precomputationNew groupOps staticPoints) staticScalars scalars
        (points.map some) ≠ some none) := by
  have hlen' : scalars.length = (points.map some).length := by rw [List.length_map, hlen]
  have hnone : (none : Option G) ∉ points.map some := by simp
  obtain ⟨h1, h2⟩ := Dalek.Props.C04.Algorithms.optional_none_iff t190 t500 t800 scalars (points.map some) hs hlen'
  refine ⟨?_, fun sp ss hss h => hnone ((h2 sp ss hss).1 h)⟩
  rw [Dalek.Props.C04.Algorithms.dispatch_spec _ _ _ _ _ hs, if_pos hlen',
    Dalek.Props.C04.Algorithms.collect_some]
  exact ⟨_, rfl⟩

/-- consequently the provided methods themselves do not panic (restating
`Dalek.Props.C04.Algorithms.vartime_multiscalar_mul_spec` / `vartime_mixed_multiscalar_mul_spec`) -/
theorem vartime_methods_no_panic (scalars : List (List UInt8)) (points : List G)
    (hs : ∀ b ∈ scalars, Scalar255 b) (hlen : scalars.length = points.length) :
    vartimeMultiscalarMul groupOps scalars points ≠ none ∧
    (∀ (staticPoints : List G) (staticScalars : List (List UInt8)),
      (∀ b ∈ staticScalars, Scalar255 b) → staticScalars.length ≤ staticPoints.length →
      vartimeMixedMultiscalarMul groupOps (precomputationNew groupOps staticPoints) staticScalars scalars points
        ≠ none) := by
  refine ⟨?_, fun sp ss hss hle => ?_⟩
  · rw [Dalek.Props.C04.Algorithms.vartime_multiscalar_mul_spec scalars points hs hlen]; simp
  · rw [Dalek.Props.C04.Algorithms.vartime_mixed_multiscalar_mul_spec sp ss scalars points hss hs hle hlen.symm]
    simp

end msm

/-! ## non-vacuity and axiom audit -/

example : ¬ ((3 : Nat) ≠ 3 ∨ (3 : Nat) ≠ 3 ∨ (3 : Nat) ≠ 3) ∧ (3 : Nat) ≤ 2 ^ 57 := by decide
example : batchScalarsHint 3 = (7, some 7) ∧ batchPointsHint 3 3 = (7, some 7) := by decide +kernel
/-- the size-hint model has teeth: with one key missing the first `assert_eq!` would fire -/
example : (batchScalarsHint 3).1 ≠ (batchPointsHint 3 2).1 := by decide +kernel

/-- info: 'Dalek.Props.C15.Facts.elligator_on_curve' depends on axioms: [propext, Classical.choice, Quot.sound] -/
#guard_msgs in #print axioms elligator_on_curve
/--
info: 'Dalek.Props.C15.Facts.batch_invert_acc_nonzero' depends on axioms: [propext, Classical.choice, Quot.sound]
-/
#guard_msgs in #print axioms batch_invert_acc_nonzero
/--
info: 'Dalek.Props.C15.Facts.batch_invert_acc_nonzero_scalar' depends on axioms: [propext, Classical.choice, Quot.sound]
-/
#guard_msgs in #print axioms batch_invert_acc_nonzero_scalar
/--
info: 'Dalek.Props.C15.Facts.scalar_invariant_high_bit_clear' depends on axioms: [propext, Classical.choice, Quot.sound]
-/
#guard_msgs in #print axioms scalar_invariant_high_bit_clear
/--
info: 'Dalek.Props.C15.Facts.verify_batch_sizes_equal' depends on axioms: [propext, Classical.choice, Quot.sound]
-/
#guard_msgs in #print axioms verify_batch_sizes_equal
/--
info: 'Dalek.Props.C15.Facts.optional_some_of_all_some' depends on axioms: [propext, Classical.choice, Quot.sound]
-/
#guard_msgs in #print axioms optional_some_of_all_some

end Dalek.Props.C15.Facts
