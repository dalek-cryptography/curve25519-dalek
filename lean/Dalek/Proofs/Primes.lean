/-
Primality of the curve25519 field prime `p = 2^255 - 19` and the group order
`l = 2^252 + 27742317777372353535851937790883648493`, by Pratt certificates checked in the
kernel (`decide +kernel`) through a checker that is proved sound once (`checkAll_sound`,
on top of Mathlib's `lucas_primality`).

Also the `powMod` bridge: the specification's structurally recursive modular exponentiation on `Nat`
(kernel-evaluable with GMP speed) satisfies `powMod m a e = a ^ e % m`, and its cast to `ZMod m`.
-/
import Mathlib.NumberTheory.LucasPrimality
import Mathlib.Data.List.Prime
import Dalek.Spec.Field
import Dalek.Proofs.PrattCerts

namespace Dalek.Bridge

open Dalek.Spec

/-! ## Correctness of `Spec.powMod` (this namespace is continued in `Bridge/Field.lean`) -/

theorem powModAux_mod (m : Nat) :
    ∀ (fuel b e acc : Nat), e < 2 ^ fuel → powModAux m fuel b e acc % m = acc * b ^ e % m := by
  intro fuel
  induction fuel with
  | zero =>
    intro b e acc h
    have : e = 0 := by simpa using h
    subst this
    simp [powModAux]
  | succ fuel ih =>
    intro b e acc h
    unfold powModAux
    by_cases he : e = 0
    · subst he; simp
    · rw [if_neg he, ih _ _ _ (by omega)]
      have hsq : (b * b % m) ^ (e / 2) % m = (b * b) ^ (e / 2) % m :=
        (Nat.pow_mod _ _ _).symm
      have hbb : (b * b) ^ (e / 2) = b ^ (2 * (e / 2)) := by
        rw [pow_mul, pow_two]
      by_cases hodd : e % 2 = 1
      · rw [if_pos hodd]
        have he2 : e = 2 * (e / 2) + 1 := by omega
        conv_rhs => rw [he2, pow_succ, ← hbb]
        rw [Nat.mul_mod, Nat.mod_mod, hsq, ← Nat.mul_mod]
        ring_nf
      · rw [if_neg hodd]
        have he2 : e = 2 * (e / 2) := by omega
        conv_rhs => rw [he2, ← hbb]
        rw [Nat.mul_mod, hsq, ← Nat.mul_mod]

/-- If the accumulator is reduced, so is the result. -/
theorem powModAux_canon (m : Nat) :
    ∀ (fuel b e acc : Nat), acc % m = acc → powModAux m fuel b e acc % m = powModAux m fuel b e acc := by
  intro fuel
  induction fuel with
  | zero => intro b e acc h; simpa [powModAux] using h
  | succ fuel ih =>
    intro b e acc h
    unfold powModAux
    by_cases he : e = 0
    · rw [if_pos he]; exact h
    · rw [if_neg he]
      apply ih
      by_cases hodd : e % 2 = 1
      · rw [if_pos hodd, Nat.mod_mod]
      · rw [if_neg hodd]; exact h

/-- **Correctness of `Spec.powMod`** (any modulus, including `0` and `1`). -/
theorem powMod_eq (m a e : Nat) : powMod m a e = a ^ e % m := by
  unfold powMod
  rw [← powModAux_canon m _ _ _ _ (Nat.mod_mod _ _), powModAux_mod m _ _ _ _ Nat.lt_log2_self,
    Nat.mul_mod, Nat.mod_mod, ← Nat.pow_mod, ← Nat.mul_mod, one_mul]

theorem powMod_cast (m a e : Nat) : ((powMod m a e : Nat) : ZMod m) = (a : ZMod m) ^ e := by
  rw [powMod_eq, ZMod.natCast_mod, Nat.cast_pow]

end Dalek.Bridge

namespace Dalek.Primes

open Dalek.Spec Dalek.Bridge

/-- To prove `a ^ e = c` in `ZMod m` (for numerals `a`, `c`) it is enough to evaluate `powMod`
on naturals (e.g. by `decide +kernel`). -/
theorem zmod_pow_eq_of_powMod {a e m c : Nat} (h : powMod m a e = c % m) :
    (a : ZMod m) ^ e = (c : ZMod m) := by
  rw [← powMod_cast, h, ZMod.natCast_mod]

theorem zmod_pow_ne_of_powMod {a e m c : Nat} (h : powMod m a e ≠ c % m) :
    (a : ZMod m) ^ e ≠ (c : ZMod m) := by
  intro hc
  apply h
  have : ((a ^ e : Nat) : ZMod m) = (c : ZMod m) := by rw [Nat.cast_pow]; exact hc
  rw [powMod_eq]
  exact (ZMod.natCast_eq_natCast_iff' _ _ _).1 this

/-! ## Pratt certificate checker -/

/-- Check one entry `(n, a, fs)` against a list `known` of already certified primes:
`2 ≤ n`, `∏ fs = n - 1`, `a ^ (n-1) ≡ 1 (mod n)`, and for each `q ∈ fs`: `q` is known prime and
`a ^ ((n-1)/q) ≢ 1 (mod n)`. -/
def checkEntry (known : List Nat) (e : Nat × Nat × List Nat) : Bool :=
  let n := e.1
  let a := e.2.1
  let fs := e.2.2
  Nat.ble 2 n && (fs.prod == n - 1) && (powMod n a (n - 1) == 1) &&
    fs.all (fun q => known.contains q && (powMod n a ((n - 1) / q) != 1))

/-- Check a whole chain, each certified `n` becoming known for the later entries. -/
def checkAll : List Nat → List (Nat × Nat × List Nat) → Bool
  | _, [] => true
  | known, e :: es => checkEntry known e && checkAll (e.1 :: known) es

theorem checkEntry_sound {known : List Nat} (hk : ∀ q ∈ known, Nat.Prime q)
    {e : Nat × Nat × List Nat} (h : checkEntry known e = true) : Nat.Prime e.1 := by
  obtain ⟨n, a, fs⟩ := e
  simp only [checkEntry, Bool.and_eq_true, beq_iff_eq, List.all_eq_true, bne_iff_ne, ne_eq,
    List.contains_iff_mem] at h
  obtain ⟨⟨⟨hn, hprod⟩, hone⟩, hfs⟩ := h
  have hn2 : 2 ≤ n := Nat.le_of_ble_eq_true hn
  have h1 : (1 : Nat) % n = 1 := Nat.mod_eq_of_lt hn2
  show Nat.Prime n
  refine lucas_primality n (a : ZMod n) ?_ ?_
  · have := zmod_pow_eq_of_powMod (a := a) (e := n - 1) (m := n) (c := 1) (by rw [hone, h1])
    simpa using this
  · intro q hq hdvd
    rw [← hprod] at hdvd
    obtain ⟨r, hr, hqr⟩ := (Prime.dvd_prod_iff hq.prime).1 hdvd
    obtain ⟨hrk, hrne⟩ := hfs r hr
    have hrp : Nat.Prime r := hk r hrk
    have hqr' : q = r := (Nat.prime_dvd_prime_iff_eq hq hrp).1 hqr
    subst hqr'
    have := zmod_pow_ne_of_powMod (a := a) (e := (n - 1) / q) (m := n) (c := 1)
      (by rw [h1]; exact hrne)
    simpa using this

theorem checkAll_sound : ∀ (es : List (Nat × Nat × List Nat)) (known : List Nat),
    (∀ q ∈ known, Nat.Prime q) → checkAll known es = true → ∀ e ∈ es, Nat.Prime e.1
  | [], _, _, _ => by simp
  | e :: es, known, hk, h => by
    simp only [checkAll, Bool.and_eq_true] at h
    have he : Nat.Prime e.1 := checkEntry_sound hk h.1
    have hk' : ∀ q ∈ e.1 :: known, Nat.Prime q := by
      intro q hq
      rcases List.mem_cons.1 hq with rfl | hq
      · exact he
      · exact hk q hq
    intro x hx
    rcases List.mem_cons.1 hx with rfl | hx
    · exact he
    · exact checkAll_sound es _ hk' h.2 x hx

/-- Entry point: a chain that checks starting from `known = [2]` certifies every `n` occurring
as (the first component of) one of its entries. -/
theorem prime_of_cert {cert : List (Nat × Nat × List Nat)} (hc : checkAll [2] cert = true) {n : Nat}
    (hn : (cert.map Prod.fst).contains n = true) : Nat.Prime n := by
  obtain ⟨e, he, rfl⟩ := List.mem_map.1 (List.contains_iff_mem.1 hn)
  exact checkAll_sound cert [2] (by simp [Nat.prime_two]) hc e he

/-! ## The two primes -/

/-- The field prime `p = 2^255 - 19` (local name; `Dalek.P` of `Spec/Field.lean` is the same numeral). -/
abbrev P' : Nat := 2 ^ 255 - 19

/-- The prime group order `l = 2^252 + 27742317777372353535851937790883648493`. -/
abbrev L' : Nat := 2 ^ 252 + 27742317777372353535851937790883648493

theorem P'_eq : (2 ^ 255 - 19 : Nat) =
    57896044618658097711785492504343953926634992332820282019728792003956564819949 := by
  norm_num

theorem L'_eq : (2 ^ 252 + 27742317777372353535851937790883648493 : Nat) =
    7237005577332262213973186563042994240857116359379907606001950938285454250989 := by
  norm_num

theorem certP_ok : checkAll [2] certP = true := by decide +kernel

theorem certL_ok : checkAll [2] certL = true := by decide +kernel

theorem prime_p : Nat.Prime (2 ^ 255 - 19) :=
  P'_eq ▸ prime_of_cert certP_ok (by decide +kernel)

theorem prime_l : Nat.Prime (2 ^ 252 + 27742317777372353535851937790883648493) :=
  L'_eq ▸ prime_of_cert certL_ok (by decide +kernel)

theorem prime_P' : Nat.Prime P' := prime_p
theorem prime_L' : Nat.Prime L' := prime_l

instance fact_prime_p : Fact (Nat.Prime (2 ^ 255 - 19)) := ⟨prime_p⟩
instance fact_prime_l : Fact (Nat.Prime (2 ^ 252 + 27742317777372353535851937790883648493)) :=
  ⟨prime_l⟩

end Dalek.Primes
