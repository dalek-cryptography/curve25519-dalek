import Dalek.Proofs.IfmaField.Defs
import Dalek.Gen.Norm.IfmaField
/-! `&x * &y` of the IFMA backend: lane-wise product in `ZMod (2^255-19)`, for ALL integer lane values of the normal form. -/
set_option maxRecDepth 100000
set_option linter.unusedSimpArgs false
namespace Dalek.Proofs.IfmaField
open Dalek Dalek.Gen.Norm.IfmaField Dalek.Proofs.Field26 Dalek.Proofs.Avx2Field

theorem mul_correct_A (x0 x1 x2 x3 x4 x5 x6 x7 x8 x9 x10 x11 x12 x13 x14 x15 x16 x17 x18 x19 y0 y1 y2 y3 y4 y5 y6 y7 y8 y9 y10 y11 y12 y13 y14 y15 y16 y17 y18 y19 : Int) :
    laneVal51 .A (mul_fn x0 x1 x2 x3 x4 x5 x6 x7 x8 x9 x10 x11 x12 x13 x14 x15 x16 x17 x18 x19 y0 y1 y2 y3 y4 y5 y6 y7 y8 y9 y10 y11 y12 y13 y14 y15 y16 y17 y18 y19) = laneVal51 .A (x0 :: x1 :: x2 :: x3 :: x4 :: x5 :: x6 :: x7 :: x8 :: x9 :: x10 :: x11 :: x12 :: x13 :: x14 :: x15 :: x16 :: x17 :: x18 :: x19 :: []) * laneVal51 .A (y0 :: y1 :: y2 :: y3 :: y4 :: y5 :: y6 :: y7 :: y8 :: y9 :: y10 :: y11 :: y12 :: y13 :: y14 :: y15 :: y16 :: y17 :: y18 :: y19 :: []) := by
  lane_lets mul_fn
  ifma_goal; slice_hyps; lane_finish

/-- `(A,B,C,D) * (A',B',C',D') = (A A', B B', C C', D D')` (B, C, D from A as in `square_correct`) -/
theorem mul_correct (k : Lane) (x0 x1 x2 x3 x4 x5 x6 x7 x8 x9 x10 x11 x12 x13 x14 x15 x16 x17 x18 x19 y0 y1 y2 y3 y4 y5 y6 y7 y8 y9 y10 y11 y12 y13 y14 y15 y16 y17 y18 y19 : Int) :
    laneVal51 k (mul_fn x0 x1 x2 x3 x4 x5 x6 x7 x8 x9 x10 x11 x12 x13 x14 x15 x16 x17 x18 x19 y0 y1 y2 y3 y4 y5 y6 y7 y8 y9 y10 y11 y12 y13 y14 y15 y16 y17 y18 y19) = laneVal51 k (x0 :: x1 :: x2 :: x3 :: x4 :: x5 :: x6 :: x7 :: x8 :: x9 :: x10 :: x11 :: x12 :: x13 :: x14 :: x15 :: x16 :: x17 :: x18 :: x19 :: []) * laneVal51 k (y0 :: y1 :: y2 :: y3 :: y4 :: y5 :: y6 :: y7 :: y8 :: y9 :: y10 :: y11 :: y12 :: y13 :: y14 :: y15 :: y16 :: y17 :: y18 :: y19 :: []) := by
  cases k
  · exact mul_correct_A ..
  · exact Eq.mp (by kernel_rfl) (mul_correct_A x1 x0 x2 x3 x5 x4 x6 x7 x9 x8 x10 x11 x13 x12 x14 x15 x17 x16 x18 x19 y1 y0 y2 y3 y5 y4 y6 y7 y9 y8 y10 y11 y13 y12 y14 y15 y17 y16 y18 y19)
  · exact Eq.mp (by kernel_rfl) (mul_correct_A x2 x1 x0 x3 x6 x5 x4 x7 x10 x9 x8 x11 x14 x13 x12 x15 x18 x17 x16 x19 y2 y1 y0 y3 y6 y5 y4 y7 y10 y9 y8 y11 y14 y13 y12 y15 y18 y17 y16 y19)
  · exact Eq.mp (by kernel_rfl) (mul_correct_A x3 x1 x2 x0 x7 x5 x6 x4 x11 x9 x10 x8 x15 x13 x14 x12 x19 x17 x18 x16 y3 y1 y2 y0 y7 y5 y6 y4 y11 y9 y10 y8 y15 y13 y14 y12 y19 y17 y18 y16)

end Dalek.Proofs.IfmaField
