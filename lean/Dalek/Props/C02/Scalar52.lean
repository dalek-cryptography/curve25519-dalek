import Dalek.IR.LimbSound
import Dalek.Proofs.Scalar52
/-!
# C02 — scalar arithmetic is exact arithmetic modulo `l = 2^252 + 27742317777372353535851937790883648493`
(serial u64 backend, 52-bit limbs; property theorems)

Statements are about `Dalek.Gen.Scalar52.*`: the LimbIR programs REGENERATED from
`curve25519-dalek/src/backend/serial/u64/scalar.rs` (and the constants `L`, `R`, `RR`, `LFACTOR` regenerated from
`constants.rs`) on every run.  For every input inside the bound contract (`Dalek.Model.Contracts.Scalar52`: all limbs
`< 2^52`; `montgomery_reduce` words `≤ 5·(2^52-1)^2`) and satisfying the stated value hypothesis, the debug build
(`evalC`, overflow checks) does not panic, the release build (`evalW`, wrapping) returns the same limbs, the limbs are
`< 2^52`, and their radix-2^52 value `val52` is the stated function of the values of the inputs — in particular it is
the canonical representative (`< l`).
-/
set_option exponentiation.threshold 600

namespace Dalek.Props.C02.Scalar52
open Dalek.IR Dalek.Gen.Norm.Scalar52 Dalek.Model.Contracts Dalek.Gen.Consts
open Dalek.Proofs.Scalar52 hiding toZ_nil
open Dalek.Model.FieldBytes (leVal)

/-- the group order -/
abbrev l : Nat := 2 ^ 252 + 27742317777372353535851937790883648493

/-- output contract: five limbs `< 2^52` -/
abbrev limbs52 : List Itv := rep 5 (ub (2 ^ 52 - 1))

/-! ## the constants -/

theorem L_value : val52 U64.L = l := val52_L
theorem R_value : val52 U64.R = 2 ^ 260 % l := val52_R
theorem RR_value : val52 U64.RR = (2 ^ 260) ^ 2 % l := val52_RR
theorem LFACTOR_value : U64.LFACTOR * U64.L.getD 0 0 % 2 ^ 52 = 2 ^ 52 - 1 := lfactor_spec
theorem l_prime : Nat.Prime l := Dalek.Primes.prime_l

section
variable (a0 a1 a2 a3 a4 b0 b1 b2 b3 b4 : Nat)

/-- `Scalar52::sub(a, b)` on canonical inputs: `(a - b) mod l`, canonical -/
theorem sub_spec (hin : EnvIn [a0, a1, a2, a3, a4, b0, b1, b2, b3, b4] Scalar52.pre_sub)
    (ha : val52 [a0, a1, a2, a3, a4] < l) (hb : val52 [b0, b1, b2, b3, b4] < l) :
    ∃ out, Dalek.Gen.Scalar52.sub.evalC [a0, a1, a2, a3, a4, b0, b1, b2, b3, b4] = some out ∧
      Dalek.Gen.Scalar52.sub.evalW [a0, a1, a2, a3, a4, b0, b1, b2, b3, b4] = out ∧
      EnvIn out limbs52 ∧ val52 out < l ∧
      val52 out = (val52 [a0, a1, a2, a3, a4] + l - val52 [b0, b1, b2, b3, b4]) % l := by
  have hl := lim52_of_envIn hin
  simp only [toZ_cons, toZ_nil] at hl
  obtain ⟨hla, hlb⟩ := Lim_split5 hl
  obtain ⟨o0, o1, o2, o3, o4, he, -, hv⟩ := sub_fn_canon _ _ _ _ _ _ _ _ _ _ hla hlb (repZ_lt ha rfl) (repZ_lt hb rfl)
  refine Prog.norm_spec sub_norm_ok (by decide +kernel) hin fun out hZ => ?_
  have h := val_glue hZ (sub_fn_ok ..) he hv
  rw [repZ_cast5, repZ_cast5] at h
  simp only [l, ell_eq] at *
  omega

/-- `Scalar52::sub(a, L)` for `a < 2l` (the conditional subtraction at the end of `add` and
`montgomery_reduce`): the canonical representative `a mod l` -/
theorem sub_L_spec (hin : EnvIn ([a0, a1, a2, a3, a4] ++ U64.L) Scalar52.pre_sub)
    (ha : val52 [a0, a1, a2, a3, a4] < 2 * l) :
    ∃ out, Dalek.Gen.Scalar52.sub.evalC ([a0, a1, a2, a3, a4] ++ U64.L) = some out ∧
      Dalek.Gen.Scalar52.sub.evalW ([a0, a1, a2, a3, a4] ++ U64.L) = out ∧
      EnvIn out limbs52 ∧ val52 out = val52 [a0, a1, a2, a3, a4] % l := by
  have hl := lim52_of_envIn hin
  simp only [U64.L, List.cons_append, List.nil_append, toZ_cons, toZ_nil] at hl
  obtain ⟨o0, o1, o2, o3, o4, he, -, hv⟩ := sub_fn_L_spec _ _ _ _ _ (Lim_split5 hl).1
    (by rw [repZ_cast5]; exact_mod_cast ha)
  refine Prog.norm_spec sub_norm_ok (by decide +kernel) hin fun out hZ => ?_
  have h := val_glue hZ (sub_fn_ok ..) he hv
  rw [repZ_cast5] at h
  exact nat_emod_of_int h

/-- `Scalar52::add(a, b)` on canonical inputs: `(a + b) mod l`, canonical -/
theorem add_spec (hin : EnvIn [a0, a1, a2, a3, a4, b0, b1, b2, b3, b4] Scalar52.pre_add)
    (ha : val52 [a0, a1, a2, a3, a4] < l) (hb : val52 [b0, b1, b2, b3, b4] < l) :
    ∃ out, Dalek.Gen.Scalar52.add.evalC [a0, a1, a2, a3, a4, b0, b1, b2, b3, b4] = some out ∧
      Dalek.Gen.Scalar52.add.evalW [a0, a1, a2, a3, a4, b0, b1, b2, b3, b4] = out ∧
      EnvIn out limbs52 ∧
      val52 out = (val52 [a0, a1, a2, a3, a4] + val52 [b0, b1, b2, b3, b4]) % l := by
  have hl := lim52_of_envIn hin
  simp only [toZ_cons, toZ_nil] at hl
  obtain ⟨hla, hlb⟩ := Lim_split5 hl
  obtain ⟨o0, o1, o2, o3, o4, he, -, hv⟩ := add_fn_spec _ _ _ _ _ _ _ _ _ _ hla hlb (repZ_lt ha rfl) (repZ_lt hb rfl)
  refine Prog.norm_spec add_norm_ok (by decide +kernel) hin fun out hZ => ?_
  have h := val_glue hZ (add_fn_ok ..) he hv
  rw [repZ_cast5, repZ_cast5] at h
  exact nat_emod_of_int (by exact_mod_cast h)

/-- `Scalar52::mul_internal(a, b)`: the nine schoolbook coefficients; their radix-2^52 value is the integer
product, and each is within the `montgomery_reduce` input contract -/
theorem mul_internal_spec (hin : EnvIn [a0, a1, a2, a3, a4, b0, b1, b2, b3, b4] Scalar52.pre_mul_internal) :
    ∃ out, Dalek.Gen.Scalar52.mul_internal.evalC [a0, a1, a2, a3, a4, b0, b1, b2, b3, b4] = some out ∧
      Dalek.Gen.Scalar52.mul_internal.evalW [a0, a1, a2, a3, a4, b0, b1, b2, b3, b4] = out ∧
      EnvIn out Scalar52.pre_montgomery_reduce ∧
      val52 out = val52 [a0, a1, a2, a3, a4] * val52 [b0, b1, b2, b3, b4] := by
  have hl := lim52_of_envIn hin
  simp only [toZ_cons, toZ_nil] at hl
  obtain ⟨hla, hlb⟩ := Lim_split5 hl
  obtain ⟨z0, z1, z2, z3, z4, z5, z6, z7, z8, he, -, hv⟩ := mul_internal_fn_spec _ _ _ _ _ _ _ _ _ _ hla hlb
  refine Prog.norm_spec mul_internal_norm_ok (by decide +kernel) hin fun out hZ => ?_
  have h := val_glue hZ (mul_internal_fn_ok ..) he hv
  rw [repZ_cast5, repZ_cast5] at h
  exact_mod_cast h

/-- `Scalar52::square_internal(a)`: the nine coefficients of the integer square -/
theorem square_internal_spec (hin : EnvIn [a0, a1, a2, a3, a4] Scalar52.pre_square_internal) :
    ∃ out, Dalek.Gen.Scalar52.square_internal.evalC [a0, a1, a2, a3, a4] = some out ∧
      Dalek.Gen.Scalar52.square_internal.evalW [a0, a1, a2, a3, a4] = out ∧
      EnvIn out Scalar52.pre_montgomery_reduce ∧
      val52 out = val52 [a0, a1, a2, a3, a4] * val52 [a0, a1, a2, a3, a4] := by
  have hl := lim52_of_envIn hin
  simp only [toZ_cons, toZ_nil] at hl
  obtain ⟨z0, z1, z2, z3, z4, z5, z6, z7, z8, he, -, hv⟩ := mul_internal_fn_spec _ _ _ _ _ _ _ _ _ _ hl hl
  refine Prog.norm_spec square_internal_norm_ok (by decide +kernel) hin fun out hZ => ?_
  have h := val_glue hZ ((square_internal_fn_ok ..).trans (square_internal_fn_eq ..)) he hv
  rw [repZ_cast5] at h
  exact_mod_cast h

/-- `Scalar52::montgomery_mul(a, b)` for `a·b < 2^260·l` (e.g. one factor canonical):
canonical `out` with `out·2^260 ≡ a·b (mod l)` -/
theorem montgomery_mul_spec (hin : EnvIn [a0, a1, a2, a3, a4, b0, b1, b2, b3, b4] Scalar52.pre_montgomery_mul)
    (hab : val52 [a0, a1, a2, a3, a4] * val52 [b0, b1, b2, b3, b4] < 2 ^ 260 * l) :
    ∃ out, Dalek.Gen.Scalar52.montgomery_mul.evalC [a0, a1, a2, a3, a4, b0, b1, b2, b3, b4] = some out ∧
      Dalek.Gen.Scalar52.montgomery_mul.evalW [a0, a1, a2, a3, a4, b0, b1, b2, b3, b4] = out ∧
      EnvIn out limbs52 ∧ val52 out < l ∧
      val52 out * 2 ^ 260 % l = val52 [a0, a1, a2, a3, a4] * val52 [b0, b1, b2, b3, b4] % l := by
  have hl := lim52_of_envIn hin
  simp only [toZ_cons, toZ_nil] at hl
  obtain ⟨hla, hlb⟩ := Lim_split5 hl
  obtain ⟨o0, o1, o2, o3, o4, he, -, hcan, hv⟩ := montgomery_mul_fn_spec _ _ _ _ _ _ _ _ _ _ hla hlb
    (by rw [repZ_cast5, repZ_cast5]; exact_mod_cast hab)
  refine Prog.norm_spec montgomery_mul_norm_ok (by decide +kernel) hin fun out hZ => ?_
  have h := val_glue hZ (montgomery_mul_fn_ok ..) he rfl
  rw [← h, repZ_cast5, repZ_cast5] at hv
  rw [← h] at hcan
  exact ⟨by exact_mod_cast hcan.2, nat_mont_mul_of_zmod hv⟩

/-- `Scalar52::mul(a, b)` for `a·b < 2^260·l`: the canonical representative of the product -/
theorem mul_spec_of_lt (hin : EnvIn [a0, a1, a2, a3, a4, b0, b1, b2, b3, b4] Scalar52.pre_mul)
    (hab : val52 [a0, a1, a2, a3, a4] * val52 [b0, b1, b2, b3, b4] < 2 ^ 260 * l) :
    ∃ out, Dalek.Gen.Scalar52.mul.evalC [a0, a1, a2, a3, a4, b0, b1, b2, b3, b4] = some out ∧
      Dalek.Gen.Scalar52.mul.evalW [a0, a1, a2, a3, a4, b0, b1, b2, b3, b4] = out ∧
      EnvIn out limbs52 ∧
      val52 out = val52 [a0, a1, a2, a3, a4] * val52 [b0, b1, b2, b3, b4] % l := by
  have hl := lim52_of_envIn hin
  simp only [toZ_cons, toZ_nil] at hl
  obtain ⟨hla, hlb⟩ := Lim_split5 hl
  obtain ⟨o0, o1, o2, o3, o4, he, -, hv⟩ := mul_fn_spec _ _ _ _ _ _ _ _ _ _ hla hlb
    (by rw [repZ_cast5, repZ_cast5]; exact_mod_cast hab)
  refine Prog.norm_spec mul_norm_ok (by decide +kernel) hin fun out hZ => ?_
  have h := val_glue hZ (mul_fn_ok ..) he hv
  rw [repZ_cast5, repZ_cast5] at h
  exact nat_emod_of_int (by exact_mod_cast h)

/-- `Scalar52::mul(a, b)` on canonical inputs: `a·b mod l`, canonical -/
theorem mul_spec (hin : EnvIn [a0, a1, a2, a3, a4, b0, b1, b2, b3, b4] Scalar52.pre_mul)
    (ha : val52 [a0, a1, a2, a3, a4] < l) (hb : val52 [b0, b1, b2, b3, b4] < l) :
    ∃ out, Dalek.Gen.Scalar52.mul.evalC [a0, a1, a2, a3, a4, b0, b1, b2, b3, b4] = some out ∧
      Dalek.Gen.Scalar52.mul.evalW [a0, a1, a2, a3, a4, b0, b1, b2, b3, b4] = out ∧
      EnvIn out limbs52 ∧
      val52 out = val52 [a0, a1, a2, a3, a4] * val52 [b0, b1, b2, b3, b4] % l :=
  mul_spec_of_lt a0 a1 a2 a3 a4 b0 b1 b2 b3 b4 hin
    (Nat.mul_lt_mul'' (lt_trans ha (by norm_num [l])) hb)

/-- `Scalar52::montgomery_square(a)` for `a² < 2^260·l`: canonical `out` with `out·2^260 ≡ a² (mod l)` -/
theorem montgomery_square_spec (hin : EnvIn [a0, a1, a2, a3, a4] Scalar52.pre_montgomery_square)
    (haa : val52 [a0, a1, a2, a3, a4] * val52 [a0, a1, a2, a3, a4] < 2 ^ 260 * l) :
    ∃ out, Dalek.Gen.Scalar52.montgomery_square.evalC [a0, a1, a2, a3, a4] = some out ∧
      Dalek.Gen.Scalar52.montgomery_square.evalW [a0, a1, a2, a3, a4] = out ∧
      EnvIn out limbs52 ∧ val52 out < l ∧
      val52 out * 2 ^ 260 % l = val52 [a0, a1, a2, a3, a4] * val52 [a0, a1, a2, a3, a4] % l := by
  have hl := lim52_of_envIn hin
  simp only [toZ_cons, toZ_nil] at hl
  obtain ⟨o0, o1, o2, o3, o4, he, -, hcan, hv⟩ := montgomery_square_fn_spec _ _ _ _ _ hl
    (by rw [repZ_cast5]; exact_mod_cast haa)
  refine Prog.norm_spec montgomery_square_norm_ok (by decide +kernel) hin fun out hZ => ?_
  have h := val_glue hZ (montgomery_square_fn_ok ..) he rfl
  rw [← h, repZ_cast5] at hv
  rw [← h] at hcan
  exact ⟨by exact_mod_cast hcan.2, nat_mont_mul_of_zmod hv⟩

/-- `Scalar52::square(a)` for `a² < 2^260·l`: the canonical representative of the square -/
theorem square_spec_of_lt (hin : EnvIn [a0, a1, a2, a3, a4] Scalar52.pre_square)
    (haa : val52 [a0, a1, a2, a3, a4] * val52 [a0, a1, a2, a3, a4] < 2 ^ 260 * l) :
    ∃ out, Dalek.Gen.Scalar52.square.evalC [a0, a1, a2, a3, a4] = some out ∧
      Dalek.Gen.Scalar52.square.evalW [a0, a1, a2, a3, a4] = out ∧
      EnvIn out limbs52 ∧
      val52 out = val52 [a0, a1, a2, a3, a4] * val52 [a0, a1, a2, a3, a4] % l := by
  have hl := lim52_of_envIn hin
  simp only [toZ_cons, toZ_nil] at hl
  obtain ⟨o0, o1, o2, o3, o4, he, -, hv⟩ := square_fn_spec _ _ _ _ _ hl
    (by rw [repZ_cast5]; exact_mod_cast haa)
  refine Prog.norm_spec square_norm_ok (by decide +kernel) hin fun out hZ => ?_
  have h := val_glue hZ (square_fn_ok ..) he hv
  rw [repZ_cast5] at h
  exact nat_emod_of_int (by exact_mod_cast h)

/-- `Scalar52::square(a)` on a canonical input: `a² mod l`, canonical -/
theorem square_spec (hin : EnvIn [a0, a1, a2, a3, a4] Scalar52.pre_square)
    (ha : val52 [a0, a1, a2, a3, a4] < l) :
    ∃ out, Dalek.Gen.Scalar52.square.evalC [a0, a1, a2, a3, a4] = some out ∧
      Dalek.Gen.Scalar52.square.evalW [a0, a1, a2, a3, a4] = out ∧
      EnvIn out limbs52 ∧
      val52 out = val52 [a0, a1, a2, a3, a4] * val52 [a0, a1, a2, a3, a4] % l :=
  square_spec_of_lt a0 a1 a2 a3 a4 hin (Nat.mul_lt_mul'' (lt_trans ha (by norm_num [l])) ha)

/-- `Scalar52::as_montgomery(a)` for ANY five 52-bit limbs: the canonical representative of `a·2^260` -/
theorem as_montgomery_spec (hin : EnvIn [a0, a1, a2, a3, a4] Scalar52.pre_as_montgomery) :
    ∃ out, Dalek.Gen.Scalar52.as_montgomery.evalC [a0, a1, a2, a3, a4] = some out ∧
      Dalek.Gen.Scalar52.as_montgomery.evalW [a0, a1, a2, a3, a4] = out ∧
      EnvIn out limbs52 ∧
      val52 out = val52 [a0, a1, a2, a3, a4] * 2 ^ 260 % l := by
  have hl := lim52_of_envIn hin
  simp only [toZ_cons, toZ_nil] at hl
  obtain ⟨o0, o1, o2, o3, o4, he, -, hv⟩ := as_montgomery_fn_spec _ _ _ _ _ hl
  refine Prog.norm_spec as_montgomery_norm_ok (by decide +kernel) hin fun out hZ => ?_
  have h := val_glue hZ (as_montgomery_fn_ok ..) he hv
  rw [repZ_cast5] at h
  exact nat_emod_of_int (by rw [h, Nat.cast_mul, Nat.cast_pow, Nat.cast_ofNat])

/-- `Scalar52::from_montgomery(a)` for ANY five 52-bit limbs: canonical `out` with `out·2^260 ≡ a (mod l)` -/
theorem from_montgomery_spec (hin : EnvIn [a0, a1, a2, a3, a4] Scalar52.pre_from_montgomery) :
    ∃ out, Dalek.Gen.Scalar52.from_montgomery.evalC [a0, a1, a2, a3, a4] = some out ∧
      Dalek.Gen.Scalar52.from_montgomery.evalW [a0, a1, a2, a3, a4] = out ∧
      EnvIn out limbs52 ∧ val52 out < l ∧
      val52 out * 2 ^ 260 % l = val52 [a0, a1, a2, a3, a4] % l := by
  have hl := lim52_of_envIn hin
  simp only [toZ_cons, toZ_nil] at hl
  obtain ⟨o0, o1, o2, o3, o4, he, -, hcan, hv⟩ := from_montgomery_fn_spec _ _ _ _ _ hl
  refine Prog.norm_spec from_montgomery_norm_ok (by decide +kernel) hin fun out hZ => ?_
  have h := val_glue hZ (from_montgomery_fn_ok ..) he rfl
  rw [← h, repZ_cast5] at hv
  rw [← h] at hcan
  exact ⟨by exact_mod_cast hcan.2, nat_mont_of_zmod hv⟩

end

section
variable (z0 z1 z2 z3 z4 z5 z6 z7 z8 : Nat)

/-- `Scalar52::montgomery_reduce(z)` for nine words within the contract whose radix-2^52 value `N` is
`< 2^260·l`: canonical `out` with `out·2^260 ≡ N (mod l)` -/
theorem montgomery_reduce_spec (hin : EnvIn [z0, z1, z2, z3, z4, z5, z6, z7, z8] Scalar52.pre_montgomery_reduce)
    (hN : val52 [z0, z1, z2, z3, z4, z5, z6, z7, z8] < 2 ^ 260 * l) :
    ∃ out, Dalek.Gen.Scalar52.montgomery_reduce.evalC [z0, z1, z2, z3, z4, z5, z6, z7, z8] = some out ∧
      Dalek.Gen.Scalar52.montgomery_reduce.evalW [z0, z1, z2, z3, z4, z5, z6, z7, z8] = out ∧
      EnvIn out limbs52 ∧ val52 out < l ∧
      val52 out * 2 ^ 260 % l = val52 [z0, z1, z2, z3, z4, z5, z6, z7, z8] % l := by
  have hl := limW_of_envIn hin
  simp only [toZ_cons, toZ_nil] at hl
  obtain ⟨o0, o1, o2, o3, o4, he, -, hcan, hd⟩ := montgomery_reduce_fn_spec _ _ _ _ _ _ _ _ _ hl
    (by rw [repZ_cast9]; exact_mod_cast hN)
  refine Prog.norm_spec montgomery_reduce_norm_ok (by decide +kernel) hin fun out hZ => ?_
  have h := val_glue hZ (montgomery_reduce_fn_ok ..) he rfl
  rw [← h, repZ_cast9] at hd
  rw [← h] at hcan
  exact ⟨by exact_mod_cast hcan.2, nat_mont_of_zmod (zmod_of_dvd hd)⟩

end


section
variable (x0 x1 x2 x3 x4 x5 x6 x7 x8 x9 x10 x11 x12 x13 x14 x15 x16 x17 x18 x19 x20 x21 x22 x23 x24 x25 x26 x27 x28 x29 x30 x31 : Nat)

/-- `Scalar52::from_bytes`: the five limbs (`< 2^52`, top limb `< 2^48`) of the little-endian value of the 32 bytes -/
theorem from_bytes_spec (hin : EnvIn [x0, x1, x2, x3, x4, x5, x6, x7, x8, x9, x10, x11, x12, x13, x14, x15, x16, x17, x18, x19, x20, x21, x22, x23, x24, x25, x26, x27, x28, x29, x30, x31] Scalar52.pre_from_bytes) :
    ∃ out, Dalek.Gen.Scalar52.from_bytes.evalC [x0, x1, x2, x3, x4, x5, x6, x7, x8, x9, x10, x11, x12, x13, x14, x15, x16, x17, x18, x19, x20, x21, x22, x23, x24, x25, x26, x27, x28, x29, x30, x31] = some out ∧
      Dalek.Gen.Scalar52.from_bytes.evalW [x0, x1, x2, x3, x4, x5, x6, x7, x8, x9, x10, x11, x12, x13, x14, x15, x16, x17, x18, x19, x20, x21, x22, x23, x24, x25, x26, x27, x28, x29, x30, x31] = out ∧
      EnvIn out (rep 4 (ub (2 ^ 52 - 1)) ++ [ub (2 ^ 48 - 1)]) ∧
      val52 out = leVal [x0, x1, x2, x3, x4, x5, x6, x7, x8, x9, x10, x11, x12, x13, x14, x15, x16, x17, x18, x19, x20, x21, x22, x23, x24, x25, x26, x27, x28, x29, x30, x31] := by
  have hl := limBytes_of_envIn hin
  simp only [toZ_cons, toZ_nil] at hl
  obtain ⟨o0, o1, o2, o3, o4, he, -, -, hv⟩ := from_bytes_fn_spec (h := hl) ..
  refine Prog.norm_spec from_bytes_norm_ok (by decide +kernel) hin fun out hZ => ?_
  exact nat_of_leValZ (val_glue hZ (from_bytes_fn_ok ..) he hv) rfl

end

section
variable (a0 a1 a2 a3 a4 : Nat)

/-- `Scalar52::as_bytes`: for limbs `< 2^52` with value `< 2^256` the 32 output bytes are the little-endian
encoding of the value -/
theorem as_bytes_spec (hin : EnvIn [a0, a1, a2, a3, a4] Scalar52.pre_as_bytes)
    (hv : val52 [a0, a1, a2, a3, a4] < 2 ^ 256) :
    ∃ out, Dalek.Gen.Scalar52.as_bytes.evalC [a0, a1, a2, a3, a4] = some out ∧
      Dalek.Gen.Scalar52.as_bytes.evalW [a0, a1, a2, a3, a4] = out ∧
      EnvIn out (bytes 32) ∧ leVal out = val52 [a0, a1, a2, a3, a4] := by
  have hl := lim52_of_envIn hin
  simp only [toZ_cons, toZ_nil] at hl
  refine Prog.norm_spec as_bytes_norm_ok (by decide +kernel) hin fun out hZ => ?_
  simp only [toZ_cons, toZ_nil] at hZ
  rw [as_bytes_fn_ok] at hZ
  have h := leVal_of_toZ hZ.symm
  rw [as_bytes_fn_spec _ _ _ _ _ (Lim_split4 hl).1 ⟨Int.natCast_nonneg a4, by simp only [val52] at hv; omega⟩,
    repZ_cast5] at h
  exact_mod_cast h

end

section
variable (x0 x1 x2 x3 x4 x5 x6 x7 x8 x9 x10 x11 x12 x13 x14 x15 x16 x17 x18 x19 x20 x21 x22 x23 x24 x25 x26 x27 x28 x29 x30 x31 x32 x33 x34 x35 x36 x37 x38 x39 x40 x41 x42 x43 x44 x45 x46 x47 x48 x49 x50 x51 x52 x53 x54 x55 x56 x57 x58 x59 x60 x61 x62 x63 : Nat)

/-- `Scalar52::from_bytes_wide`: the canonical representative of the little-endian value of the 64 bytes -/
theorem from_bytes_wide_spec (hin : EnvIn [x0, x1, x2, x3, x4, x5, x6, x7, x8, x9, x10, x11, x12, x13, x14, x15, x16, x17, x18, x19, x20, x21, x22, x23, x24, x25, x26, x27, x28, x29, x30, x31, x32, x33, x34, x35, x36, x37, x38, x39, x40, x41, x42, x43, x44, x45, x46, x47, x48, x49, x50, x51, x52, x53, x54, x55, x56, x57, x58, x59, x60, x61, x62, x63] Scalar52.pre_from_bytes_wide) :
    ∃ out, Dalek.Gen.Scalar52.from_bytes_wide.evalC [x0, x1, x2, x3, x4, x5, x6, x7, x8, x9, x10, x11, x12, x13, x14, x15, x16, x17, x18, x19, x20, x21, x22, x23, x24, x25, x26, x27, x28, x29, x30, x31, x32, x33, x34, x35, x36, x37, x38, x39, x40, x41, x42, x43, x44, x45, x46, x47, x48, x49, x50, x51, x52, x53, x54, x55, x56, x57, x58, x59, x60, x61, x62, x63] = some out ∧
      Dalek.Gen.Scalar52.from_bytes_wide.evalW [x0, x1, x2, x3, x4, x5, x6, x7, x8, x9, x10, x11, x12, x13, x14, x15, x16, x17, x18, x19, x20, x21, x22, x23, x24, x25, x26, x27, x28, x29, x30, x31, x32, x33, x34, x35, x36, x37, x38, x39, x40, x41, x42, x43, x44, x45, x46, x47, x48, x49, x50, x51, x52, x53, x54, x55, x56, x57, x58, x59, x60, x61, x62, x63] = out ∧
      EnvIn out limbs52 ∧
      val52 out = leVal [x0, x1, x2, x3, x4, x5, x6, x7, x8, x9, x10, x11, x12, x13, x14, x15, x16, x17, x18, x19, x20, x21, x22, x23, x24, x25, x26, x27, x28, x29, x30, x31, x32, x33, x34, x35, x36, x37, x38, x39, x40, x41, x42, x43, x44, x45, x46, x47, x48, x49, x50, x51, x52, x53, x54, x55, x56, x57, x58, x59, x60, x61, x62, x63] % l := by
  have hl := limBytes_of_envIn hin
  simp only [toZ_cons, toZ_nil] at hl
  obtain ⟨o0, o1, o2, o3, o4, he, -, hv⟩ := from_bytes_wide_fn_spec (h := hl) ..
  refine Prog.norm_spec from_bytes_wide_norm_ok (by decide +kernel) hin fun out hZ => ?_
  exact nat_emod_of_leValZ (val_glue hZ (from_bytes_wide_fn_ok ..) he hv) rfl

end

/-! ## non-vacuity of the hypotheses -/

/-- the all-limbs-at-the-bound input satisfies the limb contract (used by `sub`, `add`, `mul`, …) -/
example : EnvIn (List.replicate 10 (2 ^ 52 - 1)) Scalar52.pre_mul := by decide +kernel
/-- `l - 1` is a canonical input inside the limb contract -/
example : EnvIn [671914833335276, 3916664325105025, 1367801, 0, 17592186044416] (rep 5 Scalar52.lim) ∧
    val52 [671914833335276, 3916664325105025, 1367801, 0, 17592186044416] < l := by decide +kernel
/-- the largest `mul_internal` output satisfies the `montgomery_reduce` contract -/
example : EnvIn (List.replicate 9 (5 * (2 ^ 52 - 1) * (2 ^ 52 - 1))) Scalar52.pre_montgomery_reduce := by decide +kernel
/-- the value bound of `montgomery_reduce_spec` is satisfiable together with the contract -/
example : EnvIn [1, 2, 3, 4, 5, 6, 7, 8, 9] Scalar52.pre_montgomery_reduce ∧
    val52 [1, 2, 3, 4, 5, 6, 7, 8, 9] < 2 ^ 260 * l := by decide +kernel
example : EnvIn (List.replicate 64 255) Scalar52.pre_from_bytes_wide := by decide +kernel

end Dalek.Props.C02.Scalar52
