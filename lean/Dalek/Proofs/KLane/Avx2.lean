import Dalek.Proofs.KLane.Avx2Table
import Dalek.Gen.AlgAvx2Edwards
/-!
# KLane — the parallel point formulas of the AVX2 backend, one kernel evaluation each

Both programs of a formula are REGENERATED from `backend/vector/avx2/edwards.rs` on every run: the `KProg`
`Dalek.Gen.KAvx2Edwards.<item>` (calls of the translated limb kernels) and the AlgIR program `Dalek.Gen.AlgAvx2Edwards.<item>`
(lane-scalarised by the translator).

`<item>_laneOk` is the one evaluation by the Lean kernel: the verified scalariser (`KProg.scal` with the PROVED lane-semantics
table `table`: interval analysis of every call on the intervals its arguments actually have, contract of the table entry
checked at every call) maps the kernel calls of `<item>` to exactly the lane terms of the translator's AlgIR item, and the
post-intervals of the analysis are inside the invariant of the result type (`Dalek.Model.VecInv`).
`<item>_refines`: for ALL inputs inside the invariants the wrapping (release) run of the kernel calls equals the checked
run and the lane values of its result are the run of the AlgIR item in the field on the lane values of the inputs.
The bound half of `<item>_laneOk` is used in `Props/C11/VecChain/Avx2.lean`.
-/
namespace Dalek.Proofs.KLane.Avx2
open Dalek.IR Dalek.Gen Dalek.Model.VecInv Dalek.Proofs Dalek.Proofs.KLane

theorem ExtendedPoint_from_EdwardsPoint_laneOk :
    laneOk table KAvx2Edwards.ExtendedPoint_from_EdwardsPoint [fe54, fe54, fe54, fe54] [.fe, .fe, .fe, .fe] .v26 AlgAvx2Edwards.ExtendedPoint_from_EdwardsPoint [Avx2.invExt] = true := by
  decide +kernel

theorem ExtendedPoint_from_EdwardsPoint_refines (ins : List (List Nat)) (hin : EnvIn2 ins [fe54, fe54, fe54, fe54]) :
    ∃ out, KAvx2Edwards.ExtendedPoint_from_EdwardsPoint.evalC ins = some [out] ∧ KAvx2Edwards.ExtendedPoint_from_EdwardsPoint.evalW ins = some [out] ∧
      meaning .v26 out = AProg.run zmodOpsV AlgAvx2Edwards.ExtendedPoint_from_EdwardsPoint (lanesOf [.fe, .fe, .fe, .fe] ins) :=
  refines_of_refOk table table_valid _ _ _ _ _ (refOk_of_laneOk ExtendedPoint_from_EdwardsPoint_laneOk) ins hin

theorem EdwardsPoint_from_ExtendedPoint_laneOk :
    laneOk table KAvx2Edwards.EdwardsPoint_from_ExtendedPoint [Avx2.invExt] [.v26] .ser AlgAvx2Edwards.EdwardsPoint_from_ExtendedPoint [Avx2.splitOut] = true := by
  decide +kernel

theorem EdwardsPoint_from_ExtendedPoint_refines (ins : List (List Nat)) (hin : EnvIn2 ins [Avx2.invExt]) :
    ∃ out, KAvx2Edwards.EdwardsPoint_from_ExtendedPoint.evalC ins = some [out] ∧ KAvx2Edwards.EdwardsPoint_from_ExtendedPoint.evalW ins = some [out] ∧
      meaning .ser out = AProg.run zmodOpsV AlgAvx2Edwards.EdwardsPoint_from_ExtendedPoint (lanesOf [.v26] ins) :=
  refines_of_refOk table table_valid _ _ _ _ _ (refOk_of_laneOk EdwardsPoint_from_ExtendedPoint_laneOk) ins hin

theorem CachedPoint_from_ExtendedPoint_laneOk :
    laneOk table KAvx2Edwards.CachedPoint_from_ExtendedPoint [Avx2.invExt] [.v26] .v26 AlgAvx2Edwards.CachedPoint_from_ExtendedPoint [Avx2.invCached] = true := by
  decide +kernel

theorem CachedPoint_from_ExtendedPoint_refines (ins : List (List Nat)) (hin : EnvIn2 ins [Avx2.invExt]) :
    ∃ out, KAvx2Edwards.CachedPoint_from_ExtendedPoint.evalC ins = some [out] ∧ KAvx2Edwards.CachedPoint_from_ExtendedPoint.evalW ins = some [out] ∧
      meaning .v26 out = AProg.run zmodOpsV AlgAvx2Edwards.CachedPoint_from_ExtendedPoint (lanesOf [.v26] ins) :=
  refines_of_refOk table table_valid _ _ _ _ _ (refOk_of_laneOk CachedPoint_from_ExtendedPoint_laneOk) ins hin

theorem ExtendedPoint_double_laneOk :
    laneOk table KAvx2Edwards.ExtendedPoint_double [Avx2.invExt] [.v26] .v26 AlgAvx2Edwards.ExtendedPoint_double [Avx2.invExt] = true := by
  decide +kernel

theorem ExtendedPoint_double_refines (ins : List (List Nat)) (hin : EnvIn2 ins [Avx2.invExt]) :
    ∃ out, KAvx2Edwards.ExtendedPoint_double.evalC ins = some [out] ∧ KAvx2Edwards.ExtendedPoint_double.evalW ins = some [out] ∧
      meaning .v26 out = AProg.run zmodOpsV AlgAvx2Edwards.ExtendedPoint_double (lanesOf [.v26] ins) :=
  refines_of_refOk table table_valid _ _ _ _ _ (refOk_of_laneOk ExtendedPoint_double_laneOk) ins hin

/-- the loop body of `mul_by_pow_2` is translated to the same two programs as `double` -/
theorem ExtendedPoint_mul_by_pow_2_body_laneOk :
    laneOk table KAvx2Edwards.ExtendedPoint_mul_by_pow_2_body [Avx2.invExt] [.v26] .v26 AlgAvx2Edwards.ExtendedPoint_mul_by_pow_2_body [Avx2.invExt] = true :=
  ExtendedPoint_double_laneOk

theorem ExtendedPoint_mul_by_pow_2_body_refines (ins : List (List Nat)) (hin : EnvIn2 ins [Avx2.invExt]) :
    ∃ out, KAvx2Edwards.ExtendedPoint_mul_by_pow_2_body.evalC ins = some [out] ∧ KAvx2Edwards.ExtendedPoint_mul_by_pow_2_body.evalW ins = some [out] ∧
      meaning .v26 out = AProg.run zmodOpsV AlgAvx2Edwards.ExtendedPoint_mul_by_pow_2_body (lanesOf [.v26] ins) :=
  refines_of_refOk table table_valid _ _ _ _ _ (refOk_of_laneOk ExtendedPoint_mul_by_pow_2_body_laneOk) ins hin

theorem ExtendedPoint_add_CachedPoint_laneOk :
    laneOk table KAvx2Edwards.ExtendedPoint_add_CachedPoint [Avx2.invExt, Avx2.invCached] [.v26, .v26] .v26 AlgAvx2Edwards.ExtendedPoint_add_CachedPoint [Avx2.invExt] = true := by
  decide +kernel

theorem ExtendedPoint_add_CachedPoint_refines (ins : List (List Nat)) (hin : EnvIn2 ins [Avx2.invExt, Avx2.invCached]) :
    ∃ out, KAvx2Edwards.ExtendedPoint_add_CachedPoint.evalC ins = some [out] ∧ KAvx2Edwards.ExtendedPoint_add_CachedPoint.evalW ins = some [out] ∧
      meaning .v26 out = AProg.run zmodOpsV AlgAvx2Edwards.ExtendedPoint_add_CachedPoint (lanesOf [.v26, .v26] ins) :=
  refines_of_refOk table table_valid _ _ _ _ _ (refOk_of_laneOk ExtendedPoint_add_CachedPoint_laneOk) ins hin

theorem ExtendedPoint_sub_CachedPoint_laneOk :
    laneOk table KAvx2Edwards.ExtendedPoint_sub_CachedPoint [Avx2.invExt, Avx2.invCached] [.v26, .v26] .v26 AlgAvx2Edwards.ExtendedPoint_sub_CachedPoint [Avx2.invExt] = true := by
  decide +kernel

theorem ExtendedPoint_sub_CachedPoint_refines (ins : List (List Nat)) (hin : EnvIn2 ins [Avx2.invExt, Avx2.invCached]) :
    ∃ out, KAvx2Edwards.ExtendedPoint_sub_CachedPoint.evalC ins = some [out] ∧ KAvx2Edwards.ExtendedPoint_sub_CachedPoint.evalW ins = some [out] ∧
      meaning .v26 out = AProg.run zmodOpsV AlgAvx2Edwards.ExtendedPoint_sub_CachedPoint (lanesOf [.v26, .v26] ins) :=
  refines_of_refOk table table_valid _ _ _ _ _ (refOk_of_laneOk ExtendedPoint_sub_CachedPoint_laneOk) ins hin

theorem CachedPoint_neg_laneOk :
    laneOk table KAvx2Edwards.CachedPoint_neg [Avx2.invCached] [.v26] .v26 AlgAvx2Edwards.CachedPoint_neg [Avx2.invCached] = true := by
  decide +kernel

theorem CachedPoint_neg_refines (ins : List (List Nat)) (hin : EnvIn2 ins [Avx2.invCached]) :
    ∃ out, KAvx2Edwards.CachedPoint_neg.evalC ins = some [out] ∧ KAvx2Edwards.CachedPoint_neg.evalW ins = some [out] ∧
      meaning .v26 out = AProg.run zmodOpsV AlgAvx2Edwards.CachedPoint_neg (lanesOf [.v26] ins) :=
  refines_of_refOk table table_valid _ _ _ _ _ (refOk_of_laneOk CachedPoint_neg_laneOk) ins hin

theorem ExtendedPoint_identity_laneOk :
    laneOk table KAvx2Edwards.ExtendedPoint_identity [] [] .v26 AlgAvx2Edwards.ExtendedPoint_identity [Avx2.invExt] = true := by
  decide +kernel

theorem ExtendedPoint_identity_refines (ins : List (List Nat)) (hin : EnvIn2 ins []) :
    ∃ out, KAvx2Edwards.ExtendedPoint_identity.evalC ins = some [out] ∧ KAvx2Edwards.ExtendedPoint_identity.evalW ins = some [out] ∧
      meaning .v26 out = AProg.run zmodOpsV AlgAvx2Edwards.ExtendedPoint_identity (lanesOf [] ins) :=
  refines_of_refOk table table_valid _ _ _ _ _ (refOk_of_laneOk ExtendedPoint_identity_laneOk) ins hin

theorem CachedPoint_identity_laneOk :
    laneOk table KAvx2Edwards.CachedPoint_identity [] [] .v26 AlgAvx2Edwards.CachedPoint_identity [Avx2.invCached] = true := by
  decide +kernel

theorem CachedPoint_identity_refines (ins : List (List Nat)) (hin : EnvIn2 ins []) :
    ∃ out, KAvx2Edwards.CachedPoint_identity.evalC ins = some [out] ∧ KAvx2Edwards.CachedPoint_identity.evalW ins = some [out] ∧
      meaning .v26 out = AProg.run zmodOpsV AlgAvx2Edwards.CachedPoint_identity (lanesOf [] ins) :=
  refines_of_refOk table table_valid _ _ _ _ _ (refOk_of_laneOk CachedPoint_identity_laneOk) ins hin

theorem ExtendedPoint_conditional_select_laneOk :
    laneOk table KAvx2Edwards.ExtendedPoint_conditional_select [Avx2.invExt, Avx2.invExt, choice] [.v26, .v26, .ch] .v26 AlgAvx2Edwards.ExtendedPoint_conditional_select [Avx2.invExt] = true := by
  decide +kernel

theorem ExtendedPoint_conditional_select_refines (ins : List (List Nat)) (hin : EnvIn2 ins [Avx2.invExt, Avx2.invExt, choice]) :
    ∃ out, KAvx2Edwards.ExtendedPoint_conditional_select.evalC ins = some [out] ∧ KAvx2Edwards.ExtendedPoint_conditional_select.evalW ins = some [out] ∧
      meaning .v26 out = AProg.run zmodOpsV AlgAvx2Edwards.ExtendedPoint_conditional_select (lanesOf [.v26, .v26, .ch] ins) :=
  refines_of_refOk table table_valid _ _ _ _ _ (refOk_of_laneOk ExtendedPoint_conditional_select_laneOk) ins hin

theorem ExtendedPoint_conditional_assign_laneOk :
    laneOk table KAvx2Edwards.ExtendedPoint_conditional_assign [Avx2.invExt, Avx2.invExt, choice] [.v26, .v26, .ch] .v26 AlgAvx2Edwards.ExtendedPoint_conditional_assign [Avx2.invExt] = true := by
  decide +kernel

theorem ExtendedPoint_conditional_assign_refines (ins : List (List Nat)) (hin : EnvIn2 ins [Avx2.invExt, Avx2.invExt, choice]) :
    ∃ out, KAvx2Edwards.ExtendedPoint_conditional_assign.evalC ins = some [out] ∧ KAvx2Edwards.ExtendedPoint_conditional_assign.evalW ins = some [out] ∧
      meaning .v26 out = AProg.run zmodOpsV AlgAvx2Edwards.ExtendedPoint_conditional_assign (lanesOf [.v26, .v26, .ch] ins) :=
  refines_of_refOk table table_valid _ _ _ _ _ (refOk_of_laneOk ExtendedPoint_conditional_assign_laneOk) ins hin

theorem CachedPoint_conditional_select_laneOk :
    laneOk table KAvx2Edwards.CachedPoint_conditional_select [Avx2.invCached, Avx2.invCached, choice] [.v26, .v26, .ch] .v26 AlgAvx2Edwards.CachedPoint_conditional_select [Avx2.invCached] = true := by
  decide +kernel

theorem CachedPoint_conditional_select_refines (ins : List (List Nat)) (hin : EnvIn2 ins [Avx2.invCached, Avx2.invCached, choice]) :
    ∃ out, KAvx2Edwards.CachedPoint_conditional_select.evalC ins = some [out] ∧ KAvx2Edwards.CachedPoint_conditional_select.evalW ins = some [out] ∧
      meaning .v26 out = AProg.run zmodOpsV AlgAvx2Edwards.CachedPoint_conditional_select (lanesOf [.v26, .v26, .ch] ins) :=
  refines_of_refOk table table_valid _ _ _ _ _ (refOk_of_laneOk CachedPoint_conditional_select_laneOk) ins hin

theorem CachedPoint_conditional_assign_laneOk :
    laneOk table KAvx2Edwards.CachedPoint_conditional_assign [Avx2.invCached, Avx2.invCached, choice] [.v26, .v26, .ch] .v26 AlgAvx2Edwards.CachedPoint_conditional_assign [Avx2.invCached] = true := by
  decide +kernel

theorem CachedPoint_conditional_assign_refines (ins : List (List Nat)) (hin : EnvIn2 ins [Avx2.invCached, Avx2.invCached, choice]) :
    ∃ out, KAvx2Edwards.CachedPoint_conditional_assign.evalC ins = some [out] ∧ KAvx2Edwards.CachedPoint_conditional_assign.evalW ins = some [out] ∧
      meaning .v26 out = AProg.run zmodOpsV AlgAvx2Edwards.CachedPoint_conditional_assign (lanesOf [.v26, .v26, .ch] ins) :=
  refines_of_refOk table table_valid _ _ _ _ _ (refOk_of_laneOk CachedPoint_conditional_assign_laneOk) ins hin

end Dalek.Proofs.KLane.Avx2
