import Dalek.IR.LimbSound
import Dalek.IR.LimbNf
/-! How the result of the analyser is used: `Prog.norm_spec` is the shape of the kernel property theorems, and
`Prog.normProg` names the normal form without writing it out. -/
namespace Dalek.IR

/-- Inside `pre` the checked run succeeds and agrees with the wrapping run, the result lies inside any `post'` that
contains the computed `post`, and it satisfies whatever `Q` follows from being the value of the integer normal form
`q` on the inputs. -/
theorem Prog.norm_spec {p : Prog} {pre post post' : List Itv} {q : NProg} (h : p.norm pre = some (q, post))
    (hle : itvsLe post post' = true) {ins : List Nat} (hin : EnvIn ins pre) {Q : List Nat → Prop}
    (hQ : ∀ out, q.evalZ (toZ ins) = toZ out → Q out) :
    ∃ out, p.evalC ins = some out ∧ p.evalW ins = out ∧ EnvIn out post' ∧ Q out := by
  obtain ⟨out, hC, hW, hpost, hZ⟩ := Prog.norm_sound p pre q post h ins hin
  exact ⟨out, hC, hW, EnvIn_of_itvsLe hpost hle, hQ out hZ⟩

/-- `norm_spec` without a value part: the run is safe and the result lies inside `post'`. -/
theorem Prog.norm_safe {p : Prog} {pre post post' : List Itv} {q : NProg} (h : p.norm pre = some (q, post))
    (hle : itvsLe post post' = true) {ins : List Nat} (hin : EnvIn ins pre) :
    ∃ outs, p.evalC ins = some outs ∧ p.evalW ins = outs ∧ EnvIn outs post' :=
  let ⟨outs, hC, hW, hpost, _⟩ := Prog.norm_spec (Q := fun _ => True) h hle hin fun _ _ => trivial
  ⟨outs, hC, hW, hpost⟩

/-- `norm_spec` without the interval part (pure renamings of lanes state none). -/
theorem Prog.norm_val {p : Prog} {pre post : List Itv} {q : NProg} (h : p.norm pre = some (q, post))
    {ins : List Nat} (hin : EnvIn ins pre) {Q : List Nat → Prop}
    (hQ : ∀ out, q.evalZ (toZ ins) = toZ out → Q out) :
    ∃ out, p.evalC ins = some out ∧ p.evalW ins = out ∧ Q out :=
  let ⟨out, hC, hW, _, hZ⟩ := Prog.norm_sound p pre q post h ins hin
  ⟨out, hC, hW, hQ out hZ⟩

/-- From the value lemma `V l = r` of the shallow function `l` of the normal form to the outputs: `V` is the
representation (`rep51` into `ZMod p`, a lane value, …). -/
theorem Prog.of_fn {α : Sort _} {V : List Int → α} {q : NProg} {ins out : List Nat} {l : List Int} {r : α}
    (hZ : q.evalZ (toZ ins) = toZ out) (hf : q.evalZ (toZ ins) = l) (h : V l = r) : V (toZ out) = r := by
  rw [← hZ, hf]; exact h

/-- `norm_spec` for a property of the form `V (toZ out) = r`. -/
theorem Prog.fn_spec {p : Prog} {pre post post' : List Itv} {q : NProg} (h : p.norm pre = some (q, post))
    (hle : itvsLe post post' = true) {ins : List Nat} (hin : EnvIn ins pre) {α : Sort _} (V : List Int → α)
    {l : List Int} {r : α} (hf : q.evalZ (toZ ins) = l) (hv : V l = r) :
    ∃ out, p.evalC ins = some out ∧ p.evalW ins = out ∧ EnvIn out post' ∧ V (toZ out) = r :=
  Prog.norm_spec h hle hin fun _ hZ => Prog.of_fn hZ hf hv

theorem itvsLe_refl : ∀ t : List Itv, itvsLe t t = true
  | [] => rfl
  | s :: ss => by simp [itvsLe, Itv.le, itvsLe_refl ss]

/-- the normal form the analyser computes for `p` under `pre` (the empty program if the analysis fails); through
`Prog.nf`, so that the kernel unfolds it with the locals newest first -/
def Prog.normProg (p : Prog) (pre : List Itv) : NProg := (p.nf pre).getD ⟨0, [], []⟩

/-- To know the whole result of the analysis it is enough to know its interval part, which `Prog.post` computes
without building the normal form. -/
theorem Prog.norm_eq_of_post {p : Prog} {pre post : List Itv} (h : p.post pre = some post) :
    p.norm pre = some (p.normProg pre, post) := by
  obtain ⟨q, hq⟩ := Prog.norm_of_post h
  simp [Prog.normProg, Prog.nf_eq, hq]

/-- Whether the analyser accepts `pre` is decided by its interval half. -/
theorem Prog.norm_isSome (p : Prog) (pre : List Itv) : (p.norm pre).isSome = (p.post pre).isSome := by
  rw [Prog.post_eq, Option.isSome_map]

end Dalek.IR
