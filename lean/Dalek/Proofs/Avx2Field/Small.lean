import Dalek.Proofs.Avx2Field.Defs
import Dalek.Gen.Norm.Avx2Field
/-! `new`, `split`, `negate_lazy`, `diff_sum`, `reduce`, `neg`, `add` of the AVX2 backend, for ALL integer lane values. -/
set_option linter.unusedSimpArgs false
namespace Dalek.Proofs.Avx2Field
open Dalek Dalek.Gen.Norm.Avx2Field Dalek.Proofs.Field26

theorem new_correct_A (a0 a1 a2 a3 a4 b0 b1 b2 b3 b4 c0 c1 c2 c3 c4 d0 d1 d2 d3 d4 : Int)
    (hb : Bounded (a0 :: a1 :: a2 :: a3 :: a4 :: []) (List.replicate 5 18014398509481983)) :
    laneVal .A (new_fn a0 a1 a2 a3 a4 b0 b1 b2 b3 b4 c0 c1 c2 c3 c4 d0 d1 d2 d3 d4) = val51 .A (a0 :: a1 :: a2 :: a3 :: a4 :: b0 :: b1 :: b2 :: b3 :: b4 :: c0 :: c1 :: c2 :: c3 :: c4 :: d0 :: d1 :: d2 :: d3 :: d4 :: []) := by
  simp only [Bounded, List.replicate, Nat.cast_ofNat] at hb
  lane_lets new_fn
  avx_goal; slice_hyps; zero_quots; lane_finish

/-- `new(a, b, c, d)` packs (and weakly reduces) four `FieldElement51` with limbs `< 2^54`: lane `k` holds the `k`-th argument.
The four elements go through the same program on disjoint variables: the statement for B, C, D is the one for A with the
two elements exchanged in the arguments, and both unfold to the same term. -/
theorem new_correct (k : Lane) (a0 a1 a2 a3 a4 b0 b1 b2 b3 b4 c0 c1 c2 c3 c4 d0 d1 d2 d3 d4 : Int)
    (hb : Bounded (a0 :: a1 :: a2 :: a3 :: a4 :: b0 :: b1 :: b2 :: b3 :: b4 :: c0 :: c1 :: c2 :: c3 :: c4 :: d0 :: d1 :: d2 :: d3 :: d4 :: []) (List.replicate 20 18014398509481983)) :
    laneVal k (new_fn a0 a1 a2 a3 a4 b0 b1 b2 b3 b4 c0 c1 c2 c3 c4 d0 d1 d2 d3 d4) = val51 k (a0 :: a1 :: a2 :: a3 :: a4 :: b0 :: b1 :: b2 :: b3 :: b4 :: c0 :: c1 :: c2 :: c3 :: c4 :: d0 :: d1 :: d2 :: d3 :: d4 :: []) := by
  obtain ⟨ha0, ha1, ha2, ha3, ha4, hb0, hb1, hb2, hb3, hb4, hc0, hc1, hc2, hc3, hc4, hd0, hd1, hd2, hd3, hd4, -⟩ := hb
  cases k
  · exact new_correct_A _ _ _ _ _ _ _ _ _ _ _ _ _ _ _ _ _ _ _ _ ⟨ha0, ha1, ha2, ha3, ha4, trivial⟩
  · exact Eq.mp (by kernel_rfl) (new_correct_A b0 b1 b2 b3 b4 a0 a1 a2 a3 a4 c0 c1 c2 c3 c4 d0 d1 d2 d3 d4 ⟨hb0, hb1, hb2, hb3, hb4, trivial⟩)
  · exact Eq.mp (by kernel_rfl) (new_correct_A c0 c1 c2 c3 c4 b0 b1 b2 b3 b4 a0 a1 a2 a3 a4 d0 d1 d2 d3 d4 ⟨hc0, hc1, hc2, hc3, hc4, trivial⟩)
  · exact Eq.mp (by kernel_rfl) (new_correct_A d0 d1 d2 d3 d4 b0 b1 b2 b3 b4 c0 c1 c2 c3 c4 a0 a1 a2 a3 a4 ⟨hd0, hd1, hd2, hd3, hd4, trivial⟩)

/-- `split` is the inverse: the `k`-th `FieldElement51` of the result has the value of lane `k` -/
theorem split_correct (k : Lane) (x0 x1 x2 x3 x4 x5 x6 x7 x8 x9 x10 x11 x12 x13 x14 x15 x16 x17 x18 x19 x20 x21 x22 x23 x24 x25 x26 x27 x28 x29 x30 x31 x32 x33 x34 x35 x36 x37 x38 x39 : Int) :
    val51 k (split_fn x0 x1 x2 x3 x4 x5 x6 x7 x8 x9 x10 x11 x12 x13 x14 x15 x16 x17 x18 x19 x20 x21 x22 x23 x24 x25 x26 x27 x28 x29 x30 x31 x32 x33 x34 x35 x36 x37 x38 x39) = laneVal k (x0 :: x1 :: x2 :: x3 :: x4 :: x5 :: x6 :: x7 :: x8 :: x9 :: x10 :: x11 :: x12 :: x13 :: x14 :: x15 :: x16 :: x17 :: x18 :: x19 :: x20 :: x21 :: x22 :: x23 :: x24 :: x25 :: x26 :: x27 :: x28 :: x29 :: x30 :: x31 :: x32 :: x33 :: x34 :: x35 :: x36 :: x37 :: x38 :: x39 :: []) := by
  lane_lets split_fn
  cases k <;> (avx_goal; slice_hyps; lane_finish)

/-- `negate_lazy`: `2p − x` lane-wise -/
theorem negate_lazy_correct (k : Lane) (x0 x1 x2 x3 x4 x5 x6 x7 x8 x9 x10 x11 x12 x13 x14 x15 x16 x17 x18 x19 x20 x21 x22 x23 x24 x25 x26 x27 x28 x29 x30 x31 x32 x33 x34 x35 x36 x37 x38 x39 : Int) :
    laneVal k (negate_lazy_fn x0 x1 x2 x3 x4 x5 x6 x7 x8 x9 x10 x11 x12 x13 x14 x15 x16 x17 x18 x19 x20 x21 x22 x23 x24 x25 x26 x27 x28 x29 x30 x31 x32 x33 x34 x35 x36 x37 x38 x39) = - laneVal k (x0 :: x1 :: x2 :: x3 :: x4 :: x5 :: x6 :: x7 :: x8 :: x9 :: x10 :: x11 :: x12 :: x13 :: x14 :: x15 :: x16 :: x17 :: x18 :: x19 :: x20 :: x21 :: x22 :: x23 :: x24 :: x25 :: x26 :: x27 :: x28 :: x29 :: x30 :: x31 :: x32 :: x33 :: x34 :: x35 :: x36 :: x37 :: x38 :: x39 :: []) := by
  lane_lets negate_lazy_fn
  cases k <;> (avx_goal; slice_hyps; lane_finish_mod)

/-- `diff_sum`: `(A,B,C,D) ↦ (B − A, B + A, D − C, D + C)` -/
theorem diff_sum_correct (k : Lane) (x0 x1 x2 x3 x4 x5 x6 x7 x8 x9 x10 x11 x12 x13 x14 x15 x16 x17 x18 x19 x20 x21 x22 x23 x24 x25 x26 x27 x28 x29 x30 x31 x32 x33 x34 x35 x36 x37 x38 x39 : Int) :
    laneVal k (diff_sum_fn x0 x1 x2 x3 x4 x5 x6 x7 x8 x9 x10 x11 x12 x13 x14 x15 x16 x17 x18 x19 x20 x21 x22 x23 x24 x25 x26 x27 x28 x29 x30 x31 x32 x33 x34 x35 x36 x37 x38 x39) = k.sel (laneVal .B (x0 :: x1 :: x2 :: x3 :: x4 :: x5 :: x6 :: x7 :: x8 :: x9 :: x10 :: x11 :: x12 :: x13 :: x14 :: x15 :: x16 :: x17 :: x18 :: x19 :: x20 :: x21 :: x22 :: x23 :: x24 :: x25 :: x26 :: x27 :: x28 :: x29 :: x30 :: x31 :: x32 :: x33 :: x34 :: x35 :: x36 :: x37 :: x38 :: x39 :: []) - laneVal .A (x0 :: x1 :: x2 :: x3 :: x4 :: x5 :: x6 :: x7 :: x8 :: x9 :: x10 :: x11 :: x12 :: x13 :: x14 :: x15 :: x16 :: x17 :: x18 :: x19 :: x20 :: x21 :: x22 :: x23 :: x24 :: x25 :: x26 :: x27 :: x28 :: x29 :: x30 :: x31 :: x32 :: x33 :: x34 :: x35 :: x36 :: x37 :: x38 :: x39 :: [])) (laneVal .B (x0 :: x1 :: x2 :: x3 :: x4 :: x5 :: x6 :: x7 :: x8 :: x9 :: x10 :: x11 :: x12 :: x13 :: x14 :: x15 :: x16 :: x17 :: x18 :: x19 :: x20 :: x21 :: x22 :: x23 :: x24 :: x25 :: x26 :: x27 :: x28 :: x29 :: x30 :: x31 :: x32 :: x33 :: x34 :: x35 :: x36 :: x37 :: x38 :: x39 :: []) + laneVal .A (x0 :: x1 :: x2 :: x3 :: x4 :: x5 :: x6 :: x7 :: x8 :: x9 :: x10 :: x11 :: x12 :: x13 :: x14 :: x15 :: x16 :: x17 :: x18 :: x19 :: x20 :: x21 :: x22 :: x23 :: x24 :: x25 :: x26 :: x27 :: x28 :: x29 :: x30 :: x31 :: x32 :: x33 :: x34 :: x35 :: x36 :: x37 :: x38 :: x39 :: [])) (laneVal .D (x0 :: x1 :: x2 :: x3 :: x4 :: x5 :: x6 :: x7 :: x8 :: x9 :: x10 :: x11 :: x12 :: x13 :: x14 :: x15 :: x16 :: x17 :: x18 :: x19 :: x20 :: x21 :: x22 :: x23 :: x24 :: x25 :: x26 :: x27 :: x28 :: x29 :: x30 :: x31 :: x32 :: x33 :: x34 :: x35 :: x36 :: x37 :: x38 :: x39 :: []) - laneVal .C (x0 :: x1 :: x2 :: x3 :: x4 :: x5 :: x6 :: x7 :: x8 :: x9 :: x10 :: x11 :: x12 :: x13 :: x14 :: x15 :: x16 :: x17 :: x18 :: x19 :: x20 :: x21 :: x22 :: x23 :: x24 :: x25 :: x26 :: x27 :: x28 :: x29 :: x30 :: x31 :: x32 :: x33 :: x34 :: x35 :: x36 :: x37 :: x38 :: x39 :: [])) (laneVal .D (x0 :: x1 :: x2 :: x3 :: x4 :: x5 :: x6 :: x7 :: x8 :: x9 :: x10 :: x11 :: x12 :: x13 :: x14 :: x15 :: x16 :: x17 :: x18 :: x19 :: x20 :: x21 :: x22 :: x23 :: x24 :: x25 :: x26 :: x27 :: x28 :: x29 :: x30 :: x31 :: x32 :: x33 :: x34 :: x35 :: x36 :: x37 :: x38 :: x39 :: []) + laneVal .C (x0 :: x1 :: x2 :: x3 :: x4 :: x5 :: x6 :: x7 :: x8 :: x9 :: x10 :: x11 :: x12 :: x13 :: x14 :: x15 :: x16 :: x17 :: x18 :: x19 :: x20 :: x21 :: x22 :: x23 :: x24 :: x25 :: x26 :: x27 :: x28 :: x29 :: x30 :: x31 :: x32 :: x33 :: x34 :: x35 :: x36 :: x37 :: x38 :: x39 :: [])) := by
  lane_lets diff_sum_fn
  cases k
  · avx_goal; slice_hyps; lane_finish_mod
  · avx_goal; slice_hyps; lane_finish
  · avx_goal; slice_hyps; lane_finish_mod
  · avx_goal; slice_hyps; lane_finish

theorem reduce_correct_A (x0 x1 x2 x3 x4 x5 x6 x7 x8 x9 x10 x11 x12 x13 x14 x15 x16 x17 x18 x19 x20 x21 x22 x23 x24 x25 x26 x27 x28 x29 x30 x31 x32 x33 x34 x35 x36 x37 x38 x39 : Int)
    (hb : Bounded (x0 :: x2 :: x8 :: x10 :: x16 :: x18 :: x24 :: x26 :: x32 :: x34 :: []) (List.replicate 10 4294967295)) :
    laneVal .A (reduce_fn x0 x1 x2 x3 x4 x5 x6 x7 x8 x9 x10 x11 x12 x13 x14 x15 x16 x17 x18 x19 x20 x21 x22 x23 x24 x25 x26 x27 x28 x29 x30 x31 x32 x33 x34 x35 x36 x37 x38 x39) = laneVal .A (x0 :: x1 :: x2 :: x3 :: x4 :: x5 :: x6 :: x7 :: x8 :: x9 :: x10 :: x11 :: x12 :: x13 :: x14 :: x15 :: x16 :: x17 :: x18 :: x19 :: x20 :: x21 :: x22 :: x23 :: x24 :: x25 :: x26 :: x27 :: x28 :: x29 :: x30 :: x31 :: x32 :: x33 :: x34 :: x35 :: x36 :: x37 :: x38 :: x39 :: []) := by
  simp only [Bounded, List.replicate, Nat.cast_ofNat] at hb
  lane_lets reduce_fn
  avx_goal; slice_hyps; zero_quots; lane_finish

/-- `reduce` (the 32-bit carry chain) preserves the four values, for any forty u32 lanes (B, C, D from A as in `new_correct`) -/
theorem reduce_correct (k : Lane) (x0 x1 x2 x3 x4 x5 x6 x7 x8 x9 x10 x11 x12 x13 x14 x15 x16 x17 x18 x19 x20 x21 x22 x23 x24 x25 x26 x27 x28 x29 x30 x31 x32 x33 x34 x35 x36 x37 x38 x39 : Int)
    (hb : Bounded (x0 :: x1 :: x2 :: x3 :: x4 :: x5 :: x6 :: x7 :: x8 :: x9 :: x10 :: x11 :: x12 :: x13 :: x14 :: x15 :: x16 :: x17 :: x18 :: x19 :: x20 :: x21 :: x22 :: x23 :: x24 :: x25 :: x26 :: x27 :: x28 :: x29 :: x30 :: x31 :: x32 :: x33 :: x34 :: x35 :: x36 :: x37 :: x38 :: x39 :: []) (List.replicate 40 4294967295)) :
    laneVal k (reduce_fn x0 x1 x2 x3 x4 x5 x6 x7 x8 x9 x10 x11 x12 x13 x14 x15 x16 x17 x18 x19 x20 x21 x22 x23 x24 x25 x26 x27 x28 x29 x30 x31 x32 x33 x34 x35 x36 x37 x38 x39) = laneVal k (x0 :: x1 :: x2 :: x3 :: x4 :: x5 :: x6 :: x7 :: x8 :: x9 :: x10 :: x11 :: x12 :: x13 :: x14 :: x15 :: x16 :: x17 :: x18 :: x19 :: x20 :: x21 :: x22 :: x23 :: x24 :: x25 :: x26 :: x27 :: x28 :: x29 :: x30 :: x31 :: x32 :: x33 :: x34 :: x35 :: x36 :: x37 :: x38 :: x39 :: []) := by
  obtain ⟨h0, h1, h2, h3, h4, h5, h6, h7, h8, h9, h10, h11, h12, h13, h14, h15, h16, h17, h18, h19, h20, h21, h22, h23, h24, h25, h26, h27, h28, h29, h30, h31, h32, h33, h34, h35, h36, h37, h38, h39, -⟩ := hb
  cases k
  · exact reduce_correct_A _ _ _ _ _ _ _ _ _ _ _ _ _ _ _ _ _ _ _ _ _ _ _ _ _ _ _ _ _ _ _ _ _ _ _ _ _ _ _ _ ⟨h0, h2, h8, h10, h16, h18, h24, h26, h32, h34, trivial⟩
  · exact Eq.mp (by kernel_rfl) (reduce_correct_A x1 x0 x3 x2 x4 x5 x6 x7 x9 x8 x11 x10 x12 x13 x14 x15 x17 x16 x19 x18 x20 x21 x22 x23 x25 x24 x27 x26 x28 x29 x30 x31 x33 x32 x35 x34 x36 x37 x38 x39 ⟨h1, h3, h9, h11, h17, h19, h25, h27, h33, h35, trivial⟩)
  · exact Eq.mp (by kernel_rfl) (reduce_correct_A x4 x1 x6 x3 x0 x5 x2 x7 x12 x9 x14 x11 x8 x13 x10 x15 x20 x17 x22 x19 x16 x21 x18 x23 x28 x25 x30 x27 x24 x29 x26 x31 x36 x33 x38 x35 x32 x37 x34 x39 ⟨h4, h6, h12, h14, h20, h22, h28, h30, h36, h38, trivial⟩)
  · exact Eq.mp (by kernel_rfl) (reduce_correct_A x5 x1 x7 x3 x4 x0 x6 x2 x13 x9 x15 x11 x12 x8 x14 x10 x21 x17 x23 x19 x20 x16 x22 x18 x29 x25 x31 x27 x28 x24 x30 x26 x37 x33 x39 x35 x36 x32 x38 x34 ⟨h5, h7, h13, h15, h21, h23, h29, h31, h37, h39, trivial⟩)

theorem neg_correct_A (x0 x1 x2 x3 x4 x5 x6 x7 x8 x9 x10 x11 x12 x13 x14 x15 x16 x17 x18 x19 x20 x21 x22 x23 x24 x25 x26 x27 x28 x29 x30 x31 x32 x33 x34 x35 x36 x37 x38 x39 : Int)
    (hb : Bounded (x0 :: x2 :: x8 :: x10 :: x16 :: x18 :: x24 :: x26 :: x32 :: x34 :: []) [1073741520, 536870896, 1073741808, 536870896, 1073741808, 536870896, 1073741808, 536870896, 1073741808, 536870896]) :
    laneVal .A (neg_fn x0 x1 x2 x3 x4 x5 x6 x7 x8 x9 x10 x11 x12 x13 x14 x15 x16 x17 x18 x19 x20 x21 x22 x23 x24 x25 x26 x27 x28 x29 x30 x31 x32 x33 x34 x35 x36 x37 x38 x39) = - laneVal .A (x0 :: x1 :: x2 :: x3 :: x4 :: x5 :: x6 :: x7 :: x8 :: x9 :: x10 :: x11 :: x12 :: x13 :: x14 :: x15 :: x16 :: x17 :: x18 :: x19 :: x20 :: x21 :: x22 :: x23 :: x24 :: x25 :: x26 :: x27 :: x28 :: x29 :: x30 :: x31 :: x32 :: x33 :: x34 :: x35 :: x36 :: x37 :: x38 :: x39 :: []) := by
  simp only [Bounded, Nat.cast_ofNat] at hb
  lane_lets neg_fn
  avx_goal; slice_hyps; zero_quots; lane_finish_mod

/-- `-x`: `16p − x` lane-wise, then `reduce`; every lane `≤` the corresponding lane of `(16p,16p,16p,16p)` -/
theorem neg_correct (k : Lane) (x0 x1 x2 x3 x4 x5 x6 x7 x8 x9 x10 x11 x12 x13 x14 x15 x16 x17 x18 x19 x20 x21 x22 x23 x24 x25 x26 x27 x28 x29 x30 x31 x32 x33 x34 x35 x36 x37 x38 x39 : Int)
    (hb : Bounded (x0 :: x1 :: x2 :: x3 :: x4 :: x5 :: x6 :: x7 :: x8 :: x9 :: x10 :: x11 :: x12 :: x13 :: x14 :: x15 :: x16 :: x17 :: x18 :: x19 :: x20 :: x21 :: x22 :: x23 :: x24 :: x25 :: x26 :: x27 :: x28 :: x29 :: x30 :: x31 :: x32 :: x33 :: x34 :: x35 :: x36 :: x37 :: x38 :: x39 :: []) p16Lanes) :
    laneVal k (neg_fn x0 x1 x2 x3 x4 x5 x6 x7 x8 x9 x10 x11 x12 x13 x14 x15 x16 x17 x18 x19 x20 x21 x22 x23 x24 x25 x26 x27 x28 x29 x30 x31 x32 x33 x34 x35 x36 x37 x38 x39) = - laneVal k (x0 :: x1 :: x2 :: x3 :: x4 :: x5 :: x6 :: x7 :: x8 :: x9 :: x10 :: x11 :: x12 :: x13 :: x14 :: x15 :: x16 :: x17 :: x18 :: x19 :: x20 :: x21 :: x22 :: x23 :: x24 :: x25 :: x26 :: x27 :: x28 :: x29 :: x30 :: x31 :: x32 :: x33 :: x34 :: x35 :: x36 :: x37 :: x38 :: x39 :: []) := by
  obtain ⟨h0, h1, h2, h3, h4, h5, h6, h7, h8, h9, h10, h11, h12, h13, h14, h15, h16, h17, h18, h19, h20, h21, h22, h23, h24, h25, h26, h27, h28, h29, h30, h31, h32, h33, h34, h35, h36, h37, h38, h39, -⟩ := hb
  cases k
  · exact neg_correct_A _ _ _ _ _ _ _ _ _ _ _ _ _ _ _ _ _ _ _ _ _ _ _ _ _ _ _ _ _ _ _ _ _ _ _ _ _ _ _ _ ⟨h0, h2, h8, h10, h16, h18, h24, h26, h32, h34, trivial⟩
  · exact Eq.mp (by kernel_rfl) (neg_correct_A x1 x0 x3 x2 x4 x5 x6 x7 x9 x8 x11 x10 x12 x13 x14 x15 x17 x16 x19 x18 x20 x21 x22 x23 x25 x24 x27 x26 x28 x29 x30 x31 x33 x32 x35 x34 x36 x37 x38 x39 ⟨h1, h3, h9, h11, h17, h19, h25, h27, h33, h35, trivial⟩)
  · exact Eq.mp (by kernel_rfl) (neg_correct_A x4 x1 x6 x3 x0 x5 x2 x7 x12 x9 x14 x11 x8 x13 x10 x15 x20 x17 x22 x19 x16 x21 x18 x23 x28 x25 x30 x27 x24 x29 x26 x31 x36 x33 x38 x35 x32 x37 x34 x39 ⟨h4, h6, h12, h14, h20, h22, h28, h30, h36, h38, trivial⟩)
  · exact Eq.mp (by kernel_rfl) (neg_correct_A x5 x1 x7 x3 x4 x0 x6 x2 x13 x9 x15 x11 x12 x8 x14 x10 x21 x17 x23 x19 x20 x16 x22 x18 x29 x25 x31 x27 x28 x24 x30 x26 x37 x33 x39 x35 x36 x32 x38 x34 ⟨h5, h7, h13, h15, h21, h23, h29, h31, h37, h39, trivial⟩)

/-- `x + y` lane-wise -/
theorem add_correct (k : Lane) (x0 x1 x2 x3 x4 x5 x6 x7 x8 x9 x10 x11 x12 x13 x14 x15 x16 x17 x18 x19 x20 x21 x22 x23 x24 x25 x26 x27 x28 x29 x30 x31 x32 x33 x34 x35 x36 x37 x38 x39 y0 y1 y2 y3 y4 y5 y6 y7 y8 y9 y10 y11 y12 y13 y14 y15 y16 y17 y18 y19 y20 y21 y22 y23 y24 y25 y26 y27 y28 y29 y30 y31 y32 y33 y34 y35 y36 y37 y38 y39 : Int) :
    laneVal k (add_fn x0 x1 x2 x3 x4 x5 x6 x7 x8 x9 x10 x11 x12 x13 x14 x15 x16 x17 x18 x19 x20 x21 x22 x23 x24 x25 x26 x27 x28 x29 x30 x31 x32 x33 x34 x35 x36 x37 x38 x39 y0 y1 y2 y3 y4 y5 y6 y7 y8 y9 y10 y11 y12 y13 y14 y15 y16 y17 y18 y19 y20 y21 y22 y23 y24 y25 y26 y27 y28 y29 y30 y31 y32 y33 y34 y35 y36 y37 y38 y39) = laneVal k (x0 :: x1 :: x2 :: x3 :: x4 :: x5 :: x6 :: x7 :: x8 :: x9 :: x10 :: x11 :: x12 :: x13 :: x14 :: x15 :: x16 :: x17 :: x18 :: x19 :: x20 :: x21 :: x22 :: x23 :: x24 :: x25 :: x26 :: x27 :: x28 :: x29 :: x30 :: x31 :: x32 :: x33 :: x34 :: x35 :: x36 :: x37 :: x38 :: x39 :: []) + laneVal k (y0 :: y1 :: y2 :: y3 :: y4 :: y5 :: y6 :: y7 :: y8 :: y9 :: y10 :: y11 :: y12 :: y13 :: y14 :: y15 :: y16 :: y17 :: y18 :: y19 :: y20 :: y21 :: y22 :: y23 :: y24 :: y25 :: y26 :: y27 :: y28 :: y29 :: y30 :: y31 :: y32 :: y33 :: y34 :: y35 :: y36 :: y37 :: y38 :: y39 :: []) := by
  lane_lets add_fn
  cases k <;> (avx_goal; slice_hyps; lane_finish)


end Dalek.Proofs.Avx2Field
