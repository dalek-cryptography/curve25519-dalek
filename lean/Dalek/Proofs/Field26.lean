import Dalek.Proofs.LimbTac
import Dalek.Gen.Norm.Field26
/-! Functional correctness of the translated serial-u32 field kernels in `ZMod p`, for ALL integer inputs
(bounds are not needed for these identities; they are needed, and proved separately by the analyser,
for "the Rust arithmetic does not overflow, so it computes these integer functions"). -/
namespace Dalek.Proofs.Field26
open Dalek Dalek.Gen.Norm.Field26

abbrev P : Nat := 2 ^ 255 - 19

/-- value of a 10-limb radix-2^25.5 vector: limb `i` has weight `2^⌈25.5 i⌉` -/
def rep26 (l : List Int) : Int :=
  l.getD 0 0 + 2 ^ 26 * l.getD 1 0 + 2 ^ 51 * l.getD 2 0 + 2 ^ 77 * l.getD 3 0 + 2 ^ 102 * l.getD 4 0
    + 2 ^ 128 * l.getD 5 0 + 2 ^ 153 * l.getD 6 0 + 2 ^ 179 * l.getD 7 0 + 2 ^ 204 * l.getD 8 0
    + 2 ^ 230 * l.getD 9 0

attribute [limb_rep] rep26

theorem add_correct (x0 x1 x2 x3 x4 x5 x6 x7 x8 x9 y0 y1 y2 y3 y4 y5 y6 y7 y8 y9 : Int) :
    ((rep26 (add_fn x0 x1 x2 x3 x4 x5 x6 x7 x8 x9 y0 y1 y2 y3 y4 y5 y6 y7 y8 y9) : Int) : ZMod P)
      = ((rep26 [x0, x1, x2, x3, x4, x5, x6, x7, x8, x9] : Int) : ZMod P)
        + ((rep26 [y0, y1, y2, y3, y4, y5, y6, y7, y8, y9] : Int) : ZMod P) := by
  limb_ring add_fn (ZMod P)

theorem sub_correct (x0 x1 x2 x3 x4 x5 x6 x7 x8 x9 y0 y1 y2 y3 y4 y5 y6 y7 y8 y9 : Int) :
    ((rep26 (sub_fn x0 x1 x2 x3 x4 x5 x6 x7 x8 x9 y0 y1 y2 y3 y4 y5 y6 y7 y8 y9) : Int) : ZMod P)
      = ((rep26 [x0, x1, x2, x3, x4, x5, x6, x7, x8, x9] : Int) : ZMod P)
        - ((rep26 [y0, y1, y2, y3, y4, y5, y6, y7, y8, y9] : Int) : ZMod P) := by
  limb_ring sub_fn (ZMod P)

theorem neg_correct (x0 x1 x2 x3 x4 x5 x6 x7 x8 x9 : Int) :
    ((rep26 (neg_fn x0 x1 x2 x3 x4 x5 x6 x7 x8 x9) : Int) : ZMod P)
      = - ((rep26 [x0, x1, x2, x3, x4, x5, x6, x7, x8, x9] : Int) : ZMod P) := by
  limb_ring neg_fn (ZMod P)

/-- `reduce` of ten u64 words preserves the value -/
theorem reduce_correct (x0 x1 x2 x3 x4 x5 x6 x7 x8 x9 : Int) :
    ((rep26 (reduce_fn x0 x1 x2 x3 x4 x5 x6 x7 x8 x9) : Int) : ZMod P)
      = ((rep26 [x0, x1, x2, x3, x4, x5, x6, x7, x8, x9] : Int) : ZMod P) := by
  limb_ring reduce_fn (ZMod P)

/-- the ten pre-reduction coefficients of the square already represent `x^2` -/
theorem square_inner_correct (x0 x1 x2 x3 x4 x5 x6 x7 x8 x9 : Int) :
    ((rep26 (square_inner_fn x0 x1 x2 x3 x4 x5 x6 x7 x8 x9) : Int) : ZMod P)
      = ((rep26 [x0, x1, x2, x3, x4, x5, x6, x7, x8, x9] : Int) : ZMod P) ^ 2 := by
  limb_ring square_inner_fn (ZMod P)

theorem square_correct (x0 x1 x2 x3 x4 x5 x6 x7 x8 x9 : Int) :
    ((rep26 (square_fn x0 x1 x2 x3 x4 x5 x6 x7 x8 x9) : Int) : ZMod P)
      = ((rep26 [x0, x1, x2, x3, x4, x5, x6, x7, x8, x9] : Int) : ZMod P) ^ 2 := by
  limb_ring square_fn (ZMod P)

theorem square2_correct (x0 x1 x2 x3 x4 x5 x6 x7 x8 x9 : Int) :
    ((rep26 (square2_fn x0 x1 x2 x3 x4 x5 x6 x7 x8 x9) : Int) : ZMod P)
      = 2 * ((rep26 [x0, x1, x2, x3, x4, x5, x6, x7, x8, x9] : Int) : ZMod P) ^ 2 := by
  limb_ring square2_fn (ZMod P)

theorem pow2k_body_correct (x0 x1 x2 x3 x4 x5 x6 x7 x8 x9 : Int) :
    ((rep26 (pow2k_body_fn x0 x1 x2 x3 x4 x5 x6 x7 x8 x9) : Int) : ZMod P)
      = ((rep26 [x0, x1, x2, x3, x4, x5, x6, x7, x8, x9] : Int) : ZMod P) ^ 2 := by
  limb_ring pow2k_body_fn (ZMod P)

theorem mul_correct (x0 x1 x2 x3 x4 x5 x6 x7 x8 x9 y0 y1 y2 y3 y4 y5 y6 y7 y8 y9 : Int) :
    ((rep26 (mul_fn x0 x1 x2 x3 x4 x5 x6 x7 x8 x9 y0 y1 y2 y3 y4 y5 y6 y7 y8 y9) : Int) : ZMod P)
      = ((rep26 [x0, x1, x2, x3, x4, x5, x6, x7, x8, x9] : Int) : ZMod P)
        * ((rep26 [y0, y1, y2, y3, y4, y5, y6, y7, y8, y9] : Int) : ZMod P) := by
  limb_ring mul_fn (ZMod P)

end Dalek.Proofs.Field26
