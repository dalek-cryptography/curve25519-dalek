/-
Polynomial certificates for associativity of the Edwards addition law, valid in any field:
  Lnum * Rden - Rnum * Lden = q1 * E1 + q2 * E2 + q3 * E3
for the x- and the y-coordinate of `(P1+P2)+P3` (L) and `P1+(P2+P3)` (R).  The cofactors `q1 q2 q3` are
those of /verif/data/edwards_assoc_cofactors.json (computed by /verif/notes/probes/p10_assoc_certificate.py,
printed by p10b_assoc_nested.py),
written in nested form with products only: a numeral exponent whose type is left open is resolved by
a default instance, one exponent per pass over the whole statement, which is quadratic in their number.
-/
import Dalek.Proofs.Edwards.Frac

namespace Dalek.Edwards

variable {K : Type*} [Field K]

theorem assoc_x_cert (d x1 y1 x2 y2 x3 y3 : K) :
    (xn (xn x1 1 y1 1 x2 1 y2 1) (xd d x1 1 y1 1 x2 1 y2 1) (yn x1 1 y1 1 x2 1 y2 1) (yd d x1 1 y1 1 x2 1 y2 1) x3 1 y3 1)
      * (xd d x1 1 y1 1 (xn x2 1 y2 1 x3 1 y3 1) (xd d x2 1 y2 1 x3 1 y3 1) (yn x2 1 y2 1 x3 1 y3 1) (yd d x2 1 y2 1 x3 1 y3 1))
    - (xn x1 1 y1 1 (xn x2 1 y2 1 x3 1 y3 1) (xd d x2 1 y2 1 x3 1 y3 1) (yn x2 1 y2 1 x3 1 y3 1) (yd d x2 1 y2 1 x3 1 y3 1))
      * (xd d (xn x1 1 y1 1 x2 1 y2 1) (xd d x1 1 y1 1 x2 1 y2 1) (yn x1 1 y1 1 x2 1 y2 1) (yd d x1 1 y1 1 x2 1 y2 1) x3 1 y3 1)
    = (d*(x2*(y2*(x2*(y2*(x2*(x3*(d*(y2*(y3*(x1*(-x2*x3 - y2*y3) + y1*(x2*y3 + y2*x3)))) + x1*(-x3*x3 - 1)) +
        y1*(y3*(y3*y3 - 1))) + y2*(x1*(y3*(y3*y3 - 1)) + y1*(x3*(-x3*x3 - 1)))) + x2*(x2*(x3*(y3*(-x1*x3 +
        y1*y3))))) + y2*(y2*(y2*(x3*(y3*(x1*y3 - y1*x3))))))))) * E d x1 y1
    + (x3*(y3*(d*(x2*(x1*(y2*(y1*(x3*(d*(y3*(x1*(x2*x3 - y2*y3) + y1*(-x2*y3 + y2*x3))) - x1*y2 - y1*x2) +
        y3*(-x1*x2 - y1*y2)) + x1*(x1*(x2*x3 + y2*y3)) + x2*x3 + y2*y3) + x3*(y3*(x3*(x1*x1 - y1*y1 + 1) +
        x1*y1*y3))) + y1*(y2*(y1*(y1*(x2*y3 + y2*x3)) - x2*y3 - y2*x3) + x3*(y3*(y3*(-y1*y1 + 1))))) +
        y2*(x3*(y3*(x1*(y3*(x1*x1 - y1*y1 + 1) + x1*y1*x3) + y1*(x3*(-y1*y1 + 1)))))) + x1*(x1*(x1*(-x2*y3 +
        y2*x3) + y1*(x2*x3 - y2*y3)) + y1*(y1*(x2*y3 - y2*x3)) - x2*y3 + y2*x3) + y1*(y1*(y1*(-x2*x3 +
        y2*y3)) + x2*x3 - y2*y3)) + x1*(x2*(x3*(x3*(x1*x1 - y1*y1 + 1)) + x1*x1 - y1*y1 + 1) +
        x1*(y1*(y2*(x3*x3 + 1)))) + y1*(y2*(y1*(y1*(-x3*x3 - 1)) + x3*x3 + 1))) + y3*(x1*(y2*(y3*(y3*(-x1*x1
        + y1*y1 - 1)) + x1*x1 - y1*y1 + 1) + x1*(y1*(x2*(-y3*y3 + 1)))) + y1*(x2*(y1*(y1*(y3*y3 - 1)) -
        y3*y3 + 1)))) * E d x2 y2
    + (x1*(x2*(y1*(y2*(d*(x1*(-x2*x3 + y2*y3) + y1*(x2*y3 - y2*x3)) + x1*(-x2*x3 + y2*y3) + y1*(x2*y3 - y2*x3)) +
        x1*(y3*(-x2*x2 - 1)) + y1*(x3*(x2*x2 + 1))) + x3*(x1*(x1*(-x2*x2 + y2*y2 - 1)) - x2*x2 + y2*y2 - 1)
        + x2*(y2*(y3*(-x1*x1 - 1)))) + y2*(y3*(y2*(y2*(x1*x1 - y1*y1 + 1)) - x1*x1 + y1*y1 - 1) +
        x1*(y1*(x3*(y2*y2 - 1))))) + y1*(x2*(y3*(y1*(y1*(x2*x2 - y2*y2 + 1)) - x2*x2 + y2*y2 - 1) +
        x2*(y2*(x3*(y1*y1 - 1)))) + y2*(x3*(y1*(y1*(-y2*y2 + 1)) + y2*y2 - 1)))) * E d x3 y3 := by
  simp only [xn, xd, yn, yd, E]; ring

theorem assoc_y_cert (d x1 y1 x2 y2 x3 y3 : K) :
    (yn (xn x1 1 y1 1 x2 1 y2 1) (xd d x1 1 y1 1 x2 1 y2 1) (yn x1 1 y1 1 x2 1 y2 1) (yd d x1 1 y1 1 x2 1 y2 1) x3 1 y3 1)
      * (yd d x1 1 y1 1 (xn x2 1 y2 1 x3 1 y3 1) (xd d x2 1 y2 1 x3 1 y3 1) (yn x2 1 y2 1 x3 1 y3 1) (yd d x2 1 y2 1 x3 1 y3 1))
    - (yn x1 1 y1 1 (xn x2 1 y2 1 x3 1 y3 1) (xd d x2 1 y2 1 x3 1 y3 1) (yn x2 1 y2 1 x3 1 y3 1) (yd d x2 1 y2 1 x3 1 y3 1))
      * (yd d (xn x1 1 y1 1 x2 1 y2 1) (xd d x1 1 y1 1 x2 1 y2 1) (yn x1 1 y1 1 x2 1 y2 1) (yd d x1 1 y1 1 x2 1 y2 1) x3 1 y3 1)
    = (d*(x2*(y2*(x2*(y2*(x2*(x3*(d*(y2*(y3*(x1*(x2*y3 + y2*x3) + y1*(-x2*x3 - y2*y3)))) + y1*(-x3*x3 - 1)) +
        x1*(y3*(y3*y3 - 1))) + y2*(x1*(x3*(-x3*x3 - 1)) + y1*(y3*(y3*y3 - 1)))) + x2*(x2*(x3*(y3*(x1*y3 -
        y1*x3))))) + y2*(y2*(y2*(x3*(y3*(-x1*x3 + y1*y3))))))))) * E d x1 y1
    + (x3*(y3*(d*(x2*(x1*(y2*(y1*(x3*(d*(y3*(x1*(x2*y3 - y2*x3) + y1*(-x2*x3 + y2*y3))) + x1*x2 + y1*y2) +
        y3*(x1*y2 + y1*x2)) + x1*(x1*(-x2*y3 - y2*x3)) - x2*y3 - y2*x3) + x3*(y3*(y3*(x1*x1 - y1*y1 + 1) +
        x1*y1*x3))) + y1*(y2*(y1*(y1*(-x2*x3 - y2*y3)) + x2*x3 + y2*y3) + x3*(x3*(y3*(-y1*y1 + 1))))) +
        y2*(x3*(y3*(x1*(x3*(x1*x1 - y1*y1 + 1) + x1*y1*y3) + y1*(y3*(-y1*y1 + 1)))))) + x1*(x1*(x1*(x2*x3 -
        y2*y3) + y1*(-x2*y3 + y2*x3)) + y1*(y1*(-x2*x3 + y2*y3)) + x2*x3 - y2*y3) + y1*(y1*(y1*(x2*y3 -
        y2*x3)) - x2*y3 + y2*x3)) + x1*(y2*(x3*(x3*(x1*x1 - y1*y1 + 1)) + x1*x1 - y1*y1 + 1) +
        x1*(y1*(x2*(x3*x3 + 1)))) + y1*(x2*(y1*(y1*(-x3*x3 - 1)) + x3*x3 + 1))) + y3*(x1*(x2*(y3*(y3*(-x1*x1
        + y1*y1 - 1)) + x1*x1 - y1*y1 + 1) + x1*(y1*(y2*(-y3*y3 + 1)))) + y1*(y2*(y1*(y1*(y3*y3 - 1)) -
        y3*y3 + 1)))) * E d x2 y2
    + (x1*(x2*(y1*(y2*(d*(x1*(-x2*y3 + y2*x3) + y1*(x2*x3 - y2*y3)) + x1*(-x2*y3 + y2*x3) + y1*(x2*x3 - y2*y3)) +
        x1*(x3*(-x2*x2 - 1)) + y1*(y3*(x2*x2 + 1))) + y3*(x1*(x1*(-x2*x2 + y2*y2 - 1)) - x2*x2 + y2*y2 - 1)
        + x2*(y2*(x3*(-x1*x1 - 1)))) + y2*(x3*(y2*(y2*(x1*x1 - y1*y1 + 1)) - x1*x1 + y1*y1 - 1) +
        x1*(y1*(y3*(y2*y2 - 1))))) + y1*(x2*(x3*(y1*(y1*(x2*x2 - y2*y2 + 1)) - x2*x2 + y2*y2 - 1) +
        x2*(y2*(y3*(y1*y1 - 1)))) + y2*(y3*(y1*(y1*(-y2*y2 + 1)) + y2*y2 - 1)))) * E d x3 y3 := by
  simp only [xn, xd, yn, yd, E]; ring

end Dalek.Edwards
