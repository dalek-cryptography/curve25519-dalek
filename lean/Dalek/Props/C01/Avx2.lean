import Dalek.IR.NormSpec
import Dalek.Proofs.Avx2Field
/-!
# C01 — the AVX2 vector field backend computes exact arithmetic modulo 2^255-19, lane by lane

Statements are about `Dalek.Gen.Avx2Field.*`: the LimbIR programs REGENERATED on every run from
`curve25519-dalek/src/backend/vector/avx2/field.rs` by lane scalarisation.  A `FieldElement2625x4 = [u32x8; 5]` is a
list of 40 u32 lanes (lane `8 i + j` = lane `j` of vector `i`), holding four field elements A, B, C, D in radix
2^25.5: vector `i` is `(a_{2i}, b_{2i}, a_{2i+1}, b_{2i+1}, c_{2i}, d_{2i}, c_{2i+1}, d_{2i+1})`.
`vecVal k v : ZMod (2^255-19)` is the value of element `k ∈ {A,B,C,D}` of `v` (`Σ_m 2^⌈25.5 m⌉ · limb_m`),
`vecLimbs k v` its ten limbs, `elemVal k l` the value of the `k`-th of four `FieldElement51`, `wideVal k z` the value
of element `k` of ten u64x4 coefficient vectors.

Every theorem: for ALL inputs inside the bound contract `Dalek.Model.Contracts.Avx2Field.pre_<k>` (the documented
pre-condition), the lane-checked semantics `evalC` does not fail (no u32/u64 lane wraps), the wrapping semantics `evalW`
(what the SIMD instructions compute) returns the same lanes, these satisfy the DOCUMENTED output bound, and their
lane values in `ZMod p` are the field operation applied to the lane values of the inputs.
-/
set_option maxRecDepth 100000
namespace Dalek.Props.C01.Avx2
open Dalek.IR Dalek.Proofs.Avx2Field Dalek.Proofs.Field26 Dalek.Gen.Norm.Avx2Field Dalek.Model.Contracts

section
variable (x0 x1 x2 x3 x4 x5 x6 x7 x8 x9 x10 x11 x12 x13 x14 x15 x16 x17 x18 x19 x20 x21 x22 x23 x24 x25 x26 x27 x28 x29 x30 x31 x32 x33 x34 x35 x36 x37 x38 x39 y0 y1 y2 y3 y4 y5 y6 y7 y8 y9 y10 y11 y12 y13 y14 y15 y16 y17 y18 y19 y20 y21 y22 y23 y24 y25 y26 y27 y28 y29 y30 y31 y32 y33 y34 y35 y36 y37 y38 y39 : Nat)
/-- the vector `x` (40 lanes) -/
local notation "X" => (x0 :: x1 :: x2 :: x3 :: x4 :: x5 :: x6 :: x7 :: x8 :: x9 :: x10 :: x11 :: x12 :: x13 :: x14 :: x15 :: x16 :: x17 :: x18 :: x19 :: x20 :: x21 :: x22 :: x23 :: x24 :: x25 :: x26 :: x27 :: x28 :: x29 :: x30 :: x31 :: x32 :: x33 :: x34 :: x35 :: x36 :: x37 :: x38 :: x39 :: [])
/-- the vector `y` (40 lanes) -/
local notation "Y" => (y0 :: y1 :: y2 :: y3 :: y4 :: y5 :: y6 :: y7 :: y8 :: y9 :: y10 :: y11 :: y12 :: y13 :: y14 :: y15 :: y16 :: y17 :: y18 :: y19 :: y20 :: y21 :: y22 :: y23 :: y24 :: y25 :: y26 :: y27 :: y28 :: y29 :: y30 :: y31 :: y32 :: y33 :: y34 :: y35 :: y36 :: y37 :: y38 :: y39 :: [])

/-- `&x * &y`: first operand bounded with `b < 2.5`, second with `b < 1.75` (documented) ↦ `b < 0.007`, element-wise product -/
theorem mul_spec (hin : EnvIn (X ++ Y) Avx2Field.pre_mul) :
    ∃ out, Dalek.Gen.Avx2Field.mul.evalC (X ++ Y) = some out ∧ Dalek.Gen.Avx2Field.mul.evalW (X ++ Y) = out ∧
      EnvIn out b007 ∧
      ∀ k : Lane, vecVal k out = vecVal k X * vecVal k Y :=
  Prog.norm_spec mul_norm_ok (by decide +kernel) hin fun _ hZ k =>
    Prog.of_fn (V := laneVal k) hZ (mul_fn_ok ..) (mul_correct k ..)

/-- `x.square_and_negate_D()`: `b < 1.5` ↦ `b < 0.007`, `(A,B,C,D) ↦ (A², B², C², −D²)` -/
theorem square_and_negate_D_spec (hin : EnvIn X Avx2Field.pre_square_and_negate_D) :
    ∃ out, Dalek.Gen.Avx2Field.square_and_negate_D.evalC X = some out ∧ Dalek.Gen.Avx2Field.square_and_negate_D.evalW X = out ∧
      EnvIn out b007 ∧
      ∀ k : Lane, vecVal k out = k.sel (vecVal .A X ^ 2) (vecVal .B X ^ 2) (vecVal .C X ^ 2) (- vecVal .D X ^ 2) :=
  Prog.norm_spec square_and_negate_D_norm_ok (by decide +kernel) hin fun _ hZ k =>
    Prog.of_fn (V := laneVal k) hZ (square_and_negate_D_fn_ok ..) (square_and_negate_D_correct k ..)

/-- `x + y` (no reduction): lanes of both operands `< 2^31` ↦ element-wise sum -/
theorem add_spec (hin : EnvIn (X ++ Y) Avx2Field.pre_add) :
    ∃ out, Dalek.Gen.Avx2Field.add.evalC (X ++ Y) = some out ∧ Dalek.Gen.Avx2Field.add.evalW (X ++ Y) = out ∧
      EnvIn out Avx2Field.anyU32 ∧
      ∀ k : Lane, vecVal k out = vecVal k X + vecVal k Y :=
  Prog.norm_spec add_norm_ok (by decide +kernel) hin fun _ hZ k =>
    Prog.of_fn (V := laneVal k) hZ (add_fn_ok ..) (add_correct k ..)

/-- `x.negate_lazy()` (`2p − x`): `b < 0.999` ↦ `b < 1`, element-wise negation -/
theorem negate_lazy_spec (hin : EnvIn X Avx2Field.pre_negate_lazy) :
    ∃ out, Dalek.Gen.Avx2Field.negate_lazy.evalC X = some out ∧ Dalek.Gen.Avx2Field.negate_lazy.evalW X = out ∧
      EnvIn out b1 ∧
      ∀ k : Lane, vecVal k out = - vecVal k X :=
  Prog.norm_spec negate_lazy_norm_ok (by decide +kernel) hin fun _ hZ k =>
    Prog.of_fn (V := laneVal k) hZ (negate_lazy_fn_ok ..) (negate_lazy_correct k ..)

/-- `x.diff_sum()`: `b < 0.01` ↦ `b < 1.6`, `(A,B,C,D) ↦ (B − A, B + A, D − C, D + C)` -/
theorem diff_sum_spec (hin : EnvIn X Avx2Field.pre_diff_sum) :
    ∃ out, Dalek.Gen.Avx2Field.diff_sum.evalC X = some out ∧ Dalek.Gen.Avx2Field.diff_sum.evalW X = out ∧
      EnvIn out b16 ∧
      ∀ k : Lane, vecVal k out = k.sel (vecVal .B X - vecVal .A X) (vecVal .B X + vecVal .A X) (vecVal .D X - vecVal .C X) (vecVal .D X + vecVal .C X) :=
  Prog.norm_spec diff_sum_norm_ok (by decide +kernel) hin fun _ hZ k =>
    Prog.of_fn (V := laneVal k) hZ (diff_sum_fn_ok ..) (diff_sum_correct k ..)

/-- `x.reduce()`: ANY forty u32 lanes ↦ `b < 0.0002`, same four values -/
theorem reduce_spec (hin : EnvIn X Avx2Field.pre_reduce) :
    ∃ out, Dalek.Gen.Avx2Field.reduce.evalC X = some out ∧ Dalek.Gen.Avx2Field.reduce.evalW X = out ∧
      EnvIn out b0002 ∧
      ∀ k : Lane, vecVal k out = vecVal k X :=
  Prog.norm_spec reduce_norm_ok (by decide +kernel) hin fun _ hZ k => by
    have hb := bounded_of_envIn hin
    rw [show Avx2Field.pre_reduce.map (·.hi) = List.replicate 40 4294967295 by decide +kernel] at hb
    exact Prog.of_fn (V := laneVal k) hZ (reduce_fn_ok ..) (reduce_correct k (hb := hb) ..)

/-- `-x` (`16p − x`, then `reduce`): every lane `≤` the lane of `(16p,16p,16p,16p)` [documented: `b < 4.0`, which is not sufficient, see `Dalek.Props.C11.Avx2.neg_documented_bound_insufficient`] ↦ `b < 0.0002`, element-wise negation -/
theorem neg_spec (hin : EnvIn X Avx2Field.pre_neg) :
    ∃ out, Dalek.Gen.Avx2Field.neg.evalC X = some out ∧ Dalek.Gen.Avx2Field.neg.evalW X = out ∧
      EnvIn out b0002 ∧
      ∀ k : Lane, vecVal k out = - vecVal k X :=
  Prog.norm_spec neg_norm_ok (by decide +kernel) hin fun _ hZ k => by
    have hb := bounded_of_envIn hin
    rw [show Avx2Field.pre_neg.map (·.hi) = p16Lanes by decide +kernel] at hb
    exact Prog.of_fn (V := laneVal k) hZ (neg_fn_ok ..) (neg_correct k (hb := hb) ..)

/-- `reduce64(z)`: ten wide coefficient vectors (here: the 40 u64 lanes `X`) `≤ 2^64 − 2^39` ↦ `b < 0.007`, same four values -/
theorem reduce64_spec (hin : EnvIn X Avx2Field.pre_reduce64) :
    ∃ out, Dalek.Gen.Avx2Field.reduce64.evalC X = some out ∧ Dalek.Gen.Avx2Field.reduce64.evalW X = out ∧
      EnvIn out b007 ∧
      ∀ k : Lane, vecVal k out = wideVal k X :=
  Prog.norm_spec reduce64_norm_ok (by decide +kernel) hin fun _ hZ k =>
    Prog.of_fn (V := laneVal k) hZ (reduce64_fn_ok ..) (reduce64_correct k ..)

/-- `x.split()`: any forty u32 lanes ↦ four `FieldElement51` (20 limbs `< 2^59`) with the four lane values -/
theorem split_spec (hin : EnvIn X Avx2Field.pre_split) :
    ∃ out, Dalek.Gen.Avx2Field.split.evalC X = some out ∧ Dalek.Gen.Avx2Field.split.evalW X = out ∧
      EnvIn out (rep 20 (ub (2 ^ 59 - 1))) ∧
      ∀ k : Lane, elemVal k out = vecVal k X :=
  Prog.norm_spec split_norm_ok (by decide +kernel) hin fun _ hZ k =>
    Prog.of_fn (V := val51 k) hZ (split_fn_ok ..) (split_correct k ..)

/-- `x * (s0, s1, s2, s3)`: any u32 lanes, scalars `< 2^31` ↦ `b < 0.007`, `(s0 A, s1 B, s2 C, s3 D)` -/
theorem mul_consts_spec (s0 s1 s2 s3 : Nat) (hin : EnvIn (X ++ [s0, s1, s2, s3]) Avx2Field.pre_mul_consts) :
    ∃ out, Dalek.Gen.Avx2Field.mul_consts.evalC (X ++ [s0, s1, s2, s3]) = some out ∧ Dalek.Gen.Avx2Field.mul_consts.evalW (X ++ [s0, s1, s2, s3]) = out ∧
      EnvIn out b007 ∧
      ∀ k : Lane, vecVal k out = vecVal k X * ((k.sel s0 s1 s2 s3 : Nat) : ZMod P) :=
  Prog.norm_spec mul_consts_norm_ok (by decide +kernel) hin fun _ hZ k => by
    have hs : ((k.sel (s0 : Int) s1 s2 s3 : Int) : ZMod P) = ((k.sel s0 s1 s2 s3 : Nat) : ZMod P) := by
      cases k <;> simp [Lane.sel]
    exact hs ▸ Prog.of_fn (V := laneVal k) hZ (mul_consts_fn_ok ..) (mul_consts_correct k ..)

/-- `conditional_select(x, y, choice)` / `conditional_assign`: all lanes of `x` if `choice = 0`, all lanes of `y` if
`choice = 1` -/
theorem conditional_select_spec (c : Nat) (hin : EnvIn (X ++ Y ++ [c]) Avx2Field.pre_conditional_select) :
    ∃ out, Dalek.Gen.Avx2Field.conditional_select.evalC (X ++ Y ++ [c]) = some out ∧ Dalek.Gen.Avx2Field.conditional_select.evalW (X ++ Y ++ [c]) = out ∧
      out = if c = 0 then X else Y :=
  Prog.norm_val conditional_select_norm_ok hin fun out hZ => toZ_inj <| by
    rw [hZ.symm.trans ((conditional_select_fn_ok ..).trans (conditional_select_correct ..))]
    by_cases hc : c = 0
    · subst hc; rfl
    · rw [if_neg hc, if_neg fun h : Int.ofNat c = 0 => hc (Int.ofNat.inj h)]; rfl

theorem conditional_assign_spec (c : Nat) (hin : EnvIn (X ++ Y ++ [c]) Avx2Field.pre_conditional_assign) :
    ∃ out, Dalek.Gen.Avx2Field.conditional_assign.evalC (X ++ Y ++ [c]) = some out ∧ Dalek.Gen.Avx2Field.conditional_assign.evalW (X ++ Y ++ [c]) = out ∧
      out = if c = 0 then X else Y :=
  Prog.norm_val conditional_assign_norm_ok hin fun out hZ => toZ_inj <| by
    rw [hZ.symm.trans ((conditional_assign_fn_ok ..).trans (conditional_assign_correct ..))]
    by_cases hc : c = 0
    · subst hc; rfl
    · rw [if_neg hc, if_neg fun h : Int.ofNat c = 0 => hc (Int.ofNat.inj h)]; rfl

/-! ### shuffles and blends: pure renamings of whole elements (all ten limbs move together; no arithmetic, any lanes) -/

/-- `x.shuffle(Shuffle::AAAA)`: `(A,B,C,D) ↦ (A,A,A,A)` -/
theorem shuffle_AAAA_spec (hin : EnvIn X Avx2Field.pre_shuffle_AAAA) :
    ∃ out, Dalek.Gen.Avx2Field.shuffle_AAAA.evalC X = some out ∧ Dalek.Gen.Avx2Field.shuffle_AAAA.evalW X = out ∧
      ∀ k : Lane, vecLimbs k out = vecLimbs (k.sel .A .A .A .A) X :=
  Prog.norm_val shuffle_AAAA_norm_ok hin fun _ hZ k =>
    Prog.of_fn (V := lane k) hZ (shuffle_AAAA_fn_ok ..) (by cases k <;> rfl)

/-- `x.shuffle(Shuffle::BBBB)`: `(A,B,C,D) ↦ (B,B,B,B)` -/
theorem shuffle_BBBB_spec (hin : EnvIn X Avx2Field.pre_shuffle_BBBB) :
    ∃ out, Dalek.Gen.Avx2Field.shuffle_BBBB.evalC X = some out ∧ Dalek.Gen.Avx2Field.shuffle_BBBB.evalW X = out ∧
      ∀ k : Lane, vecLimbs k out = vecLimbs (k.sel .B .B .B .B) X :=
  Prog.norm_val shuffle_BBBB_norm_ok hin fun _ hZ k =>
    Prog.of_fn (V := lane k) hZ (shuffle_BBBB_fn_ok ..) (by cases k <;> rfl)

/-- `x.shuffle(Shuffle::CACA)`: `(A,B,C,D) ↦ (C,A,C,A)` -/
theorem shuffle_CACA_spec (hin : EnvIn X Avx2Field.pre_shuffle_CACA) :
    ∃ out, Dalek.Gen.Avx2Field.shuffle_CACA.evalC X = some out ∧ Dalek.Gen.Avx2Field.shuffle_CACA.evalW X = out ∧
      ∀ k : Lane, vecLimbs k out = vecLimbs (k.sel .C .A .C .A) X :=
  Prog.norm_val shuffle_CACA_norm_ok hin fun _ hZ k =>
    Prog.of_fn (V := lane k) hZ (shuffle_CACA_fn_ok ..) (by cases k <;> rfl)

/-- `x.shuffle(Shuffle::DBBD)`: `(A,B,C,D) ↦ (D,B,B,D)` -/
theorem shuffle_DBBD_spec (hin : EnvIn X Avx2Field.pre_shuffle_DBBD) :
    ∃ out, Dalek.Gen.Avx2Field.shuffle_DBBD.evalC X = some out ∧ Dalek.Gen.Avx2Field.shuffle_DBBD.evalW X = out ∧
      ∀ k : Lane, vecLimbs k out = vecLimbs (k.sel .D .B .B .D) X :=
  Prog.norm_val shuffle_DBBD_norm_ok hin fun _ hZ k =>
    Prog.of_fn (V := lane k) hZ (shuffle_DBBD_fn_ok ..) (by cases k <;> rfl)

/-- `x.shuffle(Shuffle::ADDA)`: `(A,B,C,D) ↦ (A,D,D,A)` -/
theorem shuffle_ADDA_spec (hin : EnvIn X Avx2Field.pre_shuffle_ADDA) :
    ∃ out, Dalek.Gen.Avx2Field.shuffle_ADDA.evalC X = some out ∧ Dalek.Gen.Avx2Field.shuffle_ADDA.evalW X = out ∧
      ∀ k : Lane, vecLimbs k out = vecLimbs (k.sel .A .D .D .A) X :=
  Prog.norm_val shuffle_ADDA_norm_ok hin fun _ hZ k =>
    Prog.of_fn (V := lane k) hZ (shuffle_ADDA_fn_ok ..) (by cases k <;> rfl)

/-- `x.shuffle(Shuffle::CBCB)`: `(A,B,C,D) ↦ (C,B,C,B)` -/
theorem shuffle_CBCB_spec (hin : EnvIn X Avx2Field.pre_shuffle_CBCB) :
    ∃ out, Dalek.Gen.Avx2Field.shuffle_CBCB.evalC X = some out ∧ Dalek.Gen.Avx2Field.shuffle_CBCB.evalW X = out ∧
      ∀ k : Lane, vecLimbs k out = vecLimbs (k.sel .C .B .C .B) X :=
  Prog.norm_val shuffle_CBCB_norm_ok hin fun _ hZ k =>
    Prog.of_fn (V := lane k) hZ (shuffle_CBCB_fn_ok ..) (by cases k <;> rfl)

/-- `x.shuffle(Shuffle::ABAB)`: `(A,B,C,D) ↦ (A,B,A,B)` -/
theorem shuffle_ABAB_spec (hin : EnvIn X Avx2Field.pre_shuffle_ABAB) :
    ∃ out, Dalek.Gen.Avx2Field.shuffle_ABAB.evalC X = some out ∧ Dalek.Gen.Avx2Field.shuffle_ABAB.evalW X = out ∧
      ∀ k : Lane, vecLimbs k out = vecLimbs (k.sel .A .B .A .B) X :=
  Prog.norm_val shuffle_ABAB_norm_ok hin fun _ hZ k =>
    Prog.of_fn (V := lane k) hZ (shuffle_ABAB_fn_ok ..) (by cases k <;> rfl)

/-- `x.shuffle(Shuffle::BADC)`: `(A,B,C,D) ↦ (B,A,D,C)` -/
theorem shuffle_BADC_spec (hin : EnvIn X Avx2Field.pre_shuffle_BADC) :
    ∃ out, Dalek.Gen.Avx2Field.shuffle_BADC.evalC X = some out ∧ Dalek.Gen.Avx2Field.shuffle_BADC.evalW X = out ∧
      ∀ k : Lane, vecLimbs k out = vecLimbs (k.sel .B .A .D .C) X :=
  Prog.norm_val shuffle_BADC_norm_ok hin fun _ hZ k =>
    Prog.of_fn (V := lane k) hZ (shuffle_BADC_fn_ok ..) (by cases k <;> rfl)

/-- `x.shuffle(Shuffle::BACD)`: `(A,B,C,D) ↦ (B,A,C,D)` -/
theorem shuffle_BACD_spec (hin : EnvIn X Avx2Field.pre_shuffle_BACD) :
    ∃ out, Dalek.Gen.Avx2Field.shuffle_BACD.evalC X = some out ∧ Dalek.Gen.Avx2Field.shuffle_BACD.evalW X = out ∧
      ∀ k : Lane, vecLimbs k out = vecLimbs (k.sel .B .A .C .D) X :=
  Prog.norm_val shuffle_BACD_norm_ok hin fun _ hZ k =>
    Prog.of_fn (V := lane k) hZ (shuffle_BACD_fn_ok ..) (by cases k <;> rfl)

/-- `x.shuffle(Shuffle::ABDC)`: `(A,B,C,D) ↦ (A,B,D,C)` -/
theorem shuffle_ABDC_spec (hin : EnvIn X Avx2Field.pre_shuffle_ABDC) :
    ∃ out, Dalek.Gen.Avx2Field.shuffle_ABDC.evalC X = some out ∧ Dalek.Gen.Avx2Field.shuffle_ABDC.evalW X = out ∧
      ∀ k : Lane, vecLimbs k out = vecLimbs (k.sel .A .B .D .C) X :=
  Prog.norm_val shuffle_ABDC_norm_ok hin fun _ hZ k =>
    Prog.of_fn (V := lane k) hZ (shuffle_ABDC_fn_ok ..) (by cases k <;> rfl)

/-- `x.blend(y, Lanes::C)`: elements C from `y`, the others from `x` -/
theorem blend_C_spec (hin : EnvIn (X ++ Y) Avx2Field.pre_blend_C) :
    ∃ out, Dalek.Gen.Avx2Field.blend_C.evalC (X ++ Y) = some out ∧ Dalek.Gen.Avx2Field.blend_C.evalW (X ++ Y) = out ∧
      ∀ k : Lane, vecLimbs k out = k.sel (vecLimbs .A X) (vecLimbs .B X) (vecLimbs .C Y) (vecLimbs .D X) :=
  Prog.norm_val blend_C_norm_ok hin fun _ hZ k =>
    Prog.of_fn (V := lane k) hZ (blend_C_fn_ok ..) (by cases k <;> rfl)

/-- `x.blend(y, Lanes::D)`: elements D from `y`, the others from `x` -/
theorem blend_D_spec (hin : EnvIn (X ++ Y) Avx2Field.pre_blend_D) :
    ∃ out, Dalek.Gen.Avx2Field.blend_D.evalC (X ++ Y) = some out ∧ Dalek.Gen.Avx2Field.blend_D.evalW (X ++ Y) = out ∧
      ∀ k : Lane, vecLimbs k out = k.sel (vecLimbs .A X) (vecLimbs .B X) (vecLimbs .C X) (vecLimbs .D Y) :=
  Prog.norm_val blend_D_norm_ok hin fun _ hZ k =>
    Prog.of_fn (V := lane k) hZ (blend_D_fn_ok ..) (by cases k <;> rfl)

/-- `x.blend(y, Lanes::AB)`: elements A,B from `y`, the others from `x` -/
theorem blend_AB_spec (hin : EnvIn (X ++ Y) Avx2Field.pre_blend_AB) :
    ∃ out, Dalek.Gen.Avx2Field.blend_AB.evalC (X ++ Y) = some out ∧ Dalek.Gen.Avx2Field.blend_AB.evalW (X ++ Y) = out ∧
      ∀ k : Lane, vecLimbs k out = k.sel (vecLimbs .A Y) (vecLimbs .B Y) (vecLimbs .C X) (vecLimbs .D X) :=
  Prog.norm_val blend_AB_norm_ok hin fun _ hZ k =>
    Prog.of_fn (V := lane k) hZ (blend_AB_fn_ok ..) (by cases k <;> rfl)

/-- `x.blend(y, Lanes::AC)`: elements A,C from `y`, the others from `x` -/
theorem blend_AC_spec (hin : EnvIn (X ++ Y) Avx2Field.pre_blend_AC) :
    ∃ out, Dalek.Gen.Avx2Field.blend_AC.evalC (X ++ Y) = some out ∧ Dalek.Gen.Avx2Field.blend_AC.evalW (X ++ Y) = out ∧
      ∀ k : Lane, vecLimbs k out = k.sel (vecLimbs .A Y) (vecLimbs .B X) (vecLimbs .C Y) (vecLimbs .D X) :=
  Prog.norm_val blend_AC_norm_ok hin fun _ hZ k =>
    Prog.of_fn (V := lane k) hZ (blend_AC_fn_ok ..) (by cases k <;> rfl)

/-- `x.blend(y, Lanes::CD)`: elements C,D from `y`, the others from `x` -/
theorem blend_CD_spec (hin : EnvIn (X ++ Y) Avx2Field.pre_blend_CD) :
    ∃ out, Dalek.Gen.Avx2Field.blend_CD.evalC (X ++ Y) = some out ∧ Dalek.Gen.Avx2Field.blend_CD.evalW (X ++ Y) = out ∧
      ∀ k : Lane, vecLimbs k out = k.sel (vecLimbs .A X) (vecLimbs .B X) (vecLimbs .C Y) (vecLimbs .D Y) :=
  Prog.norm_val blend_CD_norm_ok hin fun _ hZ k =>
    Prog.of_fn (V := lane k) hZ (blend_CD_fn_ok ..) (by cases k <;> rfl)

/-- `x.blend(y, Lanes::AD)`: elements A,D from `y`, the others from `x` -/
theorem blend_AD_spec (hin : EnvIn (X ++ Y) Avx2Field.pre_blend_AD) :
    ∃ out, Dalek.Gen.Avx2Field.blend_AD.evalC (X ++ Y) = some out ∧ Dalek.Gen.Avx2Field.blend_AD.evalW (X ++ Y) = out ∧
      ∀ k : Lane, vecLimbs k out = k.sel (vecLimbs .A Y) (vecLimbs .B X) (vecLimbs .C X) (vecLimbs .D Y) :=
  Prog.norm_val blend_AD_norm_ok hin fun _ hZ k =>
    Prog.of_fn (V := lane k) hZ (blend_AD_fn_ok ..) (by cases k <;> rfl)

/-- `x.blend(y, Lanes::BC)`: elements B,C from `y`, the others from `x` -/
theorem blend_BC_spec (hin : EnvIn (X ++ Y) Avx2Field.pre_blend_BC) :
    ∃ out, Dalek.Gen.Avx2Field.blend_BC.evalC (X ++ Y) = some out ∧ Dalek.Gen.Avx2Field.blend_BC.evalW (X ++ Y) = out ∧
      ∀ k : Lane, vecLimbs k out = k.sel (vecLimbs .A X) (vecLimbs .B Y) (vecLimbs .C Y) (vecLimbs .D X) :=
  Prog.norm_val blend_BC_norm_ok hin fun _ hZ k =>
    Prog.of_fn (V := lane k) hZ (blend_BC_fn_ok ..) (by cases k <;> rfl)

/-- `x.blend(y, Lanes::ABCD)`: elements A,B,C,D from `y`, the others from `x` -/
theorem blend_ABCD_spec (hin : EnvIn (X ++ Y) Avx2Field.pre_blend_ABCD) :
    ∃ out, Dalek.Gen.Avx2Field.blend_ABCD.evalC (X ++ Y) = some out ∧ Dalek.Gen.Avx2Field.blend_ABCD.evalW (X ++ Y) = out ∧
      ∀ k : Lane, vecLimbs k out = k.sel (vecLimbs .A Y) (vecLimbs .B Y) (vecLimbs .C Y) (vecLimbs .D Y) :=
  Prog.norm_val blend_ABCD_norm_ok hin fun _ hZ k =>
    Prog.of_fn (V := lane k) hZ (blend_ABCD_fn_ok ..) (by cases k <;> rfl)

end

/-- `FieldElement2625x4::new(a, b, c, d)`: four `FieldElement51` with limbs `< 2^54` ↦ vector bounded with
`b < 0.0002` whose element `k` has the value of the `k`-th argument -/
theorem new_spec (a0 a1 a2 a3 a4 b0 b1 b2 b3 b4 c0 c1 c2 c3 c4 d0 d1 d2 d3 d4 : Nat)
    (hin : EnvIn (a0 :: a1 :: a2 :: a3 :: a4 :: b0 :: b1 :: b2 :: b3 :: b4 :: c0 :: c1 :: c2 :: c3 :: c4 :: d0 :: d1 :: d2 :: d3 :: d4 :: []) Avx2Field.pre_new) :
    ∃ out, Dalek.Gen.Avx2Field.new.evalC (a0 :: a1 :: a2 :: a3 :: a4 :: b0 :: b1 :: b2 :: b3 :: b4 :: c0 :: c1 :: c2 :: c3 :: c4 :: d0 :: d1 :: d2 :: d3 :: d4 :: []) = some out ∧
      Dalek.Gen.Avx2Field.new.evalW (a0 :: a1 :: a2 :: a3 :: a4 :: b0 :: b1 :: b2 :: b3 :: b4 :: c0 :: c1 :: c2 :: c3 :: c4 :: d0 :: d1 :: d2 :: d3 :: d4 :: []) = out ∧
      EnvIn out b0002 ∧
      ∀ k : Lane, vecVal k out = elemVal k (a0 :: a1 :: a2 :: a3 :: a4 :: b0 :: b1 :: b2 :: b3 :: b4 :: c0 :: c1 :: c2 :: c3 :: c4 :: d0 :: d1 :: d2 :: d3 :: d4 :: []) :=
  Prog.norm_spec new_norm_ok (by decide +kernel) hin fun _ hZ k => by
    have hb := bounded_of_envIn hin
    rw [show Avx2Field.pre_new.map (·.hi) = List.replicate 20 18014398509481983 by decide +kernel] at hb
    exact Prog.of_fn (V := laneVal k) hZ (new_fn_ok ..) (new_correct k (hb := hb) ..)

/-- the value of an element is a function of its ten limbs: the shuffle / blend statements transfer to values -/
theorem vecVal_congr {k k' : Lane} {v w : List Nat} (h : vecLimbs k v = vecLimbs k' w) : vecVal k v = vecVal k' w := by
  rw [vecVal_eq_limbs, vecVal_eq_limbs, h]

/-! Non-vacuity: the all-lanes-at-the-bound inputs satisfy the contracts (the hypotheses of the theorems above are
`EnvIn <input> pre_<k>` for arbitrary inputs, so this shows they are satisfiable at the extreme point). -/
example : EnvIn (Avx2Field.pre_new.map (·.hi)) Avx2Field.pre_new := by decide +kernel
example : EnvIn (Avx2Field.pre_split.map (·.hi)) Avx2Field.pre_split := by decide +kernel
example : EnvIn (Avx2Field.pre_negate_lazy.map (·.hi)) Avx2Field.pre_negate_lazy := by decide +kernel
example : EnvIn (Avx2Field.pre_diff_sum.map (·.hi)) Avx2Field.pre_diff_sum := by decide +kernel
example : EnvIn (Avx2Field.pre_reduce.map (·.hi)) Avx2Field.pre_reduce := by decide +kernel
example : EnvIn (Avx2Field.pre_neg.map (·.hi)) Avx2Field.pre_neg := by decide +kernel
example : EnvIn (Avx2Field.pre_add.map (·.hi)) Avx2Field.pre_add := by decide +kernel
example : EnvIn (Avx2Field.pre_mul_consts.map (·.hi)) Avx2Field.pre_mul_consts := by decide +kernel
example : EnvIn (Avx2Field.pre_square_and_negate_D.map (·.hi)) Avx2Field.pre_square_and_negate_D := by decide +kernel
example : EnvIn (Avx2Field.pre_mul.map (·.hi)) Avx2Field.pre_mul := by decide +kernel
example : EnvIn (Avx2Field.pre_reduce64.map (·.hi)) Avx2Field.pre_reduce64 := by decide +kernel
example : EnvIn (Avx2Field.pre_conditional_select.map (·.hi)) Avx2Field.pre_conditional_select := by decide +kernel
example : EnvIn (Avx2Field.pre_conditional_assign.map (·.hi)) Avx2Field.pre_conditional_assign := by decide +kernel
example : EnvIn (Avx2Field.pre_shuffle_BADC.map (·.hi)) Avx2Field.pre_shuffle_BADC := by decide +kernel
example : EnvIn (Avx2Field.pre_blend_AB.map (·.hi)) Avx2Field.pre_blend_AB := by decide +kernel

end Dalek.Props.C01.Avx2
