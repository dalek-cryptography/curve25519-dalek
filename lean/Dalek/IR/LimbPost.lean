import Dalek.IR.Limb
/-!
# `Prog.post` — the interval half of `Prog.norm`, arranged for evaluation by the Lean kernel

`Prog.post p pre = (p.norm pre).map (·.2)` (`Prog.post_eq`).  The tables of `Props/C11` and `Proofs/KLane` are closed
Boolean statements which the kernel evaluates, and in them only the post-intervals of `Prog.norm` are looked at.
`normBody` appends every new interval to the END of its environment; under the kernel's lazy reduction each such
append rebuilds the list up to the cell looked up next, so a statement costs time proportional to the length of the
environment.  Here the intervals of the locals are kept NEWEST FIRST in a list of their own, beside the unchanged
inputs: a new local is one `cons`, a lookup walks as far back as the variable was defined, and no normal form (`NE`)
is built.
-/
namespace Dalek.IR

/-! ### the interval of every case of `E.norm` -/

def Itv.bin (f : Itv → Itv → Option Itv) : Option Itv → Option Itv → Option Itv
  | some a, some b => f a b
  | _, _ => none

def Itv.un (f : Itv → Option Itv) : Option Itv → Option Itv
  | some a => f a
  | none => none

def Itv.addC (w : Nat) (ia ib : Itv) : Option Itv :=
  if ia.hi + ib.hi < 2 ^ w then some ⟨ia.lo + ib.lo, ia.hi + ib.hi, min ia.tz ib.tz⟩ else none

def Itv.subC (w : Nat) (ia ib : Itv) : Option Itv :=
  if ib.hi ≤ ia.lo ∧ ia.hi < 2 ^ w then some ⟨ia.lo - ib.hi, ia.hi - ib.lo, min ia.tz ib.tz⟩ else none

def Itv.mulC (w : Nat) (ia ib : Itv) : Option Itv :=
  if ia.hi * ib.hi < 2 ^ w then some ⟨ia.lo * ib.lo, ia.hi * ib.hi, ia.tz + ib.tz⟩ else none

def Itv.addW (w : Nat) (ia ib : Itv) : Option Itv :=
  if ia.hi + ib.hi < 2 ^ w then some ⟨ia.lo + ib.lo, ia.hi + ib.hi, min ia.tz ib.tz⟩
  else some ⟨0, 2 ^ w - 1, min (min ia.tz ib.tz) w⟩

def Itv.subW (w : Nat) (ia ib : Itv) : Option Itv :=
  if ib.hi ≤ ia.lo ∧ ia.hi < 2 ^ w then some ⟨ia.lo - ib.hi, ia.hi - ib.lo, min ia.tz ib.tz⟩
  else some ⟨0, 2 ^ w - 1, min (min ia.tz ib.tz) w⟩

def Itv.mulW (w : Nat) (ia ib : Itv) : Option Itv :=
  if ia.hi * ib.hi < 2 ^ w then some ⟨ia.lo * ib.lo, ia.hi * ib.hi, ia.tz + ib.tz⟩
  else some ⟨0, 2 ^ w - 1, min (ia.tz + ib.tz) w⟩

def Itv.shr (k : Nat) (ia : Itv) : Option Itv := some ⟨ia.lo / 2 ^ k, ia.hi / 2 ^ k, ia.tz - k⟩

def Itv.shl (w k : Nat) (ia : Itv) : Option Itv :=
  if ia.hi * 2 ^ k < 2 ^ w then some ⟨ia.lo * 2 ^ k, ia.hi * 2 ^ k, ia.tz + k⟩
  else some ⟨0, 2 ^ w - 1, min (ia.tz + k) w⟩

def Itv.band (ia ib : Itv) : Option Itv :=
  if ia.hi < 2 ^ ib.tz ∨ ib.hi < 2 ^ ia.tz then some ⟨0, 0, 200⟩
  else
  match (if ib.lo = ib.hi then isMask ib.hi else none) with
  | some k => if ia.hi < 2 ^ k then some ia else some ⟨0, 2 ^ k - 1, min ia.tz k⟩
  | none => some ⟨0, min ia.hi ib.hi, 0⟩

def Itv.bor (ia ib : Itv) : Option Itv :=
  if ia.hi < 2 ^ ib.tz ∨ ib.hi < 2 ^ ia.tz then some ⟨ia.lo + ib.lo, ia.hi + ib.hi, min ia.tz ib.tz⟩
  else some ⟨0, bitCeil (max ia.hi ib.hi), 0⟩

def Itv.bxor (ia ib : Itv) : Option Itv := some ⟨0, bitCeil (max ia.hi ib.hi), 0⟩

def Itv.cast (w : Nat) (ia : Itv) : Option Itv :=
  if ia.hi < 2 ^ w then some ia else some ⟨0, 2 ^ w - 1, min ia.tz w⟩

def Itv.sel : Option Itv → Option Itv → Option Itv → Option Itv
  | some ic, some ia, some ib =>
    if ic.hi < 2 then some ⟨min ia.lo ib.lo, max ia.hi ib.hi, min ia.tz ib.tz⟩ else none
  | _, _, _ => none

/-- the interval `E.norm` computes, the environment given as a lookup function -/
def E.itv (look : Nat → Option Itv) : E → Option Itv
  | .v i => look i
  | .c n => some ⟨n, n, tzOf 200 n⟩
  | .add w a b => Itv.bin (Itv.addC w) (a.itv look) (b.itv look)
  | .sub w a b => Itv.bin (Itv.subC w) (a.itv look) (b.itv look)
  | .mul w a b => Itv.bin (Itv.mulC w) (a.itv look) (b.itv look)
  | .wadd w a b => Itv.bin (Itv.addW w) (a.itv look) (b.itv look)
  | .wsub w a b => Itv.bin (Itv.subW w) (a.itv look) (b.itv look)
  | .wmul w a b => Itv.bin (Itv.mulW w) (a.itv look) (b.itv look)
  | .shr a k => Itv.un (Itv.shr k) (a.itv look)
  | .shl w a k => Itv.un (Itv.shl w k) (a.itv look)
  | .band a b => Itv.bin Itv.band (a.itv look) (b.itv look)
  | .bor a b => Itv.bin Itv.bor (a.itv look) (b.itv look)
  | .bxor a b => Itv.bin Itv.bxor (a.itv look) (b.itv look)
  | .cast w a => Itv.un (Itv.cast w) (a.itv look)
  | .sel cnd a b => Itv.sel (cnd.itv look) (a.itv look) (b.itv look)

theorem E.itv_eq {look : Nat → Option Itv} {ienv : List Itv} (h : ∀ i, look i = ienv[i]?) :
    ∀ e : E, e.itv look = (e.norm ienv).map (·.1)
  | .v i => by
      simp only [E.itv, E.norm, h i]
      cases ienv[i]? <;> rfl
  | .c n => rfl
  | .add w a b => by
      simp only [E.itv, E.norm, E.itv_eq h a, E.itv_eq h b]
      rcases a.norm ienv with _ | ⟨ia, na⟩ <;> rcases b.norm ienv with _ | ⟨ib, nb⟩ <;>
        simp [Itv.bin, Itv.addC] <;> split <;> simp
  | .sub w a b => by
      simp only [E.itv, E.norm, E.itv_eq h a, E.itv_eq h b]
      rcases a.norm ienv with _ | ⟨ia, na⟩ <;> rcases b.norm ienv with _ | ⟨ib, nb⟩ <;>
        simp [Itv.bin, Itv.subC] <;> split <;> simp
  | .mul w a b => by
      simp only [E.itv, E.norm, E.itv_eq h a, E.itv_eq h b]
      rcases a.norm ienv with _ | ⟨ia, na⟩ <;> rcases b.norm ienv with _ | ⟨ib, nb⟩ <;>
        simp [Itv.bin, Itv.mulC] <;> split <;> simp
  | .wadd w a b => by
      simp only [E.itv, E.norm, E.itv_eq h a, E.itv_eq h b]
      rcases a.norm ienv with _ | ⟨ia, na⟩ <;> rcases b.norm ienv with _ | ⟨ib, nb⟩ <;>
        simp [Itv.bin, Itv.addW] <;> split <;> simp
  | .wsub w a b => by
      simp only [E.itv, E.norm, E.itv_eq h a, E.itv_eq h b]
      rcases a.norm ienv with _ | ⟨ia, na⟩ <;> rcases b.norm ienv with _ | ⟨ib, nb⟩ <;>
        simp [Itv.bin, Itv.subW] <;> split <;> simp
  | .wmul w a b => by
      simp only [E.itv, E.norm, E.itv_eq h a, E.itv_eq h b]
      rcases a.norm ienv with _ | ⟨ia, na⟩ <;> rcases b.norm ienv with _ | ⟨ib, nb⟩ <;>
        simp [Itv.bin, Itv.mulW] <;> split <;> simp
  | .shr a k => by
      simp only [E.itv, E.norm, E.itv_eq h a]
      rcases a.norm ienv with _ | ⟨ia, na⟩ <;> simp [Itv.un, Itv.shr]
  | .shl w a k => by
      simp only [E.itv, E.norm, E.itv_eq h a]
      rcases a.norm ienv with _ | ⟨ia, na⟩ <;> simp [Itv.un, Itv.shl] <;> split <;> simp
  | .band a b => by
      simp only [E.itv, E.norm, E.itv_eq h a, E.itv_eq h b]
      rcases a.norm ienv with _ | ⟨ia, na⟩ <;> rcases b.norm ienv with _ | ⟨ib, nb⟩ <;>
        simp [Itv.bin, Itv.band]
      generalize (if ib.lo = ib.hi then isMask ib.hi else none) = o
      split
      · simp
      · rcases o with _ | k
        · simp
        · simp only []
          split <;> simp
  | .bor a b => by
      simp only [E.itv, E.norm, E.itv_eq h a, E.itv_eq h b]
      rcases a.norm ienv with _ | ⟨ia, na⟩ <;> rcases b.norm ienv with _ | ⟨ib, nb⟩ <;>
        simp [Itv.bin, Itv.bor] <;> split <;> simp
  | .bxor a b => by
      simp only [E.itv, E.norm, E.itv_eq h a, E.itv_eq h b]
      rcases a.norm ienv with _ | ⟨ia, na⟩ <;> rcases b.norm ienv with _ | ⟨ib, nb⟩ <;>
        simp [Itv.bin, Itv.bxor]
  | .cast w a => by
      simp only [E.itv, E.norm, E.itv_eq h a]
      rcases a.norm ienv with _ | ⟨ia, na⟩ <;> simp [Itv.un, Itv.cast] <;> split <;> simp
  | .sel cnd a b => by
      simp only [E.itv, E.norm, E.itv_eq h cnd, E.itv_eq h a, E.itv_eq h b]
      rcases cnd.norm ienv with _ | ⟨ic, nc⟩ <;> rcases a.norm ienv with _ | ⟨ia, na⟩ <;>
        rcases b.norm ienv with _ | ⟨ib, nb⟩ <;> simp [Itv.sel] <;> split <;> simp

/-! ### statements: inputs `pre` (`n` of them), locals newest first (`m` of them) -/

def look (pre : List Itv) (n : Nat) (loc : List Itv) (m : Nat) (i : Nat) : Option Itv :=
  if i < n then pre[i]? else if i - n < m then loc[m - 1 - (i - n)]? else none

theorem look_eq (pre loc : List Itv) (i : Nat) :
    look pre pre.length loc loc.length i = (pre ++ loc.reverse)[i]? := by
  unfold look
  split
  · rename_i hi
    rw [List.getElem?_append_left hi]
  · rename_i hi
    rw [List.getElem?_append_right (by omega)]
    split
    · rename_i hm
      rw [List.getElem?_reverse hm]
    · rename_i hm
      rw [List.getElem?_eq_none (by simpa using Nat.le_of_not_lt hm)]

def postBody (pre : List Itv) (n : Nat) : List S → List Itv → Nat → Option (List Itv × Nat)
  | [], loc, m => some (loc, m)
  | .set e :: ss, loc, m =>
    match e.itv (look pre n loc m) with
    | some t => postBody pre n ss (t :: loc) (m + 1)
    | none => none
  | .assertLt e k :: ss, loc, m =>
    match e.itv (look pre n loc m) with
    | some t => if t.hi < k then postBody pre n ss loc m else none
    | none => none

theorem postBody_eq (pre : List Itv) : ∀ (ss : List S) (loc : List Itv),
    (postBody pre pre.length ss loc loc.length).map (fun r => (pre ++ r.1.reverse, r.2)) =
      (normBody ss (pre ++ loc.reverse)).map (fun r => (r.1, r.1.length - pre.length))
  | [], loc => by simp [postBody, normBody]
  | .set e :: ss, loc => by
      have ih := fun t => postBody_eq pre ss (t :: loc)
      simp only [postBody, normBody, E.itv_eq (look_eq pre loc) e]
      rcases e.norm (pre ++ loc.reverse) with _ | ⟨t, ne⟩
      · simp
      · have ih := ih t
        simp only [List.reverse_cons, ← List.append_assoc, List.length_cons] at ih
        simp only [Option.map_some, Option.bind_eq_bind, Option.bind_some, ih]
        rcases normBody ss (pre ++ loc.reverse ++ [t]) with _ | ⟨ienv', nes⟩ <;> simp
  | .assertLt e k :: ss, loc => by
      simp only [postBody, normBody, E.itv_eq (look_eq pre loc) e]
      rcases e.norm (pre ++ loc.reverse) with _ | ⟨t, ne⟩
      · simp
      · simp only [Option.map_some, Option.bind_eq_bind, Option.bind_some]
        split
        · exact postBody_eq pre ss loc
        · simp

def pickP (f : Nat → Option Itv) : List Nat → Option (List Itv)
  | [] => some []
  | i :: is =>
    match f i, pickP f is with
    | some t, some r => some (t :: r)
    | _, _ => none

theorem pickP_eq {f : Nat → Option Itv} {ienv : List Itv} (h : ∀ i, f i = ienv[i]?) :
    ∀ outs : List Nat, pickP f outs = pickI ienv outs
  | [] => rfl
  | i :: is => by
      have ih := pickP_eq h is
      simp only [pickI] at ih ⊢
      simp only [pickP, h i, ih, List.mapM_cons]
      cases ienv[i]? <;> cases List.mapM (fun i => ienv[i]?) is <;> rfl

/-- the post-intervals of `p` under `pre`, if the analysis succeeds -/
def Prog.post (p : Prog) (pre : List Itv) : Option (List Itv) :=
  if pre.length = p.nIn then
    match postBody pre p.nIn p.body [] 0 with
    | some (loc, m) => pickP (look pre p.nIn loc m) p.outs
    | none => none
  else none

theorem Prog.post_eq (p : Prog) (pre : List Itv) : p.post pre = (p.norm pre).map (·.2) := by
  unfold Prog.post Prog.norm
  split
  · rename_i hn
    have hb := postBody_eq pre p.body []
    simp only [List.reverse_nil, List.append_nil, List.length_nil, hn] at hb
    rcases hp : postBody pre p.nIn p.body [] 0 with _ | ⟨loc, m⟩
    · rw [hp] at hb
      rcases hq : normBody p.body pre with _ | ⟨ienv, nes⟩
      · rfl
      · rw [hq] at hb; simp at hb
    · rw [hp] at hb
      rcases hq : normBody p.body pre with _ | ⟨ienv, nes⟩
      · rw [hq] at hb; simp at hb
      · rw [hq] at hb
        simp only [Option.map_some, Option.some.injEq, Prod.mk.injEq] at hb
        obtain ⟨h1, h2⟩ := hb
        have hl : ∀ i, look pre p.nIn loc m i = ienv[i]? := by
          intro i
          have : m = loc.length := by
            have := congrArg List.length h1
            simp only [List.length_append, List.length_reverse] at this
            omega
          rw [← h1, ← hn, this]
          exact look_eq pre loc i
        simp only [pickP_eq hl p.outs, Option.bind_eq_bind, Option.bind_some]
        cases pickI ienv p.outs <;> rfl
  · rfl

theorem Prog.norm_of_post {p : Prog} {pre post : List Itv} (h : p.post pre = some post) :
    ∃ q, p.norm pre = some (q, post) := by
  rw [Prog.post_eq] at h
  rcases hn : p.norm pre with _ | ⟨q, t⟩
  · rw [hn] at h; simp at h
  · rw [hn] at h
    simp only [Option.map_some, Option.some.injEq] at h
    exact ⟨q, by rw [h]⟩

end Dalek.IR
