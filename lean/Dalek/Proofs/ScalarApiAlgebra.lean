import Dalek.Props.C02.Scalar52
import Dalek.Proofs.ByteLists
import Dalek.Model.ScalarApi
import Dalek.Proofs.Primes
import Mathlib.FieldTheory.Finite.Basic
import Mathlib.Tactic.FieldSimp
import Mathlib.Tactic.Ring
/-!
# `Scalar` API glue: canonical byte strings as elements of the field `ZMod l`

`Canonical b`: `b` is 32 bytes whose little-endian value is `< l` (the invariant of every `Scalar`).
`IsSc b v`: the canonical bytes `b` represent `v : ZMod l`.  Nothing here mentions a backend; the kernels enter in
`Dalek/Proofs/ScalarApi29Gen.lean`.
-/
set_option exponentiation.threshold 600

namespace Dalek.Proofs.ScalarApi
open Dalek.IR Dalek.Model.Contracts Dalek.Gen.Consts Dalek.Model.ScalarApi
open Dalek.Model.FieldBytes (leVal natToLeN)
open Dalek.Proofs.Bytes51 (AllBytes envIn_bytes leVal_lt natToLeN_leVal eq_natToLeN_of_leVal natToLeN_getD)
open Dalek.Props.C02.Scalar52 (l)

/-- the scalar field -/
abbrev F : Type := ZMod l

/-- 32 bytes whose little-endian value is below the group order -/
def Canonical (b : List Nat) : Prop := EnvIn b (bytes 32) ∧ leVal b < l

/-- canonical bytes representing `v` -/
def IsSc (b : List Nat) (v : F) : Prop := Canonical b ∧ ((leVal b : Nat) : F) = v

/-! ## arithmetic facts -/

theorem l_lt_pow : l < 2 ^ 253 := by norm_num [l]
theorem l_pos : 0 < l := by norm_num [l]

theorem two_ne_zero_l : (2 : F) ≠ 0 := by
  intro h
  have h2 : ((2 : Nat) : F) = 0 := by exact_mod_cast h
  have := Nat.le_of_dvd (by norm_num) ((ZMod.natCast_eq_zero_iff 2 l).1 h2)
  norm_num [l] at this

/-- `x = n mod l` from equality of casts, for `x < l` -/
theorem eq_mod_of_cast {x n : Nat} (hx : x < l) (h : ((x : Nat) : F) = ((n : Nat) : F)) : x = n % l := by
  have := (ZMod.natCast_eq_natCast_iff' x n l).1 h
  rwa [Nat.mod_eq_of_lt hx] at this

theorem cast_of_mod_eq {x y : Nat} (h : x % l = y % l) : ((x : Nat) : F) = ((y : Nat) : F) :=
  (ZMod.natCast_eq_natCast_iff' x y l).2 h

theorem cast_ne_zero {x : Nat} (h0 : x ≠ 0) (hx : x < l) : ((x : Nat) : F) ≠ 0 := by
  intro h
  have := Nat.le_of_dvd (Nat.pos_of_ne_zero h0) ((ZMod.natCast_eq_zero_iff x l).1 h)
  omega

theorem cast_eq_zero_iff {x : Nat} (hx : x < l) : ((x : Nat) : F) = 0 ↔ x = 0 := by
  constructor
  · intro h
    by_contra h0
    exact cast_ne_zero h0 hx h
  · rintro rfl; simp

/-- Fermat: `u^(l-2) = u⁻¹` (total: `0⁻¹ = 0`) -/
theorem pow_l_sub_two (u : F) : u ^ (l - 2) = u⁻¹ := by
  by_cases hu : u = 0
  · subst hu
    rw [inv_zero]
    exact zero_pow (by norm_num [l])
  · apply eq_inv_of_mul_eq_one_left
    rw [← pow_succ]
    have h : l - 2 + 1 = l - 1 := by norm_num [l]
    rw [h]
    have := ZMod.pow_card_sub_one_eq_one hu
    exact this

/-! ## `Canonical`, `IsSc` -/

theorem Canonical.isSc {b : List Nat} (h : Canonical b) : IsSc b ((leVal b : Nat) : F) := ⟨h, rfl⟩

theorem IsSc.canonical {b : List Nat} {v : F} (h : IsSc b v) : Canonical b := h.1

theorem IsSc.val_eq {b : List Nat} {n : Nat} (h : IsSc b ((n : Nat) : F)) : leVal b = n % l :=
  eq_mod_of_cast h.1.2 h.2

/-- the statement about naturals that the property theorems give for a scalar representing `n` -/
theorem IsSc.spec {b : List Nat} {n : Nat} (h : IsSc b ((n : Nat) : F)) : Canonical b ∧ leVal b = n % l :=
  ⟨h.1, h.val_eq⟩

/-- `a` represents the inverse of `n ≠ 0`: `a·n ≡ 1 (mod l)` -/
theorem mul_mod_eq_one {a n : Nat} (h : ((a : Nat) : F) = ((n : Nat) : F)⁻¹) (hn : ((n : Nat) : F) ≠ 0) :
    a * n % l = 1 := by
  have e : ((a * n : Nat) : F) = ((1 : Nat) : F) := by rw [Nat.cast_mul, h, Nat.cast_one, inv_mul_cancel₀ hn]
  have := (ZMod.natCast_eq_natCast_iff' _ _ l).1 e
  rwa [Nat.mod_eq_of_lt (show 1 < l by norm_num [l])] at this

/-- canonical byte strings are determined by the represented value -/
theorem IsSc.unique {b b' : List Nat} {v : F} (h : IsSc b v) (h' : IsSc b' v) : b = b' := by
  have hv : leVal b = leVal b' := by
    have := eq_mod_of_cast h.1.2 (h.2.trans h'.2.symm)
    rwa [Nat.mod_eq_of_lt h'.1.2] at this
  obtain ⟨hl, hb⟩ := (envIn_bytes 32 b).1 h.1.1
  obtain ⟨hl', hb'⟩ := (envIn_bytes 32 b').1 h'.1.1
  rw [eq_natToLeN_of_leVal hl hb rfl, eq_natToLeN_of_leVal hl' hb' rfl, hv]

/-- bit 255 (indeed bits 253…255) of a canonical scalar is clear -/
theorem Canonical.byte31 {b : List Nat} (h : Canonical b) : b.getD 31 0 < 32 := by
  obtain ⟨hl, hb⟩ := (envIn_bytes 32 b).1 h.1
  have e : b = natToLeN (leVal b) 32 := eq_natToLeN_of_leVal hl hb rfl
  rw [e, natToLeN_getD 32 _ 31 (by norm_num)]
  have := h.2
  have hl : l < 2 ^ 253 := l_lt_pow
  generalize leVal b = v at this ⊢
  omega

/-- so `bytes[31] >> 7 == 0` -/
theorem Canonical.high_bit {b : List Nat} (h : Canonical b) : b.getD 31 0 >>> 7 = 0 := by
  have := h.byte31
  rw [Nat.shiftRight_eq_div_pow]
  omega

theorem byte31_lt_of_leVal_lt {b : List Nat} (hb : EnvIn b (bytes 32)) (h : leVal b < 2 ^ 255) :
    b.getD 31 0 < 128 := by
  obtain ⟨hl, hbb⟩ := (envIn_bytes 32 b).1 hb
  have e : b = natToLeN (leVal b) 32 := eq_natToLeN_of_leVal hl hbb rfl
  rw [e, natToLeN_getD 32 _ 31 (by norm_num)]
  generalize leVal b = v at h ⊢
  omega

theorem leVal_lt_256_32 {b : List Nat} (hb : EnvIn b (bytes 32)) : leVal b < 2 ^ 256 := by
  obtain ⟨hl, hbb⟩ := (envIn_bytes 32 b).1 hb
  have := leVal_lt b hbb
  rw [hl] at this
  norm_num at this ⊢
  exact this

theorem ZERO_isSc : IsSc ScalarRs.ZERO 0 := by
  refine ⟨⟨by decide +kernel, by decide +kernel⟩, ?_⟩
  rw [show leVal ScalarRs.ZERO = 0 by decide +kernel]; simp

theorem ONE_isSc : IsSc ScalarRs.ONE 1 := by
  refine ⟨⟨by decide +kernel, by decide +kernel⟩, ?_⟩
  rw [show leVal ScalarRs.ONE = 1 by decide +kernel]; simp

/-- a list of canonical scalars represents the list of its values -/
theorem forall2_isSc_of_canonical : ∀ {bs : List (List Nat)}, (∀ b ∈ bs, Canonical b) →
    List.Forall₂ IsSc bs (bs.map (fun b => ((leVal b : Nat) : F)))
  | [], _ => .nil
  | b :: bs, h => .cons (h b (by simp)).isSc (forall2_isSc_of_canonical (fun x hx => h x (by simp [hx])))

/-! ## integer conversions -/

theorem leVal_append_zeros : ∀ (a : List Nat) (m : Nat), leVal (a ++ List.replicate m 0) = leVal a
  | [], 0 => rfl
  | [], m + 1 => by
      have := leVal_append_zeros [] m
      simp only [List.nil_append] at this
      simp [List.replicate_succ, leVal, this]
  | x :: xs, m => by simp [leVal, leVal_append_zeros xs m]

theorem fromUInt_isSc {k x : Nat} (hk : k ≤ 16) (hx : x < 256 ^ k) : IsSc (fromUInt k x) ((x : Nat) : F) := by
  have hv : leVal (fromUInt k x) = x := by
    simp only [fromUInt]
    rw [leVal_append_zeros, Dalek.Proofs.Bytes51.leVal_natToLeN, Nat.mod_eq_of_lt hx]
  have hx' : x < 256 ^ 16 := lt_of_lt_of_le hx (Nat.pow_le_pow_right (by norm_num) hk)
  refine ⟨⟨(envIn_bytes 32 _).2 ⟨?_, ?_⟩, ?_⟩, by rw [hv]⟩
  · simp only [fromUInt, List.length_append, Dalek.Proofs.Bytes51.natToLeN_length, List.length_replicate]
    omega
  · intro b hb
    simp only [fromUInt, List.mem_append, List.mem_replicate] at hb
    rcases hb with hb | ⟨-, rfl⟩
    · exact Dalek.Proofs.Bytes51.natToLeN_allBytes _ _ b hb
    · omega
  · rw [hv]
    exact lt_trans hx' (by norm_num [l])

end Dalek.Proofs.ScalarApi
