/-
Correctness of the RFC 7748 ladder with respect to the GROUP of the Edwards curve (`LadderXOnly`):
under the map `π(P) = (1+y : 1−y)` (the Montgomery `u`-line, `∞ = π(0)`), the doubling formula computes `π(2P)`,
the differential addition computes `π(P₁+P₂)` from `π(P₁)`, `π(P₂)` and the affine `u(P₁−P₂) ∉ {0, ∞}`, and the
degenerate base points (`u = 0`: the identity and the point of order two) are handled separately.
-/
import Dalek.Proofs.MontGroup

namespace Dalek.Proofs.Mont
open Dalek.Spec Dalek.Bridge Dalek.Edwards

local notation "dE" => Dalek.FieldFacts.d

theorem ed_on (P : Ed) : -P.x ^ 2 + P.y ^ 2 = 1 + dE * P.x ^ 2 * P.y ^ 2 := by
  have := P.on; unfold Dalek.Edwards.onCurve at this; rwa [edParams_d] at this

theorem two_ne : (2 : Fp) ≠ 0 := Dalek.FieldFacts.two_ne_zero_p

/-- `(X : Z)` is the point `π(P) = (1+y : 1−y)` of the projective line -/
def PRep (P : Ed) (X Z : Fp) : Prop := ∃ l : Fp, l ≠ 0 ∧ X = l * (1 + P.y) ∧ Z = l * (1 - P.y)

theorem PRep.of_cross {P : Ed} {X Z : Fp} (hne : X ≠ 0 ∨ Z ≠ 0) (h : X * (1 - P.y) = Z * (1 + P.y)) :
    PRep P X Z := by
  by_cases hp : 1 + P.y = 0
  · have hm : 1 - P.y = 2 := by linear_combination -hp
    have hX : X = 0 := by
      rw [hp, mul_zero, hm] at h
      exact (mul_eq_zero.1 h).resolve_right two_ne
    have hZ : Z ≠ 0 := hne.resolve_left (fun h => h hX)
    refine ⟨Z / 2, div_ne_zero hZ two_ne, ?_, ?_⟩
    · rw [hp, hX]; ring
    · rw [hm, div_mul_cancel₀ _ two_ne]
  · refine ⟨X / (1 + P.y), ?_, by field_simp, ?_⟩
    · intro h0
      have hX : X = 0 := by
        rcases div_eq_zero_iff.1 h0 with h1 | h1
        · exact h1
        · exact absurd h1 hp
      have hZ : Z ≠ 0 := hne.resolve_left (fun h => h hX)
      rw [hX, zero_mul] at h
      exact hp ((mul_eq_zero.1 h.symm).resolve_left hZ)
    · field_simp
      linear_combination -h

theorem PRep.cross {P : Ed} {X Z : Fp} (h : PRep P X Z) : X * (1 - P.y) = Z * (1 + P.y) := by
  obtain ⟨l, -, rfl, rfl⟩ := h; ring

/-- reading off the affine coordinate with the `0⁻¹ = 0` convention: `X·Z⁻¹ = (1+y)/(1−y)` -/
theorem PRep.affine {P : Ed} {X Z : Fp} (h : PRep P X Z) : X * Z⁻¹ = (1 + P.y) / (1 - P.y) := by
  obtain ⟨l, hl, rfl, rfl⟩ := h
  by_cases hm : 1 - P.y = 0
  · rw [hm]; simp
  · field_simp

/-! ### doubling -/

def dblX (X Z : Fp) : Fp := (X + Z) ^ 2 * (X - Z) ^ 2
def dblZ (X Z : Fp) : Fp := ((X + Z) ^ 2 - (X - Z) ^ 2) * ((X + Z) ^ 2 + 121665 * ((X + Z) ^ 2 - (X - Z) ^ 2))

theorem c1946656_ne : (1946656 : Fp) ≠ 0 := by
  have h : ((1946656 : Nat) : Fp) ≠ 0 := Dalek.FieldFacts.natCast_ne_zero_of_mod (by decide +kernel)
  simpa using h

theorem dbl_rep {P : Ed} {X Z : Fp} (h : PRep P X Z) : PRep (P + P) (dblX X Z) (dblZ X Z) := by
  obtain ⟨l, hl, rfl, rfl⟩ := h
  have hc := ed_on P
  have hd := Dalek.FieldFacts.d_mul
  have hm : 1 - dE * P.x * P.x * P.y * P.y ≠ 0 := by
    have := (EdPoint.add_den_ne_zero P P).2; rwa [edParams_d] at this
  apply PRep.of_cross
  · by_contra hcon
    push Not at hcon
    obtain ⟨h1, h2⟩ := hcon
    have e1 : dblX (l * (1 + P.y)) (l * (1 - P.y)) = 16 * l ^ 4 * P.y ^ 2 := by unfold dblX; ring
    rw [e1] at h1
    have hy : P.y = 0 := by
      have : (16 : Fp) ≠ 0 := by
        have : (16 : Fp) = 2 ^ 4 := by norm_num
        rw [this]; exact pow_ne_zero 4 two_ne
      have h16 : 16 * l ^ 4 ≠ 0 := mul_ne_zero this (pow_ne_zero 4 hl)
      exact pow_eq_zero_iff (n := 2) (by norm_num) |>.1 ((mul_eq_zero.1 h1).resolve_left h16)
    have e2 : dblZ (l * (1 + P.y)) (l * (1 - P.y)) = 1946656 * l ^ 4 := by unfold dblZ; rw [hy]; ring
    rw [e2] at h2
    exact (mul_ne_zero c1946656_ne (pow_ne_zero 4 hl)) h2
  · rw [EdPoint.add_y, edParams_d]
    have key : dblX (l * (1 + P.y)) (l * (1 - P.y)) *
          ((1 - dE * P.x * P.x * P.y * P.y) - (P.y * P.y + P.x * P.x)) =
        dblZ (l * (1 + P.y)) (l * (1 - P.y)) *
          ((1 - dE * P.x * P.x * P.y * P.y) + (P.y * P.y + P.x * P.x)) := by
      unfold dblX dblZ
      linear_combination (-16 * l ^ 4 * (121665 * P.y ^ 4 - 121666)) * hc +
        (-32 * l ^ 4 * P.x ^ 2 * P.y ^ 2 * (P.y - 1) * (P.y + 1)) * hd
    rw [one_sub_div hm, one_add_div hm, ← mul_div_assoc, ← mul_div_assoc, key]

/-! ### differential addition -/

def daddX (X1 Z1 X2 Z2 : Fp) : Fp := ((X2 - Z2) * (X1 + Z1) + (X2 + Z2) * (X1 - Z1)) ^ 2
def daddZ (u X1 Z1 X2 Z2 : Fp) : Fp := u * ((X2 - Z2) * (X1 + Z1) - (X2 + Z2) * (X1 - Z1)) ^ 2

theorem dadd_rep {P1 P2 : Ed} {X1 Z1 X2 Z2 u : Fp} (h1 : PRep P1 X1 Z1) (h2 : PRep P2 X2 Z2)
    (hp : 1 + (P1 - P2).y ≠ 0) (hm : 1 - (P1 - P2).y ≠ 0) (hu : u = (1 + (P1 - P2).y) / (1 - (P1 - P2).y)) :
    PRep (P1 + P2) (daddX X1 Z1 X2 Z2) (daddZ u X1 Z1 X2 Z2) := by
  obtain ⟨l, hl, rfl, rfl⟩ := h1
  obtain ⟨k, hk, rfl, rfl⟩ := h2
  have hc1 := ed_on P1
  have hc2 := ed_on P2
  have hmp : 1 - dE * P1.x * P2.x * P1.y * P2.y ≠ 0 := by
    have := (EdPoint.add_den_ne_zero P1 P2).2; rwa [edParams_d] at this
  have hmm : 1 + dE * P1.x * P2.x * P1.y * P2.y ≠ 0 := by
    have := (EdPoint.add_den_ne_zero P1 P2).1; rwa [edParams_d] at this
  have hyD : (P1 - P2).y = (P1.y * P2.y - P1.x * P2.x) / (1 + dE * P1.x * P2.x * P1.y * P2.y) := by
    rw [sub_eq_add_neg, EdPoint.add_y, edParams_d, EdPoint.neg_x, EdPoint.neg_y]
    congr 1 <;> ring
  have eX : daddX (l * (1 + P1.y)) (l * (1 - P1.y)) (k * (1 + P2.y)) (k * (1 - P2.y)) =
      16 * l ^ 2 * k ^ 2 * (P1.y + P2.y) ^ 2 := by unfold daddX; ring
  have eZ : daddZ u (l * (1 + P1.y)) (l * (1 - P1.y)) (k * (1 + P2.y)) (k * (1 - P2.y)) =
      u * (16 * l ^ 2 * k ^ 2 * (P2.y - P1.y) ^ 2) := by unfold daddZ; ring
  have h16 : (16 : Fp) * l ^ 2 * k ^ 2 ≠ 0 := by
    have : (16 : Fp) = 2 ^ 4 := by norm_num
    rw [this]
    exact mul_ne_zero (mul_ne_zero (pow_ne_zero 4 two_ne) (pow_ne_zero 2 hl)) (pow_ne_zero 2 hk)
  have hu0 : u ≠ 0 := by rw [hu]; exact div_ne_zero hp hm
  rw [eX, eZ]
  apply PRep.of_cross
  · by_contra hcon
    push Not at hcon
    obtain ⟨g1, g2⟩ := hcon
    have s1 : P1.y + P2.y = 0 :=
      pow_eq_zero_iff (n := 2) (by norm_num) |>.1 ((mul_eq_zero.1 g1).resolve_left h16)
    have s2 : P2.y - P1.y = 0 :=
      pow_eq_zero_iff (n := 2) (by norm_num) |>.1
        ((mul_eq_zero.1 ((mul_eq_zero.1 g2).resolve_left hu0)).resolve_left h16)
    have y1 : P1.y = 0 := by
      have : 2 * P1.y = 0 := by linear_combination s1 - s2
      exact (mul_eq_zero.1 this).resolve_left two_ne
    have y2 : P2.y = 0 := by linear_combination s1 - y1
    rw [y1] at hc1; rw [y2] at hc2
    have hy : (P1 - P2).y = -(P1.x * P2.x) := by rw [hyD, y1, y2]; simp
    have : (1 + (P1 - P2).y) * (1 - (P1 - P2).y) = 0 := by
      rw [hy]; linear_combination (P2.x ^ 2) * hc1 - hc2
    rcases mul_eq_zero.1 this with h | h
    · exact hp h
    · exact hm h
  · rw [EdPoint.add_y, edParams_d, hu, hyD]
    have key : (P1.y + P2.y) ^ 2 *
        ((1 - dE * P1.x * P2.x * P1.y * P2.y) - (P1.y * P2.y + P1.x * P2.x)) *
        ((1 + dE * P1.x * P2.x * P1.y * P2.y) - (P1.y * P2.y - P1.x * P2.x)) =
        (P2.y - P1.y) ^ 2 *
        ((1 + dE * P1.x * P2.x * P1.y * P2.y) + (P1.y * P2.y - P1.x * P2.x)) *
        ((1 - dE * P1.x * P2.x * P1.y * P2.y) + (P1.y * P2.y + P1.x * P2.x)) := by
      linear_combination (4 * P2.x ^ 2 * P1.y * P2.y * (dE * P2.y ^ 2 + 1)) * hc1 +
        (4 * P1.y * P2.y * (P1.y - 1) * (P1.y + 1)) * hc2
    have hm' : (1 + dE * P1.x * P2.x * P1.y * P2.y) - (P1.y * P2.y - P1.x * P2.x) ≠ 0 := by
      intro h0; apply hm; rw [hyD, one_sub_div hmm, h0, zero_div]
    have main : (P1.y + P2.y) ^ 2 *
        (1 - (P1.y * P2.y + P1.x * P2.x) / (1 - dE * P1.x * P2.x * P1.y * P2.y)) =
        (1 + (P1.y * P2.y - P1.x * P2.x) / (1 + dE * P1.x * P2.x * P1.y * P2.y)) /
          (1 - (P1.y * P2.y - P1.x * P2.x) / (1 + dE * P1.x * P2.x * P1.y * P2.y)) * (P2.y - P1.y) ^ 2 *
        (1 + (P1.y * P2.y + P1.x * P2.x) / (1 - dE * P1.x * P2.x * P1.y * P2.y)) := by
      rw [one_sub_div hmp, one_add_div hmp, one_sub_div hmm, one_add_div hmm, div_div_div_cancel_right₀ hmm]
      rw [div_mul_eq_mul_div, div_mul_div_comm, mul_div_assoc', div_eq_div_iff hmp (mul_ne_zero hm' hmp)]
      linear_combination (1 - dE * P1.x * P2.x * P1.y * P2.y) * key
    linear_combination (16 * l ^ 2 * k ^ 2) * main

/-! ### one ladder step on casts -/

/-- the pair of the state that is operated on as `(x2:z2)` after the conditional swap of a step with bit `kt` -/
def fstPair (s : Ladder) (kt : Bool) : Nat × Nat := if (s.swap != kt) then (s.x3, s.z3) else (s.x2, s.z2)
def sndPair (s : Ladder) (kt : Bool) : Nat × Nat := if (s.swap != kt) then (s.x2, s.z2) else (s.x3, s.z3)

theorem ladderStep_cast (x1 : Nat) (s : Ladder) (kt : Bool) :
    ((ladderStep x1 s kt).x2 : Fp) = dblX (fstPair s kt).1 (fstPair s kt).2 ∧
    ((ladderStep x1 s kt).z2 : Fp) = dblZ (fstPair s kt).1 (fstPair s kt).2 ∧
    ((ladderStep x1 s kt).x3 : Fp) =
      daddX (fstPair s kt).1 (fstPair s kt).2 (sndPair s kt).1 (sndPair s kt).2 ∧
    ((ladderStep x1 s kt).z3 : Fp) =
      daddZ x1 (fstPair s kt).1 (fstPair s kt).2 (sndPair s kt).1 (sndPair s kt).2 ∧
    (ladderStep x1 s kt).swap = kt := by
  unfold fstPair sndPair dblX dblZ daddX daddZ
  cases h : (s.swap != kt) <;>
    simp only [ladderStep, cswap, h, Bool.false_eq_true, ↓reduceIte, a24, cast_fmul, cast_fsq,
      cast_fadd, cast_fsub, Nat.cast_ofNat, and_self]

/-- logical pairs: `lo ~ [k]Q`, `hi ~ [k+1]Q` -/
def loPair (s : Ladder) : Nat × Nat := if s.swap then (s.x3, s.z3) else (s.x2, s.z2)
def hiPair (s : Ladder) : Nat × Nat := if s.swap then (s.x2, s.z2) else (s.x3, s.z3)

def LInv (Q : Ed) (k : Nat) (s : Ladder) : Prop :=
  PRep (k • Q) (loPair s).1 (loPair s).2 ∧ PRep ((k + 1) • Q) (hiPair s).1 (hiPair s).2

theorem neg_y_sub (P1 P2 : Ed) : (P1 - P2).y = (P2 - P1).y := by
  rw [← neg_sub P2 P1, EdPoint.neg_y]

theorem ladderStep_inv {Q : Ed} {x1 : Nat} (hp : 1 + Q.y ≠ 0) (hm : 1 - Q.y ≠ 0)
    (hx1 : (x1 : Fp) = (1 + Q.y) / (1 - Q.y)) {k : Nat} {s : Ladder} (kt : Bool) (h : LInv Q k s) :
    LInv Q (2 * k + (if kt then 1 else 0)) (ladderStep x1 s kt) := by
  obtain ⟨e1, e2, e3, e4, e5⟩ := ladderStep_cast x1 s kt
  obtain ⟨hlo, hhi⟩ := h
  have hd1 : ((k + 1) • Q - k • Q).y = Q.y := by rw [succ_nsmul, add_sub_cancel_left]
  have hd2 : (k • Q - (k + 1) • Q).y = Q.y := by rw [neg_y_sub, hd1]
  unfold LInv loPair hiPair
  rw [e5]
  cases kt
  · -- bit 0: first pair is lo
    have f1 : fstPair s false = loPair s := by unfold fstPair loPair; cases s.swap <;> rfl
    have f2 : sndPair s false = hiPair s := by unfold sndPair hiPair; cases s.swap <;> rfl
    rw [f1] at e1 e2 e3 e4
    rw [f2] at e3 e4
    simp only [Bool.false_eq_true, if_false, add_zero]
    rw [e1, e2, e3, e4]
    refine ⟨?_, ?_⟩
    · have := dbl_rep hlo
      have e : k • Q + k • Q = (2 * k) • Q := by rw [← add_nsmul]; congr 1; ring
      rwa [e] at this
    · have := dadd_rep (u := (x1 : Fp)) hlo hhi (by rw [hd2]; exact hp) (by rw [hd2]; exact hm)
        (by rw [hd2]; exact hx1)
      have e : k • Q + (k + 1) • Q = (2 * k + 1) • Q := by rw [← add_nsmul]; congr 1; ring
      rwa [e] at this
  · -- bit 1: first pair is hi
    have f1 : fstPair s true = hiPair s := by unfold fstPair hiPair; cases s.swap <;> rfl
    have f2 : sndPair s true = loPair s := by unfold sndPair loPair; cases s.swap <;> rfl
    rw [f1] at e1 e2 e3 e4
    rw [f2] at e3 e4
    simp only [if_true]
    rw [e1, e2, e3, e4]
    refine ⟨?_, ?_⟩
    · have := dadd_rep (u := (x1 : Fp)) hhi hlo (by rw [hd1]; exact hp) (by rw [hd1]; exact hm)
        (by rw [hd1]; exact hx1)
      have e : (k + 1) • Q + k • Q = (2 * k + 1) • Q := by rw [← add_nsmul]; congr 1; ring
      rwa [e] at this
    · have := dbl_rep hhi
      have e : (k + 1) • Q + (k + 1) • Q = (2 * k + 1 + 1) • Q := by rw [← add_nsmul]; congr 1; ring
      rwa [e] at this

/-- value of an MSB-first bit list, continuing from `k` -/
def bitsAcc (bits : List Bool) (k : Nat) : Nat := bits.foldl (fun k b => 2 * k + (if b then 1 else 0)) k

theorem foldl_inv {Q : Ed} {x1 : Nat} (hp : 1 + Q.y ≠ 0) (hm : 1 - Q.y ≠ 0)
    (hx1 : (x1 : Fp) = (1 + Q.y) / (1 - Q.y)) (bits : List Bool) {k : Nat} {s : Ladder} (h : LInv Q k s) :
    LInv Q (bitsAcc bits k) (bits.foldl (ladderStep x1) s) := by
  induction bits generalizing k s with
  | nil => exact h
  | cons b bs ih => exact ih (ladderStep_inv hp hm hx1 b h)

theorem bitsAcc_bitsBE (n t k : Nat) : bitsAcc (bitsBE n t) k = k * 2 ^ t + n % 2 ^ t := by
  induction t generalizing k with
  | zero => simp [bitsAcc, bitsBE, Nat.mod_one]
  | succ t ih =>
    have hb : (if ((n >>> t) % 2 == 1) = true then 1 else 0) = n / 2 ^ t % 2 := by
      rw [Nat.shiftRight_eq_div_pow]
      rcases Nat.mod_two_eq_zero_or_one (n / 2 ^ t) with h | h <;> simp [h]
    show bitsAcc (bitsBE n t) (2 * k + (if ((n >>> t) % 2 == 1) = true then 1 else 0)) = _
    rw [ih, hb, Nat.mod_pow_succ, Nat.pow_succ]
    ring

/-! ### the two cases of the base point -/

/-- generic base point (`u(Q) ∉ {0, ∞}`) -/
theorem ladder_generic (Q : Ed) (hp : 1 + Q.y ≠ 0) (hm : 1 - Q.y ≠ 0) (n : Nat) (hn : n < 2 ^ 255) :
    ladderBitsBE (uOfEd Q) (bitsBE n 255) = uOfEd (n • Q) := by
  have hx1 := cast_uOfEd Q
  have h0 : LInv Q 0 { x2 := 1, z2 := 0, x3 := uOfEd Q, z3 := 1, swap := false } := by
    refine ⟨⟨2⁻¹, inv_ne_zero two_ne, ?_, ?_⟩, PRep.of_cross (Or.inr ?_) ?_⟩
    · simp only [loPair, zero_nsmul, EdPoint.zero_y, Bool.false_eq_true, if_false, Nat.cast_one]
      rw [show (1 : Fp) + 1 = 2 by norm_num, inv_mul_cancel₀ two_ne]
    · simp [loPair]
    · simp [hiPair]
    · simp only [hiPair, Bool.false_eq_true, if_false, zero_add, one_nsmul, Nat.cast_one, hx1]
      field_simp
  have h := foldl_inv hp hm hx1 (bitsBE n 255) h0
  rw [bitsAcc_bitsBE, zero_mul, zero_add, Nat.mod_eq_of_lt hn] at h
  unfold ladderBitsBE
  simp only [Nat.mod_eq_of_lt (uOfEd_lt Q)]
  generalize (bitsBE n 255).foldl (ladderStep (uOfEd Q))
    { x2 := 1, z2 := 0, x3 := uOfEd Q, z3 := 1, swap := false } = s at h
  have hlo : (cswap s.swap s.x2 s.x3).1 = (loPair s).1 ∧ (cswap s.swap s.z2 s.z3).1 = (loPair s).2 := by
    unfold cswap loPair; cases s.swap <;> simp
  rw [hlo.1, hlo.2]
  apply eq_of_cast_eq (fmul_lt _ _) (uOfEd_lt _)
  rw [cast_fmul, cast_fpow, cast_uOfEd, Dalek.FieldFacts.pow_p_sub_two']
  exact h.1.affine

theorem one_add_d_ne : (1 : Fp) + dE ≠ 0 := by
  intro h
  have hd := Dalek.FieldFacts.d_mul
  have : (1 : Fp) = 0 := by linear_combination (121666 : Fp) * h - hd
  exact one_ne_zero this

/-- points with `x = 0` (the identity and the point of order two) form a subgroup on which `u = 0` -/
theorem nsmul_x_zero {Q : Ed} (hx : Q.x = 0) (n : Nat) : (n • Q).x = 0 := by
  induction n with
  | zero => simp
  | succ n ih => rw [succ_nsmul, EdPoint.add_x, ih, hx]; simp

theorem uOfEd_eq_zero_of_x {Q : Ed} (hx : Q.x = 0) : uOfEd Q = 0 := by
  have hc := ed_on Q
  rw [hx] at hc
  have : (1 + Q.y) * (1 - Q.y) = 0 := by linear_combination -hc
  unfold uOfEd
  rcases mul_eq_zero.1 this with h | h
  · rw [h]; simp
  · rw [h]; simp

theorem x_zero_of_y {Q : Ed} (h : 1 + Q.y = 0 ∨ 1 - Q.y = 0) : Q.x = 0 := by
  have hc := ed_on Q
  have hy : Q.y ^ 2 = 1 := by
    rcases h with h | h
    · have : Q.y = -1 := by linear_combination h
      rw [this]; ring
    · have : Q.y = 1 := by linear_combination -h
      rw [this]; ring
  have : Q.x ^ 2 * (1 + dE) = 0 := by rw [hy] at hc; linear_combination -hc
  exact pow_eq_zero_iff (n := 2) (by norm_num) |>.1 ((mul_eq_zero.1 this).resolve_right one_add_d_ne)

/-- degenerate base point: with `x1 = 0` the ladder returns `0` on every bit list -/
theorem ladder_zero (bits : List Bool) : ladderBitsBE 0 bits = 0 := by
  unfold ladderBitsBE
  simp only [Nat.zero_mod]
  have inv : ∀ (bits : List Bool) (s : Ladder),
      (((s.x2 : Nat) : Fp) = 0 ∨ ((s.z2 : Nat) : Fp) = 0) → (((s.x3 : Nat) : Fp) = 0 ∨ ((s.z3 : Nat) : Fp) = 0) →
      ((((bits.foldl (ladderStep 0) s).x2 : Nat) : Fp) = 0 ∨ (((bits.foldl (ladderStep 0) s).z2 : Nat) : Fp) = 0) ∧
      ((((bits.foldl (ladderStep 0) s).x3 : Nat) : Fp) = 0 ∨ (((bits.foldl (ladderStep 0) s).z3 : Nat) : Fp) = 0) := by
    intro bits
    induction bits with
    | nil => intro s h2 h3; exact ⟨h2, h3⟩
    | cons b bs ih =>
      intro s h2 h3
      obtain ⟨-, e2, -, e4, -⟩ := ladderStep_cast 0 s b
      apply ih
      · right
        rw [e2]; unfold dblZ fstPair
        split
        · rcases h3 with h | h <;> rw [h] <;> ring
        · rcases h2 with h | h <;> rw [h] <;> ring
      · right
        rw [e4]; unfold daddZ; simp
  obtain ⟨h2, h3⟩ := inv bits { x2 := 1, z2 := 0, x3 := 0, z3 := 1, swap := false } (Or.inr (by simp)) (Or.inl (by simp))
  generalize bits.foldl (ladderStep 0) { x2 := 1, z2 := 0, x3 := 0, z3 := 1, swap := false } = s at h2 h3
  apply (cast_eq_zero_of_lt (fmul_lt _ _)).1
  rw [cast_fmul, cast_fpow, Dalek.FieldFacts.pow_p_sub_two']
  unfold cswap
  cases s.swap
  · simp only [Bool.false_eq_true, if_false]
    rcases h2 with h | h <;> rw [h] <;> simp
  · simp only [if_true]
    rcases h3 with h | h <;> rw [h] <;> simp

/-- **`LadderXOnly` holds**: the RFC 7748 ladder on the 255 bits of `n < 2^255`, started from the `u`-coordinate
of ANY point `Q` of the Edwards curve, returns the `u`-coordinate of `[n]Q`. -/
theorem ladderXOnly : LadderXOnly := by
  intro Q n hn
  by_cases h : 1 + Q.y = 0 ∨ 1 - Q.y = 0
  · have hx := x_zero_of_y h
    rw [uOfEd_eq_zero_of_x hx, uOfEd_eq_zero_of_x (nsmul_x_zero hx n)]
    exact ladder_zero _
  · push Not at h
    exact ladder_generic Q h.1 h.2 n hn

/-! ### arbitrary scalars: only bits 254 … 0 are used -/

theorem bitsBE_mod (n m : Nat) : ∀ t, t ≤ m → bitsBE (n % 2 ^ m) t = bitsBE n t := by
  intro t
  induction t with
  | zero => intro _; rfl
  | succ t ih =>
    intro h
    have hb : ((n % 2 ^ m) >>> t) % 2 = (n >>> t) % 2 := by
      have h1 := Nat.testBit_mod_two_pow n m t
      rw [Nat.testBit_eq_decide_div_mod_eq, Nat.testBit_eq_decide_div_mod_eq] at h1
      have ht : t < m := by omega
      simp only [ht, decide_true, Bool.true_and, decide_eq_decide] at h1
      rw [Nat.shiftRight_eq_div_pow, Nat.shiftRight_eq_div_pow]
      rcases Nat.mod_two_eq_zero_or_one (n / 2 ^ t) with h2 | h2 <;>
        rcases Nat.mod_two_eq_zero_or_one (n % 2 ^ m / 2 ^ t) with h3 | h3 <;> simp_all
    show (((n % 2 ^ m) >>> t) % 2 == 1) :: bitsBE (n % 2 ^ m) t = ((n >>> t) % 2 == 1) :: bitsBE n t
    rw [hb, ih (by omega)]

/-- the ladder on bits 254 … 0 of an ARBITRARY natural number `n` computes `u([n mod 2^255]Q)` -/
theorem ladder_bits_group (Q : Ed) (n : Nat) :
    ladderBitsBE (uOfEd Q) (bitsBE n 255) = uOfEd ((n % 2 ^ 255) • Q) := by
  rw [← bitsBE_mod n 255 255 (le_refl _)]
  exact ladderXOnly Q _ (Nat.mod_lt _ (by norm_num))

end Dalek.Proofs.Mont
