/-
Structure of the Ed25519 signing functions of the executable specification (`rawSignWith`, `signWith`,
`signPhWith`, `publicKeyWith`) in terms of the group `Ed`, and the completeness argument
("an honestly produced signature verifies") through the bridge:
`[S]B - [k]A = [r + k·a]B - [k][a]B = [r]B`.

SHA-512 is used only through `sha512_length`.
-/
import Dalek.Proofs.EdsVerify

namespace Dalek.Eds

open Dalek.Spec Dalek.Spec.Ed25519 Dalek.Bridge

attribute [local irreducible] decompress

/-! ## Structure of a raw signature -/

/-- The nonce `r = H(dom ‖ prefix ‖ M) mod ℓ`. -/
def nonceOf (dom pre msg : List UInt8) : Nat := hashToScalar (dom ++ pre ++ msg)

/-- The challenge `k = H(dom ‖ R ‖ A ‖ M) mod ℓ`. -/
def challengeOf (dom R vk msg : List UInt8) : Nat := hashToScalar (dom ++ R ++ vk ++ msg)

theorem rawSign_eq (dom : List UInt8) (a : Nat) (pre msg vk : List UInt8) :
    rawSignWith Ops.spec dom a pre msg vk =
      encodeEd (nonceOf dom pre msg • Bpt) ++
        natToLe ((nonceOf dom pre msg +
          challengeOf dom (encodeEd (nonceOf dom pre msg • Bpt)) vk msg * a) % L) 32 := by
  unfold rawSignWith nonceOf challengeOf
  simp only [mulBase_spec]

theorem rawSignWith_congr {ops : Ops} (hc : OpsCorrect ops) (dom : List UInt8) (a : Nat)
    (pre msg vk : List UInt8) :
    rawSignWith ops dom a pre msg vk = rawSignWith Ops.spec dom a pre msg vk := by
  unfold rawSignWith
  simp only [hc.mulBase]

theorem L_lt_256_32 : L < 256 ^ 32 := by norm_num

theorem leToNat_natToLe_mod_L (n : Nat) : leToNat (natToLe (n % L) 32) = n % L := by
  rw [leToNat_natToLe, Nat.mod_eq_of_lt (Nat.lt_trans (Nat.mod_lt _ L_pos) L_lt_256_32)]

theorem rawSign_length (dom : List UInt8) (a : Nat) (pre msg vk : List UInt8) :
    (rawSignWith Ops.spec dom a pre msg vk).length = 64 := by
  rw [rawSign_eq, List.length_append, encodeEd_length, natToLe_length]

theorem rawSign_take (dom : List UInt8) (a : Nat) (pre msg vk : List UInt8) :
    (rawSignWith Ops.spec dom a pre msg vk).take 32 = encodeEd (nonceOf dom pre msg • Bpt) := by
  rw [rawSign_eq, List.take_left' (encodeEd_length _)]

theorem rawSign_drop (dom : List UInt8) (a : Nat) (pre msg vk : List UInt8) :
    (rawSignWith Ops.spec dom a pre msg vk).drop 32 =
      natToLe ((nonceOf dom pre msg +
          challengeOf dom (encodeEd (nonceOf dom pre msg • Bpt)) vk msg * a) % L) 32 := by
  rw [rawSign_eq, List.drop_left' (encodeEd_length _)]

/-- The `S` half of a raw signature is canonical. -/
theorem rawSign_S_canonical (dom : List UInt8) (a : Nat) (pre msg vk : List UInt8) :
    leToNat ((rawSignWith Ops.spec dom a pre msg vk).drop 32) < L := by
  rw [rawSign_drop, leToNat_natToLe_mod_L]; exact Nat.mod_lt _ L_pos

/-! ## Completeness -/

/-- The group computation behind completeness: `[(r + k·a) mod ℓ]B - [k]([a]B) = [r]B`. -/
theorem honest_equation (r k a : Nat) :
    ((r + k * a) % L) • Bpt - k • (a • Bpt) = r • Bpt := by
  rw [mod_L_nsmul_Bpt, add_nsmul, mul_comm k a, mul_nsmul, add_sub_cancel_right]

/-- **Completeness of the core**: a raw signature made with secret scalar `a`, any prefix and domain
separation string, for the public key bytes `compress([a]B)`, passes the verification core in both
`check_scalar` modes; in strict mode under the two side conditions that make `R = [r]B` and `A = [a]B` points
of order `ℓ` (not of small order). -/
theorem rawSign_verifies (legacy strict : Bool) (dom : List UInt8) (a : Nat) (pre msg : List UInt8)
    (hs : strict = true → a % L ≠ 0 ∧ nonceOf dom pre msg ≠ 0) :
    verifyCoreWith Ops.spec legacy strict dom (Ops.spec.mulBase a) msg
      (rawSignWith Ops.spec dom a pre msg (Ops.spec.mulBase a)) = true := by
  rw [verifyCore_iff]
  refine ⟨a • Bpt, leToNat ((rawSignWith Ops.spec dom a pre msg (Ops.spec.mulBase a)).drop 32),
    ?_, ?_, (fun h => ⟨nonceOf dom pre msg • Bpt, ?_, eight_nsmul_Bpt_ne_zero ?_,
      eight_nsmul_Bpt_ne_zero (hs h).1⟩), ?_⟩
  · rw [mulBase_spec, decodeEd_encodeEd]
  · exact checkScalar_iff.2 ⟨by
      cases legacy
      · exact (scalarOk_false _).2 (rawSign_S_canonical _ _ _ _ _)
      · exact scalarOk_legacy_of_canonical (rawSign_S_canonical _ _ _ _ _), rfl⟩
  · rw [rawSign_take, decodeEd_encodeEd]
  · rw [nonceOf, hashToScalar, Nat.mod_mod]
    exact (hs h).2
  · rw [rawSign_take, rawSign_drop, leToNat_natToLe_mod_L]
    exact congrArg encodeEd (honest_equation _ _ _)

/-! ## Clamping -/

theorem byte_and_f8_eq : ∀ n, n < 256 → n &&& 248 = n - n % 8 := by decide +kernel
theorem byte_clamp_hi_eq : ∀ n, n < 256 → (n &&& 127) ||| 64 = n % 64 + 64 := by decide +kernel

/-- **Exact value of the clamped integer** (RFC 8032 §5.1.5 step 2 / RFC 7748 `decodeScalar25519`): clear
the three low bits, clear bit 255, set bit 254. -/
theorem clampedNat_eq {b : List UInt8} (hlen : b.length = 32) :
    clampedNat b = 2 ^ 254 + leToNat b % 2 ^ 254 - leToNat b % 8 := by
  unfold clampedNat clampInteger
  have h1 := leToNat_modifyNth (fun x => x &&& 0xf8) 0 b (by omega)
  have h2 := leToNat_modifyNth (fun x => (x &&& 0x7f) ||| 0x40) 31
    (modifyNth (fun x => x &&& 0xf8) 0 b) (by simp; omega)
  rw [modifyNth_getD_ne _ 0 31 _ _ (by decide)] at h2
  have g0 := getD_toNat b 0 (by omega)
  have g31 := getD_toNat b 31 (by omega)
  have hlt := leToNat_lt b
  rw [hlen] at hlt
  simp only [UInt8.toNat_and, UInt8.toNat_or] at h1 h2
  have c0 := byte_and_f8_eq _ (UInt8.toNat_lt (b.getD 0 0))
  have c31 := byte_clamp_hi_eq _ (UInt8.toNat_lt (b.getD 31 0))
  have k1 : (0xf8 : UInt8).toNat = 248 := rfl
  have k2 : (0x7f : UInt8).toNat = 127 := rfl
  have k3 : (0x40 : UInt8).toNat = 64 := rfl
  rw [k1] at h1
  rw [k2, k3] at h2
  rw [c0] at h1
  rw [c31] at h2
  simp only [Nat.pow_zero, Nat.div_one, Nat.one_mul] at g0 h1
  rw [g0] at h1
  rw [g31] at h2
  generalize leToNat b = x at *
  generalize leToNat (modifyNth (fun x => x &&& 0xf8) 0 b) = y at *
  generalize leToNat (modifyNth (fun x => (x &&& 0x7f) ||| 0x40) 31 (modifyNth (fun x => x &&& 0xf8) 0 b)) = z at *
  have e31 : (256:Nat)^31 = 2^248 := by norm_num
  rw [e31] at h2
  omega
/-! ## Key expansion -/

theorem expandSeed_fst (seed : List UInt8) : (expandSeed seed).1 = clampedNat ((sha512 seed).take 32) := rfl
theorem expandSeed_snd (seed : List UInt8) : (expandSeed seed).2 = (sha512 seed).drop 32 := rfl

/-- The secret scalar is a clamped integer: a multiple of 8 in `[2^254, 2^255)`. -/
theorem expandSeed_clamped (seed : List UInt8) :
    (expandSeed seed).1 % 8 = 0 ∧ 2 ^ 254 ≤ (expandSeed seed).1 ∧ (expandSeed seed).1 < 2 ^ 255 :=
  clampedNat_spec (by rw [List.length_take, sha512_length]; rfl)

/-- `clamped_nonzero_mod_l`: the secret scalar is not a multiple of `ℓ`, so the public key `[a]B` has
order exactly `ℓ`. -/
theorem expandSeed_mod_L_ne_zero (seed : List UInt8) : (expandSeed seed).1 % L ≠ 0 := by
  obtain ⟨h1, h2, h3⟩ := expandSeed_clamped seed
  exact clamped_mod_L_ne_zero h1 h2 h3

theorem publicKeyWith_congr {ops : Ops} (hc : OpsCorrect ops) (seed : List UInt8) :
    publicKeyWith ops seed = publicKey seed := hc.mulBase _

theorem publicKey_eq (seed : List UInt8) : publicKey seed = encodeEd ((expandSeed seed).1 • Bpt) :=
  mulBase_spec _

theorem signWith_eq (ops : Ops) (seed msg : List UInt8) :
    signWith ops seed msg =
      rawSignWith ops [] (expandSeed seed).1 (expandSeed seed).2 msg (ops.mulBase (expandSeed seed).1) := rfl

theorem signWith_congr {ops : Ops} (hc : OpsCorrect ops) (seed msg : List UInt8) :
    signWith ops seed msg = sign seed msg := by
  show signWith ops seed msg = signWith Ops.spec seed msg
  rw [signWith_eq, signWith_eq, hc.mulBase, rawSignWith_congr hc]

theorem signPhWith_eq (ops : Ops) (seed msg : List UInt8) (ctx : Option (List UInt8)) :
    signPhWith ops seed msg ctx =
      if (ctx.getD []).length > 255 then none
      else some (rawSignWith ops (dom2 1 (ctx.getD [])) (expandSeed seed).1 (expandSeed seed).2 (sha512 msg)
        (ops.mulBase (expandSeed seed).1)) := rfl

theorem signPhWith_congr {ops : Ops} (hc : OpsCorrect ops) (seed msg : List UInt8)
    (ctx : Option (List UInt8)) : signPhWith ops seed msg ctx = signPh seed msg ctx := by
  show signPhWith ops seed msg ctx = signPhWith Ops.spec seed msg ctx
  rw [signPhWith_eq, signPhWith_eq, hc.mulBase, rawSignWith_congr hc]

/-! ## `from_keypair_bytes` -/

/-- Model of `SigningKey::from_keypair_bytes` (signing.rs:136-146) on 64 bytes `sk ‖ pk`: the expression
evaluated by the model driver's op `eds.from_keypair` (`Dalek/Driver/Ops.lean`), which the correspondence
run compares with the Rust function: `VerifyingKey::try_from(pk)` must succeed, and the bytes of the
derived key must equal `pk`.  Returns the accepted public key bytes. -/
def fromKeypairWith (ops : Ops) (b : List UInt8) : Option (List UInt8) :=
  if (decompress (b.drop 32)).isNone then none
  else if publicKeyWith ops (b.take 32) == b.drop 32 then some (b.drop 32) else none

theorem fromKeypairWith_congr {ops : Ops} (hc : OpsCorrect ops) (b : List UInt8) :
    fromKeypairWith ops b = fromKeypairWith Ops.spec b := by
  unfold fromKeypairWith
  rw [publicKeyWith_congr hc]

theorem fromKeypair_iff (b vk : List UInt8) :
    fromKeypairWith Ops.spec b = some vk ↔ vk = b.drop 32 ∧ b.drop 32 = publicKey (b.take 32) := by
  unfold fromKeypairWith
  by_cases h : publicKey (b.take 32) = b.drop 32
  · have hd : decompress (b.drop 32) = some (ofEd ((expandSeed (b.take 32)).1 • Bpt)) := by
      rw [← h, publicKey_eq, decompress_encodeEd]
    have hb : (publicKeyWith Ops.spec (b.take 32) == b.drop 32) = true := beq_iff_eq.2 h
    rw [hd, hb]
    simp only [Option.isNone_some, Bool.false_eq_true, if_false, if_true, Option.some.injEq]
    exact ⟨fun e => ⟨e.symm, h.symm⟩, fun e => e.1.symm⟩
  · have hb : (publicKeyWith Ops.spec (b.take 32) == b.drop 32) = false := by
      cases hh : (publicKeyWith Ops.spec (b.take 32) == b.drop 32)
      · rfl
      · exact absurd (beq_iff_eq.1 hh) h
    rw [hb]
    simp only [Bool.false_eq_true, if_false, ite_self]
    exact ⟨fun e => (by cases e), fun e => absurd e.2.symm h⟩

end Dalek.Eds
