import Dalek.IR.NormSpec
import Dalek.Proofs.Field51
/-!
# C01 — field arithmetic is exact arithmetic modulo 2^255-19 (property theorems)

Statements are about `Dalek.Gen.Field51.*`: the LimbIR programs REGENERATED from
`curve25519-dalek/src/backend/serial/u64/field.rs` on every run.  For every input inside the bound
contract (`Dalek.Model.Contracts`), the debug build (`evalC`, overflow checks + debug assertions) does not
panic, the release build (`evalW`, wrapping) returns the same limbs, the limbs satisfy the stated output
bound, and their value in `ZMod p` is the field operation applied to the values of the inputs.
-/
namespace Dalek.Props.C01.Field51
open Dalek.IR Dalek.Proofs.Field51 Dalek.Gen.Norm.Field51 Dalek.Model.Contracts

/-- value of a 5-limb radix-2^51 vector of naturals in `ZMod p` -/
def val51 (l : List Nat) : ZMod P := ((rep51 (toZ l) : Int) : ZMod P)

/-- output contract of the reducing kernels: every limb `< 2^52` (in fact `< 2^51 + 2^15`) -/
def reduced51 : List Itv := rep 5 (ub (2 ^ 52 - 1))

theorem toZ_cons (x : Nat) (xs : List Nat) : toZ (x :: xs) = (x : Int) :: toZ xs := rfl
theorem toZ_nil : toZ [] = [] := rfl

section
variable (a0 a1 a2 a3 a4 b0 b1 b2 b3 b4 : Nat)

/-- `&a * &b` (serial u64): any limbs below 2^54 -/
theorem mul_spec (hin : EnvIn [a0, a1, a2, a3, a4, b0, b1, b2, b3, b4] Field51.pre_mul) :
    ∃ out, Dalek.Gen.Field51.mul.evalC [a0, a1, a2, a3, a4, b0, b1, b2, b3, b4] = some out ∧
      Dalek.Gen.Field51.mul.evalW [a0, a1, a2, a3, a4, b0, b1, b2, b3, b4] = out ∧
      EnvIn out reduced51 ∧ val51 out = val51 [a0, a1, a2, a3, a4] * val51 [b0, b1, b2, b3, b4] :=
  Prog.fn_spec mul_norm_ok (by decide +kernel) hin (fun v => ((rep51 v : Int) : ZMod P)) (mul_fn_ok _ _ _ _ _ _ _ _ _ _) (mul_correct _ _ _ _ _ _ _ _ _ _)

/-- `&a - &b` -/
theorem sub_spec (hin : EnvIn [a0, a1, a2, a3, a4, b0, b1, b2, b3, b4] Field51.pre_sub) :
    ∃ out, Dalek.Gen.Field51.sub.evalC [a0, a1, a2, a3, a4, b0, b1, b2, b3, b4] = some out ∧
      Dalek.Gen.Field51.sub.evalW [a0, a1, a2, a3, a4, b0, b1, b2, b3, b4] = out ∧
      EnvIn out reduced51 ∧ val51 out = val51 [a0, a1, a2, a3, a4] - val51 [b0, b1, b2, b3, b4] :=
  Prog.fn_spec sub_norm_ok (by decide +kernel) hin (fun v => ((rep51 v : Int) : ZMod P)) (sub_fn_ok _ _ _ _ _ _ _ _ _ _) (sub_correct _ _ _ _ _ _ _ _ _ _)

/-- `&a + &b` (no reduction: output bound is the sum of the input bounds) -/
theorem add_spec (hin : EnvIn [a0, a1, a2, a3, a4, b0, b1, b2, b3, b4] Field51.pre_add) :
    ∃ out, Dalek.Gen.Field51.add.evalC [a0, a1, a2, a3, a4, b0, b1, b2, b3, b4] = some out ∧
      Dalek.Gen.Field51.add.evalW [a0, a1, a2, a3, a4, b0, b1, b2, b3, b4] = out ∧
      EnvIn out (rep 5 (ub (2 ^ 54 - 1))) ∧ val51 out = val51 [a0, a1, a2, a3, a4] + val51 [b0, b1, b2, b3, b4] :=
  Prog.fn_spec add_norm_ok (by decide +kernel) hin (fun v => ((rep51 v : Int) : ZMod P)) (add_fn_ok _ _ _ _ _ _ _ _ _ _) (add_correct _ _ _ _ _ _ _ _ _ _)

/-- `-&a` -/
theorem neg_spec (hin : EnvIn [a0, a1, a2, a3, a4] Field51.pre_neg) :
    ∃ out, Dalek.Gen.Field51.neg.evalC [a0, a1, a2, a3, a4] = some out ∧
      Dalek.Gen.Field51.neg.evalW [a0, a1, a2, a3, a4] = out ∧
      EnvIn out reduced51 ∧ val51 out = - val51 [a0, a1, a2, a3, a4] :=
  Prog.fn_spec neg_norm_ok (by decide +kernel) hin (fun v => ((rep51 v : Int) : ZMod P)) (neg_fn_ok _ _ _ _ _) (neg_correct _ _ _ _ _)

/-- one squaring step of `pow2k` (the loop body); output again inside the input contract, so it iterates -/
theorem pow2k_body_spec (hin : EnvIn [a0, a1, a2, a3, a4] Field51.pre_pow2k_body) :
    ∃ out, Dalek.Gen.Field51.pow2k_body.evalC [a0, a1, a2, a3, a4] = some out ∧
      Dalek.Gen.Field51.pow2k_body.evalW [a0, a1, a2, a3, a4] = out ∧
      EnvIn out reduced51 ∧ val51 out = val51 [a0, a1, a2, a3, a4] ^ 2 :=
  Prog.fn_spec pow2k_body_norm_ok (by decide +kernel) hin (fun v => ((rep51 v : Int) : ZMod P)) (pow2k_body_fn_ok _ _ _ _ _) (pow2k_body_correct _ _ _ _ _)

/-- the weak `reduce`: ANY five u64 words -/
theorem reduce_spec (hin : EnvIn [a0, a1, a2, a3, a4] Field51.pre_reduce) :
    ∃ out, Dalek.Gen.Field51.reduce.evalC [a0, a1, a2, a3, a4] = some out ∧
      Dalek.Gen.Field51.reduce.evalW [a0, a1, a2, a3, a4] = out ∧
      EnvIn out reduced51 ∧ val51 out = val51 [a0, a1, a2, a3, a4] :=
  Prog.fn_spec reduce_norm_ok (by decide +kernel) hin (fun v => ((rep51 v : Int) : ZMod P)) (reduce_fn_ok _ _ _ _ _) (reduce_correct _ _ _ _ _)

/-- the doubling tail of `square2` -/
theorem square2_tail_spec (hin : EnvIn [a0, a1, a2, a3, a4] Field51.pre_square2_tail) :
    ∃ out, Dalek.Gen.Field51.square2_tail.evalC [a0, a1, a2, a3, a4] = some out ∧
      Dalek.Gen.Field51.square2_tail.evalW [a0, a1, a2, a3, a4] = out ∧
      EnvIn out (rep 5 (ub (2 ^ 53 - 1))) ∧ val51 out = 2 * val51 [a0, a1, a2, a3, a4] :=
  Prog.fn_spec square2_tail_norm_ok (by decide +kernel) hin (fun v => ((rep51 v : Int) : ZMod P)) (square2_tail_fn_ok _ _ _ _ _) (square2_tail_correct _ _ _ _ _)

end

/-- non-vacuity: the all-limbs-at-the-bound input satisfies the contract of `mul` -/
example : EnvIn (List.replicate 10 (2 ^ 54 - 1)) Field51.pre_mul := by decide +kernel

end Dalek.Props.C01.Field51
