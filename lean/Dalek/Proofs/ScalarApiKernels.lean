import Dalek.Props.C02.Scalar52
import Dalek.Proofs.ScalarApi29GenInvert
/-!
# `Scalar` API glue, serial u64 backend: the kernel theorems restated on limb LISTS; `ok52 : KernelsOk K52`

Each kernel theorem of `Props/C02/Scalar52.lean` (given there for explicit limbs `a0 … a4`) is restated for the model's
wrappers `Dalek.Model.ScalarApi.*52` on arbitrary lists inside the limb contract (`EnvIn a limbs52`: exactly five
limbs `< 2^52`; `EnvIn b (bytes 32)`: exactly 32 entries `≤ 255`); `ok52` packages them for the generic development
(`Dalek/Proofs/ScalarApi29Gen*.lean`).  `gen52_*`: the hand model `Dalek.Model.ScalarApi` IS the generic glue
`Dalek.Model.ScalarKernels` at `K52`.  Nothing here depends on the shape of generated code.
-/
set_option exponentiation.threshold 600

namespace Dalek.Proofs.ScalarApi
open Dalek.IR Dalek.Model.Contracts Dalek.Gen.Consts Dalek.Model.ScalarApi
open Dalek.Proofs.Scalar52 hiding toZ_nil
open Dalek.Model.FieldBytes (leVal)
open Dalek.Props.C02.Scalar52

theorem unpack_ok {b : List Nat} (hb : EnvIn b (bytes 32)) :
    EnvIn (fromBytes52 b) limbs52 ∧ val52 (fromBytes52 b) = leVal b := by
  refine ForallVec.of_envIn b hb ?_
  repeat intro
  rename_i hb
  obtain ⟨out, -, rfl, he, hv⟩ := from_bytes_spec (hin := hb)
  exact ⟨EnvIn_of_itvsLe he (by decide +kernel), hv⟩

theorem fromBytesWide_ok {b : List Nat} (hb : EnvIn b (bytes 64)) :
    EnvIn (fromBytesWide52 b) limbs52 ∧ val52 (fromBytesWide52 b) = leVal b % l := by
  refine ForallVec.of_envIn b hb ?_
  repeat intro
  rename_i hb
  obtain ⟨out, -, rfl, h⟩ := from_bytes_wide_spec (hin := hb)
  exact h

theorem pack_ok {a : List Nat} (ha : EnvIn a limbs52) (hv : val52 a < 2 ^ 256) :
    EnvIn (asBytes52 a) (bytes 32) ∧ leVal (asBytes52 a) = val52 a := by
  revert hv
  refine ForallVec.of_envIn a ha ?_
  repeat intro
  rename_i ha hv
  obtain ⟨out, -, rfl, h⟩ := as_bytes_spec (hin := ha) (hv := hv)
  exact h

theorem add52_ok {a b : List Nat} (ha : EnvIn a limbs52) (hb : EnvIn b limbs52)
    (hav : val52 a < l) (hbv : val52 b < l) :
    EnvIn (add52 a b) limbs52 ∧ val52 (add52 a b) = (val52 a + val52 b) % l := by
  revert hav hbv
  refine ForallVec.of_envIn₂ a b ha hb ?_
  repeat intro
  rename_i ha hb hav hbv
  obtain ⟨out, -, rfl, h⟩ := add_spec (hin := EnvIn_append ha hb) (ha := hav) (hb := hbv)
  exact h

theorem sub52_ok {a b : List Nat} (ha : EnvIn a limbs52) (hb : EnvIn b limbs52)
    (hav : val52 a < l) (hbv : val52 b < l) :
    EnvIn (sub52 a b) limbs52 ∧ val52 (sub52 a b) = (val52 a + l - val52 b) % l := by
  revert hav hbv
  refine ForallVec.of_envIn₂ a b ha hb ?_
  repeat intro
  rename_i ha hb hav hbv
  obtain ⟨out, -, rfl, he, -, hv⟩ := sub_spec (hin := EnvIn_append ha hb) (ha := hav) (hb := hbv)
  exact ⟨he, hv⟩

theorem mul52_ok {a b : List Nat} (ha : EnvIn a limbs52) (hb : EnvIn b limbs52)
    (hav : val52 a < l) (hbv : val52 b < l) :
    EnvIn (mul52 a b) limbs52 ∧ val52 (mul52 a b) = val52 a * val52 b % l := by
  revert hav hbv
  refine ForallVec.of_envIn₂ a b ha hb ?_
  repeat intro
  rename_i ha hb hav hbv
  obtain ⟨out, -, rfl, h⟩ := mul_spec (hin := EnvIn_append ha hb) (ha := hav) (hb := hbv)
  exact h

theorem mulInternal52_ok {a b : List Nat} (ha : EnvIn a limbs52) (hb : EnvIn b limbs52) :
    EnvIn (mulInternal52 a b) Scalar52.pre_montgomery_reduce ∧
      val52 (mulInternal52 a b) = val52 a * val52 b := by
  refine ForallVec.of_envIn₂ a b ha hb ?_
  repeat intro
  rename_i ha hb
  obtain ⟨out, -, rfl, h⟩ := mul_internal_spec (hin := EnvIn_append ha hb)
  exact h

theorem montgomeryReduce52_ok {z : List Nat} (hz : EnvIn z Scalar52.pre_montgomery_reduce)
    (hN : val52 z < 2 ^ 260 * l) :
    EnvIn (montgomeryReduce52 z) limbs52 ∧ val52 (montgomeryReduce52 z) < l ∧
      val52 (montgomeryReduce52 z) * 2 ^ 260 % l = val52 z % l := by
  revert hN
  refine ForallVec.of_envIn z hz ?_
  repeat intro
  rename_i hz hN
  obtain ⟨out, -, rfl, h⟩ := montgomery_reduce_spec (hin := hz) (hN := hN)
  exact h

theorem montgomeryMul52_ok {a b : List Nat} (ha : EnvIn a limbs52) (hb : EnvIn b limbs52)
    (hav : val52 a < l) (hbv : val52 b < l) :
    EnvIn (montgomeryMul52 a b) limbs52 ∧ val52 (montgomeryMul52 a b) < l ∧
      val52 (montgomeryMul52 a b) * 2 ^ 260 % l = val52 a * val52 b % l := by
  revert hav hbv
  refine ForallVec.of_envIn₂ a b ha hb ?_
  repeat intro
  rename_i ha hb hav hbv
  obtain ⟨out, -, rfl, h⟩ := montgomery_mul_spec (hin := EnvIn_append ha hb)
    (hab := Nat.mul_lt_mul'' (lt_trans hav (by norm_num [l])) hbv)
  exact h

theorem montgomerySquare52_ok {a : List Nat} (ha : EnvIn a limbs52) (hav : val52 a < l) :
    EnvIn (montgomerySquare52 a) limbs52 ∧ val52 (montgomerySquare52 a) < l ∧
      val52 (montgomerySquare52 a) * 2 ^ 260 % l = val52 a * val52 a % l := by
  revert hav
  refine ForallVec.of_envIn a ha ?_
  repeat intro
  rename_i ha hav
  obtain ⟨out, -, rfl, h⟩ := montgomery_square_spec (hin := ha)
    (haa := Nat.mul_lt_mul'' (lt_trans hav (by norm_num [l])) hav)
  exact h

theorem asMontgomery52_ok {a : List Nat} (ha : EnvIn a limbs52) :
    EnvIn (asMontgomery52 a) limbs52 ∧ val52 (asMontgomery52 a) = val52 a * 2 ^ 260 % l := by
  refine ForallVec.of_envIn a ha ?_
  repeat intro
  rename_i ha
  obtain ⟨out, -, rfl, h⟩ := as_montgomery_spec (hin := ha)
  exact h

theorem fromMontgomery52_ok {a : List Nat} (ha : EnvIn a limbs52) :
    EnvIn (fromMontgomery52 a) limbs52 ∧ val52 (fromMontgomery52 a) < l ∧
      val52 (fromMontgomery52 a) * 2 ^ 260 % l = val52 a % l := by
  refine ForallVec.of_envIn a ha ?_
  repeat intro
  rename_i ha
  obtain ⟨out, -, rfl, h⟩ := from_montgomery_spec (hin := ha)
  exact h

end Dalek.Proofs.ScalarApi

namespace Dalek.Proofs.ScalarApiGen
open Dalek.Model Dalek.Gen.Consts

/-- the serial u64 backend satisfies the kernel theorems: five 52-bit limbs, Montgomery radix `2^260` -/
def ok52 : KernelsOk K52 where
  val := Dalek.Proofs.Scalar52.val52
  limbs := Dalek.Props.C02.Scalar52.limbs52
  wide := Dalek.Model.Contracts.Scalar52.pre_montgomery_reduce
  rexp := 260
  rexp_ge := by norm_num
  fromBytes_ok := Dalek.Proofs.ScalarApi.unpack_ok
  fromBytesWide_ok := Dalek.Proofs.ScalarApi.fromBytesWide_ok
  asBytes_ok := Dalek.Proofs.ScalarApi.pack_ok
  add_ok := Dalek.Proofs.ScalarApi.add52_ok
  sub_ok := Dalek.Proofs.ScalarApi.sub52_ok
  mul_ok := Dalek.Proofs.ScalarApi.mul52_ok
  mulInternal_ok := Dalek.Proofs.ScalarApi.mulInternal52_ok
  montgomeryReduce_ok := Dalek.Proofs.ScalarApi.montgomeryReduce52_ok
  montgomeryMul_ok := Dalek.Proofs.ScalarApi.montgomeryMul52_ok
  montgomerySquare_ok := Dalek.Proofs.ScalarApi.montgomerySquare52_ok
  asMontgomery_ok := Dalek.Proofs.ScalarApi.asMontgomery52_ok
  fromMontgomery_ok := Dalek.Proofs.ScalarApi.fromMontgomery52_ok
  R_limbs := by decide +kernel
  R_value := Dalek.Props.C02.Scalar52.R_value
  ZERO_limbs := by decide +kernel
  ZERO_val := by decide +kernel

/-! ## the u64 hand model is the generic glue at `K52` -/

theorem gen52_unpack : ScalarApi.unpack = K52.unpack := rfl
theorem gen52_pack : ScalarApi.pack = K52.pack := rfl
theorem gen52_reduce : ScalarApi.reduce52 = K52.reduce := rfl
theorem gen52_fromBytesModOrder : ScalarApi.fromBytesModOrder = K52.fromBytesModOrder := rfl
theorem gen52_fromBytesModOrderWide : ScalarApi.fromBytesModOrderWide = K52.fromBytesModOrderWide := rfl
theorem gen52_isCanonical : ScalarApi.isCanonical = K52.isCanonical := rfl
theorem gen52_fromCanonicalBytes : ScalarApi.fromCanonicalBytes = K52.fromCanonicalBytes := rfl
theorem gen52_fromHash : ScalarApi.fromHash = K52.fromHash := rfl
theorem gen52_add : ScalarApi.add = K52.add := rfl
theorem gen52_sub : ScalarApi.sub = K52.sub := rfl
theorem gen52_mul : ScalarApi.mul = K52.mul := rfl
theorem gen52_neg : ScalarApi.neg = K52.neg := rfl
theorem gen52_sum : ScalarApi.sum = K52.sum := rfl
theorem gen52_product : ScalarApi.product = K52.product := rfl
theorem gen52_montgomeryInvert : ScalarApi.montgomeryInvert = K52.montgomeryInvert := rfl
theorem gen52_invertUnpacked : ScalarApi.invertUnpacked = K52.invertUnpacked := rfl
theorem gen52_invert : ScalarApi.invert = K52.invert := rfl

theorem gen52_batchPass1 : ∀ (ps : List (List Nat × List Nat)) (acc : List Nat),
    ScalarApi.batchPass1 ps acc = K52.batchPass1 ps acc
  | [], _ => rfl
  | (i, s) :: ps, acc => by
      simp only [ScalarApi.batchPass1, ScalarKernels.batchPass1, gen52_batchPass1 ps]
      rfl

theorem gen52_batchPass2 : ∀ (ps : List (List Nat × List Nat)) (acc : List Nat),
    ScalarApi.batchPass2 ps acc = K52.batchPass2 ps acc
  | [], _ => rfl
  | (i, s) :: ps, acc => by
      simp only [ScalarApi.batchPass2, ScalarKernels.batchPass2, gen52_batchPass2 ps]
      rfl

theorem gen52_batchInvert (bs : List (List Nat)) : ScalarApi.batchInvert bs = K52.batchInvert bs := by
  simp only [ScalarApi.batchInvert, ScalarKernels.batchInvert, gen52_batchPass1, gen52_batchPass2]
  rfl

theorem gen52_batchInvertAccPacked (bs : List (List Nat)) :
    ScalarApi.batchInvertAccPacked bs = K52.batchInvertAccPacked bs := by
  simp only [ScalarApi.batchInvertAccPacked, ScalarKernels.batchInvertAccPacked, gen52_batchPass1]
  rfl

end Dalek.Proofs.ScalarApiGen
