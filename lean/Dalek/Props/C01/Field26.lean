import Dalek.IR.NormSpec
import Dalek.Proofs.Field26
/-!
# C01 — field arithmetic is exact arithmetic modulo 2^255-19 (property theorems, serial-u32 backend)

Statements are about `Dalek.Gen.Field26.*`: the LimbIR programs REGENERATED from
`curve25519-dalek/src/backend/serial/u32/field.rs` on every run.  For every input inside the bound
contract (`Dalek.Model.Contracts.Field26`), the debug build (`evalC`, overflow checks + debug assertions) does
not panic, the release build (`evalW`, wrapping) returns the same limbs, the limbs satisfy the stated output
bound, and their value in `ZMod p` is the field operation applied to the values of the inputs.

Limb `i` of the ten limbs has weight `2^⌈25.5 i⌉` (`rep26`); even limbs nominally have 26 bits, odd limbs 25.
-/
namespace Dalek.Props.C01.Field26
open Dalek.IR Dalek.Proofs.Field26 Dalek.Gen.Norm.Field26 Dalek.Model.Contracts

/-- value of a 10-limb radix-2^25.5 vector of naturals in `ZMod p` -/
def val26 (l : List Nat) : ZMod P := ((rep26 (toZ l) : Int) : ZMod P)

/-- output contract of the reducing kernels: even limbs `< 1.004 · 2^26`, odd limbs `< 1.004 · 2^25`.
`1.004 < 2^0.007`, so this is (slightly stronger than) the excess `b < 0.007` documented for `reduce`.
(What the analyser actually derives: even limbs `< 2^26`, limbs 3, 7, 9 `< 2^25`, limbs 1 and 5 `< 2^25 + 2^17`.) -/
def reduced26 : List Itv := l2625f 1004 1000


theorem toZ_cons (x : Nat) (xs : List Nat) : toZ (x :: xs) = (x : Int) :: toZ xs := rfl
theorem toZ_nil : toZ [] = [] := rfl

section
variable (a0 a1 a2 a3 a4 a5 a6 a7 a8 a9 b0 b1 b2 b3 b4 b5 b6 b7 b8 b9 : Nat)

/-- `&a * &b` (serial u32): first operand with excess `b < 2.5` (limbs `< 5.65 · 2^{26,25}`), second operand
with excess `b < 1.75` (limbs `< 3.36 · 2^{26,25}`), as documented in the source -/
theorem mul_spec (hin : EnvIn [a0, a1, a2, a3, a4, a5, a6, a7, a8, a9, b0, b1, b2, b3, b4, b5, b6, b7, b8, b9] Field26.pre_mul) :
    ∃ out, Dalek.Gen.Field26.mul.evalC [a0, a1, a2, a3, a4, a5, a6, a7, a8, a9, b0, b1, b2, b3, b4, b5, b6, b7, b8, b9] = some out ∧
      Dalek.Gen.Field26.mul.evalW [a0, a1, a2, a3, a4, a5, a6, a7, a8, a9, b0, b1, b2, b3, b4, b5, b6, b7, b8, b9] = out ∧
      EnvIn out reduced26 ∧
      val26 out = val26 [a0, a1, a2, a3, a4, a5, a6, a7, a8, a9] * val26 [b0, b1, b2, b3, b4, b5, b6, b7, b8, b9] :=
  Prog.fn_spec mul_norm_ok (by decide +kernel) hin (fun v => ((rep26 v : Int) : ZMod P)) (mul_fn_ok _ _ _ _ _ _ _ _ _ _ _ _ _ _ _ _ _ _ _ _) (mul_correct _ _ _ _ _ _ _ _ _ _ _ _ _ _ _ _ _ _ _ _)

/-- `&a - &b`: limbs of both operands `< 2^{28,27}` -/
theorem sub_spec (hin : EnvIn [a0, a1, a2, a3, a4, a5, a6, a7, a8, a9, b0, b1, b2, b3, b4, b5, b6, b7, b8, b9] Field26.pre_sub) :
    ∃ out, Dalek.Gen.Field26.sub.evalC [a0, a1, a2, a3, a4, a5, a6, a7, a8, a9, b0, b1, b2, b3, b4, b5, b6, b7, b8, b9] = some out ∧
      Dalek.Gen.Field26.sub.evalW [a0, a1, a2, a3, a4, a5, a6, a7, a8, a9, b0, b1, b2, b3, b4, b5, b6, b7, b8, b9] = out ∧
      EnvIn out reduced26 ∧
      val26 out = val26 [a0, a1, a2, a3, a4, a5, a6, a7, a8, a9] - val26 [b0, b1, b2, b3, b4, b5, b6, b7, b8, b9] :=
  Prog.fn_spec sub_norm_ok (by decide +kernel) hin (fun v => ((rep26 v : Int) : ZMod P)) (sub_fn_ok _ _ _ _ _ _ _ _ _ _ _ _ _ _ _ _ _ _ _ _) (sub_correct _ _ _ _ _ _ _ _ _ _ _ _ _ _ _ _ _ _ _ _)

/-- `a += &b` (no reduction: limbs of both operands `< 2^{27,26}`, limbs of the sum `< 2^{28,27}`) -/
theorem add_spec (hin : EnvIn [a0, a1, a2, a3, a4, a5, a6, a7, a8, a9, b0, b1, b2, b3, b4, b5, b6, b7, b8, b9] Field26.pre_add) :
    ∃ out, Dalek.Gen.Field26.add.evalC [a0, a1, a2, a3, a4, a5, a6, a7, a8, a9, b0, b1, b2, b3, b4, b5, b6, b7, b8, b9] = some out ∧
      Dalek.Gen.Field26.add.evalW [a0, a1, a2, a3, a4, a5, a6, a7, a8, a9, b0, b1, b2, b3, b4, b5, b6, b7, b8, b9] = out ∧
      EnvIn out (l2625 2) ∧
      val26 out = val26 [a0, a1, a2, a3, a4, a5, a6, a7, a8, a9] + val26 [b0, b1, b2, b3, b4, b5, b6, b7, b8, b9] :=
  Prog.fn_spec add_norm_ok (by decide +kernel) hin (fun v => ((rep26 v : Int) : ZMod P)) (add_fn_ok _ _ _ _ _ _ _ _ _ _ _ _ _ _ _ _ _ _ _ _) (add_correct _ _ _ _ _ _ _ _ _ _ _ _ _ _ _ _ _ _ _ _)

/-- `a.negate()`: limbs `< 2^{28,27}` -/
theorem neg_spec (hin : EnvIn [a0, a1, a2, a3, a4, a5, a6, a7, a8, a9] Field26.pre_neg) :
    ∃ out, Dalek.Gen.Field26.neg.evalC [a0, a1, a2, a3, a4, a5, a6, a7, a8, a9] = some out ∧
      Dalek.Gen.Field26.neg.evalW [a0, a1, a2, a3, a4, a5, a6, a7, a8, a9] = out ∧
      EnvIn out reduced26 ∧
      val26 out = - val26 [a0, a1, a2, a3, a4, a5, a6, a7, a8, a9] :=
  Prog.fn_spec neg_norm_ok (by decide +kernel) hin (fun v => ((rep26 v : Int) : ZMod P)) (neg_fn_ok _ _ _ _ _ _ _ _ _ _) (neg_correct _ _ _ _ _ _ _ _ _ _)

/-- `FieldElement2625::reduce`: ANY ten words below `2^63` -/
theorem reduce_spec (hin : EnvIn [a0, a1, a2, a3, a4, a5, a6, a7, a8, a9] Field26.pre_reduce) :
    ∃ out, Dalek.Gen.Field26.reduce.evalC [a0, a1, a2, a3, a4, a5, a6, a7, a8, a9] = some out ∧
      Dalek.Gen.Field26.reduce.evalW [a0, a1, a2, a3, a4, a5, a6, a7, a8, a9] = out ∧
      EnvIn out reduced26 ∧
      val26 out = val26 [a0, a1, a2, a3, a4, a5, a6, a7, a8, a9] :=
  Prog.fn_spec reduce_norm_ok (by decide +kernel) hin (fun v => ((rep26 v : Int) : ZMod P)) (reduce_fn_ok _ _ _ _ _ _ _ _ _ _) (reduce_correct _ _ _ _ _ _ _ _ _ _)

/-- `square_inner`: the ten unreduced u64 coefficients of the square; they satisfy the contract of `reduce` -/
theorem square_inner_spec (hin : EnvIn [a0, a1, a2, a3, a4, a5, a6, a7, a8, a9] Field26.pre_square_inner) :
    ∃ out, Dalek.Gen.Field26.square_inner.evalC [a0, a1, a2, a3, a4, a5, a6, a7, a8, a9] = some out ∧
      Dalek.Gen.Field26.square_inner.evalW [a0, a1, a2, a3, a4, a5, a6, a7, a8, a9] = out ∧
      EnvIn out Field26.pre_reduce ∧
      val26 out = val26 [a0, a1, a2, a3, a4, a5, a6, a7, a8, a9] ^ 2 :=
  Prog.fn_spec square_inner_norm_ok (by decide +kernel) hin (fun v => ((rep26 v : Int) : ZMod P)) (square_inner_fn_ok _ _ _ _ _ _ _ _ _ _) (square_inner_correct _ _ _ _ _ _ _ _ _ _)

/-- `a.square()`: limbs `< 3.36 · 2^{26,25}` (excess `b < 1.75`) -/
theorem square_spec (hin : EnvIn [a0, a1, a2, a3, a4, a5, a6, a7, a8, a9] Field26.pre_square) :
    ∃ out, Dalek.Gen.Field26.square.evalC [a0, a1, a2, a3, a4, a5, a6, a7, a8, a9] = some out ∧
      Dalek.Gen.Field26.square.evalW [a0, a1, a2, a3, a4, a5, a6, a7, a8, a9] = out ∧
      EnvIn out reduced26 ∧
      val26 out = val26 [a0, a1, a2, a3, a4, a5, a6, a7, a8, a9] ^ 2 :=
  Prog.fn_spec square_norm_ok (by decide +kernel) hin (fun v => ((rep26 v : Int) : ZMod P)) (square_fn_ok _ _ _ _ _ _ _ _ _ _) (square_correct _ _ _ _ _ _ _ _ _ _)

/-- `a.square2()` computes `2 a^2` -/
theorem square2_spec (hin : EnvIn [a0, a1, a2, a3, a4, a5, a6, a7, a8, a9] Field26.pre_square2) :
    ∃ out, Dalek.Gen.Field26.square2.evalC [a0, a1, a2, a3, a4, a5, a6, a7, a8, a9] = some out ∧
      Dalek.Gen.Field26.square2.evalW [a0, a1, a2, a3, a4, a5, a6, a7, a8, a9] = out ∧
      EnvIn out reduced26 ∧
      val26 out = 2 * val26 [a0, a1, a2, a3, a4, a5, a6, a7, a8, a9] ^ 2 :=
  Prog.fn_spec square2_norm_ok (by decide +kernel) hin (fun v => ((rep26 v : Int) : ZMod P)) (square2_fn_ok _ _ _ _ _ _ _ _ _ _) (square2_correct _ _ _ _ _ _ _ _ _ _)

/-- one squaring step of `pow2k` (the loop body); output again inside the input contract, so it iterates
(see `Dalek.Props.C01.Pow2k`) -/
theorem pow2k_body_spec (hin : EnvIn [a0, a1, a2, a3, a4, a5, a6, a7, a8, a9] Field26.pre_pow2k_body) :
    ∃ out, Dalek.Gen.Field26.pow2k_body.evalC [a0, a1, a2, a3, a4, a5, a6, a7, a8, a9] = some out ∧
      Dalek.Gen.Field26.pow2k_body.evalW [a0, a1, a2, a3, a4, a5, a6, a7, a8, a9] = out ∧
      EnvIn out reduced26 ∧
      val26 out = val26 [a0, a1, a2, a3, a4, a5, a6, a7, a8, a9] ^ 2 :=
  Prog.fn_spec pow2k_body_norm_ok (by decide +kernel) hin (fun v => ((rep26 v : Int) : ZMod P)) (pow2k_body_fn_ok _ _ _ _ _ _ _ _ _ _) (pow2k_body_correct _ _ _ _ _ _ _ _ _ _)

end

/-! Non-vacuity: the all-limbs-at-the-bound input satisfies each contract. -/
example : EnvIn (Field26.pre_mul.map (·.hi)) Field26.pre_mul := by decide +kernel
example : EnvIn (Field26.pre_sub.map (·.hi)) Field26.pre_sub := by decide +kernel
example : EnvIn (Field26.pre_add.map (·.hi)) Field26.pre_add := by decide +kernel
example : EnvIn (Field26.pre_neg.map (·.hi)) Field26.pre_neg := by decide +kernel
example : EnvIn (Field26.pre_reduce.map (·.hi)) Field26.pre_reduce := by decide +kernel
example : EnvIn (Field26.pre_square_inner.map (·.hi)) Field26.pre_square_inner := by decide +kernel
example : EnvIn (Field26.pre_square.map (·.hi)) Field26.pre_square := by decide +kernel
example : EnvIn (Field26.pre_square2.map (·.hi)) Field26.pre_square2 := by decide +kernel
example : EnvIn (Field26.pre_pow2k_body.map (·.hi)) Field26.pre_pow2k_body := by decide +kernel
/-- the output contract of the reducing kernels is inside every input contract of a 10-limb operand -/
example : itvsLe reduced26 Field26.pre_pow2k_body = true ∧ itvsLe reduced26 (l2625 1) = true := by decide +kernel

end Dalek.Props.C01.Field26
