import Dalek.Proofs.Avx2Field.Defs
import Dalek.Gen.Norm.Avx2Field
/-! The two selects of the AVX2 backend.  (Shuffles and blends are pure lane renamings: their statements in
`Dalek/Props/C01/Avx2.lean` hold by `rfl`, lane by lane.) -/
set_option maxRecDepth 100000
set_option linter.unusedSimpArgs false
namespace Dalek.Proofs.Avx2Field
open Dalek Dalek.Gen.Norm.Avx2Field Dalek.Proofs.Field26

/-- `conditional_select(a, b, choice)`: all 40 lanes of `a` if `choice = 0`, else all 40 lanes of `b` -/
theorem conditional_select_correct (x0 x1 x2 x3 x4 x5 x6 x7 x8 x9 x10 x11 x12 x13 x14 x15 x16 x17 x18 x19 x20 x21 x22 x23 x24 x25 x26 x27 x28 x29 x30 x31 x32 x33 x34 x35 x36 x37 x38 x39 y0 y1 y2 y3 y4 y5 y6 y7 y8 y9 y10 y11 y12 y13 y14 y15 y16 y17 y18 y19 y20 y21 y22 y23 y24 y25 y26 y27 y28 y29 y30 y31 y32 y33 y34 y35 y36 y37 y38 y39 c : Int) :
    conditional_select_fn x0 x1 x2 x3 x4 x5 x6 x7 x8 x9 x10 x11 x12 x13 x14 x15 x16 x17 x18 x19 x20 x21 x22 x23 x24 x25 x26 x27 x28 x29 x30 x31 x32 x33 x34 x35 x36 x37 x38 x39 y0 y1 y2 y3 y4 y5 y6 y7 y8 y9 y10 y11 y12 y13 y14 y15 y16 y17 y18 y19 y20 y21 y22 y23 y24 y25 y26 y27 y28 y29 y30 y31 y32 y33 y34 y35 y36 y37 y38 y39 c = if c = 0 then (x0 :: x1 :: x2 :: x3 :: x4 :: x5 :: x6 :: x7 :: x8 :: x9 :: x10 :: x11 :: x12 :: x13 :: x14 :: x15 :: x16 :: x17 :: x18 :: x19 :: x20 :: x21 :: x22 :: x23 :: x24 :: x25 :: x26 :: x27 :: x28 :: x29 :: x30 :: x31 :: x32 :: x33 :: x34 :: x35 :: x36 :: x37 :: x38 :: x39 :: []) else (y0 :: y1 :: y2 :: y3 :: y4 :: y5 :: y6 :: y7 :: y8 :: y9 :: y10 :: y11 :: y12 :: y13 :: y14 :: y15 :: y16 :: y17 :: y18 :: y19 :: y20 :: y21 :: y22 :: y23 :: y24 :: y25 :: y26 :: y27 :: y28 :: y29 :: y30 :: y31 :: y32 :: y33 :: y34 :: y35 :: y36 :: y37 :: y38 :: y39 :: []) := by
  by_cases h : c = 0 <;> simp only [conditional_select_fn, h, ↓reduceIte]

/-- `conditional_assign(a, b, choice)`: all 40 lanes of `a` if `choice = 0`, else all 40 lanes of `b` -/
theorem conditional_assign_correct (x0 x1 x2 x3 x4 x5 x6 x7 x8 x9 x10 x11 x12 x13 x14 x15 x16 x17 x18 x19 x20 x21 x22 x23 x24 x25 x26 x27 x28 x29 x30 x31 x32 x33 x34 x35 x36 x37 x38 x39 y0 y1 y2 y3 y4 y5 y6 y7 y8 y9 y10 y11 y12 y13 y14 y15 y16 y17 y18 y19 y20 y21 y22 y23 y24 y25 y26 y27 y28 y29 y30 y31 y32 y33 y34 y35 y36 y37 y38 y39 c : Int) :
    conditional_assign_fn x0 x1 x2 x3 x4 x5 x6 x7 x8 x9 x10 x11 x12 x13 x14 x15 x16 x17 x18 x19 x20 x21 x22 x23 x24 x25 x26 x27 x28 x29 x30 x31 x32 x33 x34 x35 x36 x37 x38 x39 y0 y1 y2 y3 y4 y5 y6 y7 y8 y9 y10 y11 y12 y13 y14 y15 y16 y17 y18 y19 y20 y21 y22 y23 y24 y25 y26 y27 y28 y29 y30 y31 y32 y33 y34 y35 y36 y37 y38 y39 c = if c = 0 then (x0 :: x1 :: x2 :: x3 :: x4 :: x5 :: x6 :: x7 :: x8 :: x9 :: x10 :: x11 :: x12 :: x13 :: x14 :: x15 :: x16 :: x17 :: x18 :: x19 :: x20 :: x21 :: x22 :: x23 :: x24 :: x25 :: x26 :: x27 :: x28 :: x29 :: x30 :: x31 :: x32 :: x33 :: x34 :: x35 :: x36 :: x37 :: x38 :: x39 :: []) else (y0 :: y1 :: y2 :: y3 :: y4 :: y5 :: y6 :: y7 :: y8 :: y9 :: y10 :: y11 :: y12 :: y13 :: y14 :: y15 :: y16 :: y17 :: y18 :: y19 :: y20 :: y21 :: y22 :: y23 :: y24 :: y25 :: y26 :: y27 :: y28 :: y29 :: y30 :: y31 :: y32 :: y33 :: y34 :: y35 :: y36 :: y37 :: y38 :: y39 :: []) := by
  by_cases h : c = 0 <;> simp only [conditional_assign_fn, h, ↓reduceIte]

end Dalek.Proofs.Avx2Field
