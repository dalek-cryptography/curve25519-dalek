import Dalek.Proofs.KLane.Avx2
/-!
# C11 — bound chaining through the parallel point formulas of the AVX2 backend

The programs `Dalek.Gen.KAvx2Edwards.<item>` are REGENERATED from `backend/vector/avx2/edwards.rs` on every run: each
vector-field method call of the Rust function is one call of the translated limb kernel of that method.

`<item>_chain`: the verified interval analysis (`Prog.norm` of every called kernel, on the intervals its arguments actually
have at that point of the formula) succeeds and the result is inside the invariant.  It is the interval half of the
kernel evaluation `Dalek.Proofs.KLane.Avx2.<item>_laneOk` (`chainOk_of_laneOk`), which runs this very analysis.
`<item>_safe`: for ALL inputs inside the invariants, no kernel call overflows or fails a debug assertion (checked semantics
succeeds), checked and wrapping (release) semantics agree, and the result is inside the invariant.
-/
namespace Dalek.Props.C11.VecChain.Avx2
open Dalek.IR Dalek.Gen Dalek.Model.VecInv Dalek.Proofs.KLane

theorem ExtendedPoint_from_EdwardsPoint_chain :
    KAvx2Edwards.ExtendedPoint_from_EdwardsPoint.chainOk [] [fe54, fe54, fe54, fe54] [Avx2.invExt] = true :=
  chainOk_of_laneOk Avx2.ExtendedPoint_from_EdwardsPoint_laneOk

/-- `ExtendedPoint::from(EdwardsPoint)`: four serial field elements with limbs `< 2^54` give an `ExtendedPoint` inside its invariant -/
theorem ExtendedPoint_from_EdwardsPoint_safe :
    KAvx2Edwards.ExtendedPoint_from_EdwardsPoint.Safe [fe54, fe54, fe54, fe54] [Avx2.invExt] :=
  KProg.safe_of_chainOk _ [] _ _ (HintsValid.nil _ _) ExtendedPoint_from_EdwardsPoint_chain

theorem EdwardsPoint_from_ExtendedPoint_chain :
    KAvx2Edwards.EdwardsPoint_from_ExtendedPoint.chainOk [] [Avx2.invExt] [Avx2.splitOut] = true :=
  chainOk_of_laneOk Avx2.EdwardsPoint_from_ExtendedPoint_laneOk

/-- `EdwardsPoint::from(ExtendedPoint)`: the four returned `FieldElement51` have limbs inside `splitOut` -/
theorem EdwardsPoint_from_ExtendedPoint_safe :
    KAvx2Edwards.EdwardsPoint_from_ExtendedPoint.Safe [Avx2.invExt] [Avx2.splitOut] :=
  KProg.safe_of_chainOk _ [] _ _ (HintsValid.nil _ _) EdwardsPoint_from_ExtendedPoint_chain

theorem CachedPoint_from_ExtendedPoint_chain :
    KAvx2Edwards.CachedPoint_from_ExtendedPoint.chainOk [] [Avx2.invExt] [Avx2.invCached] = true :=
  chainOk_of_laneOk Avx2.CachedPoint_from_ExtendedPoint_laneOk

/-- `CachedPoint::from(ExtendedPoint)` -/
theorem CachedPoint_from_ExtendedPoint_safe :
    KAvx2Edwards.CachedPoint_from_ExtendedPoint.Safe [Avx2.invExt] [Avx2.invCached] :=
  KProg.safe_of_chainOk _ [] _ _ (HintsValid.nil _ _) CachedPoint_from_ExtendedPoint_chain

theorem ExtendedPoint_double_chain :
    KAvx2Edwards.ExtendedPoint_double.chainOk [] [Avx2.invExt] [Avx2.invExt] = true :=
  chainOk_of_laneOk Avx2.ExtendedPoint_double_laneOk

/-- `ExtendedPoint::double` -/
theorem ExtendedPoint_double_safe :
    KAvx2Edwards.ExtendedPoint_double.Safe [Avx2.invExt] [Avx2.invExt] :=
  KProg.safe_of_chainOk _ [] _ _ (HintsValid.nil _ _) ExtendedPoint_double_chain

theorem ExtendedPoint_mul_by_pow_2_body_chain :
    KAvx2Edwards.ExtendedPoint_mul_by_pow_2_body.chainOk [] [Avx2.invExt] [Avx2.invExt] = true :=
  chainOk_of_laneOk Avx2.ExtendedPoint_mul_by_pow_2_body_laneOk

/-- one iteration of the loop of `ExtendedPoint::mul_by_pow_2` -/
theorem ExtendedPoint_mul_by_pow_2_body_safe :
    KAvx2Edwards.ExtendedPoint_mul_by_pow_2_body.Safe [Avx2.invExt] [Avx2.invExt] :=
  KProg.safe_of_chainOk _ [] _ _ (HintsValid.nil _ _) ExtendedPoint_mul_by_pow_2_body_chain

theorem ExtendedPoint_add_CachedPoint_chain :
    KAvx2Edwards.ExtendedPoint_add_CachedPoint.chainOk [] [Avx2.invExt, Avx2.invCached] [Avx2.invExt] = true :=
  chainOk_of_laneOk Avx2.ExtendedPoint_add_CachedPoint_laneOk

/-- `&ExtendedPoint + &CachedPoint` -/
theorem ExtendedPoint_add_CachedPoint_safe :
    KAvx2Edwards.ExtendedPoint_add_CachedPoint.Safe [Avx2.invExt, Avx2.invCached] [Avx2.invExt] :=
  KProg.safe_of_chainOk _ [] _ _ (HintsValid.nil _ _) ExtendedPoint_add_CachedPoint_chain

theorem ExtendedPoint_sub_CachedPoint_chain :
    KAvx2Edwards.ExtendedPoint_sub_CachedPoint.chainOk [] [Avx2.invExt, Avx2.invCached] [Avx2.invExt] = true :=
  chainOk_of_laneOk Avx2.ExtendedPoint_sub_CachedPoint_laneOk

/-- `&ExtendedPoint - &CachedPoint` -/
theorem ExtendedPoint_sub_CachedPoint_safe :
    KAvx2Edwards.ExtendedPoint_sub_CachedPoint.Safe [Avx2.invExt, Avx2.invCached] [Avx2.invExt] :=
  KProg.safe_of_chainOk _ [] _ _ (HintsValid.nil _ _) ExtendedPoint_sub_CachedPoint_chain

theorem CachedPoint_neg_chain :
    KAvx2Edwards.CachedPoint_neg.chainOk [] [Avx2.invCached] [Avx2.invCached] = true :=
  chainOk_of_laneOk Avx2.CachedPoint_neg_laneOk

/-- `-&CachedPoint` -/
theorem CachedPoint_neg_safe :
    KAvx2Edwards.CachedPoint_neg.Safe [Avx2.invCached] [Avx2.invCached] :=
  KProg.safe_of_chainOk _ [] _ _ (HintsValid.nil _ _) CachedPoint_neg_chain

theorem ExtendedPoint_identity_chain :
    KAvx2Edwards.ExtendedPoint_identity.chainOk [] [] [Avx2.invExt] = true :=
  chainOk_of_laneOk Avx2.ExtendedPoint_identity_laneOk

/-- `ExtendedPoint::identity()` (the constant satisfies the invariant) -/
theorem ExtendedPoint_identity_safe :
    KAvx2Edwards.ExtendedPoint_identity.Safe [] [Avx2.invExt] :=
  KProg.safe_of_chainOk _ [] _ _ (HintsValid.nil _ _) ExtendedPoint_identity_chain

theorem CachedPoint_identity_chain :
    KAvx2Edwards.CachedPoint_identity.chainOk [] [] [Avx2.invCached] = true :=
  chainOk_of_laneOk Avx2.CachedPoint_identity_laneOk

/-- `CachedPoint::identity()` -/
theorem CachedPoint_identity_safe :
    KAvx2Edwards.CachedPoint_identity.Safe [] [Avx2.invCached] :=
  KProg.safe_of_chainOk _ [] _ _ (HintsValid.nil _ _) CachedPoint_identity_chain

theorem ExtendedPoint_conditional_select_chain :
    KAvx2Edwards.ExtendedPoint_conditional_select.chainOk [] [Avx2.invExt, Avx2.invExt, choice] [Avx2.invExt] = true :=
  chainOk_of_laneOk Avx2.ExtendedPoint_conditional_select_laneOk

/-- `ExtendedPoint::conditional_select` -/
theorem ExtendedPoint_conditional_select_safe :
    KAvx2Edwards.ExtendedPoint_conditional_select.Safe [Avx2.invExt, Avx2.invExt, choice] [Avx2.invExt] :=
  KProg.safe_of_chainOk _ [] _ _ (HintsValid.nil _ _) ExtendedPoint_conditional_select_chain

theorem ExtendedPoint_conditional_assign_chain :
    KAvx2Edwards.ExtendedPoint_conditional_assign.chainOk [] [Avx2.invExt, Avx2.invExt, choice] [Avx2.invExt] = true :=
  chainOk_of_laneOk Avx2.ExtendedPoint_conditional_assign_laneOk

/-- `ExtendedPoint::conditional_assign` -/
theorem ExtendedPoint_conditional_assign_safe :
    KAvx2Edwards.ExtendedPoint_conditional_assign.Safe [Avx2.invExt, Avx2.invExt, choice] [Avx2.invExt] :=
  KProg.safe_of_chainOk _ [] _ _ (HintsValid.nil _ _) ExtendedPoint_conditional_assign_chain

theorem CachedPoint_conditional_select_chain :
    KAvx2Edwards.CachedPoint_conditional_select.chainOk [] [Avx2.invCached, Avx2.invCached, choice] [Avx2.invCached] = true :=
  chainOk_of_laneOk Avx2.CachedPoint_conditional_select_laneOk

/-- `CachedPoint::conditional_select` -/
theorem CachedPoint_conditional_select_safe :
    KAvx2Edwards.CachedPoint_conditional_select.Safe [Avx2.invCached, Avx2.invCached, choice] [Avx2.invCached] :=
  KProg.safe_of_chainOk _ [] _ _ (HintsValid.nil _ _) CachedPoint_conditional_select_chain

theorem CachedPoint_conditional_assign_chain :
    KAvx2Edwards.CachedPoint_conditional_assign.chainOk [] [Avx2.invCached, Avx2.invCached, choice] [Avx2.invCached] = true :=
  chainOk_of_laneOk Avx2.CachedPoint_conditional_assign_laneOk

/-- `CachedPoint::conditional_assign` -/
theorem CachedPoint_conditional_assign_safe :
    KAvx2Edwards.CachedPoint_conditional_assign.Safe [Avx2.invCached, Avx2.invCached, choice] [Avx2.invCached] :=
  KProg.safe_of_chainOk _ [] _ _ (HintsValid.nil _ _) CachedPoint_conditional_assign_chain

end Dalek.Props.C11.VecChain.Avx2
