import Mathlib.Tactic.Ring
import Mathlib.Tactic.NormNum
import Mathlib.Tactic.LinearCombination
import Mathlib.Tactic.Linarith
import Dalek.Model.FieldBytes
/-!
# Digit strings in a mixed radix and carry chains

The byte codecs of all field backends are instances of one fact.  For a list of limb widths `ws`, `digits ws N` are
the digits of `N`, and `radVal ws` is their value.  A carry chain (`Chain`), in whatever shape the code computes
it (plain `/`, `%`; the wrapping subtract-with-borrow of fiat; a running byte value), produces `digits ws` of the
value it started from (`Chain.spec`).  So

* `from_bytes` is `digits ws (N % 2^255)`, `N` the little-endian value of the 32 bytes;
* `as_bytes` is `digits [8, …, 8] (A % p)`: the limbs after the conditional subtraction are `digits ws G` with
  `G % 2^255 = A % p` (`serial_canon`, `fiat_canon`: facts about one integer), and packing limbs into bytes is a
  change of digit widths of the same integer.
-/
namespace Dalek.Proofs.Radix
open Dalek.Model.FieldBytes

/-- value of the limbs `xs`, limb `i` having `ws[i]` bits: `Σ xs[i] 2^(ws[0] + … + ws[i-1])` -/
def radVal : List Nat → List Int → Int
  | w :: ws, x :: xs => x + 2 ^ w * radVal ws xs
  | _, _ => 0

/-- the digits of `N` of widths `ws`, least significant first -/
def digits : List Nat → Int → List Int
  | [], _ => []
  | w :: ws, N => N % 2 ^ w :: digits ws (N / 2 ^ w)

/-- `fs` and the carry `c'` are what a carry chain makes of the limbs `xs` and the incoming carry `c`: each step
splits `x + c` into a digit `f` of `w` bits and the next carry -/
def Chain : List Nat → Int → List Int → List Int → Int → Prop
  | w :: ws, c, x :: xs, f :: fs, c' => (0 ≤ f ∧ f < 2 ^ w) ∧ ∃ k, x + c = f + 2 ^ w * k ∧ Chain ws k xs fs c'
  | [], c, [], [], c' => c' = c
  | _, _, _, _, _ => False

theorem emod_mul_pow (N : Int) (a b : Nat) : N % 2 ^ (a + b) = N % 2 ^ a + 2 ^ a * (N / 2 ^ a % 2 ^ b) := by
  have ha : (0 : Int) < 2 ^ a := pow_pos two_pos a
  have hb : (0 : Int) < 2 ^ b := pow_pos two_pos b
  refine ((Int.ediv_emod_unique (a := N) (q := N / 2 ^ a / 2 ^ b) (by rw [pow_add]; positivity)).2 ⟨?_, ?_, ?_⟩).2
  · have h1 := Int.emod_add_mul_ediv N (2 ^ a)
    have h2 := Int.emod_add_mul_ediv (N / 2 ^ a) (2 ^ b)
    rw [pow_add]; linear_combination h1 + 2 ^ a * h2
  · have := Int.emod_nonneg N ha.ne'
    have := Int.emod_nonneg (N / 2 ^ a) hb.ne'
    positivity
  · have h1 := Int.emod_lt_of_pos N ha
    have h2 := Int.emod_lt_of_pos (N / 2 ^ a) hb
    rw [pow_add]; nlinarith

theorem ediv_pow_ediv_pow (N : Int) (a b : Nat) : N / 2 ^ a / 2 ^ b = N / 2 ^ (a + b) := by
  rw [Int.ediv_ediv_of_nonneg (pow_nonneg (by norm_num) a), pow_add]

/-- a byte lying inside the low `w` bits of `N` -/
theorem emod_ediv_byte (N : Int) (w j : Nat) (h : j + 8 ≤ w) : N % 2 ^ w / 2 ^ j % 2 ^ 8 = N / 2 ^ j % 2 ^ 8 := by
  obtain ⟨c, rfl⟩ : ∃ c, w = j + (8 + c) := ⟨w - j - 8, by omega⟩
  have hj : (0 : Int) < 2 ^ j := pow_pos two_pos j
  rw [emod_mul_pow, Int.add_mul_ediv_left _ _ hj.ne', Int.ediv_eq_zero_of_lt (Int.emod_nonneg _ hj.ne')
    (Int.emod_lt_of_pos _ hj), zero_add, Int.emod_emod_of_dvd _ (pow_dvd_pow 2 (Nat.le_add_right 8 c))]

theorem radVal_digits : ∀ (ws : List Nat) (N : Int), radVal ws (digits ws N) = N % 2 ^ ws.sum
  | [], N => by simp [radVal, Int.emod_one]
  | w :: ws, N => by rw [digits, radVal, radVal_digits ws, List.sum_cons, emod_mul_pow]

/-- the digits only depend on `N` modulo the whole width -/
theorem digits_emod : ∀ (ws : List Nat) (N : Int), digits ws (N % 2 ^ ws.sum) = digits ws N
  | [], N => rfl
  | w :: ws, N => by
      have hw : (0 : Int) < 2 ^ w := pow_pos two_pos w
      rw [digits, digits, List.sum_cons, emod_mul_pow, Int.add_mul_emod_self_left, Int.emod_emod_of_dvd _ (dvd_refl _),
        Int.add_mul_ediv_left _ _ hw.ne', Int.ediv_eq_zero_of_lt (Int.emod_nonneg _ hw.ne') (Int.emod_lt_of_pos _ hw),
        zero_add, digits_emod ws]

theorem digits_append : ∀ (ws₁ ws₂ : List Nat) (N : Int),
    digits (ws₁ ++ ws₂) N = digits ws₁ N ++ digits ws₂ (N / 2 ^ ws₁.sum)
  | [], ws₂, N => by simp [digits]
  | w :: ws₁, ws₂, N => by
      rw [List.cons_append, digits, digits, digits_append ws₁, List.sum_cons, ediv_pow_ediv_pow, List.cons_append]

theorem Chain.spec : ∀ {ws : List Nat} {c : Int} {xs fs : List Int} {c' : Int}, Chain ws c xs fs c' →
    fs = digits ws (c + radVal ws xs) ∧ c' = (c + radVal ws xs) / 2 ^ ws.sum
  | [], c, [], [], c', h => by simpa [Chain, digits, radVal] using h
  | w :: ws, c, x :: xs, f :: fs, c', ⟨hf, k, hk, h⟩ => by
      obtain ⟨ih1, ih2⟩ := Chain.spec h
      have hw : (0 : Int) < 2 ^ w := pow_pos two_pos w
      have hN : f + 2 ^ w * (k + radVal ws xs) = c + (x + 2 ^ w * radVal ws xs) := by linear_combination -hk
      obtain ⟨hq, hr⟩ := (Int.ediv_emod_unique hw).2 ⟨hN, hf.1, hf.2⟩
      rw [digits, radVal, List.sum_cons, pow_add, ← Int.ediv_ediv_of_nonneg hw.le, hq, hr, ← ih1, ← ih2]
      exact ⟨rfl, rfl⟩
  | [], _, _ :: _, _, _, h | [], _, [], _ :: _, _, h | _ :: _, _, [], _, _, h | _ :: _, _, _ :: _, [], _, h => by
      simp [Chain] at h

/-- a chain step computed with `%` and `/`, the sum `x + c` in any arrangement `t` -/
theorem Chain.cons {w : Nat} {ws : List Nat} {c x t : Int} {xs fs : List Int} {c' : Int} (ht : x + c = t)
    (h : Chain ws (t / 2 ^ w) xs fs c') : Chain (w :: ws) c (x :: xs) (t % 2 ^ w :: fs) c' :=
  have hw : (0 : Int) < 2 ^ w := pow_pos two_pos w
  ⟨⟨Int.emod_nonneg _ hw.ne', Int.emod_lt_of_pos _ hw⟩, _, ht.trans (Int.emod_add_mul_ediv t _).symm, h⟩

theorem Chain.nil {c : Int} : Chain [] c [] [] c := rfl

/-- a chain step given by what it does: `f` is a digit, `k` the carry -/
theorem Chain.step {w : Nat} {ws : List Nat} {c x f k : Int} {xs fs : List Int} {c' : Int} (hf : 0 ≤ f ∧ f < 2 ^ w)
    (hk : x + c = f + 2 ^ w * k) (h : Chain ws k xs fs c') : Chain (w :: ws) c (x :: xs) (f :: fs) c' :=
  ⟨hf, k, hk, h⟩

/-- the constant-time mask `if borrow = 0 then 0 else m` is `m * borrow` for a borrow bit -/
theorem ite_mask (w m : Int) (hw : 0 ≤ w ∧ w ≤ 1) : (if w = 0 then (0 : Int) else m) = m * w := by
  rcases (by omega : w = 0 ∨ w = 1) with rfl | rfl <;> simp

theorem emod_eq_of_ediv_eq_zero {t m : Int} (h : t / m = 0) : t % m = t := by
  have := Int.emod_add_mul_ediv t m
  rwa [h, mul_zero, add_zero] at this

/-- the carry chain as a function: digit after digit, and the last carry as one more element (the shape of the byte
packing of the fiat backends: a running value from which bytes are taken off, the next limb shifted in where it starts) -/
def chainOut : List Nat → Int → List Int → List Int
  | w :: ws, c, x :: xs => (x + c) % 2 ^ w :: chainOut ws ((x + c) / 2 ^ w) xs
  | _, c, _ => [c]

theorem chainOut_eq : ∀ (ws : List Nat) (c : Int) (xs : List Int), xs.length = ws.length →
    chainOut ws c xs = digits ws (c + radVal ws xs) ++ [(c + radVal ws xs) / 2 ^ ws.sum]
  | [], c, [], _ => by simp [chainOut, digits, radVal]
  | w :: ws, c, x :: xs, h => by
      have hw : (0 : Int) < 2 ^ w := pow_pos two_pos w
      rw [chainOut, chainOut_eq ws _ xs (by simpa using h), digits, radVal, List.sum_cons, ← ediv_pow_ediv_pow,
        show c + (x + 2 ^ w * radVal ws xs) = x + c + 2 ^ w * radVal ws xs by ring, Int.add_mul_emod_self_left,
        Int.add_mul_ediv_left _ _ hw.ne', List.cons_append]
  | [], _, _ :: _, h | _ :: _, _, [], h => by simp at h

/-- taking `n + 1` bytes off a running value: the bytes are the base-256 digits of the value of what was shifted in -/
theorem chainOut_bytes (n : Nat) (xs : List Int) (V : Int) (hlen : xs.length = n)
    (hR : radVal (List.replicate n 8) xs = V) (hV : 0 ≤ V ∧ V < 2 ^ (8 * (n + 1))) :
    chainOut (List.replicate n 8) 0 xs = digits (List.replicate (n + 1) 8) V := by
  have hs : (List.replicate n 8).sum = 8 * n := by simp [Nat.mul_comm]
  rw [chainOut_eq _ _ _ (by simpa using hlen), zero_add, hR, List.replicate_succ', digits_append, digits, digits, hs,
    Int.emod_eq_of_lt (Int.ediv_nonneg hV.1 (by positivity))
      ((Int.ediv_lt_iff_lt_mul (by positivity)).2 (by rw [← pow_add, Nat.add_comm]; exact hV.2))]

/-! ### bytes -/

theorem leValZ_digits8 : ∀ (n : Nat) (N : Int), leValZ (digits (List.replicate n 8) N) = N % 2 ^ (8 * n)
  | 0, N => by simp [digits, leValZ, Int.emod_one]
  | n + 1, N => by
      rw [List.replicate_succ, digits, leValZ, leValZ_digits8 n, Nat.mul_succ, Nat.add_comm, emod_mul_pow]; rfl

theorem mem_digits8 : ∀ (n : Nat) (N : Int), ∀ b ∈ digits (List.replicate n 8) N, 0 ≤ b ∧ b ≤ 255
  | 0, _, _, h => by simp [digits] at h
  | n + 1, N, b, h => by
      rw [List.replicate_succ, digits, List.mem_cons] at h
      rcases h with rfl | h
      · omega
      · exact mem_digits8 n _ b h

theorem leValZ_append : ∀ l₁ l₂ : List Int, leValZ (l₁ ++ l₂) = leValZ l₁ + 2 ^ (8 * l₁.length) * leValZ l₂
  | [], l₂ => by simp [leValZ]
  | b :: l₁, l₂ => by
      rw [List.cons_append, leValZ, leValZ, leValZ_append l₁, List.length_cons, Nat.mul_succ, pow_add]; ring

theorem leValZ_bounds : ∀ l : List Int, (∀ b ∈ l, 0 ≤ b ∧ b ≤ 255) → 0 ≤ leValZ l ∧ leValZ l < 2 ^ (8 * l.length)
  | [], _ => by simp [leValZ]
  | b :: l, h => by
      have hb := h b (List.mem_cons_self ..)
      have ih := leValZ_bounds l fun x hx => h x (List.mem_cons_of_mem _ hx)
      rw [leValZ, List.length_cons, Nat.mul_succ, pow_add, mul_comm]
      constructor <;> nlinarith

/-- a load of `n` bytes at byte offset `j` reads the bits `8 j … 8 (j + n) - 1` of the little-endian value -/
theorem leValZ_slice (bs : List Int) (hb : ∀ b ∈ bs, 0 ≤ b ∧ b ≤ 255) (j n : Nat) (h : j + n ≤ bs.length) :
    leValZ ((bs.drop j).take n) = leValZ bs / 2 ^ (8 * j) % 2 ^ (8 * n) := by
  have hj : (bs.take j).length = j := List.length_take_of_le (by omega)
  have hn : ((bs.drop j).take n).length = n := List.length_take_of_le (by rw [List.length_drop]; omega)
  have h1 := leValZ_bounds (bs.take j) fun b hb' => hb b (List.mem_of_mem_take hb')
  have h2 := leValZ_bounds ((bs.drop j).take n) fun b hb' => hb b (List.mem_of_mem_drop (List.mem_of_mem_take hb'))
  rw [hj] at h1
  rw [hn] at h2
  have hN : leValZ bs = leValZ (bs.take j) + 2 ^ (8 * j) *
      (leValZ ((bs.drop j).take n) + 2 ^ (8 * n) * leValZ ((bs.drop j).drop n)) := by
    conv_lhs => rw [← List.take_append_drop j bs, ← List.take_append_drop n (bs.drop j)]
    rw [leValZ_append, leValZ_append, hj, hn]
  have hp : (0 : Int) < 2 ^ (8 * j) := pow_pos two_pos _
  rw [hN, Int.add_mul_ediv_left _ _ hp.ne', Int.ediv_eq_zero_of_lt h1.1 h1.2, zero_add, Int.add_mul_emod_self_left,
    Int.emod_eq_of_lt h2.1 h2.2]

/-! ### reduction modulo `p = 2^255 - 19` of an integer below `2 p` -/

theorem emod_p_bounds (A : Int) : 0 ≤ A % (2 ^ 255 - 19) ∧ A % (2 ^ 255 - 19) < 2 ^ 255 := by
  omega

/-- serial backends: `q` = the carry out of `H + 19`, then `H + 19 q` with the carry out dropped -/
theorem serial_canon (H : Int) (h : 0 ≤ H ∧ H < 2 * (2 ^ 255 - 19)) :
    (19 * ((19 + H) / 2 ^ 255) + H) % 2 ^ 255 = H % (2 ^ 255 - 19) := by
  rcases (by omega : (19 + H) / 2 ^ 255 = 0 ∨ (19 + H) / 2 ^ 255 = 1) with hq | hq <;> rw [hq] <;> omega

/-- fiat backends: subtract `p`, add it back iff the subtraction borrowed (`b` = minus the carry out), carry out dropped -/
theorem fiat_canon (A b : Int) (h : 0 ≤ A ∧ A < 2 * (2 ^ 255 - 19)) (hb : -b = (A - (2 ^ 255 - 19)) / 2 ^ 255) :
    ((A - (2 ^ 255 - 19)) % 2 ^ 255 + (2 ^ 255 - 19) * b) % 2 ^ 255 = A % (2 ^ 255 - 19) := by
  rcases (by omega : b = 0 ∨ b = 1) with rfl | rfl <;> omega

/-! ### limbs cut out of words, and limbs packed into bytes

In Horner form the value of limbs cut out of little-endian machine words turns into the value of the words one word
at a time (`cut_step`), and the value of bytes packed from limbs into the value of the limbs one limb at a time
(`leValZ_bytes`, `pack_step`); no fact about a whole 256- or 512-bit number is needed. -/

theorem emod_lim (x : Int) (n : Nat) : 0 ≤ x % 2 ^ n ∧ x % 2 ^ n < 2 ^ n :=
  ⟨Int.emod_nonneg _ (pow_pos two_pos n).ne', Int.emod_lt_of_pos _ (pow_pos two_pos n)⟩

/-- One step of cutting limbs of `d + e` bits out of words of `c + d` bits.  The limb is made of the top `d` bits
of the word `w` and the low `e` bits of the next word `w'` (`k = 2 ^ d` is the literal shift factor); below it
stand the low `c` bits of `w`, above it `T`.  Afterwards `w` is whole and `w'` has lost `e` bits. -/
theorem cut_step (c d e : Nat) (k w w' T : Int) (hk : k = 2 ^ d) (hw : 0 ≤ w ∧ w < 2 ^ (c + d)) (he : e ≤ c) :
    w % 2 ^ c + 2 ^ c * ((w / 2 ^ c + w' * k % 2 ^ (c + d)) % 2 ^ (d + e) + 2 ^ (d + e) * T)
      = w + 2 ^ (c + d) * (w' % 2 ^ e + 2 ^ e * T) := by
  have hc : (0 : Int) < 2 ^ c := pow_pos two_pos c
  have hd : (0 : Int) < 2 ^ d := pow_pos two_pos d
  have h0 : 0 ≤ w / 2 ^ c := Int.ediv_nonneg hw.1 hc.le
  have h1 : w / 2 ^ c < 2 ^ d := (Int.ediv_lt_iff_lt_mul hc).2 (by rw [← pow_add, Nat.add_comm]; exact hw.2)
  have h2 : w' * k % 2 ^ (c + d) = 2 ^ d * (w' % 2 ^ c) := by
    rw [hk, Nat.add_comm, pow_add, mul_comm w', Int.mul_emod_mul_of_pos _ _ hd]
  have h3 : w' % 2 ^ c % 2 ^ e = w' % 2 ^ e := Int.emod_emod_of_dvd _ (pow_dvd_pow 2 he)
  rw [h2, emod_mul_pow, Int.add_mul_emod_self_left, Int.emod_eq_of_lt h0 h1, Int.add_mul_ediv_left _ _ hd.ne',
    Int.ediv_eq_zero_of_lt h0 h1, zero_add, h3, pow_add, pow_add]
  linear_combination Int.emod_add_mul_ediv w (2 ^ c)

/-- a limb of `b` bits lying inside the word `w`, above its low `a` bits -/
theorem cut_mid (a b : Nat) (w T : Int) :
    w % 2 ^ a + 2 ^ a * (w / 2 ^ a % 2 ^ b + 2 ^ b * T) = w % 2 ^ (a + b) + 2 ^ (a + b) * T := by
  rw [emod_mul_pow, pow_add]; ring

theorem length_digits : ∀ (ws : List Nat) (N : Int), (digits ws N).length = ws.length
  | [], _ => rfl
  | _ :: ws, N => by rw [digits, List.length_cons, length_digits ws, List.length_cons]

/-- `n` bytes of `x` followed by `r` -/
theorem leValZ_bytes (n : Nat) (x : Int) (r : List Int) :
    leValZ (digits (List.replicate n 8) x ++ r) = x % 2 ^ (8 * n) + 2 ^ (8 * n) * leValZ r := by
  rw [leValZ_append, leValZ_digits8, length_digits, List.length_replicate]

/-! `leValZ_bytes` for the bytes `x >> j, x >> (j + 8), …` as the translator writes them: a limb contributes a run of
whole bytes (these lemmas), and a byte straddling two limbs is left to a lemma about the two limbs. -/

theorem leValZ_bytes2 (x : Int) (j : Nat) (r : List Int) :
    leValZ (x / 2 ^ j % 2 ^ 8 :: x / 2 ^ (j + 8) % 2 ^ 8 :: r) = x / 2 ^ j % 2 ^ 16 + 2 ^ 16 * leValZ r := by
  simpa only [digits, List.replicate, ediv_pow_ediv_pow, List.cons_append, List.nil_append, Nat.add_assoc,
    Nat.reduceAdd, Nat.reduceMul] using leValZ_bytes 2 (x / 2 ^ j) r

theorem leValZ_bytes3 (x : Int) (j : Nat) (r : List Int) :
    leValZ (x / 2 ^ j % 2 ^ 8 :: x / 2 ^ (j + 8) % 2 ^ 8 :: x / 2 ^ (j + 16) % 2 ^ 8 :: r)
      = x / 2 ^ j % 2 ^ 24 + 2 ^ 24 * leValZ r := by
  simpa only [digits, List.replicate, ediv_pow_ediv_pow, List.cons_append, List.nil_append, Nat.add_assoc,
    Nat.reduceAdd, Nat.reduceMul] using leValZ_bytes 3 (x / 2 ^ j) r

theorem leValZ_bytes5 (x : Int) (j : Nat) (r : List Int) :
    leValZ (x / 2 ^ j % 2 ^ 8 :: x / 2 ^ (j + 8) % 2 ^ 8 :: x / 2 ^ (j + 16) % 2 ^ 8 :: x / 2 ^ (j + 24) % 2 ^ 8 ::
      x / 2 ^ (j + 32) % 2 ^ 8 :: r) = x / 2 ^ j % 2 ^ 40 + 2 ^ 40 * leValZ r := by
  simpa only [digits, List.replicate, ediv_pow_ediv_pow, List.cons_append, List.nil_append, Nat.add_assoc,
    Nat.reduceAdd, Nat.reduceMul] using leValZ_bytes 5 (x / 2 ^ j) r

theorem leValZ_bytes6 (x : Int) (j : Nat) (r : List Int) :
    leValZ (x / 2 ^ j % 2 ^ 8 :: x / 2 ^ (j + 8) % 2 ^ 8 :: x / 2 ^ (j + 16) % 2 ^ 8 :: x / 2 ^ (j + 24) % 2 ^ 8 ::
      x / 2 ^ (j + 32) % 2 ^ 8 :: x / 2 ^ (j + 40) % 2 ^ 8 :: r) = x / 2 ^ j % 2 ^ 48 + 2 ^ 48 * leValZ r := by
  simpa only [digits, List.replicate, ediv_pow_ediv_pow, List.cons_append, List.nil_append, Nat.add_assoc,
    Nat.reduceAdd, Nat.reduceMul] using leValZ_bytes 6 (x / 2 ^ j) r

/-- One limb `x` of `s + c + d` bits goes into bytes: its low `s` bits went into the byte before, `c` bits fill whole
bytes, and its top `d` bits share a byte with the low `e` bits of the next limb `y` (`r` is `y * k`, wrapped or
not; `k = 2 ^ d`).  Afterwards `x` is whole and `y` has lost `e` bits. -/
theorem pack_step (s c d e : Nat) (k x y r T : Int) (hde : d + e = 8) (hk : k = 2 ^ d)
    (hx : 0 ≤ x ∧ x < 2 ^ (s + c + d)) (hr : r % 2 ^ 8 = y * k % 2 ^ 8) :
    x % 2 ^ s + 2 ^ s * (x / 2 ^ s % 2 ^ c + 2 ^ c * ((x / 2 ^ (s + c) + r) % 2 ^ 8 + 256 * T))
      = x + 2 ^ (s + c + d) * (y % 2 ^ e + 2 ^ e * T) := by
  have hp : (0 : Int) < 2 ^ (s + c) := pow_pos two_pos _
  have hd : (0 : Int) < 2 ^ d := pow_pos two_pos d
  have h0 : 0 ≤ x / 2 ^ (s + c) := Int.ediv_nonneg hx.1 hp.le
  have h1 : x / 2 ^ (s + c) < 2 ^ d := (Int.ediv_lt_iff_lt_mul hp).2 (by rw [← pow_add, Nat.add_comm]; exact hx.2)
  have hm : (x / 2 ^ (s + c) + r) % 2 ^ 8 = x / 2 ^ (s + c) + 2 ^ d * (y % 2 ^ e) := by
    rw [Int.add_emod, hr, ← Int.add_emod, hk, ← hde, mul_comm y, emod_mul_pow, Int.add_mul_emod_self_left,
      Int.emod_eq_of_lt h0 h1, Int.add_mul_ediv_left _ _ hd.ne', Int.ediv_eq_zero_of_lt h0 h1, zero_add]
  have h256 : (256 : Int) = 2 ^ d * 2 ^ e := by rw [← pow_add, hde]; norm_num
  rw [hm, h256, ← ediv_pow_ediv_pow, pow_add, pow_add]
  linear_combination Int.emod_add_mul_ediv x (2 ^ s) + 2 ^ s * Int.emod_add_mul_ediv (x / 2 ^ s) (2 ^ c)

end Dalek.Proofs.Radix
