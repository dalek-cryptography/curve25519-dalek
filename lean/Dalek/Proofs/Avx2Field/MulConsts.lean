import Dalek.Proofs.Avx2Field.Defs
import Dalek.Gen.Norm.Avx2Field
/-! Multiplication by a vector of four u32 constants and `reduce64`, for ALL integer lane values. -/
set_option maxRecDepth 100000
set_option linter.unusedSimpArgs false
namespace Dalek.Proofs.Avx2Field
open Dalek Dalek.Gen.Norm.Avx2Field Dalek.Proofs.Field26

theorem mul_consts_correct_A (x0 x1 x2 x3 x4 x5 x6 x7 x8 x9 x10 x11 x12 x13 x14 x15 x16 x17 x18 x19 x20 x21 x22 x23 x24 x25 x26 x27 x28 x29 x30 x31 x32 x33 x34 x35 x36 x37 x38 x39 s0 s1 s2 s3 : Int) :
    laneVal .A (mul_consts_fn x0 x1 x2 x3 x4 x5 x6 x7 x8 x9 x10 x11 x12 x13 x14 x15 x16 x17 x18 x19 x20 x21 x22 x23 x24 x25 x26 x27 x28 x29 x30 x31 x32 x33 x34 x35 x36 x37 x38 x39 s0 s1 s2 s3) = laneVal .A (x0 :: x1 :: x2 :: x3 :: x4 :: x5 :: x6 :: x7 :: x8 :: x9 :: x10 :: x11 :: x12 :: x13 :: x14 :: x15 :: x16 :: x17 :: x18 :: x19 :: x20 :: x21 :: x22 :: x23 :: x24 :: x25 :: x26 :: x27 :: x28 :: x29 :: x30 :: x31 :: x32 :: x33 :: x34 :: x35 :: x36 :: x37 :: x38 :: x39 :: []) * ((s0 : Int) : ZMod P) := by
  lane_lets mul_consts_fn
  avx_goal; slice_hyps; lane_finish

/-- `(A,B,C,D) * (s0,s1,s2,s3) = (s0 A, s1 B, s2 C, s3 D)` (B, C, D from A as in `mul_correct`) -/
theorem mul_consts_correct (k : Lane) (x0 x1 x2 x3 x4 x5 x6 x7 x8 x9 x10 x11 x12 x13 x14 x15 x16 x17 x18 x19 x20 x21 x22 x23 x24 x25 x26 x27 x28 x29 x30 x31 x32 x33 x34 x35 x36 x37 x38 x39 s0 s1 s2 s3 : Int) :
    laneVal k (mul_consts_fn x0 x1 x2 x3 x4 x5 x6 x7 x8 x9 x10 x11 x12 x13 x14 x15 x16 x17 x18 x19 x20 x21 x22 x23 x24 x25 x26 x27 x28 x29 x30 x31 x32 x33 x34 x35 x36 x37 x38 x39 s0 s1 s2 s3) = laneVal k (x0 :: x1 :: x2 :: x3 :: x4 :: x5 :: x6 :: x7 :: x8 :: x9 :: x10 :: x11 :: x12 :: x13 :: x14 :: x15 :: x16 :: x17 :: x18 :: x19 :: x20 :: x21 :: x22 :: x23 :: x24 :: x25 :: x26 :: x27 :: x28 :: x29 :: x30 :: x31 :: x32 :: x33 :: x34 :: x35 :: x36 :: x37 :: x38 :: x39 :: []) * ((k.sel s0 s1 s2 s3 : Int) : ZMod P) := by
  cases k
  · exact mul_consts_correct_A ..
  · exact Eq.mp (by kernel_rfl) (mul_consts_correct_A x1 x0 x3 x2 x4 x5 x6 x7 x9 x8 x11 x10 x12 x13 x14 x15 x17 x16 x19 x18 x20 x21 x22 x23 x25 x24 x27 x26 x28 x29 x30 x31 x33 x32 x35 x34 x36 x37 x38 x39 s1 s0 s2 s3)
  · exact Eq.mp (by kernel_rfl) (mul_consts_correct_A x4 x1 x6 x3 x0 x5 x2 x7 x12 x9 x14 x11 x8 x13 x10 x15 x20 x17 x22 x19 x16 x21 x18 x23 x28 x25 x30 x27 x24 x29 x26 x31 x36 x33 x38 x35 x32 x37 x34 x39 s2 s1 s0 s3)
  · exact Eq.mp (by kernel_rfl) (mul_consts_correct_A x5 x1 x7 x3 x4 x0 x6 x2 x13 x9 x15 x11 x12 x8 x14 x10 x21 x17 x23 x19 x20 x16 x22 x18 x29 x25 x31 x27 x28 x24 x30 x26 x37 x33 x39 x35 x36 x32 x38 x34 s3 s1 s2 s0)

/-- `reduce64` of ten wide coefficient vectors `z[0..10]` (10 × 4 u64 lanes) preserves the four values -/
theorem reduce64_correct (k : Lane) (z0 z1 z2 z3 z4 z5 z6 z7 z8 z9 z10 z11 z12 z13 z14 z15 z16 z17 z18 z19 z20 z21 z22 z23 z24 z25 z26 z27 z28 z29 z30 z31 z32 z33 z34 z35 z36 z37 z38 z39 : Int) :
    laneVal k (reduce64_fn z0 z1 z2 z3 z4 z5 z6 z7 z8 z9 z10 z11 z12 z13 z14 z15 z16 z17 z18 z19 z20 z21 z22 z23 z24 z25 z26 z27 z28 z29 z30 z31 z32 z33 z34 z35 z36 z37 z38 z39) = laneVal64 k (z0 :: z1 :: z2 :: z3 :: z4 :: z5 :: z6 :: z7 :: z8 :: z9 :: z10 :: z11 :: z12 :: z13 :: z14 :: z15 :: z16 :: z17 :: z18 :: z19 :: z20 :: z21 :: z22 :: z23 :: z24 :: z25 :: z26 :: z27 :: z28 :: z29 :: z30 :: z31 :: z32 :: z33 :: z34 :: z35 :: z36 :: z37 :: z38 :: z39 :: []) := by
  lane_lets reduce64_fn
  cases k <;> (avx_goal; slice_hyps; lane_finish)

end Dalek.Proofs.Avx2Field
