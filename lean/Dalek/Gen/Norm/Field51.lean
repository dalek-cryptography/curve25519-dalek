import Dalek.Model.Contracts
import Dalek.IR.NormSpec
import Dalek.IR.Tactics
/-! GENERATED by tools/GenNorm.lean from the current /repo sources; do not edit. -/
namespace Dalek.Gen.Norm.Field51
open Dalek.IR

def add_post : List Itv := [⟨0, 18014398509481982, 0⟩, ⟨0, 18014398509481982, 0⟩, ⟨0, 18014398509481982, 0⟩, ⟨0, 18014398509481982, 0⟩, ⟨0, 18014398509481982, 0⟩]

def add_nprog : NProg := Prog.normProg Dalek.Gen.Field51.add Dalek.Model.Contracts.Field51.pre_add

theorem add_norm_ok : Prog.norm Dalek.Gen.Field51.add Dalek.Model.Contracts.Field51.pre_add = some (add_nprog, add_post) :=
  Prog.norm_eq_of_post (by decide +kernel)

def add_fn (x0 x1 x2 x3 x4 x5 x6 x7 x8 x9 : Int) : List Int :=
  let x10 : Int := (x0 + x5)
  let x11 : Int := (x1 + x6)
  let x12 : Int := (x2 + x7)
  let x13 : Int := (x3 + x8)
  let x14 : Int := (x4 + x9)
  [x10, x11, x12, x13, x14]

theorem add_fn_ok (x0 x1 x2 x3 x4 x5 x6 x7 x8 x9 : Int) : NProg.evalZ add_nprog [x0, x1, x2, x3, x4, x5, x6, x7, x8, x9] = add_fn x0 x1 x2 x3 x4 x5 x6 x7 x8 x9 :=
  (NProg.evalZ_eq_fast _ _).trans (by kernel_rfl)

def sub_post : List Itv := [⟨133, 2251799813685684, 0⟩, ⟨7, 2251799813685270, 0⟩, ⟨7, 2251799813685270, 0⟩, ⟨7, 2251799813685270, 0⟩, ⟨7, 2251799813685270, 0⟩]

def sub_nprog : NProg := Prog.normProg Dalek.Gen.Field51.sub Dalek.Model.Contracts.Field51.pre_sub

theorem sub_norm_ok : Prog.norm Dalek.Gen.Field51.sub Dalek.Model.Contracts.Field51.pre_sub = some (sub_nprog, sub_post) :=
  Prog.norm_eq_of_post (by decide +kernel)

def sub_fn (x0 x1 x2 x3 x4 x5 x6 x7 x8 x9 : Int) : List Int :=
  let x10 : Int := ((x0 + (36028797018963664 : Int)) - x5)
  let x11 : Int := ((x1 + (36028797018963952 : Int)) - x6)
  let x12 : Int := ((x2 + (36028797018963952 : Int)) - x7)
  let x13 : Int := ((x3 + (36028797018963952 : Int)) - x8)
  let x14 : Int := ((x4 + (36028797018963952 : Int)) - x9)
  let x15 : Int := (x10 / 2 ^ (51 : Nat))
  let x16 : Int := (x11 / 2 ^ (51 : Nat))
  let x17 : Int := (x12 / 2 ^ (51 : Nat))
  let x18 : Int := (x13 / 2 ^ (51 : Nat))
  let x19 : Int := (x14 / 2 ^ (51 : Nat))
  let x20 : Int := (x10 % 2 ^ (51 : Nat))
  let x21 : Int := (x11 % 2 ^ (51 : Nat))
  let x22 : Int := (x12 % 2 ^ (51 : Nat))
  let x23 : Int := (x13 % 2 ^ (51 : Nat))
  let x24 : Int := (x14 % 2 ^ (51 : Nat))
  let x25 : Int := (x20 + (x19 * (19 : Int)))
  let x26 : Int := (x21 + x15)
  let x27 : Int := (x22 + x16)
  let x28 : Int := (x23 + x17)
  let x29 : Int := (x24 + x18)
  [x25, x26, x27, x28, x29]

theorem sub_fn_ok (x0 x1 x2 x3 x4 x5 x6 x7 x8 x9 : Int) : NProg.evalZ sub_nprog [x0, x1, x2, x3, x4, x5, x6, x7, x8, x9] = sub_fn x0 x1 x2 x3 x4 x5 x6 x7 x8 x9 :=
  (NProg.evalZ_eq_fast _ _).trans (by kernel_rfl)

def mul_post : List Itv := [⟨0, 2251799813685247, 0⟩, ⟨0, 2251799813691328, 0⟩, ⟨0, 2251799813685247, 0⟩, ⟨0, 2251799813685247, 0⟩, ⟨0, 2251799813685247, 0⟩]

def mul_nprog : NProg := Prog.normProg Dalek.Gen.Field51.mul Dalek.Model.Contracts.Field51.pre_mul

theorem mul_norm_ok : Prog.norm Dalek.Gen.Field51.mul Dalek.Model.Contracts.Field51.pre_mul = some (mul_nprog, mul_post) :=
  Prog.norm_eq_of_post (by decide +kernel)

def mul_fn (x0 x1 x2 x3 x4 x5 x6 x7 x8 x9 : Int) : List Int :=
  let x10 : Int := (x6 * (19 : Int))
  let x11 : Int := (x7 * (19 : Int))
  let x12 : Int := (x8 * (19 : Int))
  let x13 : Int := (x9 * (19 : Int))
  let x14 : Int := (((((x0 * x5) + (x4 * x10)) + (x3 * x11)) + (x2 * x12)) + (x1 * x13))
  let x15 : Int := (((((x1 * x5) + (x0 * x6)) + (x4 * x11)) + (x3 * x12)) + (x2 * x13))
  let x16 : Int := (((((x2 * x5) + (x1 * x6)) + (x0 * x7)) + (x4 * x12)) + (x3 * x13))
  let x17 : Int := (((((x3 * x5) + (x2 * x6)) + (x1 * x7)) + (x0 * x8)) + (x4 * x13))
  let x18 : Int := (((((x4 * x5) + (x3 * x6)) + (x2 * x7)) + (x1 * x8)) + (x0 * x9))
  let x19 : Int := (x15 + (x14 / 2 ^ (51 : Nat)))
  let x20 : Int := ((x14 % 2 ^ (64 : Nat)) % 2 ^ (51 : Nat))
  let x21 : Int := (x16 + (x19 / 2 ^ (51 : Nat)))
  let x22 : Int := ((x19 % 2 ^ (64 : Nat)) % 2 ^ (51 : Nat))
  let x23 : Int := (x17 + (x21 / 2 ^ (51 : Nat)))
  let x24 : Int := ((x21 % 2 ^ (64 : Nat)) % 2 ^ (51 : Nat))
  let x25 : Int := (x18 + (x23 / 2 ^ (51 : Nat)))
  let x26 : Int := ((x23 % 2 ^ (64 : Nat)) % 2 ^ (51 : Nat))
  let x27 : Int := (x25 / 2 ^ (51 : Nat))
  let x28 : Int := ((x25 % 2 ^ (64 : Nat)) % 2 ^ (51 : Nat))
  let x29 : Int := (x20 + (x27 * (19 : Int)))
  let x30 : Int := (x22 + (x29 / 2 ^ (51 : Nat)))
  let x31 : Int := (x29 % 2 ^ (51 : Nat))
  [x31, x30, x24, x26, x28]

theorem mul_fn_ok (x0 x1 x2 x3 x4 x5 x6 x7 x8 x9 : Int) : NProg.evalZ mul_nprog [x0, x1, x2, x3, x4, x5, x6, x7, x8, x9] = mul_fn x0 x1 x2 x3 x4 x5 x6 x7 x8 x9 :=
  (NProg.evalZ_eq_fast _ _).trans (by kernel_rfl)

def neg_post : List Itv := [⟨133, 2251799813685532, 0⟩, ⟨7, 2251799813685262, 0⟩, ⟨7, 2251799813685262, 0⟩, ⟨7, 2251799813685262, 0⟩, ⟨7, 2251799813685262, 0⟩]

def neg_nprog : NProg :=
  ⟨5,
   [(.sub (.c 36028797018963664) (.v 0)),
    (.sub (.c 36028797018963952) (.v 1)),
    (.sub (.c 36028797018963952) (.v 2)),
    (.sub (.c 36028797018963952) (.v 3)),
    (.sub (.c 36028797018963952) (.v 4)),
    (.div2 (.v 5) 51),
    (.div2 (.v 6) 51),
    (.div2 (.v 7) 51),
    (.div2 (.v 8) 51),
    (.div2 (.v 9) 51),
    (.mod2 (.v 5) 51),
    (.mod2 (.v 6) 51),
    (.mod2 (.v 7) 51),
    (.mod2 (.v 8) 51),
    (.mod2 (.v 9) 51),
    (.add (.v 15) (.mul (.v 14) (.c 19))),
    (.add (.v 16) (.v 10)),
    (.add (.v 17) (.v 11)),
    (.add (.v 18) (.v 12)),
    (.add (.v 19) (.v 13))],
   [20, 21, 22, 23, 24]⟩

theorem neg_norm_ok : Prog.norm Dalek.Gen.Field51.neg Dalek.Model.Contracts.Field51.pre_neg = some (neg_nprog, neg_post) :=
  (Prog.normFast_eq _ _).symm.trans (by decide +kernel)

def neg_fn (x0 x1 x2 x3 x4 : Int) : List Int :=
  let x5 : Int := ((36028797018963664 : Int) - x0)
  let x6 : Int := ((36028797018963952 : Int) - x1)
  let x7 : Int := ((36028797018963952 : Int) - x2)
  let x8 : Int := ((36028797018963952 : Int) - x3)
  let x9 : Int := ((36028797018963952 : Int) - x4)
  let x10 : Int := (x5 / 2 ^ (51 : Nat))
  let x11 : Int := (x6 / 2 ^ (51 : Nat))
  let x12 : Int := (x7 / 2 ^ (51 : Nat))
  let x13 : Int := (x8 / 2 ^ (51 : Nat))
  let x14 : Int := (x9 / 2 ^ (51 : Nat))
  let x15 : Int := (x5 % 2 ^ (51 : Nat))
  let x16 : Int := (x6 % 2 ^ (51 : Nat))
  let x17 : Int := (x7 % 2 ^ (51 : Nat))
  let x18 : Int := (x8 % 2 ^ (51 : Nat))
  let x19 : Int := (x9 % 2 ^ (51 : Nat))
  let x20 : Int := (x15 + (x14 * (19 : Int)))
  let x21 : Int := (x16 + x10)
  let x22 : Int := (x17 + x11)
  let x23 : Int := (x18 + x12)
  let x24 : Int := (x19 + x13)
  [x20, x21, x22, x23, x24]

theorem neg_fn_ok (x0 x1 x2 x3 x4 : Int) : NProg.evalZ neg_nprog [x0, x1, x2, x3, x4] = neg_fn x0 x1 x2 x3 x4 :=
  (NProg.evalZ_eq_fast _ _).trans (by kernel_rfl)

def reduce_post : List Itv := [⟨0, 2251799813840876, 0⟩, ⟨0, 2251799813693438, 0⟩, ⟨0, 2251799813693438, 0⟩, ⟨0, 2251799813693438, 0⟩, ⟨0, 2251799813693438, 0⟩]

def reduce_nprog : NProg := Prog.normProg Dalek.Gen.Field51.reduce Dalek.Model.Contracts.Field51.pre_reduce

theorem reduce_norm_ok : Prog.norm Dalek.Gen.Field51.reduce Dalek.Model.Contracts.Field51.pre_reduce = some (reduce_nprog, reduce_post) :=
  Prog.norm_eq_of_post (by decide +kernel)

def reduce_fn (x0 x1 x2 x3 x4 : Int) : List Int :=
  let x5 : Int := (x0 / 2 ^ (51 : Nat))
  let x6 : Int := (x1 / 2 ^ (51 : Nat))
  let x7 : Int := (x2 / 2 ^ (51 : Nat))
  let x8 : Int := (x3 / 2 ^ (51 : Nat))
  let x9 : Int := (x4 / 2 ^ (51 : Nat))
  let x10 : Int := (x0 % 2 ^ (51 : Nat))
  let x11 : Int := (x1 % 2 ^ (51 : Nat))
  let x12 : Int := (x2 % 2 ^ (51 : Nat))
  let x13 : Int := (x3 % 2 ^ (51 : Nat))
  let x14 : Int := (x4 % 2 ^ (51 : Nat))
  let x15 : Int := (x10 + (x9 * (19 : Int)))
  let x16 : Int := (x11 + x5)
  let x17 : Int := (x12 + x6)
  let x18 : Int := (x13 + x7)
  let x19 : Int := (x14 + x8)
  [x15, x16, x17, x18, x19]

theorem reduce_fn_ok (x0 x1 x2 x3 x4 : Int) : NProg.evalZ reduce_nprog [x0, x1, x2, x3, x4] = reduce_fn x0 x1 x2 x3 x4 :=
  (NProg.evalZ_eq_fast _ _).trans (by kernel_rfl)

def from_bytes_post : List Itv := [⟨0, 2251799813685247, 0⟩, ⟨0, 2251799813685247, 0⟩, ⟨0, 2251799813685247, 0⟩, ⟨0, 2251799813685247, 0⟩, ⟨0, 2251799813685247, 0⟩]

def from_bytes_nprog : NProg := Prog.normProg Dalek.Gen.Field51.from_bytes Dalek.Model.Contracts.Field51.pre_from_bytes

theorem from_bytes_norm_ok : Prog.norm Dalek.Gen.Field51.from_bytes Dalek.Model.Contracts.Field51.pre_from_bytes = some (from_bytes_nprog, from_bytes_post) :=
  Prog.norm_eq_of_post (by decide +kernel)

def from_bytes_fn (x0 x1 x2 x3 x4 x5 x6 x7 x8 x9 x10 x11 x12 x13 x14 x15 x16 x17 x18 x19 x20 x21 x22 x23 x24 x25 x26 x27 x28 x29 x30 x31 : Int) : List Int :=
  let x32 : Int := ((((((((x0 + (x1 * (256 : Int))) + (x2 * (65536 : Int))) + (x3 * (16777216 : Int))) + (x4 * (4294967296 : Int))) + (x5 * (1099511627776 : Int))) + (x6 * (281474976710656 : Int))) + (x7 * (72057594037927936 : Int))) % 2 ^ (51 : Nat))
  let x33 : Int := (((((((((x6 + (x7 * (256 : Int))) + (x8 * (65536 : Int))) + (x9 * (16777216 : Int))) + (x10 * (4294967296 : Int))) + (x11 * (1099511627776 : Int))) + (x12 * (281474976710656 : Int))) + (x13 * (72057594037927936 : Int))) / 2 ^ (3 : Nat)) % 2 ^ (51 : Nat))
  let x34 : Int := (((((((((x12 + (x13 * (256 : Int))) + (x14 * (65536 : Int))) + (x15 * (16777216 : Int))) + (x16 * (4294967296 : Int))) + (x17 * (1099511627776 : Int))) + (x18 * (281474976710656 : Int))) + (x19 * (72057594037927936 : Int))) / 2 ^ (6 : Nat)) % 2 ^ (51 : Nat))
  let x35 : Int := (((((((((x19 + (x20 * (256 : Int))) + (x21 * (65536 : Int))) + (x22 * (16777216 : Int))) + (x23 * (4294967296 : Int))) + (x24 * (1099511627776 : Int))) + (x25 * (281474976710656 : Int))) + (x26 * (72057594037927936 : Int))) / 2 ^ (1 : Nat)) % 2 ^ (51 : Nat))
  let x36 : Int := (((((((((x24 + (x25 * (256 : Int))) + (x26 * (65536 : Int))) + (x27 * (16777216 : Int))) + (x28 * (4294967296 : Int))) + (x29 * (1099511627776 : Int))) + (x30 * (281474976710656 : Int))) + (x31 * (72057594037927936 : Int))) / 2 ^ (12 : Nat)) % 2 ^ (51 : Nat))
  [x32, x33, x34, x35, x36]

theorem from_bytes_fn_ok (x0 x1 x2 x3 x4 x5 x6 x7 x8 x9 x10 x11 x12 x13 x14 x15 x16 x17 x18 x19 x20 x21 x22 x23 x24 x25 x26 x27 x28 x29 x30 x31 : Int) : NProg.evalZ from_bytes_nprog [x0, x1, x2, x3, x4, x5, x6, x7, x8, x9, x10, x11, x12, x13, x14, x15, x16, x17, x18, x19, x20, x21, x22, x23, x24, x25, x26, x27, x28, x29, x30, x31] = from_bytes_fn x0 x1 x2 x3 x4 x5 x6 x7 x8 x9 x10 x11 x12 x13 x14 x15 x16 x17 x18 x19 x20 x21 x22 x23 x24 x25 x26 x27 x28 x29 x30 x31 :=
  (NProg.evalZ_eq_fast _ _).trans (by kernel_rfl)

def as_bytes_post : List Itv := [⟨0, 255, 0⟩, ⟨0, 255, 0⟩, ⟨0, 255, 0⟩, ⟨0, 255, 0⟩, ⟨0, 255, 0⟩, ⟨0, 255, 0⟩, ⟨0, 255, 0⟩, ⟨0, 255, 0⟩, ⟨0, 255, 0⟩, ⟨0, 255, 0⟩, ⟨0, 255, 0⟩, ⟨0, 255, 0⟩, ⟨0, 255, 0⟩, ⟨0, 255, 0⟩, ⟨0, 255, 0⟩, ⟨0, 255, 0⟩, ⟨0, 255, 0⟩, ⟨0, 255, 0⟩, ⟨0, 255, 0⟩, ⟨0, 255, 0⟩, ⟨0, 255, 0⟩, ⟨0, 255, 0⟩, ⟨0, 255, 0⟩, ⟨0, 255, 0⟩, ⟨0, 255, 0⟩, ⟨0, 255, 0⟩, ⟨0, 255, 0⟩, ⟨0, 255, 0⟩, ⟨0, 255, 0⟩, ⟨0, 255, 0⟩, ⟨0, 255, 0⟩, ⟨0, 127, 0⟩]

def as_bytes_nprog : NProg := Prog.normProg Dalek.Gen.Field51.as_bytes Dalek.Model.Contracts.Field51.pre_as_bytes

theorem as_bytes_norm_ok : Prog.norm Dalek.Gen.Field51.as_bytes Dalek.Model.Contracts.Field51.pre_as_bytes = some (as_bytes_nprog, as_bytes_post) :=
  Prog.norm_eq_of_post (by decide +kernel)

def as_bytes_fn (x0 x1 x2 x3 x4 : Int) : List Int :=
  let x5 : Int := (x0 / 2 ^ (51 : Nat))
  let x6 : Int := (x1 / 2 ^ (51 : Nat))
  let x7 : Int := (x2 / 2 ^ (51 : Nat))
  let x8 : Int := (x3 / 2 ^ (51 : Nat))
  let x9 : Int := (x4 / 2 ^ (51 : Nat))
  let x10 : Int := (x0 % 2 ^ (51 : Nat))
  let x11 : Int := (x1 % 2 ^ (51 : Nat))
  let x12 : Int := (x2 % 2 ^ (51 : Nat))
  let x13 : Int := (x3 % 2 ^ (51 : Nat))
  let x14 : Int := (x4 % 2 ^ (51 : Nat))
  let x15 : Int := (x10 + (x9 * (19 : Int)))
  let x16 : Int := (x11 + x5)
  let x17 : Int := (x12 + x6)
  let x18 : Int := (x13 + x7)
  let x19 : Int := (x14 + x8)
  let x20 : Int := ((x15 + (19 : Int)) / 2 ^ (51 : Nat))
  let x21 : Int := ((x16 + x20) / 2 ^ (51 : Nat))
  let x22 : Int := ((x17 + x21) / 2 ^ (51 : Nat))
  let x23 : Int := ((x18 + x22) / 2 ^ (51 : Nat))
  let x24 : Int := ((x19 + x23) / 2 ^ (51 : Nat))
  let x25 : Int := (x15 + ((19 : Int) * x24))
  let x26 : Int := (x16 + (x25 / 2 ^ (51 : Nat)))
  let x27 : Int := (x25 % 2 ^ (51 : Nat))
  let x28 : Int := (x17 + (x26 / 2 ^ (51 : Nat)))
  let x29 : Int := (x26 % 2 ^ (51 : Nat))
  let x30 : Int := (x18 + (x28 / 2 ^ (51 : Nat)))
  let x31 : Int := (x28 % 2 ^ (51 : Nat))
  let x32 : Int := (x19 + (x30 / 2 ^ (51 : Nat)))
  let x33 : Int := (x30 % 2 ^ (51 : Nat))
  let x34 : Int := (x32 % 2 ^ (51 : Nat))
  let x35 : Int := (x27 % 2 ^ (8 : Nat))
  let x36 : Int := ((x27 / 2 ^ (8 : Nat)) % 2 ^ (8 : Nat))
  let x37 : Int := ((x27 / 2 ^ (16 : Nat)) % 2 ^ (8 : Nat))
  let x38 : Int := ((x27 / 2 ^ (24 : Nat)) % 2 ^ (8 : Nat))
  let x39 : Int := ((x27 / 2 ^ (32 : Nat)) % 2 ^ (8 : Nat))
  let x40 : Int := ((x27 / 2 ^ (40 : Nat)) % 2 ^ (8 : Nat))
  let x41 : Int := (((x27 / 2 ^ (48 : Nat)) + (x29 * (8 : Int))) % 2 ^ (8 : Nat))
  let x42 : Int := ((x29 / 2 ^ (5 : Nat)) % 2 ^ (8 : Nat))
  let x43 : Int := ((x29 / 2 ^ (13 : Nat)) % 2 ^ (8 : Nat))
  let x44 : Int := ((x29 / 2 ^ (21 : Nat)) % 2 ^ (8 : Nat))
  let x45 : Int := ((x29 / 2 ^ (29 : Nat)) % 2 ^ (8 : Nat))
  let x46 : Int := ((x29 / 2 ^ (37 : Nat)) % 2 ^ (8 : Nat))
  let x47 : Int := (((x29 / 2 ^ (45 : Nat)) + (x31 * (64 : Int))) % 2 ^ (8 : Nat))
  let x48 : Int := ((x31 / 2 ^ (2 : Nat)) % 2 ^ (8 : Nat))
  let x49 : Int := ((x31 / 2 ^ (10 : Nat)) % 2 ^ (8 : Nat))
  let x50 : Int := ((x31 / 2 ^ (18 : Nat)) % 2 ^ (8 : Nat))
  let x51 : Int := ((x31 / 2 ^ (26 : Nat)) % 2 ^ (8 : Nat))
  let x52 : Int := ((x31 / 2 ^ (34 : Nat)) % 2 ^ (8 : Nat))
  let x53 : Int := ((x31 / 2 ^ (42 : Nat)) % 2 ^ (8 : Nat))
  let x54 : Int := (((x31 / 2 ^ (50 : Nat)) + (x33 * (2 : Int))) % 2 ^ (8 : Nat))
  let x55 : Int := ((x33 / 2 ^ (7 : Nat)) % 2 ^ (8 : Nat))
  let x56 : Int := ((x33 / 2 ^ (15 : Nat)) % 2 ^ (8 : Nat))
  let x57 : Int := ((x33 / 2 ^ (23 : Nat)) % 2 ^ (8 : Nat))
  let x58 : Int := ((x33 / 2 ^ (31 : Nat)) % 2 ^ (8 : Nat))
  let x59 : Int := ((x33 / 2 ^ (39 : Nat)) % 2 ^ (8 : Nat))
  let x60 : Int := (((x33 / 2 ^ (47 : Nat)) + (x34 * (16 : Int))) % 2 ^ (8 : Nat))
  let x61 : Int := ((x34 / 2 ^ (4 : Nat)) % 2 ^ (8 : Nat))
  let x62 : Int := ((x34 / 2 ^ (12 : Nat)) % 2 ^ (8 : Nat))
  let x63 : Int := ((x34 / 2 ^ (20 : Nat)) % 2 ^ (8 : Nat))
  let x64 : Int := ((x34 / 2 ^ (28 : Nat)) % 2 ^ (8 : Nat))
  let x65 : Int := ((x34 / 2 ^ (36 : Nat)) % 2 ^ (8 : Nat))
  let x66 : Int := (x34 / 2 ^ (44 : Nat))
  [x35, x36, x37, x38, x39, x40, x41, x42, x43, x44, x45, x46, x47, x48, x49, x50, x51, x52, x53, x54, x55, x56, x57, x58, x59, x60, x61, x62, x63, x64, x65, x66]

theorem as_bytes_fn_ok (x0 x1 x2 x3 x4 : Int) : NProg.evalZ as_bytes_nprog [x0, x1, x2, x3, x4] = as_bytes_fn x0 x1 x2 x3 x4 :=
  (NProg.evalZ_eq_fast _ _).trans (by kernel_rfl)

def pow2k_body_post : List Itv := [⟨0, 2251799813685247, 0⟩, ⟨0, 2251799813691328, 0⟩, ⟨0, 2251799813685247, 0⟩, ⟨0, 2251799813685247, 0⟩, ⟨0, 2251799813685247, 0⟩]

def pow2k_body_nprog : NProg := Prog.normProg Dalek.Gen.Field51.pow2k_body Dalek.Model.Contracts.Field51.pre_pow2k_body

theorem pow2k_body_norm_ok : Prog.norm Dalek.Gen.Field51.pow2k_body Dalek.Model.Contracts.Field51.pre_pow2k_body = some (pow2k_body_nprog, pow2k_body_post) :=
  Prog.norm_eq_of_post (by decide +kernel)

def pow2k_body_fn (x0 x1 x2 x3 x4 : Int) : List Int :=
  let x5 : Int := ((19 : Int) * x3)
  let x6 : Int := ((19 : Int) * x4)
  let x7 : Int := ((x0 * x0) + ((2 : Int) * ((x1 * x6) + (x2 * x5))))
  let x8 : Int := ((x3 * x5) + ((2 : Int) * ((x0 * x1) + (x2 * x6))))
  let x9 : Int := ((x1 * x1) + ((2 : Int) * ((x0 * x2) + (x4 * x5))))
  let x10 : Int := ((x4 * x6) + ((2 : Int) * ((x0 * x3) + (x1 * x2))))
  let x11 : Int := ((x2 * x2) + ((2 : Int) * ((x0 * x4) + (x1 * x3))))
  let x12 : Int := (x8 + (x7 / 2 ^ (51 : Nat)))
  let x13 : Int := ((x7 % 2 ^ (64 : Nat)) % 2 ^ (51 : Nat))
  let x14 : Int := (x9 + (x12 / 2 ^ (51 : Nat)))
  let x15 : Int := ((x12 % 2 ^ (64 : Nat)) % 2 ^ (51 : Nat))
  let x16 : Int := (x10 + (x14 / 2 ^ (51 : Nat)))
  let x17 : Int := ((x14 % 2 ^ (64 : Nat)) % 2 ^ (51 : Nat))
  let x18 : Int := (x11 + (x16 / 2 ^ (51 : Nat)))
  let x19 : Int := ((x16 % 2 ^ (64 : Nat)) % 2 ^ (51 : Nat))
  let x20 : Int := (x18 / 2 ^ (51 : Nat))
  let x21 : Int := ((x18 % 2 ^ (64 : Nat)) % 2 ^ (51 : Nat))
  let x22 : Int := (x13 + (x20 * (19 : Int)))
  let x23 : Int := (x15 + (x22 / 2 ^ (51 : Nat)))
  let x24 : Int := (x22 % 2 ^ (51 : Nat))
  [x24, x23, x17, x19, x21]

theorem pow2k_body_fn_ok (x0 x1 x2 x3 x4 : Int) : NProg.evalZ pow2k_body_nprog [x0, x1, x2, x3, x4] = pow2k_body_fn x0 x1 x2 x3 x4 :=
  (NProg.evalZ_eq_fast _ _).trans (by kernel_rfl)

def square2_tail_post : List Itv := [⟨0, 9007199254740990, 1⟩, ⟨0, 9007199254740990, 1⟩, ⟨0, 9007199254740990, 1⟩, ⟨0, 9007199254740990, 1⟩, ⟨0, 9007199254740990, 1⟩]

def square2_tail_nprog : NProg := Prog.normProg Dalek.Gen.Field51.square2_tail Dalek.Model.Contracts.Field51.pre_square2_tail

theorem square2_tail_norm_ok : Prog.norm Dalek.Gen.Field51.square2_tail Dalek.Model.Contracts.Field51.pre_square2_tail = some (square2_tail_nprog, square2_tail_post) :=
  Prog.norm_eq_of_post (by decide +kernel)

def square2_tail_fn (x0 x1 x2 x3 x4 : Int) : List Int :=
  let x5 : Int := (x0 * (2 : Int))
  let x6 : Int := (x1 * (2 : Int))
  let x7 : Int := (x2 * (2 : Int))
  let x8 : Int := (x3 * (2 : Int))
  let x9 : Int := (x4 * (2 : Int))
  [x5, x6, x7, x8, x9]

theorem square2_tail_fn_ok (x0 x1 x2 x3 x4 : Int) : NProg.evalZ square2_tail_nprog [x0, x1, x2, x3, x4] = square2_tail_fn x0 x1 x2 x3 x4 :=
  (NProg.evalZ_eq_fast _ _).trans (by kernel_rfl)

end Dalek.Gen.Norm.Field51
