import Dalek.Proofs.EdsSign
import Dalek.Proofs.EdsFast
/-!
# C08 — Ed25519 key derivation and signing are the deterministic RFC 8032 functions

Statements are about the executable specification `Dalek.Spec.Ed25519` (`publicKey`, `sign`, `signPh`;
`expandSeed`, `rawSignWith`), whose text follows RFC 8032 §5.1.5/§5.1.6 and ed25519-dalek 2.1.1
(`signing.rs`: `From<&SecretKey> for ExpandedSecretKey` 802-808, `raw_sign` 824-849, `raw_sign_prehashed`
862-925, `from_keypair_bytes` 136-146; `hazmat.rs`: `ExpandedSecretKey::from_bytes` 61-76) and is tied to the
Rust code by the correspondence run (ops `eds.keygen`, `eds.expand`, `eds.sign`, `eds.sign_ph`,
`eds.sign_ctx`, `eds.raw_sign`, `eds.from_keypair`).  Being Lean functions, they are deterministic.

Notation as in `Dalek.Props.C09`: `Ed` the group of the curve, `Bpt` the basepoint (order `ℓ = L`),
`encodeEd` the canonical RFC 8032 point encoding, `n • Q` scalar multiplication.  SHA-512 enters only through
the length of its output (`sha512_length`): all theorems hold for any 64-byte hash in its place.

`verify legacy strict`, `verifyPh legacy strict`, `verifyBatch legacy` are the verification functions of C09
and C13 (`legacy` = feature `legacy_compatibility`).

What is **not** proved here (C08's "rejected under any other key, message or context"): that is a
computational statement (it fails for colliding hash inputs); its absolute part — verification fails unless
the group equation holds for the *recomputed* hash — is `Dalek.Props.C09.verify_iff`.
-/
namespace Dalek.Props.C08

open Dalek.Spec Dalek.Spec.Ed25519 Dalek.Bridge Dalek.Eds

-- elaboration hint only: keeps the elaborator from evaluating `decompress` on symbolic input
attribute [local irreducible] decompress

/-- Key derivation and signing do not depend on how the group operations are computed, as long as they
return the specification's results (the model driver uses such a replacement). -/
theorem sign_ops_independent {ops : Ops} (hc : OpsCorrect ops) (seed msg : List UInt8)
    (ctx : Option (List UInt8)) :
    publicKeyWith ops seed = publicKey seed ∧ signWith ops seed msg = sign seed msg ∧
      signPhWith ops seed msg ctx = signPh seed msg ctx :=
  ⟨publicKeyWith_congr hc seed, signWith_congr hc seed msg, signPhWith_congr hc seed msg ctx⟩

/-- In particular the functions executed by the model driver in the correspondence run (group operations
`Dalek.Driver.fastOps`) are the specification functions the theorems below are about. -/
theorem sign_driver_eq (seed msg : List UInt8) (ctx : Option (List UInt8)) (b : List UInt8) :
    publicKeyWith Dalek.Driver.fastOps seed = publicKey seed ∧
    signWith Dalek.Driver.fastOps seed msg = sign seed msg ∧
    signPhWith Dalek.Driver.fastOps seed msg ctx = signPh seed msg ctx ∧
    fromKeypairWith Dalek.Driver.fastOps b = fromKeypairWith Ops.spec b :=
  ⟨(sign_ops_independent opsCorrect_fastOps seed msg ctx).1,
   (sign_ops_independent opsCorrect_fastOps seed msg ctx).2.1,
   (sign_ops_independent opsCorrect_fastOps seed msg ctx).2.2,
   fromKeypairWith_congr opsCorrect_fastOps b⟩

/-! ## Unfolding theorems: the functions are the RFC 8032 formulas -/

/-- **Key generation** (RFC 8032 §5.1.5): `h = SHA-512(seed)`; `a` = the clamped integer from `h[0..32]`
(low three bits cleared, bit 255 cleared, bit 254 set: `a = 2^254 + (x mod 2^254) - (x mod 8)` for
`x = LE(h[0..32])`); the public key is the canonical encoding of `[a]B`. -/
theorem keygen_eq_rfc (seed : List UInt8) :
    let h := sha512 seed
    let x := leToNat (h.take 32)
    let a := 2 ^ 254 + x % 2 ^ 254 - x % 8
    (expandSeed seed).1 = a ∧ (expandSeed seed).2 = h.drop 32 ∧ publicKey seed = encodeEd (a • Bpt) := by
  intro h x a
  have ha : (expandSeed seed).1 = a := by
    rw [expandSeed_fst]
    exact clampedNat_eq (by rw [List.length_take, sha512_length]; rfl)
  exact ⟨ha, rfl, by rw [publicKey_eq, ha]⟩

/-- **Signing** (RFC 8032 §5.1.6).  With `(a, prefix)` from the seed and `A` the public key:
`r = H(prefix ‖ M) mod ℓ`, `R = enc([r]B)`, `k = H(R ‖ A ‖ M) mod ℓ`, `S = (r + k·a) mod ℓ`, and the signature
is `R ‖ LE₃₂(S)`. -/
theorem sign_eq_rfc (seed msg : List UInt8) :
    let a := (expandSeed seed).1
    let pre := (expandSeed seed).2
    let A := publicKey seed
    let r := leToNat (sha512 (pre ++ msg)) % L
    let R := encodeEd (r • Bpt)
    let k := leToNat (sha512 (R ++ A ++ msg)) % L
    let S := (r + k * a) % L
    sign seed msg = R ++ natToLe S 32 := by
  intro a pre A r R k S
  show signWith Ops.spec seed msg = _
  rw [signWith_eq, rawSign_eq]
  simp only [nonceOf, challengeOf, hashToScalar, List.nil_append]
  rfl

/-- **Prehashed signing, Ed25519ph** (RFC 8032 §5.1 with `dom2(1, ctx)`, `PH = SHA-512`), for a context of at
most 255 bytes (`None` = empty): as `sign`, with `dom2(1, ctx)` prepended to both hash inputs and
`SHA-512(msg)` in place of the message. -/
theorem sign_ph_eq_rfc (seed msg : List UInt8) (ctx : Option (List UInt8))
    (hctx : (ctx.getD []).length ≤ 255) :
    let a := (expandSeed seed).1
    let pre := (expandSeed seed).2
    let A := publicKey seed
    let dom := dom2 1 (ctx.getD [])
    let ph := sha512 msg
    let r := leToNat (sha512 (dom ++ pre ++ ph)) % L
    let R := encodeEd (r • Bpt)
    let k := leToNat (sha512 (dom ++ R ++ A ++ ph)) % L
    let S := (r + k * a) % L
    signPh seed msg ctx = some (R ++ natToLe S 32) := by
  intro a pre A dom ph r R k S
  show signPhWith Ops.spec seed msg ctx = _
  rw [signPhWith_eq, if_neg (by omega), rawSign_eq]
  simp only [nonceOf, challengeOf, hashToScalar]
  rfl

/-- `dom2(1, ctx) = "SigEd25519 no Ed25519 collisions" ‖ 01 ‖ len(ctx) ‖ ctx`. -/
theorem dom2_eq (ctx : List UInt8) :
    dom2 1 ctx = "SigEd25519 no Ed25519 collisions".toUTF8.toList ++ [1, UInt8.ofNat ctx.length] ++ ctx :=
  rfl

/-- **`ctx_too_long`**: `sign_prehashed` returns an error exactly for contexts longer than 255 bytes. -/
theorem ctx_too_long (seed msg : List UInt8) (ctx : Option (List UInt8)) :
    signPh seed msg ctx = none ↔ 255 < (ctx.getD []).length := by
  show signPhWith Ops.spec seed msg ctx = none ↔ _
  rw [signPhWith_eq]
  by_cases h : (ctx.getD []).length > 255
  · rw [if_pos h]; exact ⟨fun _ => h, fun _ => rfl⟩
  · rw [if_neg h]; exact ⟨fun e => (by cases e), fun e => absurd e h⟩

/-- Shape of a signature: 64 bytes, `S` half canonical (`< ℓ`), `R` half a canonical point encoding. -/
theorem sign_shape (seed msg : List UInt8) :
    (sign seed msg).length = 64 ∧ leToNat ((sign seed msg).drop 32) < L ∧
      IsCanonicalEnc ((sign seed msg).take 32) := by
  have e : sign seed msg = signWith Ops.spec seed msg := rfl
  rw [e, signWith_eq]
  exact ⟨rawSign_length _ _ _ _ _, rawSign_S_canonical _ _ _ _ _, ⟨_, (rawSign_take _ _ _ _ _).symm⟩⟩

/-- The same for Ed25519ph. -/
theorem sign_ph_shape (seed msg : List UInt8) (ctx : Option (List UInt8)) (sig : List UInt8)
    (h : signPh seed msg ctx = some sig) :
    sig.length = 64 ∧ leToNat (sig.drop 32) < L ∧ IsCanonicalEnc (sig.take 32) := by
  have e : signPh seed msg ctx = signPhWith Ops.spec seed msg ctx := rfl
  rw [e, signPhWith_eq] at h
  by_cases hc : (ctx.getD []).length > 255
  · rw [if_pos hc] at h; cases h
  · rw [if_neg hc] at h
    rw [← Option.some.inj h]
    exact ⟨rawSign_length _ _ _ _ _, rawSign_S_canonical _ _ _ _ _, ⟨_, (rawSign_take _ _ _ _ _).symm⟩⟩

/-- **`clamped_nonzero_mod_l`**: the secret scalar is a multiple of 8 in `[2^254, 2^255)` and is not a
multiple of `ℓ`; hence the public key `[a]B` has order exactly `ℓ` and is not of small order. -/
theorem clamped_nonzero_mod_l (seed : List UInt8) :
    (expandSeed seed).1 % 8 = 0 ∧ 2 ^ 254 ≤ (expandSeed seed).1 ∧ (expandSeed seed).1 < 2 ^ 255 ∧
      (expandSeed seed).1 % L ≠ 0 ∧ 8 • ((expandSeed seed).1 • Bpt) ≠ 0 := by
  obtain ⟨h1, h2, h3⟩ := expandSeed_clamped seed
  exact ⟨h1, h2, h3, expandSeed_mod_L_ne_zero seed, eight_nsmul_Bpt_ne_zero (expandSeed_mod_L_ne_zero seed)⟩

/-! ## `from_keypair_bytes` -/

/-- **`keypair_mismatch`**.  `SigningKey::from_keypair_bytes(sk ‖ pk)` (model `fromKeypairWith`, the
expression evaluated by the driver op `eds.from_keypair`) succeeds iff `pk` is, byte for byte, the public key
derived from `sk`; it then returns that key.  The comparison is on bytes, so a non-canonical encoding of the
right point is refused as well (`publicKey` is a canonical encoding: `keygen_eq_rfc`). -/
theorem from_keypair_iff (b vk : List UInt8) :
    fromKeypairWith Ops.spec b = some vk ↔ vk = b.drop 32 ∧ b.drop 32 = publicKey (b.take 32) :=
  fromKeypair_iff b vk

/-- On `sk ‖ pk` with a 32-byte `sk`: accepted iff `pk = publicKey sk`. -/
theorem from_keypair_iff' (sk pk : List UInt8) (hsk : sk.length = 32) :
    (fromKeypairWith Ops.spec (sk ++ pk)).isSome = true ↔ pk = publicKey sk := by
  rw [Option.isSome_iff_exists]
  simp only [fromKeypair_iff, List.drop_left' hsk, List.take_left' hsk]
  exact ⟨fun ⟨_, _, h⟩ => h, fun h => ⟨pk, rfl, h⟩⟩

theorem from_keypair_ops_independent {ops : Ops} (hc : OpsCorrect ops) (b : List UInt8) :
    fromKeypairWith ops b = fromKeypairWith Ops.spec b := fromKeypairWith_congr hc b

/-! ## Every honest signature verifies -/

/-- Completeness of `verify` and `verify_strict` at once; the strict mode needs the nonce
`r = H(prefix ‖ msg) mod ℓ` to be non-zero (`honest_verifies_strict_iff`). -/
theorem sign_verifies (legacy strict : Bool) (seed msg : List UInt8)
    (hr : strict = true → hashToScalar ((expandSeed seed).2 ++ msg) ≠ 0) :
    verify legacy strict (publicKey seed) msg (sign seed msg) = true := by
  show verifyCoreWith Ops.spec legacy strict [] (Ops.spec.mulBase (expandSeed seed).1) msg
    (signWith Ops.spec seed msg) = true
  rw [signWith_eq]
  exact rawSign_verifies legacy strict [] _ _ msg fun h => ⟨expandSeed_mod_L_ne_zero seed, hr h⟩

/-- The same for Ed25519ph, nonce `r = H(dom2(1,ctx) ‖ prefix ‖ SHA-512(msg)) mod ℓ`. -/
theorem signPh_verifies (legacy strict : Bool) (seed msg : List UInt8) (ctx : Option (List UInt8))
    (hctx : (ctx.getD []).length ≤ 255)
    (hr : strict = true →
      hashToScalar (dom2 1 (ctx.getD []) ++ (expandSeed seed).2 ++ sha512 msg) ≠ 0) :
    ∃ sig, signPh seed msg ctx = some sig ∧ verifyPh legacy strict (publicKey seed) msg ctx sig = true := by
  refine ⟨rawSignWith Ops.spec (dom2 1 (ctx.getD [])) (expandSeed seed).1 (expandSeed seed).2 (sha512 msg)
        (Ops.spec.mulBase (expandSeed seed).1), ?_, ?_⟩
  · show signPhWith Ops.spec seed msg ctx = _
    rw [signPhWith_eq, if_neg (by omega)]
  · show verifyPhWith Ops.spec legacy strict (Ops.spec.mulBase (expandSeed seed).1) msg ctx _ = true
    unfold verifyPhWith
    simp only [gt_iff_lt, show ¬ 255 < (ctx.getD []).length by omega, if_false]
    exact rawSign_verifies legacy strict _ _ _ _ fun h => ⟨expandSeed_mod_L_ne_zero seed, hr h⟩

/-- **Completeness**: for every seed and message, `verify` accepts `sign seed msg` under `publicKey seed`,
with and without `legacy_compatibility`.  (Group argument through the bridge:
`[S]B - [k]A = [(r + k·a) mod ℓ]B - [k][a]B = [r]B`, using that `[n]B` depends only on `n mod ℓ`, and
`decompress (compress A) = A`; the recomputed `k` is the signer's `k` because the same bytes are hashed.) -/
theorem honest_verifies (legacy : Bool) (seed msg : List UInt8) :
    verify legacy false (publicKey seed) msg (sign seed msg) = true :=
  sign_verifies legacy false seed msg nofun

/-- **Completeness, Ed25519ph**: for a context of at most 255 bytes, `sign_prehashed` succeeds and
`verify_prehashed` with the same context accepts the result. -/
theorem honest_verifies_ph (legacy : Bool) (seed msg : List UInt8) (ctx : Option (List UInt8))
    (hctx : (ctx.getD []).length ≤ 255) :
    ∃ sig, signPh seed msg ctx = some sig ∧ verifyPh legacy false (publicKey seed) msg ctx sig = true :=
  signPh_verifies legacy false seed msg ctx hctx nofun

/-- **Strict verification of honest signatures — exact condition.**  `verify_strict` accepts
`sign seed msg` iff the nonce `r = H(prefix ‖ msg) mod ℓ` is non-zero.  (The key `[a]B` is never of small
order, `clamped_nonzero_mod_l`; `R = [r]B` is of small order iff it is the identity iff `r = 0`.) -/
theorem honest_verifies_strict_iff (legacy : Bool) (seed msg : List UInt8) :
    verify legacy true (publicKey seed) msg (sign seed msg) = true ↔
      hashToScalar ((expandSeed seed).2 ++ msg) ≠ 0 := by
  refine ⟨fun h hz => ?_, fun hr => sign_verifies legacy true seed msg fun _ => hr⟩
  have h' : verifyCoreWith Ops.spec legacy true [] (Ops.spec.mulBase (expandSeed seed).1) msg
      (rawSignWith Ops.spec [] (expandSeed seed).1 (expandSeed seed).2 msg
        (Ops.spec.mulBase (expandSeed seed).1)) = true := h
  obtain ⟨A, s, -, -, hst, -⟩ := (verifyCore_iff _ _ _ _ _ _).1 h'
  obtain ⟨R, hR, h8, -⟩ := hst rfl
  rw [rawSign_take, decodeEd_encodeEd] at hR
  apply h8
  have : nonceOf [] (expandSeed seed).2 msg = 0 := by
    simpa only [nonceOf, List.nil_append] using hz
  rw [← Option.some.inj hR, this, zero_nsmul, smul_zero]

/-- **`honest_verifies_strict_partial`**: `verify_strict` accepts every honest signature whose nonce
`r = H(prefix ‖ msg) mod ℓ` is non-zero.  *Partial*: the hypothesis `r ≠ 0` cannot be discharged — for
`r = 0` the signature has `R` = identity and strict verification rejects it (`honest_verifies_strict_iff`);
producing such an input requires a SHA-512 output that is a multiple of `ℓ` (probability `≈ 2^-252` per
message; no such preimage is known). -/
theorem honest_verifies_strict_partial (legacy : Bool) (seed msg : List UInt8)
    (hr : hashToScalar ((expandSeed seed).2 ++ msg) ≠ 0) :
    verify legacy true (publicKey seed) msg (sign seed msg) = true :=
  sign_verifies legacy true seed msg fun _ => hr

/-- Strict prehashed verification, same condition on the nonce
`r = H(dom2(1,ctx) ‖ prefix ‖ SHA-512(msg)) mod ℓ`.  *Partial* for the same reason. -/
theorem honest_verifies_ph_strict_partial (legacy : Bool) (seed msg : List UInt8)
    (ctx : Option (List UInt8)) (hctx : (ctx.getD []).length ≤ 255)
    (hr : hashToScalar (dom2 1 (ctx.getD []) ++ (expandSeed seed).2 ++ sha512 msg) ≠ 0) :
    ∃ sig, signPh seed msg ctx = some sig ∧ verifyPh legacy true (publicKey seed) msg ctx sig = true :=
  signPh_verifies legacy true seed msg ctx hctx fun _ => hr

/-- **Batch verification accepts every batch of honest signatures** (model `verifyBatch` of C13: every
entry's equation holds; see `Dalek.Props.C13` for the relation to the code's single random linear
combination), for any list of (seed, message) pairs — any length including 0, repetitions allowed. -/
theorem honest_verifies_batch (legacy : Bool) (l : List (List UInt8 × List UInt8)) :
    verifyBatch legacy (l.map (·.2)) (l.map fun x => sign x.1 x.2) (l.map fun x => publicKey x.1) = true := by
  show verifyBatchWith Ops.spec legacy _ _ _ = true
  rw [verifyBatch_iff]
  refine ⟨by simp only [List.length_map], by simp only [List.length_map], ?_⟩
  intro x hx
  rw [List.zip_map', List.zip_map', List.mem_map] at hx
  obtain ⟨y, -, rfl⟩ := hx
  have hv : verifyCoreWith Ops.spec legacy false [] (publicKey y.1) y.2 (sign y.1 y.2) = true :=
    honest_verifies legacy y.1 y.2
  have hb := ((verify_iff_batchItem legacy y.2 (sign y.1 y.2) (publicKey y.1)).1 hv).1
  dsimp only
  exact hb

/-! ## Non-vacuity and a reference vector -/

/-- The hypothesis of `honest_verifies_strict_partial` is satisfiable (and so is the whole chain: seeds,
messages, accepted signatures exist): RFC 8032 §7.1 TEST 1 has `r ≠ 0`.  Kernel evaluation of SHA-512. -/
example :
    hashToScalar ((expandSeed (natToLe
      43647624700350065415986689228612485845309737963740022737531181108678917972381 32)).2 ++ []) ≠ 0 := by
  decide +kernel

/-- RFC 8032 §7.1 TEST 1 (secret key `9d61b19d…7f60`): the derived public key is `d75a9801…511a`.
Kernel evaluation (SHA-512, clamping, one scalar multiplication, compression) with the scalar multiplication
done in extended coordinates (`opsCorrect_fastOps`); the specification's affine one costs an inversion per
addition.  The signature of the same vector (`e5564300…100b`) is checked by the correspondence run on the
RFC vectors. -/
example :
    publicKey (natToLe 43647624700350065415986689228612485845309737963740022737531181108678917972381 32) =
      natToLe 11903303657706407974989296177215005343713679411332034699907763981919547054807 32 := by
  rw [← publicKeyWith_congr opsCorrect_fastOps]
  decide +kernel

/-! ## Axiom audit -/

/-- info: 'Dalek.Props.C08.sign_driver_eq' depends on axioms: [propext, Classical.choice, Quot.sound] -/
#guard_msgs in #print axioms sign_driver_eq
/-- info: 'Dalek.Props.C08.keygen_eq_rfc' depends on axioms: [propext, Classical.choice, Quot.sound] -/
#guard_msgs in #print axioms keygen_eq_rfc
/-- info: 'Dalek.Props.C08.sign_eq_rfc' depends on axioms: [propext, Classical.choice, Quot.sound] -/
#guard_msgs in #print axioms sign_eq_rfc
/-- info: 'Dalek.Props.C08.sign_ph_eq_rfc' depends on axioms: [propext, Classical.choice, Quot.sound] -/
#guard_msgs in #print axioms sign_ph_eq_rfc
/-- info: 'Dalek.Props.C08.ctx_too_long' depends on axioms: [propext, Quot.sound] -/
#guard_msgs in #print axioms ctx_too_long
/-- info: 'Dalek.Props.C08.from_keypair_iff' depends on axioms: [propext, Classical.choice, Quot.sound] -/
#guard_msgs in #print axioms from_keypair_iff
/-- info: 'Dalek.Props.C08.clamped_nonzero_mod_l' depends on axioms: [propext, Classical.choice, Quot.sound] -/
#guard_msgs in #print axioms clamped_nonzero_mod_l
/-- info: 'Dalek.Props.C08.honest_verifies' depends on axioms: [propext, Classical.choice, Quot.sound] -/
#guard_msgs in #print axioms honest_verifies
/-- info: 'Dalek.Props.C08.honest_verifies_ph' depends on axioms: [propext, Classical.choice, Quot.sound] -/
#guard_msgs in #print axioms honest_verifies_ph
/-- info: 'Dalek.Props.C08.honest_verifies_strict_iff' depends on axioms: [propext, Classical.choice, Quot.sound] -/
#guard_msgs in #print axioms honest_verifies_strict_iff
/-- info: 'Dalek.Props.C08.honest_verifies_ph_strict_partial' depends on axioms: [propext, Classical.choice, Quot.sound] -/
#guard_msgs in #print axioms honest_verifies_ph_strict_partial
/-- info: 'Dalek.Props.C08.honest_verifies_batch' depends on axioms: [propext, Classical.choice, Quot.sound] -/
#guard_msgs in #print axioms honest_verifies_batch

end Dalek.Props.C08
