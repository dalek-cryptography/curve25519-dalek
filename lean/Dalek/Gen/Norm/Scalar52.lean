import Dalek.Model.Contracts
import Dalek.IR.NormSpec
import Dalek.IR.Tactics
/-! GENERATED by tools/GenNorm.lean from the current /repo sources; do not edit. -/
namespace Dalek.Gen.Norm.Scalar52
open Dalek.IR

def from_bytes_post : List Itv := [⟨0, 4503599627370495, 0⟩, ⟨0, 4503599627370495, 0⟩, ⟨0, 4503599627370495, 0⟩, ⟨0, 4503599627370495, 0⟩, ⟨0, 281474976710655, 0⟩]

def from_bytes_nprog : NProg := Prog.normProg Dalek.Gen.Scalar52.from_bytes Dalek.Model.Contracts.Scalar52.pre_from_bytes

theorem from_bytes_norm_ok : Prog.norm Dalek.Gen.Scalar52.from_bytes Dalek.Model.Contracts.Scalar52.pre_from_bytes = some (from_bytes_nprog, from_bytes_post) :=
  Prog.norm_eq_of_post (by decide +kernel)

def from_bytes_fn (x0 x1 x2 x3 x4 x5 x6 x7 x8 x9 x10 x11 x12 x13 x14 x15 x16 x17 x18 x19 x20 x21 x22 x23 x24 x25 x26 x27 x28 x29 x30 x31 : Int) : List Int :=
  let x32 : Int := ((0 : Int) + (x0 * (1 : Int)))
  let x33 : Int := (x32 + (x1 * (256 : Int)))
  let x34 : Int := (x33 + (x2 * (65536 : Int)))
  let x35 : Int := (x34 + (x3 * (16777216 : Int)))
  let x36 : Int := (x35 + (x4 * (4294967296 : Int)))
  let x37 : Int := (x36 + (x5 * (1099511627776 : Int)))
  let x38 : Int := (x37 + (x6 * (281474976710656 : Int)))
  let x39 : Int := (x38 + (x7 * (72057594037927936 : Int)))
  let x40 : Int := ((0 : Int) + (x8 * (1 : Int)))
  let x41 : Int := (x40 + (x9 * (256 : Int)))
  let x42 : Int := (x41 + (x10 * (65536 : Int)))
  let x43 : Int := (x42 + (x11 * (16777216 : Int)))
  let x44 : Int := (x43 + (x12 * (4294967296 : Int)))
  let x45 : Int := (x44 + (x13 * (1099511627776 : Int)))
  let x46 : Int := (x45 + (x14 * (281474976710656 : Int)))
  let x47 : Int := (x46 + (x15 * (72057594037927936 : Int)))
  let x48 : Int := ((0 : Int) + (x16 * (1 : Int)))
  let x49 : Int := (x48 + (x17 * (256 : Int)))
  let x50 : Int := (x49 + (x18 * (65536 : Int)))
  let x51 : Int := (x50 + (x19 * (16777216 : Int)))
  let x52 : Int := (x51 + (x20 * (4294967296 : Int)))
  let x53 : Int := (x52 + (x21 * (1099511627776 : Int)))
  let x54 : Int := (x53 + (x22 * (281474976710656 : Int)))
  let x55 : Int := (x54 + (x23 * (72057594037927936 : Int)))
  let x56 : Int := ((0 : Int) + (x24 * (1 : Int)))
  let x57 : Int := (x56 + (x25 * (256 : Int)))
  let x58 : Int := (x57 + (x26 * (65536 : Int)))
  let x59 : Int := (x58 + (x27 * (16777216 : Int)))
  let x60 : Int := (x59 + (x28 * (4294967296 : Int)))
  let x61 : Int := (x60 + (x29 * (1099511627776 : Int)))
  let x62 : Int := (x61 + (x30 * (281474976710656 : Int)))
  let x63 : Int := (x62 + (x31 * (72057594037927936 : Int)))
  let x64 : Int := (x39 % 2 ^ (52 : Nat))
  let x65 : Int := (((x39 / 2 ^ (52 : Nat)) + ((x47 * (4096 : Int)) % 2 ^ (64 : Nat))) % 2 ^ (52 : Nat))
  let x66 : Int := (((x47 / 2 ^ (40 : Nat)) + ((x55 * (16777216 : Int)) % 2 ^ (64 : Nat))) % 2 ^ (52 : Nat))
  let x67 : Int := (((x55 / 2 ^ (28 : Nat)) + ((x63 * (68719476736 : Int)) % 2 ^ (64 : Nat))) % 2 ^ (52 : Nat))
  let x68 : Int := (x63 / 2 ^ (16 : Nat))
  [x64, x65, x66, x67, x68]

theorem from_bytes_fn_ok (x0 x1 x2 x3 x4 x5 x6 x7 x8 x9 x10 x11 x12 x13 x14 x15 x16 x17 x18 x19 x20 x21 x22 x23 x24 x25 x26 x27 x28 x29 x30 x31 : Int) : NProg.evalZ from_bytes_nprog [x0, x1, x2, x3, x4, x5, x6, x7, x8, x9, x10, x11, x12, x13, x14, x15, x16, x17, x18, x19, x20, x21, x22, x23, x24, x25, x26, x27, x28, x29, x30, x31] = from_bytes_fn x0 x1 x2 x3 x4 x5 x6 x7 x8 x9 x10 x11 x12 x13 x14 x15 x16 x17 x18 x19 x20 x21 x22 x23 x24 x25 x26 x27 x28 x29 x30 x31 :=
  (NProg.evalZ_eq_fast _ _).trans (by kernel_rfl)

def from_bytes_wide_post : List Itv := [⟨0, 4503599627370495, 0⟩, ⟨0, 4503599627370495, 0⟩, ⟨0, 4503599627370495, 0⟩, ⟨0, 4503599627370495, 0⟩, ⟨0, 4503599627370495, 0⟩]

def from_bytes_wide_nprog : NProg := Prog.normProg Dalek.Gen.Scalar52.from_bytes_wide Dalek.Model.Contracts.Scalar52.pre_from_bytes_wide

theorem from_bytes_wide_norm_ok : Prog.norm Dalek.Gen.Scalar52.from_bytes_wide Dalek.Model.Contracts.Scalar52.pre_from_bytes_wide = some (from_bytes_wide_nprog, from_bytes_wide_post) :=
  Prog.norm_eq_of_post (by decide +kernel)

def from_bytes_wide_fn (x0 x1 x2 x3 x4 x5 x6 x7 x8 x9 x10 x11 x12 x13 x14 x15 x16 x17 x18 x19 x20 x21 x22 x23 x24 x25 x26 x27 x28 x29 x30 x31 x32 x33 x34 x35 x36 x37 x38 x39 x40 x41 x42 x43 x44 x45 x46 x47 x48 x49 x50 x51 x52 x53 x54 x55 x56 x57 x58 x59 x60 x61 x62 x63 : Int) : List Int :=
  let x64 : Int := ((0 : Int) + (x0 * (1 : Int)))
  let x65 : Int := (x64 + (x1 * (256 : Int)))
  let x66 : Int := (x65 + (x2 * (65536 : Int)))
  let x67 : Int := (x66 + (x3 * (16777216 : Int)))
  let x68 : Int := (x67 + (x4 * (4294967296 : Int)))
  let x69 : Int := (x68 + (x5 * (1099511627776 : Int)))
  let x70 : Int := (x69 + (x6 * (281474976710656 : Int)))
  let x71 : Int := (x70 + (x7 * (72057594037927936 : Int)))
  let x72 : Int := ((0 : Int) + (x8 * (1 : Int)))
  let x73 : Int := (x72 + (x9 * (256 : Int)))
  let x74 : Int := (x73 + (x10 * (65536 : Int)))
  let x75 : Int := (x74 + (x11 * (16777216 : Int)))
  let x76 : Int := (x75 + (x12 * (4294967296 : Int)))
  let x77 : Int := (x76 + (x13 * (1099511627776 : Int)))
  let x78 : Int := (x77 + (x14 * (281474976710656 : Int)))
  let x79 : Int := (x78 + (x15 * (72057594037927936 : Int)))
  let x80 : Int := ((0 : Int) + (x16 * (1 : Int)))
  let x81 : Int := (x80 + (x17 * (256 : Int)))
  let x82 : Int := (x81 + (x18 * (65536 : Int)))
  let x83 : Int := (x82 + (x19 * (16777216 : Int)))
  let x84 : Int := (x83 + (x20 * (4294967296 : Int)))
  let x85 : Int := (x84 + (x21 * (1099511627776 : Int)))
  let x86 : Int := (x85 + (x22 * (281474976710656 : Int)))
  let x87 : Int := (x86 + (x23 * (72057594037927936 : Int)))
  let x88 : Int := ((0 : Int) + (x24 * (1 : Int)))
  let x89 : Int := (x88 + (x25 * (256 : Int)))
  let x90 : Int := (x89 + (x26 * (65536 : Int)))
  let x91 : Int := (x90 + (x27 * (16777216 : Int)))
  let x92 : Int := (x91 + (x28 * (4294967296 : Int)))
  let x93 : Int := (x92 + (x29 * (1099511627776 : Int)))
  let x94 : Int := (x93 + (x30 * (281474976710656 : Int)))
  let x95 : Int := (x94 + (x31 * (72057594037927936 : Int)))
  let x96 : Int := ((0 : Int) + (x32 * (1 : Int)))
  let x97 : Int := (x96 + (x33 * (256 : Int)))
  let x98 : Int := (x97 + (x34 * (65536 : Int)))
  let x99 : Int := (x98 + (x35 * (16777216 : Int)))
  let x100 : Int := (x99 + (x36 * (4294967296 : Int)))
  let x101 : Int := (x100 + (x37 * (1099511627776 : Int)))
  let x102 : Int := (x101 + (x38 * (281474976710656 : Int)))
  let x103 : Int := (x102 + (x39 * (72057594037927936 : Int)))
  let x104 : Int := ((0 : Int) + (x40 * (1 : Int)))
  let x105 : Int := (x104 + (x41 * (256 : Int)))
  let x106 : Int := (x105 + (x42 * (65536 : Int)))
  let x107 : Int := (x106 + (x43 * (16777216 : Int)))
  let x108 : Int := (x107 + (x44 * (4294967296 : Int)))
  let x109 : Int := (x108 + (x45 * (1099511627776 : Int)))
  let x110 : Int := (x109 + (x46 * (281474976710656 : Int)))
  let x111 : Int := (x110 + (x47 * (72057594037927936 : Int)))
  let x112 : Int := ((0 : Int) + (x48 * (1 : Int)))
  let x113 : Int := (x112 + (x49 * (256 : Int)))
  let x114 : Int := (x113 + (x50 * (65536 : Int)))
  let x115 : Int := (x114 + (x51 * (16777216 : Int)))
  let x116 : Int := (x115 + (x52 * (4294967296 : Int)))
  let x117 : Int := (x116 + (x53 * (1099511627776 : Int)))
  let x118 : Int := (x117 + (x54 * (281474976710656 : Int)))
  let x119 : Int := (x118 + (x55 * (72057594037927936 : Int)))
  let x120 : Int := ((0 : Int) + (x56 * (1 : Int)))
  let x121 : Int := (x120 + (x57 * (256 : Int)))
  let x122 : Int := (x121 + (x58 * (65536 : Int)))
  let x123 : Int := (x122 + (x59 * (16777216 : Int)))
  let x124 : Int := (x123 + (x60 * (4294967296 : Int)))
  let x125 : Int := (x124 + (x61 * (1099511627776 : Int)))
  let x126 : Int := (x125 + (x62 * (281474976710656 : Int)))
  let x127 : Int := (x126 + (x63 * (72057594037927936 : Int)))
  let x128 : Int := (x71 % 2 ^ (52 : Nat))
  let x129 : Int := (((x71 / 2 ^ (52 : Nat)) + ((x79 * (4096 : Int)) % 2 ^ (64 : Nat))) % 2 ^ (52 : Nat))
  let x130 : Int := (((x79 / 2 ^ (40 : Nat)) + ((x87 * (16777216 : Int)) % 2 ^ (64 : Nat))) % 2 ^ (52 : Nat))
  let x131 : Int := (((x87 / 2 ^ (28 : Nat)) + ((x95 * (68719476736 : Int)) % 2 ^ (64 : Nat))) % 2 ^ (52 : Nat))
  let x132 : Int := (((x95 / 2 ^ (16 : Nat)) + ((x103 * (281474976710656 : Int)) % 2 ^ (64 : Nat))) % 2 ^ (52 : Nat))
  let x133 : Int := ((x103 / 2 ^ (4 : Nat)) % 2 ^ (52 : Nat))
  let x134 : Int := (((x103 / 2 ^ (56 : Nat)) + ((x111 * (256 : Int)) % 2 ^ (64 : Nat))) % 2 ^ (52 : Nat))
  let x135 : Int := (((x111 / 2 ^ (44 : Nat)) + ((x119 * (1048576 : Int)) % 2 ^ (64 : Nat))) % 2 ^ (52 : Nat))
  let x136 : Int := (((x119 / 2 ^ (32 : Nat)) + ((x127 * (4294967296 : Int)) % 2 ^ (64 : Nat))) % 2 ^ (52 : Nat))
  let x137 : Int := (x127 / 2 ^ (20 : Nat))
  let x138 : Int := (x128 * (4302102966953709 : Int))
  let x139 : Int := ((x128 * (1049714374468698 : Int)) + (x129 * (4302102966953709 : Int)))
  let x140 : Int := (((x128 * (4503599278581019 : Int)) + (x129 * (1049714374468698 : Int))) + (x130 * (4302102966953709 : Int)))
  let x141 : Int := ((((x128 * (4503599627370495 : Int)) + (x129 * (4503599278581019 : Int))) + (x130 * (1049714374468698 : Int))) + (x131 * (4302102966953709 : Int)))
  let x142 : Int := (((((x128 * (17592186044415 : Int)) + (x129 * (4503599627370495 : Int))) + (x130 * (4503599278581019 : Int))) + (x131 * (1049714374468698 : Int))) + (x132 * (4302102966953709 : Int)))
  let x143 : Int := ((((x129 * (17592186044415 : Int)) + (x130 * (4503599627370495 : Int))) + (x131 * (4503599278581019 : Int))) + (x132 * (1049714374468698 : Int)))
  let x144 : Int := (((x130 * (17592186044415 : Int)) + (x131 * (4503599627370495 : Int))) + (x132 * (4503599278581019 : Int)))
  let x145 : Int := ((x131 * (17592186044415 : Int)) + (x132 * (4503599627370495 : Int)))
  let x146 : Int := (x132 * (17592186044415 : Int))
  let x147 : Int := ((((x138 % 2 ^ (64 : Nat)) * (1439961107955227 : Int)) % 2 ^ (64 : Nat)) % 2 ^ (52 : Nat))
  let x148 : Int := ((x138 + (x147 * (671914833335277 : Int))) / 2 ^ (52 : Nat))
  let x149 : Int := ((x148 + x139) + (x147 * (3916664325105025 : Int)))
  let x150 : Int := ((((x149 % 2 ^ (64 : Nat)) * (1439961107955227 : Int)) % 2 ^ (64 : Nat)) % 2 ^ (52 : Nat))
  let x151 : Int := ((x149 + (x150 * (671914833335277 : Int))) / 2 ^ (52 : Nat))
  let x152 : Int := (((x151 + x140) + (x147 * (1367801 : Int))) + (x150 * (3916664325105025 : Int)))
  let x153 : Int := ((((x152 % 2 ^ (64 : Nat)) * (1439961107955227 : Int)) % 2 ^ (64 : Nat)) % 2 ^ (52 : Nat))
  let x154 : Int := ((x152 + (x153 * (671914833335277 : Int))) / 2 ^ (52 : Nat))
  let x155 : Int := (((x154 + x141) + (x150 * (1367801 : Int))) + (x153 * (3916664325105025 : Int)))
  let x156 : Int := ((((x155 % 2 ^ (64 : Nat)) * (1439961107955227 : Int)) % 2 ^ (64 : Nat)) % 2 ^ (52 : Nat))
  let x157 : Int := ((x155 + (x156 * (671914833335277 : Int))) / 2 ^ (52 : Nat))
  let x158 : Int := ((((x157 + x142) + (x147 * (17592186044416 : Int))) + (x153 * (1367801 : Int))) + (x156 * (3916664325105025 : Int)))
  let x159 : Int := ((((x158 % 2 ^ (64 : Nat)) * (1439961107955227 : Int)) % 2 ^ (64 : Nat)) % 2 ^ (52 : Nat))
  let x160 : Int := ((x158 + (x159 * (671914833335277 : Int))) / 2 ^ (52 : Nat))
  let x161 : Int := ((((x160 + x143) + (x150 * (17592186044416 : Int))) + (x156 * (1367801 : Int))) + (x159 * (3916664325105025 : Int)))
  let x162 : Int := ((x161 % 2 ^ (64 : Nat)) % 2 ^ (52 : Nat))
  let x163 : Int := (x161 / 2 ^ (52 : Nat))
  let x164 : Int := (((x163 + x144) + (x153 * (17592186044416 : Int))) + (x159 * (1367801 : Int)))
  let x165 : Int := ((x164 % 2 ^ (64 : Nat)) % 2 ^ (52 : Nat))
  let x166 : Int := (x164 / 2 ^ (52 : Nat))
  let x167 : Int := ((x166 + x145) + (x156 * (17592186044416 : Int)))
  let x168 : Int := ((x167 % 2 ^ (64 : Nat)) % 2 ^ (52 : Nat))
  let x169 : Int := (x167 / 2 ^ (52 : Nat))
  let x170 : Int := ((x169 + x146) + (x159 * (17592186044416 : Int)))
  let x171 : Int := ((x170 % 2 ^ (64 : Nat)) % 2 ^ (52 : Nat))
  let x172 : Int := (x170 / 2 ^ (52 : Nat))
  let x173 : Int := x172
  let x174 : Int := ((x162 - (671914833335277 : Int)) % 2 ^ (64 : Nat))
  let x175 : Int := (x174 % 2 ^ (52 : Nat))
  let x176 : Int := ((x165 - ((3916664325105025 : Int) + (x174 / 2 ^ (63 : Nat)))) % 2 ^ (64 : Nat))
  let x177 : Int := (x176 % 2 ^ (52 : Nat))
  let x178 : Int := ((x168 - ((1367801 : Int) + (x176 / 2 ^ (63 : Nat)))) % 2 ^ (64 : Nat))
  let x179 : Int := (x178 % 2 ^ (52 : Nat))
  let x180 : Int := ((x171 - ((0 : Int) + (x178 / 2 ^ (63 : Nat)))) % 2 ^ (64 : Nat))
  let x181 : Int := (x180 % 2 ^ (52 : Nat))
  let x182 : Int := ((x173 - ((17592186044416 : Int) + (x180 / 2 ^ (63 : Nat)))) % 2 ^ (64 : Nat))
  let x183 : Int := (x182 % 2 ^ (52 : Nat))
  let x184 : Int := (x182 / 2 ^ (63 : Nat))
  let x185 : Int := (if x184 = 0 then (0 : Int) else (671914833335277 : Int))
  let x186 : Int := (((0 : Int) + x175) + x185)
  let x187 : Int := (x186 % 2 ^ (52 : Nat))
  let x188 : Int := (x182 / 2 ^ (63 : Nat))
  let x189 : Int := (if x188 = 0 then (0 : Int) else (3916664325105025 : Int))
  let x190 : Int := (((x186 / 2 ^ (52 : Nat)) + x177) + x189)
  let x191 : Int := (x190 % 2 ^ (52 : Nat))
  let x192 : Int := (x182 / 2 ^ (63 : Nat))
  let x193 : Int := (if x192 = 0 then (0 : Int) else (1367801 : Int))
  let x194 : Int := (((x190 / 2 ^ (52 : Nat)) + x179) + x193)
  let x195 : Int := (x194 % 2 ^ (52 : Nat))
  let x196 : Int := (x182 / 2 ^ (63 : Nat))
  let x197 : Int := (if x196 = 0 then (0 : Int) else (0 : Int))
  let x198 : Int := (((x194 / 2 ^ (52 : Nat)) + x181) + x197)
  let x199 : Int := (x198 % 2 ^ (52 : Nat))
  let x200 : Int := (x182 / 2 ^ (63 : Nat))
  let x201 : Int := (if x200 = 0 then (0 : Int) else (17592186044416 : Int))
  let x202 : Int := (((x198 / 2 ^ (52 : Nat)) + x183) + x201)
  let x203 : Int := (x202 % 2 ^ (52 : Nat))
  let x204 : Int := (x133 * (2764609938444603 : Int))
  let x205 : Int := ((x133 * (3768881411696287 : Int)) + (x134 * (2764609938444603 : Int)))
  let x206 : Int := (((x133 * (1616719297148420 : Int)) + (x134 * (3768881411696287 : Int))) + (x135 * (2764609938444603 : Int)))
  let x207 : Int := ((((x133 * (1087343033131391 : Int)) + (x134 * (1616719297148420 : Int))) + (x135 * (3768881411696287 : Int))) + (x136 * (2764609938444603 : Int)))
  let x208 : Int := (((((x133 * (10175238647962 : Int)) + (x134 * (1087343033131391 : Int))) + (x135 * (1616719297148420 : Int))) + (x136 * (3768881411696287 : Int))) + (x137 * (2764609938444603 : Int)))
  let x209 : Int := ((((x134 * (10175238647962 : Int)) + (x135 * (1087343033131391 : Int))) + (x136 * (1616719297148420 : Int))) + (x137 * (3768881411696287 : Int)))
  let x210 : Int := (((x135 * (10175238647962 : Int)) + (x136 * (1087343033131391 : Int))) + (x137 * (1616719297148420 : Int)))
  let x211 : Int := ((x136 * (10175238647962 : Int)) + (x137 * (1087343033131391 : Int)))
  let x212 : Int := (x137 * (10175238647962 : Int))
  let x213 : Int := ((((x204 % 2 ^ (64 : Nat)) * (1439961107955227 : Int)) % 2 ^ (64 : Nat)) % 2 ^ (52 : Nat))
  let x214 : Int := ((x204 + (x213 * (671914833335277 : Int))) / 2 ^ (52 : Nat))
  let x215 : Int := ((x214 + x205) + (x213 * (3916664325105025 : Int)))
  let x216 : Int := ((((x215 % 2 ^ (64 : Nat)) * (1439961107955227 : Int)) % 2 ^ (64 : Nat)) % 2 ^ (52 : Nat))
  let x217 : Int := ((x215 + (x216 * (671914833335277 : Int))) / 2 ^ (52 : Nat))
  let x218 : Int := (((x217 + x206) + (x213 * (1367801 : Int))) + (x216 * (3916664325105025 : Int)))
  let x219 : Int := ((((x218 % 2 ^ (64 : Nat)) * (1439961107955227 : Int)) % 2 ^ (64 : Nat)) % 2 ^ (52 : Nat))
  let x220 : Int := ((x218 + (x219 * (671914833335277 : Int))) / 2 ^ (52 : Nat))
  let x221 : Int := (((x220 + x207) + (x216 * (1367801 : Int))) + (x219 * (3916664325105025 : Int)))
  let x222 : Int := ((((x221 % 2 ^ (64 : Nat)) * (1439961107955227 : Int)) % 2 ^ (64 : Nat)) % 2 ^ (52 : Nat))
  let x223 : Int := ((x221 + (x222 * (671914833335277 : Int))) / 2 ^ (52 : Nat))
  let x224 : Int := ((((x223 + x208) + (x213 * (17592186044416 : Int))) + (x219 * (1367801 : Int))) + (x222 * (3916664325105025 : Int)))
  let x225 : Int := ((((x224 % 2 ^ (64 : Nat)) * (1439961107955227 : Int)) % 2 ^ (64 : Nat)) % 2 ^ (52 : Nat))
  let x226 : Int := ((x224 + (x225 * (671914833335277 : Int))) / 2 ^ (52 : Nat))
  let x227 : Int := ((((x226 + x209) + (x216 * (17592186044416 : Int))) + (x222 * (1367801 : Int))) + (x225 * (3916664325105025 : Int)))
  let x228 : Int := ((x227 % 2 ^ (64 : Nat)) % 2 ^ (52 : Nat))
  let x229 : Int := (x227 / 2 ^ (52 : Nat))
  let x230 : Int := (((x229 + x210) + (x219 * (17592186044416 : Int))) + (x225 * (1367801 : Int)))
  let x231 : Int := ((x230 % 2 ^ (64 : Nat)) % 2 ^ (52 : Nat))
  let x232 : Int := (x230 / 2 ^ (52 : Nat))
  let x233 : Int := ((x232 + x211) + (x222 * (17592186044416 : Int)))
  let x234 : Int := ((x233 % 2 ^ (64 : Nat)) % 2 ^ (52 : Nat))
  let x235 : Int := (x233 / 2 ^ (52 : Nat))
  let x236 : Int := ((x235 + x212) + (x225 * (17592186044416 : Int)))
  let x237 : Int := ((x236 % 2 ^ (64 : Nat)) % 2 ^ (52 : Nat))
  let x238 : Int := (x236 / 2 ^ (52 : Nat))
  let x239 : Int := x238
  let x240 : Int := ((x228 - (671914833335277 : Int)) % 2 ^ (64 : Nat))
  let x241 : Int := (x240 % 2 ^ (52 : Nat))
  let x242 : Int := ((x231 - ((3916664325105025 : Int) + (x240 / 2 ^ (63 : Nat)))) % 2 ^ (64 : Nat))
  let x243 : Int := (x242 % 2 ^ (52 : Nat))
  let x244 : Int := ((x234 - ((1367801 : Int) + (x242 / 2 ^ (63 : Nat)))) % 2 ^ (64 : Nat))
  let x245 : Int := (x244 % 2 ^ (52 : Nat))
  let x246 : Int := ((x237 - ((0 : Int) + (x244 / 2 ^ (63 : Nat)))) % 2 ^ (64 : Nat))
  let x247 : Int := (x246 % 2 ^ (52 : Nat))
  let x248 : Int := ((x239 - ((17592186044416 : Int) + (x246 / 2 ^ (63 : Nat)))) % 2 ^ (64 : Nat))
  let x249 : Int := (x248 % 2 ^ (52 : Nat))
  let x250 : Int := (x248 / 2 ^ (63 : Nat))
  let x251 : Int := (if x250 = 0 then (0 : Int) else (671914833335277 : Int))
  let x252 : Int := (((0 : Int) + x241) + x251)
  let x253 : Int := (x252 % 2 ^ (52 : Nat))
  let x254 : Int := (x248 / 2 ^ (63 : Nat))
  let x255 : Int := (if x254 = 0 then (0 : Int) else (3916664325105025 : Int))
  let x256 : Int := (((x252 / 2 ^ (52 : Nat)) + x243) + x255)
  let x257 : Int := (x256 % 2 ^ (52 : Nat))
  let x258 : Int := (x248 / 2 ^ (63 : Nat))
  let x259 : Int := (if x258 = 0 then (0 : Int) else (1367801 : Int))
  let x260 : Int := (((x256 / 2 ^ (52 : Nat)) + x245) + x259)
  let x261 : Int := (x260 % 2 ^ (52 : Nat))
  let x262 : Int := (x248 / 2 ^ (63 : Nat))
  let x263 : Int := (if x262 = 0 then (0 : Int) else (0 : Int))
  let x264 : Int := (((x260 / 2 ^ (52 : Nat)) + x247) + x263)
  let x265 : Int := (x264 % 2 ^ (52 : Nat))
  let x266 : Int := (x248 / 2 ^ (63 : Nat))
  let x267 : Int := (if x266 = 0 then (0 : Int) else (17592186044416 : Int))
  let x268 : Int := (((x264 / 2 ^ (52 : Nat)) + x249) + x267)
  let x269 : Int := (x268 % 2 ^ (52 : Nat))
  let x270 : Int := ((x253 + x187) + (0 : Int))
  let x271 : Int := (x270 % 2 ^ (52 : Nat))
  let x272 : Int := ((x257 + x191) + (x270 / 2 ^ (52 : Nat)))
  let x273 : Int := (x272 % 2 ^ (52 : Nat))
  let x274 : Int := ((x261 + x195) + (x272 / 2 ^ (52 : Nat)))
  let x275 : Int := (x274 % 2 ^ (52 : Nat))
  let x276 : Int := ((x265 + x199) + (x274 / 2 ^ (52 : Nat)))
  let x277 : Int := (x276 % 2 ^ (52 : Nat))
  let x278 : Int := ((x269 + x203) + (x276 / 2 ^ (52 : Nat)))
  let x279 : Int := (x278 % 2 ^ (52 : Nat))
  let x280 : Int := ((x271 - (671914833335277 : Int)) % 2 ^ (64 : Nat))
  let x281 : Int := (x280 % 2 ^ (52 : Nat))
  let x282 : Int := ((x273 - ((3916664325105025 : Int) + (x280 / 2 ^ (63 : Nat)))) % 2 ^ (64 : Nat))
  let x283 : Int := (x282 % 2 ^ (52 : Nat))
  let x284 : Int := ((x275 - ((1367801 : Int) + (x282 / 2 ^ (63 : Nat)))) % 2 ^ (64 : Nat))
  let x285 : Int := (x284 % 2 ^ (52 : Nat))
  let x286 : Int := ((x277 - ((0 : Int) + (x284 / 2 ^ (63 : Nat)))) % 2 ^ (64 : Nat))
  let x287 : Int := (x286 % 2 ^ (52 : Nat))
  let x288 : Int := ((x279 - ((17592186044416 : Int) + (x286 / 2 ^ (63 : Nat)))) % 2 ^ (64 : Nat))
  let x289 : Int := (x288 % 2 ^ (52 : Nat))
  let x290 : Int := (x288 / 2 ^ (63 : Nat))
  let x291 : Int := (if x290 = 0 then (0 : Int) else (671914833335277 : Int))
  let x292 : Int := (((0 : Int) + x281) + x291)
  let x293 : Int := (x292 % 2 ^ (52 : Nat))
  let x294 : Int := (x288 / 2 ^ (63 : Nat))
  let x295 : Int := (if x294 = 0 then (0 : Int) else (3916664325105025 : Int))
  let x296 : Int := (((x292 / 2 ^ (52 : Nat)) + x283) + x295)
  let x297 : Int := (x296 % 2 ^ (52 : Nat))
  let x298 : Int := (x288 / 2 ^ (63 : Nat))
  let x299 : Int := (if x298 = 0 then (0 : Int) else (1367801 : Int))
  let x300 : Int := (((x296 / 2 ^ (52 : Nat)) + x285) + x299)
  let x301 : Int := (x300 % 2 ^ (52 : Nat))
  let x302 : Int := (x288 / 2 ^ (63 : Nat))
  let x303 : Int := (if x302 = 0 then (0 : Int) else (0 : Int))
  let x304 : Int := (((x300 / 2 ^ (52 : Nat)) + x287) + x303)
  let x305 : Int := (x304 % 2 ^ (52 : Nat))
  let x306 : Int := (x288 / 2 ^ (63 : Nat))
  let x307 : Int := (if x306 = 0 then (0 : Int) else (17592186044416 : Int))
  let x308 : Int := (((x304 / 2 ^ (52 : Nat)) + x289) + x307)
  let x309 : Int := (x308 % 2 ^ (52 : Nat))
  [x293, x297, x301, x305, x309]

theorem from_bytes_wide_fn_ok (x0 x1 x2 x3 x4 x5 x6 x7 x8 x9 x10 x11 x12 x13 x14 x15 x16 x17 x18 x19 x20 x21 x22 x23 x24 x25 x26 x27 x28 x29 x30 x31 x32 x33 x34 x35 x36 x37 x38 x39 x40 x41 x42 x43 x44 x45 x46 x47 x48 x49 x50 x51 x52 x53 x54 x55 x56 x57 x58 x59 x60 x61 x62 x63 : Int) : NProg.evalZ from_bytes_wide_nprog [x0, x1, x2, x3, x4, x5, x6, x7, x8, x9, x10, x11, x12, x13, x14, x15, x16, x17, x18, x19, x20, x21, x22, x23, x24, x25, x26, x27, x28, x29, x30, x31, x32, x33, x34, x35, x36, x37, x38, x39, x40, x41, x42, x43, x44, x45, x46, x47, x48, x49, x50, x51, x52, x53, x54, x55, x56, x57, x58, x59, x60, x61, x62, x63] = from_bytes_wide_fn x0 x1 x2 x3 x4 x5 x6 x7 x8 x9 x10 x11 x12 x13 x14 x15 x16 x17 x18 x19 x20 x21 x22 x23 x24 x25 x26 x27 x28 x29 x30 x31 x32 x33 x34 x35 x36 x37 x38 x39 x40 x41 x42 x43 x44 x45 x46 x47 x48 x49 x50 x51 x52 x53 x54 x55 x56 x57 x58 x59 x60 x61 x62 x63 :=
  (NProg.evalZ_eq_fast _ _).trans (by kernel_rfl)

def as_bytes_post : List Itv := [⟨0, 255, 0⟩, ⟨0, 255, 0⟩, ⟨0, 255, 0⟩, ⟨0, 255, 0⟩, ⟨0, 255, 0⟩, ⟨0, 255, 0⟩, ⟨0, 255, 0⟩, ⟨0, 255, 0⟩, ⟨0, 255, 0⟩, ⟨0, 255, 0⟩, ⟨0, 255, 0⟩, ⟨0, 255, 0⟩, ⟨0, 255, 0⟩, ⟨0, 255, 0⟩, ⟨0, 255, 0⟩, ⟨0, 255, 0⟩, ⟨0, 255, 0⟩, ⟨0, 255, 0⟩, ⟨0, 255, 0⟩, ⟨0, 255, 0⟩, ⟨0, 255, 0⟩, ⟨0, 255, 0⟩, ⟨0, 255, 0⟩, ⟨0, 255, 0⟩, ⟨0, 255, 0⟩, ⟨0, 255, 0⟩, ⟨0, 255, 0⟩, ⟨0, 255, 0⟩, ⟨0, 255, 0⟩, ⟨0, 255, 0⟩, ⟨0, 255, 0⟩, ⟨0, 255, 0⟩]

def as_bytes_nprog : NProg := Prog.normProg Dalek.Gen.Scalar52.as_bytes Dalek.Model.Contracts.Scalar52.pre_as_bytes

theorem as_bytes_norm_ok : Prog.norm Dalek.Gen.Scalar52.as_bytes Dalek.Model.Contracts.Scalar52.pre_as_bytes = some (as_bytes_nprog, as_bytes_post) :=
  Prog.norm_eq_of_post (by decide +kernel)

def as_bytes_fn (x0 x1 x2 x3 x4 : Int) : List Int :=
  let x5 : Int := ((x0 / 2 ^ (0 : Nat)) % 2 ^ (8 : Nat))
  let x6 : Int := ((x0 / 2 ^ (8 : Nat)) % 2 ^ (8 : Nat))
  let x7 : Int := ((x0 / 2 ^ (16 : Nat)) % 2 ^ (8 : Nat))
  let x8 : Int := ((x0 / 2 ^ (24 : Nat)) % 2 ^ (8 : Nat))
  let x9 : Int := ((x0 / 2 ^ (32 : Nat)) % 2 ^ (8 : Nat))
  let x10 : Int := ((x0 / 2 ^ (40 : Nat)) % 2 ^ (8 : Nat))
  let x11 : Int := (((x0 / 2 ^ (48 : Nat)) + (x1 * (16 : Int))) % 2 ^ (8 : Nat))
  let x12 : Int := ((x1 / 2 ^ (4 : Nat)) % 2 ^ (8 : Nat))
  let x13 : Int := ((x1 / 2 ^ (12 : Nat)) % 2 ^ (8 : Nat))
  let x14 : Int := ((x1 / 2 ^ (20 : Nat)) % 2 ^ (8 : Nat))
  let x15 : Int := ((x1 / 2 ^ (28 : Nat)) % 2 ^ (8 : Nat))
  let x16 : Int := ((x1 / 2 ^ (36 : Nat)) % 2 ^ (8 : Nat))
  let x17 : Int := (x1 / 2 ^ (44 : Nat))
  let x18 : Int := ((x2 / 2 ^ (0 : Nat)) % 2 ^ (8 : Nat))
  let x19 : Int := ((x2 / 2 ^ (8 : Nat)) % 2 ^ (8 : Nat))
  let x20 : Int := ((x2 / 2 ^ (16 : Nat)) % 2 ^ (8 : Nat))
  let x21 : Int := ((x2 / 2 ^ (24 : Nat)) % 2 ^ (8 : Nat))
  let x22 : Int := ((x2 / 2 ^ (32 : Nat)) % 2 ^ (8 : Nat))
  let x23 : Int := ((x2 / 2 ^ (40 : Nat)) % 2 ^ (8 : Nat))
  let x24 : Int := (((x2 / 2 ^ (48 : Nat)) + (x3 * (16 : Int))) % 2 ^ (8 : Nat))
  let x25 : Int := ((x3 / 2 ^ (4 : Nat)) % 2 ^ (8 : Nat))
  let x26 : Int := ((x3 / 2 ^ (12 : Nat)) % 2 ^ (8 : Nat))
  let x27 : Int := ((x3 / 2 ^ (20 : Nat)) % 2 ^ (8 : Nat))
  let x28 : Int := ((x3 / 2 ^ (28 : Nat)) % 2 ^ (8 : Nat))
  let x29 : Int := ((x3 / 2 ^ (36 : Nat)) % 2 ^ (8 : Nat))
  let x30 : Int := (x3 / 2 ^ (44 : Nat))
  let x31 : Int := ((x4 / 2 ^ (0 : Nat)) % 2 ^ (8 : Nat))
  let x32 : Int := ((x4 / 2 ^ (8 : Nat)) % 2 ^ (8 : Nat))
  let x33 : Int := ((x4 / 2 ^ (16 : Nat)) % 2 ^ (8 : Nat))
  let x34 : Int := ((x4 / 2 ^ (24 : Nat)) % 2 ^ (8 : Nat))
  let x35 : Int := ((x4 / 2 ^ (32 : Nat)) % 2 ^ (8 : Nat))
  let x36 : Int := ((x4 / 2 ^ (40 : Nat)) % 2 ^ (8 : Nat))
  [x5, x6, x7, x8, x9, x10, x11, x12, x13, x14, x15, x16, x17, x18, x19, x20, x21, x22, x23, x24, x25, x26, x27, x28, x29, x30, x31, x32, x33, x34, x35, x36]

theorem as_bytes_fn_ok (x0 x1 x2 x3 x4 : Int) : NProg.evalZ as_bytes_nprog [x0, x1, x2, x3, x4] = as_bytes_fn x0 x1 x2 x3 x4 :=
  (NProg.evalZ_eq_fast _ _).trans (by kernel_rfl)

def add_post : List Itv := [⟨0, 4503599627370495, 0⟩, ⟨0, 4503599627370495, 0⟩, ⟨0, 4503599627370495, 0⟩, ⟨0, 4503599627370495, 0⟩, ⟨0, 4503599627370495, 0⟩]

def add_nprog : NProg := Prog.normProg Dalek.Gen.Scalar52.add Dalek.Model.Contracts.Scalar52.pre_add

theorem add_norm_ok : Prog.norm Dalek.Gen.Scalar52.add Dalek.Model.Contracts.Scalar52.pre_add = some (add_nprog, add_post) :=
  Prog.norm_eq_of_post (by decide +kernel)

def add_fn (x0 x1 x2 x3 x4 x5 x6 x7 x8 x9 : Int) : List Int :=
  let x10 : Int := ((x0 + x5) + (0 : Int))
  let x11 : Int := (x10 % 2 ^ (52 : Nat))
  let x12 : Int := ((x1 + x6) + (x10 / 2 ^ (52 : Nat)))
  let x13 : Int := (x12 % 2 ^ (52 : Nat))
  let x14 : Int := ((x2 + x7) + (x12 / 2 ^ (52 : Nat)))
  let x15 : Int := (x14 % 2 ^ (52 : Nat))
  let x16 : Int := ((x3 + x8) + (x14 / 2 ^ (52 : Nat)))
  let x17 : Int := (x16 % 2 ^ (52 : Nat))
  let x18 : Int := ((x4 + x9) + (x16 / 2 ^ (52 : Nat)))
  let x19 : Int := (x18 % 2 ^ (52 : Nat))
  let x20 : Int := ((x11 - (671914833335277 : Int)) % 2 ^ (64 : Nat))
  let x21 : Int := (x20 % 2 ^ (52 : Nat))
  let x22 : Int := ((x13 - ((3916664325105025 : Int) + (x20 / 2 ^ (63 : Nat)))) % 2 ^ (64 : Nat))
  let x23 : Int := (x22 % 2 ^ (52 : Nat))
  let x24 : Int := ((x15 - ((1367801 : Int) + (x22 / 2 ^ (63 : Nat)))) % 2 ^ (64 : Nat))
  let x25 : Int := (x24 % 2 ^ (52 : Nat))
  let x26 : Int := ((x17 - ((0 : Int) + (x24 / 2 ^ (63 : Nat)))) % 2 ^ (64 : Nat))
  let x27 : Int := (x26 % 2 ^ (52 : Nat))
  let x28 : Int := ((x19 - ((17592186044416 : Int) + (x26 / 2 ^ (63 : Nat)))) % 2 ^ (64 : Nat))
  let x29 : Int := (x28 % 2 ^ (52 : Nat))
  let x30 : Int := (x28 / 2 ^ (63 : Nat))
  let x31 : Int := (if x30 = 0 then (0 : Int) else (671914833335277 : Int))
  let x32 : Int := (((0 : Int) + x21) + x31)
  let x33 : Int := (x32 % 2 ^ (52 : Nat))
  let x34 : Int := (x28 / 2 ^ (63 : Nat))
  let x35 : Int := (if x34 = 0 then (0 : Int) else (3916664325105025 : Int))
  let x36 : Int := (((x32 / 2 ^ (52 : Nat)) + x23) + x35)
  let x37 : Int := (x36 % 2 ^ (52 : Nat))
  let x38 : Int := (x28 / 2 ^ (63 : Nat))
  let x39 : Int := (if x38 = 0 then (0 : Int) else (1367801 : Int))
  let x40 : Int := (((x36 / 2 ^ (52 : Nat)) + x25) + x39)
  let x41 : Int := (x40 % 2 ^ (52 : Nat))
  let x42 : Int := (x28 / 2 ^ (63 : Nat))
  let x43 : Int := (if x42 = 0 then (0 : Int) else (0 : Int))
  let x44 : Int := (((x40 / 2 ^ (52 : Nat)) + x27) + x43)
  let x45 : Int := (x44 % 2 ^ (52 : Nat))
  let x46 : Int := (x28 / 2 ^ (63 : Nat))
  let x47 : Int := (if x46 = 0 then (0 : Int) else (17592186044416 : Int))
  let x48 : Int := (((x44 / 2 ^ (52 : Nat)) + x29) + x47)
  let x49 : Int := (x48 % 2 ^ (52 : Nat))
  [x33, x37, x41, x45, x49]

theorem add_fn_ok (x0 x1 x2 x3 x4 x5 x6 x7 x8 x9 : Int) : NProg.evalZ add_nprog [x0, x1, x2, x3, x4, x5, x6, x7, x8, x9] = add_fn x0 x1 x2 x3 x4 x5 x6 x7 x8 x9 :=
  (NProg.evalZ_eq_fast _ _).trans (by kernel_rfl)

def sub_post : List Itv := [⟨0, 4503599627370495, 0⟩, ⟨0, 4503599627370495, 0⟩, ⟨0, 4503599627370495, 0⟩, ⟨0, 4503599627370495, 0⟩, ⟨0, 4503599627370495, 0⟩]

def sub_nprog : NProg := Prog.normProg Dalek.Gen.Scalar52.sub Dalek.Model.Contracts.Scalar52.pre_sub

theorem sub_norm_ok : Prog.norm Dalek.Gen.Scalar52.sub Dalek.Model.Contracts.Scalar52.pre_sub = some (sub_nprog, sub_post) :=
  Prog.norm_eq_of_post (by decide +kernel)

def sub_fn (x0 x1 x2 x3 x4 x5 x6 x7 x8 x9 : Int) : List Int :=
  let x10 : Int := ((x0 - (x5 + (0 : Int))) % 2 ^ (64 : Nat))
  let x11 : Int := (x10 % 2 ^ (52 : Nat))
  let x12 : Int := ((x1 - (x6 + (x10 / 2 ^ (63 : Nat)))) % 2 ^ (64 : Nat))
  let x13 : Int := (x12 % 2 ^ (52 : Nat))
  let x14 : Int := ((x2 - (x7 + (x12 / 2 ^ (63 : Nat)))) % 2 ^ (64 : Nat))
  let x15 : Int := (x14 % 2 ^ (52 : Nat))
  let x16 : Int := ((x3 - (x8 + (x14 / 2 ^ (63 : Nat)))) % 2 ^ (64 : Nat))
  let x17 : Int := (x16 % 2 ^ (52 : Nat))
  let x18 : Int := ((x4 - (x9 + (x16 / 2 ^ (63 : Nat)))) % 2 ^ (64 : Nat))
  let x19 : Int := (x18 % 2 ^ (52 : Nat))
  let x20 : Int := (x18 / 2 ^ (63 : Nat))
  let x21 : Int := (if x20 = 0 then (0 : Int) else (671914833335277 : Int))
  let x22 : Int := (((0 : Int) + x11) + x21)
  let x23 : Int := (x22 % 2 ^ (52 : Nat))
  let x24 : Int := (x18 / 2 ^ (63 : Nat))
  let x25 : Int := (if x24 = 0 then (0 : Int) else (3916664325105025 : Int))
  let x26 : Int := (((x22 / 2 ^ (52 : Nat)) + x13) + x25)
  let x27 : Int := (x26 % 2 ^ (52 : Nat))
  let x28 : Int := (x18 / 2 ^ (63 : Nat))
  let x29 : Int := (if x28 = 0 then (0 : Int) else (1367801 : Int))
  let x30 : Int := (((x26 / 2 ^ (52 : Nat)) + x15) + x29)
  let x31 : Int := (x30 % 2 ^ (52 : Nat))
  let x32 : Int := (x18 / 2 ^ (63 : Nat))
  let x33 : Int := (if x32 = 0 then (0 : Int) else (0 : Int))
  let x34 : Int := (((x30 / 2 ^ (52 : Nat)) + x17) + x33)
  let x35 : Int := (x34 % 2 ^ (52 : Nat))
  let x36 : Int := (x18 / 2 ^ (63 : Nat))
  let x37 : Int := (if x36 = 0 then (0 : Int) else (17592186044416 : Int))
  let x38 : Int := (((x34 / 2 ^ (52 : Nat)) + x19) + x37)
  let x39 : Int := (x38 % 2 ^ (52 : Nat))
  [x23, x27, x31, x35, x39]

theorem sub_fn_ok (x0 x1 x2 x3 x4 x5 x6 x7 x8 x9 : Int) : NProg.evalZ sub_nprog [x0, x1, x2, x3, x4, x5, x6, x7, x8, x9] = sub_fn x0 x1 x2 x3 x4 x5 x6 x7 x8 x9 :=
  (NProg.evalZ_eq_fast _ _).trans (by kernel_rfl)

def mul_internal_post : List Itv := [⟨0, 20282409603651661416747996545025, 0⟩, ⟨0, 40564819207303322833495993090050, 0⟩, ⟨0, 60847228810954984250243989635075, 0⟩, ⟨0, 81129638414606645666991986180100, 0⟩, ⟨0, 101412048018258307083739982725125, 0⟩, ⟨0, 81129638414606645666991986180100, 0⟩, ⟨0, 60847228810954984250243989635075, 0⟩, ⟨0, 40564819207303322833495993090050, 0⟩, ⟨0, 20282409603651661416747996545025, 0⟩]

def mul_internal_nprog : NProg :=
  ⟨10,
   [(.mul (.v 0) (.v 5)),
    (.add (.mul (.v 0) (.v 6)) (.mul (.v 1) (.v 5))),
    (.add (.add (.mul (.v 0) (.v 7)) (.mul (.v 1) (.v 6))) (.mul (.v 2) (.v 5))),
    (.add (.add (.add (.mul (.v 0) (.v 8)) (.mul (.v 1) (.v 7))) (.mul (.v 2) (.v 6))) (.mul (.v 3) (.v 5))),
    (.add (.add (.add (.add (.mul (.v 0) (.v 9)) (.mul (.v 1) (.v 8))) (.mul (.v 2) (.v 7))) (.mul (.v 3) (.v 6))) (.mul (.v 4) (.v 5))),
    (.add (.add (.add (.mul (.v 1) (.v 9)) (.mul (.v 2) (.v 8))) (.mul (.v 3) (.v 7))) (.mul (.v 4) (.v 6))),
    (.add (.add (.mul (.v 2) (.v 9)) (.mul (.v 3) (.v 8))) (.mul (.v 4) (.v 7))),
    (.add (.mul (.v 3) (.v 9)) (.mul (.v 4) (.v 8))),
    (.mul (.v 4) (.v 9))],
   [10, 11, 12, 13, 14, 15, 16, 17, 18]⟩

theorem mul_internal_norm_ok : Prog.norm Dalek.Gen.Scalar52.mul_internal Dalek.Model.Contracts.Scalar52.pre_mul_internal = some (mul_internal_nprog, mul_internal_post) :=
  (Prog.normFast_eq _ _).symm.trans (by decide +kernel)

def mul_internal_fn (x0 x1 x2 x3 x4 x5 x6 x7 x8 x9 : Int) : List Int :=
  let x10 : Int := (x0 * x5)
  let x11 : Int := ((x0 * x6) + (x1 * x5))
  let x12 : Int := (((x0 * x7) + (x1 * x6)) + (x2 * x5))
  let x13 : Int := ((((x0 * x8) + (x1 * x7)) + (x2 * x6)) + (x3 * x5))
  let x14 : Int := (((((x0 * x9) + (x1 * x8)) + (x2 * x7)) + (x3 * x6)) + (x4 * x5))
  let x15 : Int := ((((x1 * x9) + (x2 * x8)) + (x3 * x7)) + (x4 * x6))
  let x16 : Int := (((x2 * x9) + (x3 * x8)) + (x4 * x7))
  let x17 : Int := ((x3 * x9) + (x4 * x8))
  let x18 : Int := (x4 * x9)
  [x10, x11, x12, x13, x14, x15, x16, x17, x18]

theorem mul_internal_fn_ok (x0 x1 x2 x3 x4 x5 x6 x7 x8 x9 : Int) : NProg.evalZ mul_internal_nprog [x0, x1, x2, x3, x4, x5, x6, x7, x8, x9] = mul_internal_fn x0 x1 x2 x3 x4 x5 x6 x7 x8 x9 :=
  (NProg.evalZ_eq_fast _ _).trans (by kernel_rfl)

def square_internal_post : List Itv := [⟨0, 20282409603651661416747996545025, 0⟩, ⟨0, 40564819207303322833495993090050, 1⟩, ⟨0, 60847228810954984250243989635075, 0⟩, ⟨0, 81129638414606645666991986180100, 1⟩, ⟨0, 101412048018258307083739982725125, 0⟩, ⟨0, 81129638414606645666991986180100, 1⟩, ⟨0, 60847228810954984250243989635075, 0⟩, ⟨0, 40564819207303322833495993090050, 1⟩, ⟨0, 20282409603651661416747996545025, 0⟩]

def square_internal_nprog : NProg := Prog.normProg Dalek.Gen.Scalar52.square_internal Dalek.Model.Contracts.Scalar52.pre_square_internal

theorem square_internal_norm_ok : Prog.norm Dalek.Gen.Scalar52.square_internal Dalek.Model.Contracts.Scalar52.pre_square_internal = some (square_internal_nprog, square_internal_post) :=
  Prog.norm_eq_of_post (by decide +kernel)

def square_internal_fn (x0 x1 x2 x3 x4 : Int) : List Int :=
  let x5 : Int := (x0 * (2 : Int))
  let x6 : Int := (x1 * (2 : Int))
  let x7 : Int := (x2 * (2 : Int))
  let x8 : Int := (x3 * (2 : Int))
  let x9 : Int := (x0 * x0)
  let x10 : Int := (x5 * x1)
  let x11 : Int := ((x5 * x2) + (x1 * x1))
  let x12 : Int := ((x5 * x3) + (x6 * x2))
  let x13 : Int := (((x5 * x4) + (x6 * x3)) + (x2 * x2))
  let x14 : Int := ((x6 * x4) + (x7 * x3))
  let x15 : Int := ((x7 * x4) + (x3 * x3))
  let x16 : Int := (x8 * x4)
  let x17 : Int := (x4 * x4)
  [x9, x10, x11, x12, x13, x14, x15, x16, x17]

theorem square_internal_fn_ok (x0 x1 x2 x3 x4 : Int) : NProg.evalZ square_internal_nprog [x0, x1, x2, x3, x4] = square_internal_fn x0 x1 x2 x3 x4 :=
  (NProg.evalZ_eq_fast _ _).trans (by kernel_rfl)

def montgomery_reduce_post : List Itv := [⟨0, 4503599627370495, 0⟩, ⟨0, 4503599627370495, 0⟩, ⟨0, 4503599627370495, 0⟩, ⟨0, 4503599627370495, 0⟩, ⟨0, 4503599627370495, 0⟩]

def montgomery_reduce_nprog : NProg := Prog.normProg Dalek.Gen.Scalar52.montgomery_reduce Dalek.Model.Contracts.Scalar52.pre_montgomery_reduce

theorem montgomery_reduce_norm_ok : Prog.norm Dalek.Gen.Scalar52.montgomery_reduce Dalek.Model.Contracts.Scalar52.pre_montgomery_reduce = some (montgomery_reduce_nprog, montgomery_reduce_post) :=
  Prog.norm_eq_of_post (by decide +kernel)

def montgomery_reduce_fn (x0 x1 x2 x3 x4 x5 x6 x7 x8 : Int) : List Int :=
  let x9 : Int := ((((x0 % 2 ^ (64 : Nat)) * (1439961107955227 : Int)) % 2 ^ (64 : Nat)) % 2 ^ (52 : Nat))
  let x10 : Int := ((x0 + (x9 * (671914833335277 : Int))) / 2 ^ (52 : Nat))
  let x11 : Int := ((x10 + x1) + (x9 * (3916664325105025 : Int)))
  let x12 : Int := ((((x11 % 2 ^ (64 : Nat)) * (1439961107955227 : Int)) % 2 ^ (64 : Nat)) % 2 ^ (52 : Nat))
  let x13 : Int := ((x11 + (x12 * (671914833335277 : Int))) / 2 ^ (52 : Nat))
  let x14 : Int := (((x13 + x2) + (x9 * (1367801 : Int))) + (x12 * (3916664325105025 : Int)))
  let x15 : Int := ((((x14 % 2 ^ (64 : Nat)) * (1439961107955227 : Int)) % 2 ^ (64 : Nat)) % 2 ^ (52 : Nat))
  let x16 : Int := ((x14 + (x15 * (671914833335277 : Int))) / 2 ^ (52 : Nat))
  let x17 : Int := (((x16 + x3) + (x12 * (1367801 : Int))) + (x15 * (3916664325105025 : Int)))
  let x18 : Int := ((((x17 % 2 ^ (64 : Nat)) * (1439961107955227 : Int)) % 2 ^ (64 : Nat)) % 2 ^ (52 : Nat))
  let x19 : Int := ((x17 + (x18 * (671914833335277 : Int))) / 2 ^ (52 : Nat))
  let x20 : Int := ((((x19 + x4) + (x9 * (17592186044416 : Int))) + (x15 * (1367801 : Int))) + (x18 * (3916664325105025 : Int)))
  let x21 : Int := ((((x20 % 2 ^ (64 : Nat)) * (1439961107955227 : Int)) % 2 ^ (64 : Nat)) % 2 ^ (52 : Nat))
  let x22 : Int := ((x20 + (x21 * (671914833335277 : Int))) / 2 ^ (52 : Nat))
  let x23 : Int := ((((x22 + x5) + (x12 * (17592186044416 : Int))) + (x18 * (1367801 : Int))) + (x21 * (3916664325105025 : Int)))
  let x24 : Int := ((x23 % 2 ^ (64 : Nat)) % 2 ^ (52 : Nat))
  let x25 : Int := (x23 / 2 ^ (52 : Nat))
  let x26 : Int := (((x25 + x6) + (x15 * (17592186044416 : Int))) + (x21 * (1367801 : Int)))
  let x27 : Int := ((x26 % 2 ^ (64 : Nat)) % 2 ^ (52 : Nat))
  let x28 : Int := (x26 / 2 ^ (52 : Nat))
  let x29 : Int := ((x28 + x7) + (x18 * (17592186044416 : Int)))
  let x30 : Int := ((x29 % 2 ^ (64 : Nat)) % 2 ^ (52 : Nat))
  let x31 : Int := (x29 / 2 ^ (52 : Nat))
  let x32 : Int := ((x31 + x8) + (x21 * (17592186044416 : Int)))
  let x33 : Int := ((x32 % 2 ^ (64 : Nat)) % 2 ^ (52 : Nat))
  let x34 : Int := (x32 / 2 ^ (52 : Nat))
  let x35 : Int := x34
  let x36 : Int := ((x24 - (671914833335277 : Int)) % 2 ^ (64 : Nat))
  let x37 : Int := (x36 % 2 ^ (52 : Nat))
  let x38 : Int := ((x27 - ((3916664325105025 : Int) + (x36 / 2 ^ (63 : Nat)))) % 2 ^ (64 : Nat))
  let x39 : Int := (x38 % 2 ^ (52 : Nat))
  let x40 : Int := ((x30 - ((1367801 : Int) + (x38 / 2 ^ (63 : Nat)))) % 2 ^ (64 : Nat))
  let x41 : Int := (x40 % 2 ^ (52 : Nat))
  let x42 : Int := ((x33 - ((0 : Int) + (x40 / 2 ^ (63 : Nat)))) % 2 ^ (64 : Nat))
  let x43 : Int := (x42 % 2 ^ (52 : Nat))
  let x44 : Int := ((x35 - ((17592186044416 : Int) + (x42 / 2 ^ (63 : Nat)))) % 2 ^ (64 : Nat))
  let x45 : Int := (x44 % 2 ^ (52 : Nat))
  let x46 : Int := (x44 / 2 ^ (63 : Nat))
  let x47 : Int := (if x46 = 0 then (0 : Int) else (671914833335277 : Int))
  let x48 : Int := (((0 : Int) + x37) + x47)
  let x49 : Int := (x48 % 2 ^ (52 : Nat))
  let x50 : Int := (x44 / 2 ^ (63 : Nat))
  let x51 : Int := (if x50 = 0 then (0 : Int) else (3916664325105025 : Int))
  let x52 : Int := (((x48 / 2 ^ (52 : Nat)) + x39) + x51)
  let x53 : Int := (x52 % 2 ^ (52 : Nat))
  let x54 : Int := (x44 / 2 ^ (63 : Nat))
  let x55 : Int := (if x54 = 0 then (0 : Int) else (1367801 : Int))
  let x56 : Int := (((x52 / 2 ^ (52 : Nat)) + x41) + x55)
  let x57 : Int := (x56 % 2 ^ (52 : Nat))
  let x58 : Int := (x44 / 2 ^ (63 : Nat))
  let x59 : Int := (if x58 = 0 then (0 : Int) else (0 : Int))
  let x60 : Int := (((x56 / 2 ^ (52 : Nat)) + x43) + x59)
  let x61 : Int := (x60 % 2 ^ (52 : Nat))
  let x62 : Int := (x44 / 2 ^ (63 : Nat))
  let x63 : Int := (if x62 = 0 then (0 : Int) else (17592186044416 : Int))
  let x64 : Int := (((x60 / 2 ^ (52 : Nat)) + x45) + x63)
  let x65 : Int := (x64 % 2 ^ (52 : Nat))
  [x49, x53, x57, x61, x65]

theorem montgomery_reduce_fn_ok (x0 x1 x2 x3 x4 x5 x6 x7 x8 : Int) : NProg.evalZ montgomery_reduce_nprog [x0, x1, x2, x3, x4, x5, x6, x7, x8] = montgomery_reduce_fn x0 x1 x2 x3 x4 x5 x6 x7 x8 :=
  (NProg.evalZ_eq_fast _ _).trans (by kernel_rfl)

def mul_post : List Itv := [⟨0, 4503599627370495, 0⟩, ⟨0, 4503599627370495, 0⟩, ⟨0, 4503599627370495, 0⟩, ⟨0, 4503599627370495, 0⟩, ⟨0, 4503599627370495, 0⟩]

def mul_nprog : NProg := Prog.normProg Dalek.Gen.Scalar52.mul Dalek.Model.Contracts.Scalar52.pre_mul

theorem mul_norm_ok : Prog.norm Dalek.Gen.Scalar52.mul Dalek.Model.Contracts.Scalar52.pre_mul = some (mul_nprog, mul_post) :=
  Prog.norm_eq_of_post (by decide +kernel)

def mul_fn (x0 x1 x2 x3 x4 x5 x6 x7 x8 x9 : Int) : List Int :=
  let x10 : Int := (x0 * x5)
  let x11 : Int := ((x0 * x6) + (x1 * x5))
  let x12 : Int := (((x0 * x7) + (x1 * x6)) + (x2 * x5))
  let x13 : Int := ((((x0 * x8) + (x1 * x7)) + (x2 * x6)) + (x3 * x5))
  let x14 : Int := (((((x0 * x9) + (x1 * x8)) + (x2 * x7)) + (x3 * x6)) + (x4 * x5))
  let x15 : Int := ((((x1 * x9) + (x2 * x8)) + (x3 * x7)) + (x4 * x6))
  let x16 : Int := (((x2 * x9) + (x3 * x8)) + (x4 * x7))
  let x17 : Int := ((x3 * x9) + (x4 * x8))
  let x18 : Int := (x4 * x9)
  let x19 : Int := ((((x10 % 2 ^ (64 : Nat)) * (1439961107955227 : Int)) % 2 ^ (64 : Nat)) % 2 ^ (52 : Nat))
  let x20 : Int := ((x10 + (x19 * (671914833335277 : Int))) / 2 ^ (52 : Nat))
  let x21 : Int := ((x20 + x11) + (x19 * (3916664325105025 : Int)))
  let x22 : Int := ((((x21 % 2 ^ (64 : Nat)) * (1439961107955227 : Int)) % 2 ^ (64 : Nat)) % 2 ^ (52 : Nat))
  let x23 : Int := ((x21 + (x22 * (671914833335277 : Int))) / 2 ^ (52 : Nat))
  let x24 : Int := (((x23 + x12) + (x19 * (1367801 : Int))) + (x22 * (3916664325105025 : Int)))
  let x25 : Int := ((((x24 % 2 ^ (64 : Nat)) * (1439961107955227 : Int)) % 2 ^ (64 : Nat)) % 2 ^ (52 : Nat))
  let x26 : Int := ((x24 + (x25 * (671914833335277 : Int))) / 2 ^ (52 : Nat))
  let x27 : Int := (((x26 + x13) + (x22 * (1367801 : Int))) + (x25 * (3916664325105025 : Int)))
  let x28 : Int := ((((x27 % 2 ^ (64 : Nat)) * (1439961107955227 : Int)) % 2 ^ (64 : Nat)) % 2 ^ (52 : Nat))
  let x29 : Int := ((x27 + (x28 * (671914833335277 : Int))) / 2 ^ (52 : Nat))
  let x30 : Int := ((((x29 + x14) + (x19 * (17592186044416 : Int))) + (x25 * (1367801 : Int))) + (x28 * (3916664325105025 : Int)))
  let x31 : Int := ((((x30 % 2 ^ (64 : Nat)) * (1439961107955227 : Int)) % 2 ^ (64 : Nat)) % 2 ^ (52 : Nat))
  let x32 : Int := ((x30 + (x31 * (671914833335277 : Int))) / 2 ^ (52 : Nat))
  let x33 : Int := ((((x32 + x15) + (x22 * (17592186044416 : Int))) + (x28 * (1367801 : Int))) + (x31 * (3916664325105025 : Int)))
  let x34 : Int := ((x33 % 2 ^ (64 : Nat)) % 2 ^ (52 : Nat))
  let x35 : Int := (x33 / 2 ^ (52 : Nat))
  let x36 : Int := (((x35 + x16) + (x25 * (17592186044416 : Int))) + (x31 * (1367801 : Int)))
  let x37 : Int := ((x36 % 2 ^ (64 : Nat)) % 2 ^ (52 : Nat))
  let x38 : Int := (x36 / 2 ^ (52 : Nat))
  let x39 : Int := ((x38 + x17) + (x28 * (17592186044416 : Int)))
  let x40 : Int := ((x39 % 2 ^ (64 : Nat)) % 2 ^ (52 : Nat))
  let x41 : Int := (x39 / 2 ^ (52 : Nat))
  let x42 : Int := ((x41 + x18) + (x31 * (17592186044416 : Int)))
  let x43 : Int := ((x42 % 2 ^ (64 : Nat)) % 2 ^ (52 : Nat))
  let x44 : Int := (x42 / 2 ^ (52 : Nat))
  let x45 : Int := x44
  let x46 : Int := ((x34 - (671914833335277 : Int)) % 2 ^ (64 : Nat))
  let x47 : Int := (x46 % 2 ^ (52 : Nat))
  let x48 : Int := ((x37 - ((3916664325105025 : Int) + (x46 / 2 ^ (63 : Nat)))) % 2 ^ (64 : Nat))
  let x49 : Int := (x48 % 2 ^ (52 : Nat))
  let x50 : Int := ((x40 - ((1367801 : Int) + (x48 / 2 ^ (63 : Nat)))) % 2 ^ (64 : Nat))
  let x51 : Int := (x50 % 2 ^ (52 : Nat))
  let x52 : Int := ((x43 - ((0 : Int) + (x50 / 2 ^ (63 : Nat)))) % 2 ^ (64 : Nat))
  let x53 : Int := (x52 % 2 ^ (52 : Nat))
  let x54 : Int := ((x45 - ((17592186044416 : Int) + (x52 / 2 ^ (63 : Nat)))) % 2 ^ (64 : Nat))
  let x55 : Int := (x54 % 2 ^ (52 : Nat))
  let x56 : Int := (x54 / 2 ^ (63 : Nat))
  let x57 : Int := (if x56 = 0 then (0 : Int) else (671914833335277 : Int))
  let x58 : Int := (((0 : Int) + x47) + x57)
  let x59 : Int := (x58 % 2 ^ (52 : Nat))
  let x60 : Int := (x54 / 2 ^ (63 : Nat))
  let x61 : Int := (if x60 = 0 then (0 : Int) else (3916664325105025 : Int))
  let x62 : Int := (((x58 / 2 ^ (52 : Nat)) + x49) + x61)
  let x63 : Int := (x62 % 2 ^ (52 : Nat))
  let x64 : Int := (x54 / 2 ^ (63 : Nat))
  let x65 : Int := (if x64 = 0 then (0 : Int) else (1367801 : Int))
  let x66 : Int := (((x62 / 2 ^ (52 : Nat)) + x51) + x65)
  let x67 : Int := (x66 % 2 ^ (52 : Nat))
  let x68 : Int := (x54 / 2 ^ (63 : Nat))
  let x69 : Int := (if x68 = 0 then (0 : Int) else (0 : Int))
  let x70 : Int := (((x66 / 2 ^ (52 : Nat)) + x53) + x69)
  let x71 : Int := (x70 % 2 ^ (52 : Nat))
  let x72 : Int := (x54 / 2 ^ (63 : Nat))
  let x73 : Int := (if x72 = 0 then (0 : Int) else (17592186044416 : Int))
  let x74 : Int := (((x70 / 2 ^ (52 : Nat)) + x55) + x73)
  let x75 : Int := (x74 % 2 ^ (52 : Nat))
  let x76 : Int := (x59 * (2764609938444603 : Int))
  let x77 : Int := ((x59 * (3768881411696287 : Int)) + (x63 * (2764609938444603 : Int)))
  let x78 : Int := (((x59 * (1616719297148420 : Int)) + (x63 * (3768881411696287 : Int))) + (x67 * (2764609938444603 : Int)))
  let x79 : Int := ((((x59 * (1087343033131391 : Int)) + (x63 * (1616719297148420 : Int))) + (x67 * (3768881411696287 : Int))) + (x71 * (2764609938444603 : Int)))
  let x80 : Int := (((((x59 * (10175238647962 : Int)) + (x63 * (1087343033131391 : Int))) + (x67 * (1616719297148420 : Int))) + (x71 * (3768881411696287 : Int))) + (x75 * (2764609938444603 : Int)))
  let x81 : Int := ((((x63 * (10175238647962 : Int)) + (x67 * (1087343033131391 : Int))) + (x71 * (1616719297148420 : Int))) + (x75 * (3768881411696287 : Int)))
  let x82 : Int := (((x67 * (10175238647962 : Int)) + (x71 * (1087343033131391 : Int))) + (x75 * (1616719297148420 : Int)))
  let x83 : Int := ((x71 * (10175238647962 : Int)) + (x75 * (1087343033131391 : Int)))
  let x84 : Int := (x75 * (10175238647962 : Int))
  let x85 : Int := ((((x76 % 2 ^ (64 : Nat)) * (1439961107955227 : Int)) % 2 ^ (64 : Nat)) % 2 ^ (52 : Nat))
  let x86 : Int := ((x76 + (x85 * (671914833335277 : Int))) / 2 ^ (52 : Nat))
  let x87 : Int := ((x86 + x77) + (x85 * (3916664325105025 : Int)))
  let x88 : Int := ((((x87 % 2 ^ (64 : Nat)) * (1439961107955227 : Int)) % 2 ^ (64 : Nat)) % 2 ^ (52 : Nat))
  let x89 : Int := ((x87 + (x88 * (671914833335277 : Int))) / 2 ^ (52 : Nat))
  let x90 : Int := (((x89 + x78) + (x85 * (1367801 : Int))) + (x88 * (3916664325105025 : Int)))
  let x91 : Int := ((((x90 % 2 ^ (64 : Nat)) * (1439961107955227 : Int)) % 2 ^ (64 : Nat)) % 2 ^ (52 : Nat))
  let x92 : Int := ((x90 + (x91 * (671914833335277 : Int))) / 2 ^ (52 : Nat))
  let x93 : Int := (((x92 + x79) + (x88 * (1367801 : Int))) + (x91 * (3916664325105025 : Int)))
  let x94 : Int := ((((x93 % 2 ^ (64 : Nat)) * (1439961107955227 : Int)) % 2 ^ (64 : Nat)) % 2 ^ (52 : Nat))
  let x95 : Int := ((x93 + (x94 * (671914833335277 : Int))) / 2 ^ (52 : Nat))
  let x96 : Int := ((((x95 + x80) + (x85 * (17592186044416 : Int))) + (x91 * (1367801 : Int))) + (x94 * (3916664325105025 : Int)))
  let x97 : Int := ((((x96 % 2 ^ (64 : Nat)) * (1439961107955227 : Int)) % 2 ^ (64 : Nat)) % 2 ^ (52 : Nat))
  let x98 : Int := ((x96 + (x97 * (671914833335277 : Int))) / 2 ^ (52 : Nat))
  let x99 : Int := ((((x98 + x81) + (x88 * (17592186044416 : Int))) + (x94 * (1367801 : Int))) + (x97 * (3916664325105025 : Int)))
  let x100 : Int := ((x99 % 2 ^ (64 : Nat)) % 2 ^ (52 : Nat))
  let x101 : Int := (x99 / 2 ^ (52 : Nat))
  let x102 : Int := (((x101 + x82) + (x91 * (17592186044416 : Int))) + (x97 * (1367801 : Int)))
  let x103 : Int := ((x102 % 2 ^ (64 : Nat)) % 2 ^ (52 : Nat))
  let x104 : Int := (x102 / 2 ^ (52 : Nat))
  let x105 : Int := ((x104 + x83) + (x94 * (17592186044416 : Int)))
  let x106 : Int := ((x105 % 2 ^ (64 : Nat)) % 2 ^ (52 : Nat))
  let x107 : Int := (x105 / 2 ^ (52 : Nat))
  let x108 : Int := ((x107 + x84) + (x97 * (17592186044416 : Int)))
  let x109 : Int := ((x108 % 2 ^ (64 : Nat)) % 2 ^ (52 : Nat))
  let x110 : Int := (x108 / 2 ^ (52 : Nat))
  let x111 : Int := x110
  let x112 : Int := ((x100 - (671914833335277 : Int)) % 2 ^ (64 : Nat))
  let x113 : Int := (x112 % 2 ^ (52 : Nat))
  let x114 : Int := ((x103 - ((3916664325105025 : Int) + (x112 / 2 ^ (63 : Nat)))) % 2 ^ (64 : Nat))
  let x115 : Int := (x114 % 2 ^ (52 : Nat))
  let x116 : Int := ((x106 - ((1367801 : Int) + (x114 / 2 ^ (63 : Nat)))) % 2 ^ (64 : Nat))
  let x117 : Int := (x116 % 2 ^ (52 : Nat))
  let x118 : Int := ((x109 - ((0 : Int) + (x116 / 2 ^ (63 : Nat)))) % 2 ^ (64 : Nat))
  let x119 : Int := (x118 % 2 ^ (52 : Nat))
  let x120 : Int := ((x111 - ((17592186044416 : Int) + (x118 / 2 ^ (63 : Nat)))) % 2 ^ (64 : Nat))
  let x121 : Int := (x120 % 2 ^ (52 : Nat))
  let x122 : Int := (x120 / 2 ^ (63 : Nat))
  let x123 : Int := (if x122 = 0 then (0 : Int) else (671914833335277 : Int))
  let x124 : Int := (((0 : Int) + x113) + x123)
  let x125 : Int := (x124 % 2 ^ (52 : Nat))
  let x126 : Int := (x120 / 2 ^ (63 : Nat))
  let x127 : Int := (if x126 = 0 then (0 : Int) else (3916664325105025 : Int))
  let x128 : Int := (((x124 / 2 ^ (52 : Nat)) + x115) + x127)
  let x129 : Int := (x128 % 2 ^ (52 : Nat))
  let x130 : Int := (x120 / 2 ^ (63 : Nat))
  let x131 : Int := (if x130 = 0 then (0 : Int) else (1367801 : Int))
  let x132 : Int := (((x128 / 2 ^ (52 : Nat)) + x117) + x131)
  let x133 : Int := (x132 % 2 ^ (52 : Nat))
  let x134 : Int := (x120 / 2 ^ (63 : Nat))
  let x135 : Int := (if x134 = 0 then (0 : Int) else (0 : Int))
  let x136 : Int := (((x132 / 2 ^ (52 : Nat)) + x119) + x135)
  let x137 : Int := (x136 % 2 ^ (52 : Nat))
  let x138 : Int := (x120 / 2 ^ (63 : Nat))
  let x139 : Int := (if x138 = 0 then (0 : Int) else (17592186044416 : Int))
  let x140 : Int := (((x136 / 2 ^ (52 : Nat)) + x121) + x139)
  let x141 : Int := (x140 % 2 ^ (52 : Nat))
  [x125, x129, x133, x137, x141]

theorem mul_fn_ok (x0 x1 x2 x3 x4 x5 x6 x7 x8 x9 : Int) : NProg.evalZ mul_nprog [x0, x1, x2, x3, x4, x5, x6, x7, x8, x9] = mul_fn x0 x1 x2 x3 x4 x5 x6 x7 x8 x9 :=
  (NProg.evalZ_eq_fast _ _).trans (by kernel_rfl)

def square_post : List Itv := [⟨0, 4503599627370495, 0⟩, ⟨0, 4503599627370495, 0⟩, ⟨0, 4503599627370495, 0⟩, ⟨0, 4503599627370495, 0⟩, ⟨0, 4503599627370495, 0⟩]

def square_nprog : NProg := Prog.normProg Dalek.Gen.Scalar52.square Dalek.Model.Contracts.Scalar52.pre_square

theorem square_norm_ok : Prog.norm Dalek.Gen.Scalar52.square Dalek.Model.Contracts.Scalar52.pre_square = some (square_nprog, square_post) :=
  Prog.norm_eq_of_post (by decide +kernel)

def square_fn (x0 x1 x2 x3 x4 : Int) : List Int :=
  let x5 : Int := (x0 * (2 : Int))
  let x6 : Int := (x1 * (2 : Int))
  let x7 : Int := (x2 * (2 : Int))
  let x8 : Int := (x3 * (2 : Int))
  let x9 : Int := (x0 * x0)
  let x10 : Int := (x5 * x1)
  let x11 : Int := ((x5 * x2) + (x1 * x1))
  let x12 : Int := ((x5 * x3) + (x6 * x2))
  let x13 : Int := (((x5 * x4) + (x6 * x3)) + (x2 * x2))
  let x14 : Int := ((x6 * x4) + (x7 * x3))
  let x15 : Int := ((x7 * x4) + (x3 * x3))
  let x16 : Int := (x8 * x4)
  let x17 : Int := (x4 * x4)
  let x18 : Int := ((((x9 % 2 ^ (64 : Nat)) * (1439961107955227 : Int)) % 2 ^ (64 : Nat)) % 2 ^ (52 : Nat))
  let x19 : Int := ((x9 + (x18 * (671914833335277 : Int))) / 2 ^ (52 : Nat))
  let x20 : Int := ((x19 + x10) + (x18 * (3916664325105025 : Int)))
  let x21 : Int := ((((x20 % 2 ^ (64 : Nat)) * (1439961107955227 : Int)) % 2 ^ (64 : Nat)) % 2 ^ (52 : Nat))
  let x22 : Int := ((x20 + (x21 * (671914833335277 : Int))) / 2 ^ (52 : Nat))
  let x23 : Int := (((x22 + x11) + (x18 * (1367801 : Int))) + (x21 * (3916664325105025 : Int)))
  let x24 : Int := ((((x23 % 2 ^ (64 : Nat)) * (1439961107955227 : Int)) % 2 ^ (64 : Nat)) % 2 ^ (52 : Nat))
  let x25 : Int := ((x23 + (x24 * (671914833335277 : Int))) / 2 ^ (52 : Nat))
  let x26 : Int := (((x25 + x12) + (x21 * (1367801 : Int))) + (x24 * (3916664325105025 : Int)))
  let x27 : Int := ((((x26 % 2 ^ (64 : Nat)) * (1439961107955227 : Int)) % 2 ^ (64 : Nat)) % 2 ^ (52 : Nat))
  let x28 : Int := ((x26 + (x27 * (671914833335277 : Int))) / 2 ^ (52 : Nat))
  let x29 : Int := ((((x28 + x13) + (x18 * (17592186044416 : Int))) + (x24 * (1367801 : Int))) + (x27 * (3916664325105025 : Int)))
  let x30 : Int := ((((x29 % 2 ^ (64 : Nat)) * (1439961107955227 : Int)) % 2 ^ (64 : Nat)) % 2 ^ (52 : Nat))
  let x31 : Int := ((x29 + (x30 * (671914833335277 : Int))) / 2 ^ (52 : Nat))
  let x32 : Int := ((((x31 + x14) + (x21 * (17592186044416 : Int))) + (x27 * (1367801 : Int))) + (x30 * (3916664325105025 : Int)))
  let x33 : Int := ((x32 % 2 ^ (64 : Nat)) % 2 ^ (52 : Nat))
  let x34 : Int := (x32 / 2 ^ (52 : Nat))
  let x35 : Int := (((x34 + x15) + (x24 * (17592186044416 : Int))) + (x30 * (1367801 : Int)))
  let x36 : Int := ((x35 % 2 ^ (64 : Nat)) % 2 ^ (52 : Nat))
  let x37 : Int := (x35 / 2 ^ (52 : Nat))
  let x38 : Int := ((x37 + x16) + (x27 * (17592186044416 : Int)))
  let x39 : Int := ((x38 % 2 ^ (64 : Nat)) % 2 ^ (52 : Nat))
  let x40 : Int := (x38 / 2 ^ (52 : Nat))
  let x41 : Int := ((x40 + x17) + (x30 * (17592186044416 : Int)))
  let x42 : Int := ((x41 % 2 ^ (64 : Nat)) % 2 ^ (52 : Nat))
  let x43 : Int := (x41 / 2 ^ (52 : Nat))
  let x44 : Int := x43
  let x45 : Int := ((x33 - (671914833335277 : Int)) % 2 ^ (64 : Nat))
  let x46 : Int := (x45 % 2 ^ (52 : Nat))
  let x47 : Int := ((x36 - ((3916664325105025 : Int) + (x45 / 2 ^ (63 : Nat)))) % 2 ^ (64 : Nat))
  let x48 : Int := (x47 % 2 ^ (52 : Nat))
  let x49 : Int := ((x39 - ((1367801 : Int) + (x47 / 2 ^ (63 : Nat)))) % 2 ^ (64 : Nat))
  let x50 : Int := (x49 % 2 ^ (52 : Nat))
  let x51 : Int := ((x42 - ((0 : Int) + (x49 / 2 ^ (63 : Nat)))) % 2 ^ (64 : Nat))
  let x52 : Int := (x51 % 2 ^ (52 : Nat))
  let x53 : Int := ((x44 - ((17592186044416 : Int) + (x51 / 2 ^ (63 : Nat)))) % 2 ^ (64 : Nat))
  let x54 : Int := (x53 % 2 ^ (52 : Nat))
  let x55 : Int := (x53 / 2 ^ (63 : Nat))
  let x56 : Int := (if x55 = 0 then (0 : Int) else (671914833335277 : Int))
  let x57 : Int := (((0 : Int) + x46) + x56)
  let x58 : Int := (x57 % 2 ^ (52 : Nat))
  let x59 : Int := (x53 / 2 ^ (63 : Nat))
  let x60 : Int := (if x59 = 0 then (0 : Int) else (3916664325105025 : Int))
  let x61 : Int := (((x57 / 2 ^ (52 : Nat)) + x48) + x60)
  let x62 : Int := (x61 % 2 ^ (52 : Nat))
  let x63 : Int := (x53 / 2 ^ (63 : Nat))
  let x64 : Int := (if x63 = 0 then (0 : Int) else (1367801 : Int))
  let x65 : Int := (((x61 / 2 ^ (52 : Nat)) + x50) + x64)
  let x66 : Int := (x65 % 2 ^ (52 : Nat))
  let x67 : Int := (x53 / 2 ^ (63 : Nat))
  let x68 : Int := (if x67 = 0 then (0 : Int) else (0 : Int))
  let x69 : Int := (((x65 / 2 ^ (52 : Nat)) + x52) + x68)
  let x70 : Int := (x69 % 2 ^ (52 : Nat))
  let x71 : Int := (x53 / 2 ^ (63 : Nat))
  let x72 : Int := (if x71 = 0 then (0 : Int) else (17592186044416 : Int))
  let x73 : Int := (((x69 / 2 ^ (52 : Nat)) + x54) + x72)
  let x74 : Int := (x73 % 2 ^ (52 : Nat))
  let x75 : Int := (x58 * (2764609938444603 : Int))
  let x76 : Int := ((x58 * (3768881411696287 : Int)) + (x62 * (2764609938444603 : Int)))
  let x77 : Int := (((x58 * (1616719297148420 : Int)) + (x62 * (3768881411696287 : Int))) + (x66 * (2764609938444603 : Int)))
  let x78 : Int := ((((x58 * (1087343033131391 : Int)) + (x62 * (1616719297148420 : Int))) + (x66 * (3768881411696287 : Int))) + (x70 * (2764609938444603 : Int)))
  let x79 : Int := (((((x58 * (10175238647962 : Int)) + (x62 * (1087343033131391 : Int))) + (x66 * (1616719297148420 : Int))) + (x70 * (3768881411696287 : Int))) + (x74 * (2764609938444603 : Int)))
  let x80 : Int := ((((x62 * (10175238647962 : Int)) + (x66 * (1087343033131391 : Int))) + (x70 * (1616719297148420 : Int))) + (x74 * (3768881411696287 : Int)))
  let x81 : Int := (((x66 * (10175238647962 : Int)) + (x70 * (1087343033131391 : Int))) + (x74 * (1616719297148420 : Int)))
  let x82 : Int := ((x70 * (10175238647962 : Int)) + (x74 * (1087343033131391 : Int)))
  let x83 : Int := (x74 * (10175238647962 : Int))
  let x84 : Int := ((((x75 % 2 ^ (64 : Nat)) * (1439961107955227 : Int)) % 2 ^ (64 : Nat)) % 2 ^ (52 : Nat))
  let x85 : Int := ((x75 + (x84 * (671914833335277 : Int))) / 2 ^ (52 : Nat))
  let x86 : Int := ((x85 + x76) + (x84 * (3916664325105025 : Int)))
  let x87 : Int := ((((x86 % 2 ^ (64 : Nat)) * (1439961107955227 : Int)) % 2 ^ (64 : Nat)) % 2 ^ (52 : Nat))
  let x88 : Int := ((x86 + (x87 * (671914833335277 : Int))) / 2 ^ (52 : Nat))
  let x89 : Int := (((x88 + x77) + (x84 * (1367801 : Int))) + (x87 * (3916664325105025 : Int)))
  let x90 : Int := ((((x89 % 2 ^ (64 : Nat)) * (1439961107955227 : Int)) % 2 ^ (64 : Nat)) % 2 ^ (52 : Nat))
  let x91 : Int := ((x89 + (x90 * (671914833335277 : Int))) / 2 ^ (52 : Nat))
  let x92 : Int := (((x91 + x78) + (x87 * (1367801 : Int))) + (x90 * (3916664325105025 : Int)))
  let x93 : Int := ((((x92 % 2 ^ (64 : Nat)) * (1439961107955227 : Int)) % 2 ^ (64 : Nat)) % 2 ^ (52 : Nat))
  let x94 : Int := ((x92 + (x93 * (671914833335277 : Int))) / 2 ^ (52 : Nat))
  let x95 : Int := ((((x94 + x79) + (x84 * (17592186044416 : Int))) + (x90 * (1367801 : Int))) + (x93 * (3916664325105025 : Int)))
  let x96 : Int := ((((x95 % 2 ^ (64 : Nat)) * (1439961107955227 : Int)) % 2 ^ (64 : Nat)) % 2 ^ (52 : Nat))
  let x97 : Int := ((x95 + (x96 * (671914833335277 : Int))) / 2 ^ (52 : Nat))
  let x98 : Int := ((((x97 + x80) + (x87 * (17592186044416 : Int))) + (x93 * (1367801 : Int))) + (x96 * (3916664325105025 : Int)))
  let x99 : Int := ((x98 % 2 ^ (64 : Nat)) % 2 ^ (52 : Nat))
  let x100 : Int := (x98 / 2 ^ (52 : Nat))
  let x101 : Int := (((x100 + x81) + (x90 * (17592186044416 : Int))) + (x96 * (1367801 : Int)))
  let x102 : Int := ((x101 % 2 ^ (64 : Nat)) % 2 ^ (52 : Nat))
  let x103 : Int := (x101 / 2 ^ (52 : Nat))
  let x104 : Int := ((x103 + x82) + (x93 * (17592186044416 : Int)))
  let x105 : Int := ((x104 % 2 ^ (64 : Nat)) % 2 ^ (52 : Nat))
  let x106 : Int := (x104 / 2 ^ (52 : Nat))
  let x107 : Int := ((x106 + x83) + (x96 * (17592186044416 : Int)))
  let x108 : Int := ((x107 % 2 ^ (64 : Nat)) % 2 ^ (52 : Nat))
  let x109 : Int := (x107 / 2 ^ (52 : Nat))
  let x110 : Int := x109
  let x111 : Int := ((x99 - (671914833335277 : Int)) % 2 ^ (64 : Nat))
  let x112 : Int := (x111 % 2 ^ (52 : Nat))
  let x113 : Int := ((x102 - ((3916664325105025 : Int) + (x111 / 2 ^ (63 : Nat)))) % 2 ^ (64 : Nat))
  let x114 : Int := (x113 % 2 ^ (52 : Nat))
  let x115 : Int := ((x105 - ((1367801 : Int) + (x113 / 2 ^ (63 : Nat)))) % 2 ^ (64 : Nat))
  let x116 : Int := (x115 % 2 ^ (52 : Nat))
  let x117 : Int := ((x108 - ((0 : Int) + (x115 / 2 ^ (63 : Nat)))) % 2 ^ (64 : Nat))
  let x118 : Int := (x117 % 2 ^ (52 : Nat))
  let x119 : Int := ((x110 - ((17592186044416 : Int) + (x117 / 2 ^ (63 : Nat)))) % 2 ^ (64 : Nat))
  let x120 : Int := (x119 % 2 ^ (52 : Nat))
  let x121 : Int := (x119 / 2 ^ (63 : Nat))
  let x122 : Int := (if x121 = 0 then (0 : Int) else (671914833335277 : Int))
  let x123 : Int := (((0 : Int) + x112) + x122)
  let x124 : Int := (x123 % 2 ^ (52 : Nat))
  let x125 : Int := (x119 / 2 ^ (63 : Nat))
  let x126 : Int := (if x125 = 0 then (0 : Int) else (3916664325105025 : Int))
  let x127 : Int := (((x123 / 2 ^ (52 : Nat)) + x114) + x126)
  let x128 : Int := (x127 % 2 ^ (52 : Nat))
  let x129 : Int := (x119 / 2 ^ (63 : Nat))
  let x130 : Int := (if x129 = 0 then (0 : Int) else (1367801 : Int))
  let x131 : Int := (((x127 / 2 ^ (52 : Nat)) + x116) + x130)
  let x132 : Int := (x131 % 2 ^ (52 : Nat))
  let x133 : Int := (x119 / 2 ^ (63 : Nat))
  let x134 : Int := (if x133 = 0 then (0 : Int) else (0 : Int))
  let x135 : Int := (((x131 / 2 ^ (52 : Nat)) + x118) + x134)
  let x136 : Int := (x135 % 2 ^ (52 : Nat))
  let x137 : Int := (x119 / 2 ^ (63 : Nat))
  let x138 : Int := (if x137 = 0 then (0 : Int) else (17592186044416 : Int))
  let x139 : Int := (((x135 / 2 ^ (52 : Nat)) + x120) + x138)
  let x140 : Int := (x139 % 2 ^ (52 : Nat))
  [x124, x128, x132, x136, x140]

theorem square_fn_ok (x0 x1 x2 x3 x4 : Int) : NProg.evalZ square_nprog [x0, x1, x2, x3, x4] = square_fn x0 x1 x2 x3 x4 :=
  (NProg.evalZ_eq_fast _ _).trans (by kernel_rfl)

def montgomery_mul_post : List Itv := [⟨0, 4503599627370495, 0⟩, ⟨0, 4503599627370495, 0⟩, ⟨0, 4503599627370495, 0⟩, ⟨0, 4503599627370495, 0⟩, ⟨0, 4503599627370495, 0⟩]

def montgomery_mul_nprog : NProg := Prog.normProg Dalek.Gen.Scalar52.montgomery_mul Dalek.Model.Contracts.Scalar52.pre_montgomery_mul

theorem montgomery_mul_norm_ok : Prog.norm Dalek.Gen.Scalar52.montgomery_mul Dalek.Model.Contracts.Scalar52.pre_montgomery_mul = some (montgomery_mul_nprog, montgomery_mul_post) :=
  Prog.norm_eq_of_post (by decide +kernel)

def montgomery_mul_fn (x0 x1 x2 x3 x4 x5 x6 x7 x8 x9 : Int) : List Int :=
  let x10 : Int := (x0 * x5)
  let x11 : Int := ((x0 * x6) + (x1 * x5))
  let x12 : Int := (((x0 * x7) + (x1 * x6)) + (x2 * x5))
  let x13 : Int := ((((x0 * x8) + (x1 * x7)) + (x2 * x6)) + (x3 * x5))
  let x14 : Int := (((((x0 * x9) + (x1 * x8)) + (x2 * x7)) + (x3 * x6)) + (x4 * x5))
  let x15 : Int := ((((x1 * x9) + (x2 * x8)) + (x3 * x7)) + (x4 * x6))
  let x16 : Int := (((x2 * x9) + (x3 * x8)) + (x4 * x7))
  let x17 : Int := ((x3 * x9) + (x4 * x8))
  let x18 : Int := (x4 * x9)
  let x19 : Int := ((((x10 % 2 ^ (64 : Nat)) * (1439961107955227 : Int)) % 2 ^ (64 : Nat)) % 2 ^ (52 : Nat))
  let x20 : Int := ((x10 + (x19 * (671914833335277 : Int))) / 2 ^ (52 : Nat))
  let x21 : Int := ((x20 + x11) + (x19 * (3916664325105025 : Int)))
  let x22 : Int := ((((x21 % 2 ^ (64 : Nat)) * (1439961107955227 : Int)) % 2 ^ (64 : Nat)) % 2 ^ (52 : Nat))
  let x23 : Int := ((x21 + (x22 * (671914833335277 : Int))) / 2 ^ (52 : Nat))
  let x24 : Int := (((x23 + x12) + (x19 * (1367801 : Int))) + (x22 * (3916664325105025 : Int)))
  let x25 : Int := ((((x24 % 2 ^ (64 : Nat)) * (1439961107955227 : Int)) % 2 ^ (64 : Nat)) % 2 ^ (52 : Nat))
  let x26 : Int := ((x24 + (x25 * (671914833335277 : Int))) / 2 ^ (52 : Nat))
  let x27 : Int := (((x26 + x13) + (x22 * (1367801 : Int))) + (x25 * (3916664325105025 : Int)))
  let x28 : Int := ((((x27 % 2 ^ (64 : Nat)) * (1439961107955227 : Int)) % 2 ^ (64 : Nat)) % 2 ^ (52 : Nat))
  let x29 : Int := ((x27 + (x28 * (671914833335277 : Int))) / 2 ^ (52 : Nat))
  let x30 : Int := ((((x29 + x14) + (x19 * (17592186044416 : Int))) + (x25 * (1367801 : Int))) + (x28 * (3916664325105025 : Int)))
  let x31 : Int := ((((x30 % 2 ^ (64 : Nat)) * (1439961107955227 : Int)) % 2 ^ (64 : Nat)) % 2 ^ (52 : Nat))
  let x32 : Int := ((x30 + (x31 * (671914833335277 : Int))) / 2 ^ (52 : Nat))
  let x33 : Int := ((((x32 + x15) + (x22 * (17592186044416 : Int))) + (x28 * (1367801 : Int))) + (x31 * (3916664325105025 : Int)))
  let x34 : Int := ((x33 % 2 ^ (64 : Nat)) % 2 ^ (52 : Nat))
  let x35 : Int := (x33 / 2 ^ (52 : Nat))
  let x36 : Int := (((x35 + x16) + (x25 * (17592186044416 : Int))) + (x31 * (1367801 : Int)))
  let x37 : Int := ((x36 % 2 ^ (64 : Nat)) % 2 ^ (52 : Nat))
  let x38 : Int := (x36 / 2 ^ (52 : Nat))
  let x39 : Int := ((x38 + x17) + (x28 * (17592186044416 : Int)))
  let x40 : Int := ((x39 % 2 ^ (64 : Nat)) % 2 ^ (52 : Nat))
  let x41 : Int := (x39 / 2 ^ (52 : Nat))
  let x42 : Int := ((x41 + x18) + (x31 * (17592186044416 : Int)))
  let x43 : Int := ((x42 % 2 ^ (64 : Nat)) % 2 ^ (52 : Nat))
  let x44 : Int := (x42 / 2 ^ (52 : Nat))
  let x45 : Int := x44
  let x46 : Int := ((x34 - (671914833335277 : Int)) % 2 ^ (64 : Nat))
  let x47 : Int := (x46 % 2 ^ (52 : Nat))
  let x48 : Int := ((x37 - ((3916664325105025 : Int) + (x46 / 2 ^ (63 : Nat)))) % 2 ^ (64 : Nat))
  let x49 : Int := (x48 % 2 ^ (52 : Nat))
  let x50 : Int := ((x40 - ((1367801 : Int) + (x48 / 2 ^ (63 : Nat)))) % 2 ^ (64 : Nat))
  let x51 : Int := (x50 % 2 ^ (52 : Nat))
  let x52 : Int := ((x43 - ((0 : Int) + (x50 / 2 ^ (63 : Nat)))) % 2 ^ (64 : Nat))
  let x53 : Int := (x52 % 2 ^ (52 : Nat))
  let x54 : Int := ((x45 - ((17592186044416 : Int) + (x52 / 2 ^ (63 : Nat)))) % 2 ^ (64 : Nat))
  let x55 : Int := (x54 % 2 ^ (52 : Nat))
  let x56 : Int := (x54 / 2 ^ (63 : Nat))
  let x57 : Int := (if x56 = 0 then (0 : Int) else (671914833335277 : Int))
  let x58 : Int := (((0 : Int) + x47) + x57)
  let x59 : Int := (x58 % 2 ^ (52 : Nat))
  let x60 : Int := (x54 / 2 ^ (63 : Nat))
  let x61 : Int := (if x60 = 0 then (0 : Int) else (3916664325105025 : Int))
  let x62 : Int := (((x58 / 2 ^ (52 : Nat)) + x49) + x61)
  let x63 : Int := (x62 % 2 ^ (52 : Nat))
  let x64 : Int := (x54 / 2 ^ (63 : Nat))
  let x65 : Int := (if x64 = 0 then (0 : Int) else (1367801 : Int))
  let x66 : Int := (((x62 / 2 ^ (52 : Nat)) + x51) + x65)
  let x67 : Int := (x66 % 2 ^ (52 : Nat))
  let x68 : Int := (x54 / 2 ^ (63 : Nat))
  let x69 : Int := (if x68 = 0 then (0 : Int) else (0 : Int))
  let x70 : Int := (((x66 / 2 ^ (52 : Nat)) + x53) + x69)
  let x71 : Int := (x70 % 2 ^ (52 : Nat))
  let x72 : Int := (x54 / 2 ^ (63 : Nat))
  let x73 : Int := (if x72 = 0 then (0 : Int) else (17592186044416 : Int))
  let x74 : Int := (((x70 / 2 ^ (52 : Nat)) + x55) + x73)
  let x75 : Int := (x74 % 2 ^ (52 : Nat))
  [x59, x63, x67, x71, x75]

theorem montgomery_mul_fn_ok (x0 x1 x2 x3 x4 x5 x6 x7 x8 x9 : Int) : NProg.evalZ montgomery_mul_nprog [x0, x1, x2, x3, x4, x5, x6, x7, x8, x9] = montgomery_mul_fn x0 x1 x2 x3 x4 x5 x6 x7 x8 x9 :=
  (NProg.evalZ_eq_fast _ _).trans (by kernel_rfl)

def montgomery_square_post : List Itv := [⟨0, 4503599627370495, 0⟩, ⟨0, 4503599627370495, 0⟩, ⟨0, 4503599627370495, 0⟩, ⟨0, 4503599627370495, 0⟩, ⟨0, 4503599627370495, 0⟩]

def montgomery_square_nprog : NProg := Prog.normProg Dalek.Gen.Scalar52.montgomery_square Dalek.Model.Contracts.Scalar52.pre_montgomery_square

theorem montgomery_square_norm_ok : Prog.norm Dalek.Gen.Scalar52.montgomery_square Dalek.Model.Contracts.Scalar52.pre_montgomery_square = some (montgomery_square_nprog, montgomery_square_post) :=
  Prog.norm_eq_of_post (by decide +kernel)

def montgomery_square_fn (x0 x1 x2 x3 x4 : Int) : List Int :=
  let x5 : Int := (x0 * (2 : Int))
  let x6 : Int := (x1 * (2 : Int))
  let x7 : Int := (x2 * (2 : Int))
  let x8 : Int := (x3 * (2 : Int))
  let x9 : Int := (x0 * x0)
  let x10 : Int := (x5 * x1)
  let x11 : Int := ((x5 * x2) + (x1 * x1))
  let x12 : Int := ((x5 * x3) + (x6 * x2))
  let x13 : Int := (((x5 * x4) + (x6 * x3)) + (x2 * x2))
  let x14 : Int := ((x6 * x4) + (x7 * x3))
  let x15 : Int := ((x7 * x4) + (x3 * x3))
  let x16 : Int := (x8 * x4)
  let x17 : Int := (x4 * x4)
  let x18 : Int := ((((x9 % 2 ^ (64 : Nat)) * (1439961107955227 : Int)) % 2 ^ (64 : Nat)) % 2 ^ (52 : Nat))
  let x19 : Int := ((x9 + (x18 * (671914833335277 : Int))) / 2 ^ (52 : Nat))
  let x20 : Int := ((x19 + x10) + (x18 * (3916664325105025 : Int)))
  let x21 : Int := ((((x20 % 2 ^ (64 : Nat)) * (1439961107955227 : Int)) % 2 ^ (64 : Nat)) % 2 ^ (52 : Nat))
  let x22 : Int := ((x20 + (x21 * (671914833335277 : Int))) / 2 ^ (52 : Nat))
  let x23 : Int := (((x22 + x11) + (x18 * (1367801 : Int))) + (x21 * (3916664325105025 : Int)))
  let x24 : Int := ((((x23 % 2 ^ (64 : Nat)) * (1439961107955227 : Int)) % 2 ^ (64 : Nat)) % 2 ^ (52 : Nat))
  let x25 : Int := ((x23 + (x24 * (671914833335277 : Int))) / 2 ^ (52 : Nat))
  let x26 : Int := (((x25 + x12) + (x21 * (1367801 : Int))) + (x24 * (3916664325105025 : Int)))
  let x27 : Int := ((((x26 % 2 ^ (64 : Nat)) * (1439961107955227 : Int)) % 2 ^ (64 : Nat)) % 2 ^ (52 : Nat))
  let x28 : Int := ((x26 + (x27 * (671914833335277 : Int))) / 2 ^ (52 : Nat))
  let x29 : Int := ((((x28 + x13) + (x18 * (17592186044416 : Int))) + (x24 * (1367801 : Int))) + (x27 * (3916664325105025 : Int)))
  let x30 : Int := ((((x29 % 2 ^ (64 : Nat)) * (1439961107955227 : Int)) % 2 ^ (64 : Nat)) % 2 ^ (52 : Nat))
  let x31 : Int := ((x29 + (x30 * (671914833335277 : Int))) / 2 ^ (52 : Nat))
  let x32 : Int := ((((x31 + x14) + (x21 * (17592186044416 : Int))) + (x27 * (1367801 : Int))) + (x30 * (3916664325105025 : Int)))
  let x33 : Int := ((x32 % 2 ^ (64 : Nat)) % 2 ^ (52 : Nat))
  let x34 : Int := (x32 / 2 ^ (52 : Nat))
  let x35 : Int := (((x34 + x15) + (x24 * (17592186044416 : Int))) + (x30 * (1367801 : Int)))
  let x36 : Int := ((x35 % 2 ^ (64 : Nat)) % 2 ^ (52 : Nat))
  let x37 : Int := (x35 / 2 ^ (52 : Nat))
  let x38 : Int := ((x37 + x16) + (x27 * (17592186044416 : Int)))
  let x39 : Int := ((x38 % 2 ^ (64 : Nat)) % 2 ^ (52 : Nat))
  let x40 : Int := (x38 / 2 ^ (52 : Nat))
  let x41 : Int := ((x40 + x17) + (x30 * (17592186044416 : Int)))
  let x42 : Int := ((x41 % 2 ^ (64 : Nat)) % 2 ^ (52 : Nat))
  let x43 : Int := (x41 / 2 ^ (52 : Nat))
  let x44 : Int := x43
  let x45 : Int := ((x33 - (671914833335277 : Int)) % 2 ^ (64 : Nat))
  let x46 : Int := (x45 % 2 ^ (52 : Nat))
  let x47 : Int := ((x36 - ((3916664325105025 : Int) + (x45 / 2 ^ (63 : Nat)))) % 2 ^ (64 : Nat))
  let x48 : Int := (x47 % 2 ^ (52 : Nat))
  let x49 : Int := ((x39 - ((1367801 : Int) + (x47 / 2 ^ (63 : Nat)))) % 2 ^ (64 : Nat))
  let x50 : Int := (x49 % 2 ^ (52 : Nat))
  let x51 : Int := ((x42 - ((0 : Int) + (x49 / 2 ^ (63 : Nat)))) % 2 ^ (64 : Nat))
  let x52 : Int := (x51 % 2 ^ (52 : Nat))
  let x53 : Int := ((x44 - ((17592186044416 : Int) + (x51 / 2 ^ (63 : Nat)))) % 2 ^ (64 : Nat))
  let x54 : Int := (x53 % 2 ^ (52 : Nat))
  let x55 : Int := (x53 / 2 ^ (63 : Nat))
  let x56 : Int := (if x55 = 0 then (0 : Int) else (671914833335277 : Int))
  let x57 : Int := (((0 : Int) + x46) + x56)
  let x58 : Int := (x57 % 2 ^ (52 : Nat))
  let x59 : Int := (x53 / 2 ^ (63 : Nat))
  let x60 : Int := (if x59 = 0 then (0 : Int) else (3916664325105025 : Int))
  let x61 : Int := (((x57 / 2 ^ (52 : Nat)) + x48) + x60)
  let x62 : Int := (x61 % 2 ^ (52 : Nat))
  let x63 : Int := (x53 / 2 ^ (63 : Nat))
  let x64 : Int := (if x63 = 0 then (0 : Int) else (1367801 : Int))
  let x65 : Int := (((x61 / 2 ^ (52 : Nat)) + x50) + x64)
  let x66 : Int := (x65 % 2 ^ (52 : Nat))
  let x67 : Int := (x53 / 2 ^ (63 : Nat))
  let x68 : Int := (if x67 = 0 then (0 : Int) else (0 : Int))
  let x69 : Int := (((x65 / 2 ^ (52 : Nat)) + x52) + x68)
  let x70 : Int := (x69 % 2 ^ (52 : Nat))
  let x71 : Int := (x53 / 2 ^ (63 : Nat))
  let x72 : Int := (if x71 = 0 then (0 : Int) else (17592186044416 : Int))
  let x73 : Int := (((x69 / 2 ^ (52 : Nat)) + x54) + x72)
  let x74 : Int := (x73 % 2 ^ (52 : Nat))
  [x58, x62, x66, x70, x74]

theorem montgomery_square_fn_ok (x0 x1 x2 x3 x4 : Int) : NProg.evalZ montgomery_square_nprog [x0, x1, x2, x3, x4] = montgomery_square_fn x0 x1 x2 x3 x4 :=
  (NProg.evalZ_eq_fast _ _).trans (by kernel_rfl)

def as_montgomery_post : List Itv := [⟨0, 4503599627370495, 0⟩, ⟨0, 4503599627370495, 0⟩, ⟨0, 4503599627370495, 0⟩, ⟨0, 4503599627370495, 0⟩, ⟨0, 4503599627370495, 0⟩]

def as_montgomery_nprog : NProg := Prog.normProg Dalek.Gen.Scalar52.as_montgomery Dalek.Model.Contracts.Scalar52.pre_as_montgomery

theorem as_montgomery_norm_ok : Prog.norm Dalek.Gen.Scalar52.as_montgomery Dalek.Model.Contracts.Scalar52.pre_as_montgomery = some (as_montgomery_nprog, as_montgomery_post) :=
  Prog.norm_eq_of_post (by decide +kernel)

def as_montgomery_fn (x0 x1 x2 x3 x4 : Int) : List Int :=
  let x5 : Int := (x0 * (2764609938444603 : Int))
  let x6 : Int := ((x0 * (3768881411696287 : Int)) + (x1 * (2764609938444603 : Int)))
  let x7 : Int := (((x0 * (1616719297148420 : Int)) + (x1 * (3768881411696287 : Int))) + (x2 * (2764609938444603 : Int)))
  let x8 : Int := ((((x0 * (1087343033131391 : Int)) + (x1 * (1616719297148420 : Int))) + (x2 * (3768881411696287 : Int))) + (x3 * (2764609938444603 : Int)))
  let x9 : Int := (((((x0 * (10175238647962 : Int)) + (x1 * (1087343033131391 : Int))) + (x2 * (1616719297148420 : Int))) + (x3 * (3768881411696287 : Int))) + (x4 * (2764609938444603 : Int)))
  let x10 : Int := ((((x1 * (10175238647962 : Int)) + (x2 * (1087343033131391 : Int))) + (x3 * (1616719297148420 : Int))) + (x4 * (3768881411696287 : Int)))
  let x11 : Int := (((x2 * (10175238647962 : Int)) + (x3 * (1087343033131391 : Int))) + (x4 * (1616719297148420 : Int)))
  let x12 : Int := ((x3 * (10175238647962 : Int)) + (x4 * (1087343033131391 : Int)))
  let x13 : Int := (x4 * (10175238647962 : Int))
  let x14 : Int := ((((x5 % 2 ^ (64 : Nat)) * (1439961107955227 : Int)) % 2 ^ (64 : Nat)) % 2 ^ (52 : Nat))
  let x15 : Int := ((x5 + (x14 * (671914833335277 : Int))) / 2 ^ (52 : Nat))
  let x16 : Int := ((x15 + x6) + (x14 * (3916664325105025 : Int)))
  let x17 : Int := ((((x16 % 2 ^ (64 : Nat)) * (1439961107955227 : Int)) % 2 ^ (64 : Nat)) % 2 ^ (52 : Nat))
  let x18 : Int := ((x16 + (x17 * (671914833335277 : Int))) / 2 ^ (52 : Nat))
  let x19 : Int := (((x18 + x7) + (x14 * (1367801 : Int))) + (x17 * (3916664325105025 : Int)))
  let x20 : Int := ((((x19 % 2 ^ (64 : Nat)) * (1439961107955227 : Int)) % 2 ^ (64 : Nat)) % 2 ^ (52 : Nat))
  let x21 : Int := ((x19 + (x20 * (671914833335277 : Int))) / 2 ^ (52 : Nat))
  let x22 : Int := (((x21 + x8) + (x17 * (1367801 : Int))) + (x20 * (3916664325105025 : Int)))
  let x23 : Int := ((((x22 % 2 ^ (64 : Nat)) * (1439961107955227 : Int)) % 2 ^ (64 : Nat)) % 2 ^ (52 : Nat))
  let x24 : Int := ((x22 + (x23 * (671914833335277 : Int))) / 2 ^ (52 : Nat))
  let x25 : Int := ((((x24 + x9) + (x14 * (17592186044416 : Int))) + (x20 * (1367801 : Int))) + (x23 * (3916664325105025 : Int)))
  let x26 : Int := ((((x25 % 2 ^ (64 : Nat)) * (1439961107955227 : Int)) % 2 ^ (64 : Nat)) % 2 ^ (52 : Nat))
  let x27 : Int := ((x25 + (x26 * (671914833335277 : Int))) / 2 ^ (52 : Nat))
  let x28 : Int := ((((x27 + x10) + (x17 * (17592186044416 : Int))) + (x23 * (1367801 : Int))) + (x26 * (3916664325105025 : Int)))
  let x29 : Int := ((x28 % 2 ^ (64 : Nat)) % 2 ^ (52 : Nat))
  let x30 : Int := (x28 / 2 ^ (52 : Nat))
  let x31 : Int := (((x30 + x11) + (x20 * (17592186044416 : Int))) + (x26 * (1367801 : Int)))
  let x32 : Int := ((x31 % 2 ^ (64 : Nat)) % 2 ^ (52 : Nat))
  let x33 : Int := (x31 / 2 ^ (52 : Nat))
  let x34 : Int := ((x33 + x12) + (x23 * (17592186044416 : Int)))
  let x35 : Int := ((x34 % 2 ^ (64 : Nat)) % 2 ^ (52 : Nat))
  let x36 : Int := (x34 / 2 ^ (52 : Nat))
  let x37 : Int := ((x36 + x13) + (x26 * (17592186044416 : Int)))
  let x38 : Int := ((x37 % 2 ^ (64 : Nat)) % 2 ^ (52 : Nat))
  let x39 : Int := (x37 / 2 ^ (52 : Nat))
  let x40 : Int := x39
  let x41 : Int := ((x29 - (671914833335277 : Int)) % 2 ^ (64 : Nat))
  let x42 : Int := (x41 % 2 ^ (52 : Nat))
  let x43 : Int := ((x32 - ((3916664325105025 : Int) + (x41 / 2 ^ (63 : Nat)))) % 2 ^ (64 : Nat))
  let x44 : Int := (x43 % 2 ^ (52 : Nat))
  let x45 : Int := ((x35 - ((1367801 : Int) + (x43 / 2 ^ (63 : Nat)))) % 2 ^ (64 : Nat))
  let x46 : Int := (x45 % 2 ^ (52 : Nat))
  let x47 : Int := ((x38 - ((0 : Int) + (x45 / 2 ^ (63 : Nat)))) % 2 ^ (64 : Nat))
  let x48 : Int := (x47 % 2 ^ (52 : Nat))
  let x49 : Int := ((x40 - ((17592186044416 : Int) + (x47 / 2 ^ (63 : Nat)))) % 2 ^ (64 : Nat))
  let x50 : Int := (x49 % 2 ^ (52 : Nat))
  let x51 : Int := (x49 / 2 ^ (63 : Nat))
  let x52 : Int := (if x51 = 0 then (0 : Int) else (671914833335277 : Int))
  let x53 : Int := (((0 : Int) + x42) + x52)
  let x54 : Int := (x53 % 2 ^ (52 : Nat))
  let x55 : Int := (x49 / 2 ^ (63 : Nat))
  let x56 : Int := (if x55 = 0 then (0 : Int) else (3916664325105025 : Int))
  let x57 : Int := (((x53 / 2 ^ (52 : Nat)) + x44) + x56)
  let x58 : Int := (x57 % 2 ^ (52 : Nat))
  let x59 : Int := (x49 / 2 ^ (63 : Nat))
  let x60 : Int := (if x59 = 0 then (0 : Int) else (1367801 : Int))
  let x61 : Int := (((x57 / 2 ^ (52 : Nat)) + x46) + x60)
  let x62 : Int := (x61 % 2 ^ (52 : Nat))
  let x63 : Int := (x49 / 2 ^ (63 : Nat))
  let x64 : Int := (if x63 = 0 then (0 : Int) else (0 : Int))
  let x65 : Int := (((x61 / 2 ^ (52 : Nat)) + x48) + x64)
  let x66 : Int := (x65 % 2 ^ (52 : Nat))
  let x67 : Int := (x49 / 2 ^ (63 : Nat))
  let x68 : Int := (if x67 = 0 then (0 : Int) else (17592186044416 : Int))
  let x69 : Int := (((x65 / 2 ^ (52 : Nat)) + x50) + x68)
  let x70 : Int := (x69 % 2 ^ (52 : Nat))
  [x54, x58, x62, x66, x70]

theorem as_montgomery_fn_ok (x0 x1 x2 x3 x4 : Int) : NProg.evalZ as_montgomery_nprog [x0, x1, x2, x3, x4] = as_montgomery_fn x0 x1 x2 x3 x4 :=
  (NProg.evalZ_eq_fast _ _).trans (by kernel_rfl)

def from_montgomery_post : List Itv := [⟨0, 4503599627370495, 0⟩, ⟨0, 4503599627370495, 0⟩, ⟨0, 4503599627370495, 0⟩, ⟨0, 4503599627370495, 0⟩, ⟨0, 4503599627370495, 0⟩]

def from_montgomery_nprog : NProg := Prog.normProg Dalek.Gen.Scalar52.from_montgomery Dalek.Model.Contracts.Scalar52.pre_from_montgomery

theorem from_montgomery_norm_ok : Prog.norm Dalek.Gen.Scalar52.from_montgomery Dalek.Model.Contracts.Scalar52.pre_from_montgomery = some (from_montgomery_nprog, from_montgomery_post) :=
  Prog.norm_eq_of_post (by decide +kernel)

def from_montgomery_fn (x0 x1 x2 x3 x4 : Int) : List Int :=
  let x5 : Int := x0
  let x6 : Int := x1
  let x7 : Int := x2
  let x8 : Int := x3
  let x9 : Int := x4
  let x10 : Int := (((x5 * (1439961107955227 : Int)) % 2 ^ (64 : Nat)) % 2 ^ (52 : Nat))
  let x11 : Int := ((x5 + (x10 * (671914833335277 : Int))) / 2 ^ (52 : Nat))
  let x12 : Int := ((x11 + x6) + (x10 * (3916664325105025 : Int)))
  let x13 : Int := ((((x12 % 2 ^ (64 : Nat)) * (1439961107955227 : Int)) % 2 ^ (64 : Nat)) % 2 ^ (52 : Nat))
  let x14 : Int := ((x12 + (x13 * (671914833335277 : Int))) / 2 ^ (52 : Nat))
  let x15 : Int := (((x14 + x7) + (x10 * (1367801 : Int))) + (x13 * (3916664325105025 : Int)))
  let x16 : Int := ((((x15 % 2 ^ (64 : Nat)) * (1439961107955227 : Int)) % 2 ^ (64 : Nat)) % 2 ^ (52 : Nat))
  let x17 : Int := ((x15 + (x16 * (671914833335277 : Int))) / 2 ^ (52 : Nat))
  let x18 : Int := (((x17 + x8) + (x13 * (1367801 : Int))) + (x16 * (3916664325105025 : Int)))
  let x19 : Int := ((((x18 % 2 ^ (64 : Nat)) * (1439961107955227 : Int)) % 2 ^ (64 : Nat)) % 2 ^ (52 : Nat))
  let x20 : Int := ((x18 + (x19 * (671914833335277 : Int))) / 2 ^ (52 : Nat))
  let x21 : Int := ((((x20 + x9) + (x10 * (17592186044416 : Int))) + (x16 * (1367801 : Int))) + (x19 * (3916664325105025 : Int)))
  let x22 : Int := ((((x21 % 2 ^ (64 : Nat)) * (1439961107955227 : Int)) % 2 ^ (64 : Nat)) % 2 ^ (52 : Nat))
  let x23 : Int := ((x21 + (x22 * (671914833335277 : Int))) / 2 ^ (52 : Nat))
  let x24 : Int := ((((x23 + (0 : Int)) + (x13 * (17592186044416 : Int))) + (x19 * (1367801 : Int))) + (x22 * (3916664325105025 : Int)))
  let x25 : Int := ((x24 % 2 ^ (64 : Nat)) % 2 ^ (52 : Nat))
  let x26 : Int := (x24 / 2 ^ (52 : Nat))
  let x27 : Int := (((x26 + (0 : Int)) + (x16 * (17592186044416 : Int))) + (x22 * (1367801 : Int)))
  let x28 : Int := ((x27 % 2 ^ (64 : Nat)) % 2 ^ (52 : Nat))
  let x29 : Int := (x27 / 2 ^ (52 : Nat))
  let x30 : Int := ((x29 + (0 : Int)) + (x19 * (17592186044416 : Int)))
  let x31 : Int := ((x30 % 2 ^ (64 : Nat)) % 2 ^ (52 : Nat))
  let x32 : Int := (x30 / 2 ^ (52 : Nat))
  let x33 : Int := ((x32 + (0 : Int)) + (x22 * (17592186044416 : Int)))
  let x34 : Int := ((x33 % 2 ^ (64 : Nat)) % 2 ^ (52 : Nat))
  let x35 : Int := (x33 / 2 ^ (52 : Nat))
  let x36 : Int := x35
  let x37 : Int := ((x25 - (671914833335277 : Int)) % 2 ^ (64 : Nat))
  let x38 : Int := (x37 % 2 ^ (52 : Nat))
  let x39 : Int := ((x28 - ((3916664325105025 : Int) + (x37 / 2 ^ (63 : Nat)))) % 2 ^ (64 : Nat))
  let x40 : Int := (x39 % 2 ^ (52 : Nat))
  let x41 : Int := ((x31 - ((1367801 : Int) + (x39 / 2 ^ (63 : Nat)))) % 2 ^ (64 : Nat))
  let x42 : Int := (x41 % 2 ^ (52 : Nat))
  let x43 : Int := ((x34 - ((0 : Int) + (x41 / 2 ^ (63 : Nat)))) % 2 ^ (64 : Nat))
  let x44 : Int := (x43 % 2 ^ (52 : Nat))
  let x45 : Int := ((x36 - ((17592186044416 : Int) + (x43 / 2 ^ (63 : Nat)))) % 2 ^ (64 : Nat))
  let x46 : Int := (x45 % 2 ^ (52 : Nat))
  let x47 : Int := (x45 / 2 ^ (63 : Nat))
  let x48 : Int := (if x47 = 0 then (0 : Int) else (671914833335277 : Int))
  let x49 : Int := (((0 : Int) + x38) + x48)
  let x50 : Int := (x49 % 2 ^ (52 : Nat))
  let x51 : Int := (x45 / 2 ^ (63 : Nat))
  let x52 : Int := (if x51 = 0 then (0 : Int) else (3916664325105025 : Int))
  let x53 : Int := (((x49 / 2 ^ (52 : Nat)) + x40) + x52)
  let x54 : Int := (x53 % 2 ^ (52 : Nat))
  let x55 : Int := (x45 / 2 ^ (63 : Nat))
  let x56 : Int := (if x55 = 0 then (0 : Int) else (1367801 : Int))
  let x57 : Int := (((x53 / 2 ^ (52 : Nat)) + x42) + x56)
  let x58 : Int := (x57 % 2 ^ (52 : Nat))
  let x59 : Int := (x45 / 2 ^ (63 : Nat))
  let x60 : Int := (if x59 = 0 then (0 : Int) else (0 : Int))
  let x61 : Int := (((x57 / 2 ^ (52 : Nat)) + x44) + x60)
  let x62 : Int := (x61 % 2 ^ (52 : Nat))
  let x63 : Int := (x45 / 2 ^ (63 : Nat))
  let x64 : Int := (if x63 = 0 then (0 : Int) else (17592186044416 : Int))
  let x65 : Int := (((x61 / 2 ^ (52 : Nat)) + x46) + x64)
  let x66 : Int := (x65 % 2 ^ (52 : Nat))
  [x50, x54, x58, x62, x66]

theorem from_montgomery_fn_ok (x0 x1 x2 x3 x4 : Int) : NProg.evalZ from_montgomery_nprog [x0, x1, x2, x3, x4] = from_montgomery_fn x0 x1 x2 x3 x4 :=
  (NProg.evalZ_eq_fast _ _).trans (by kernel_rfl)

end Dalek.Gen.Norm.Scalar52
