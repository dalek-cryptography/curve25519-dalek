import Dalek.Proofs.Scalar29.Glue
import Dalek.Gen.Scalar29
/-! # Scalar29: the limb-extraction prefix of `from_bytes_wide`

`from_bytes_wide` is `add(montgomery_mul(hi, RR), montgomery_mul(lo, R))` applied to the eighteen limbs `lo, hi` cut
out of the 64 input bytes.  That first part is not a separate function of the source; it is isolated here as the
program `widePrefix` (the first 82 statements of the translated `from_bytes_wide`), analysed by the normaliser INSIDE
the kernel (`widePrefix_norm_ok`), and specified.  That the rest of `from_bytes_wide` is the inlined sequence of its
callees applied to these limbs is checked in `Dalek/Props/C02/Scalar29Composed.lean` (`from_bytes_wide_is_script`). -/
set_option exponentiation.threshold 600

namespace Dalek.Proofs.Scalar29
open Dalek.IR Dalek.Gen.Consts Dalek.Model.FieldBytes Dalek.Model.Contracts
open Dalek.Proofs.Scalar52 (Lim leValZ_nil Lim_split4)
open Dalek.Proofs.Radix (emod_lim cut_step cut_mid)

/-- the statements of `from_bytes_wide` that assemble the sixteen words and cut them into `lo[0..9]`, `hi[0..9]` -/
def widePrefix : Prog := ⟨64, Dalek.Gen.Scalar29.from_bytes_wide.body.take 82, List.range' 128 18⟩

def widePrefix_nprog : NProg := Prog.normProg widePrefix (bytes 64)

/-- what the analyser finds for the eighteen limbs: the last one is the top 19 bits of the last word -/
def widePrefix_post : List Itv := rep 17 (ub (2 ^ 29 - 1)) ++ [ub (2 ^ 19 - 1)]

theorem widePrefix_norm_ok : Prog.norm widePrefix (bytes 64) = some (widePrefix_nprog, widePrefix_post) :=
  Prog.norm_eq_of_post (by decide +kernel)

theorem widePrefix_post_le : itvsLe widePrefix_post (rep 18 (ub (2 ^ 29 - 1))) = true := by decide +kernel

/-- the eighteen limbs as functions of the sixteen words -/
def limbs16 (w0 w1 w2 w3 w4 w5 w6 w7 w8 w9 w10 w11 w12 w13 w14 w15 : Int) : List Int :=
  let B : Int := 2 ^ 29
  let M : Int := 2 ^ 32
  [w0 % B,
   ((w0 / B) + ((w1 * 8) % M)) % B,
   ((w1 / 2 ^ 26) + ((w2 * 64) % M)) % B,
   ((w2 / 2 ^ 23) + ((w3 * 512) % M)) % B,
   ((w3 / 2 ^ 20) + ((w4 * 4096) % M)) % B,
   ((w4 / 2 ^ 17) + ((w5 * 32768) % M)) % B,
   ((w5 / 2 ^ 14) + ((w6 * 262144) % M)) % B,
   ((w6 / 2 ^ 11) + ((w7 * 2097152) % M)) % B,
   ((w7 / 2 ^ 8) + ((w8 * 16777216) % M)) % B,
   ((w8 / 2 ^ 5) + ((w9 * 134217728) % M)) % B,
   (w9 / 2 ^ 2) % B,
   ((w9 / 2 ^ 31) + ((w10 * 2) % M)) % B,
   ((w10 / 2 ^ 28) + ((w11 * 16) % M)) % B,
   ((w11 / 2 ^ 25) + ((w12 * 128) % M)) % B,
   ((w12 / 2 ^ 22) + ((w13 * 1024) % M)) % B,
   ((w13 / 2 ^ 19) + ((w14 * 8192) % M)) % B,
   ((w14 / 2 ^ 16) + ((w15 * 65536) % M)) % B,
   w15 / 2 ^ 13]

theorem widePrefix_fn_ok (x0 x1 x2 x3 x4 x5 x6 x7 x8 x9 x10 x11 x12 x13 x14 x15 x16 x17 x18 x19 x20 x21 x22 x23 x24 x25 x26 x27 x28 x29 x30 x31 x32 x33 x34 x35 x36 x37 x38 x39 x40 x41 x42 x43 x44 x45 x46 x47 x48 x49 x50 x51 x52 x53 x54 x55 x56 x57 x58 x59 x60 x61 x62 x63 : Int) :
    widePrefix_nprog.evalZ [x0, x1, x2, x3, x4, x5, x6, x7, x8, x9, x10, x11, x12, x13, x14, x15, x16, x17, x18, x19, x20, x21, x22, x23, x24, x25, x26, x27, x28, x29, x30, x31, x32, x33, x34, x35, x36, x37, x38, x39, x40, x41, x42, x43, x44, x45, x46, x47, x48, x49, x50, x51, x52, x53, x54, x55, x56, x57, x58, x59, x60, x61, x62, x63] = limbs16 (word32 x0 x1 x2 x3) (word32 x4 x5 x6 x7) (word32 x8 x9 x10 x11) (word32 x12 x13 x14 x15) (word32 x16 x17 x18 x19) (word32 x20 x21 x22 x23) (word32 x24 x25 x26 x27) (word32 x28 x29 x30 x31) (word32 x32 x33 x34 x35) (word32 x36 x37 x38 x39) (word32 x40 x41 x42 x43) (word32 x44 x45 x46 x47) (word32 x48 x49 x50 x51) (word32 x52 x53 x54 x55) (word32 x56 x57 x58 x59) (word32 x60 x61 x62 x63) := by
  kernel_rfl

theorem horner9 (p0 p1 p2 p3 p4 p5 p6 p7 p8 Q : Int) :
    p0 + 2 ^ 29 * (p1 + 2 ^ 29 * (p2 + 2 ^ 29 * (p3 + 2 ^ 29 * (p4 + 2 ^ 29 * (p5 + 2 ^ 29 * (p6 + 2 ^ 29 * (p7 +
      2 ^ 29 * p8))))))) + 2 ^ 261 * Q
      = p0 + 2 ^ 29 * (p1 + 2 ^ 29 * (p2 + 2 ^ 29 * (p3 + 2 ^ 29 * (p4 + 2 ^ 29 * (p5 + 2 ^ 29 * (p6 + 2 ^ 29 * (p7 +
        2 ^ 29 * (p8 + 2 ^ 29 * Q)))))))) := by
  ring

theorem limbs16_spec (w0 w1 w2 w3 w4 w5 w6 w7 w8 w9 w10 w11 w12 w13 w14 w15 : Int)
    (h0 : 0 ≤ w0 ∧ w0 < 2 ^ 32)
    (h1 : 0 ≤ w1 ∧ w1 < 2 ^ 32)
    (h2 : 0 ≤ w2 ∧ w2 < 2 ^ 32)
    (h3 : 0 ≤ w3 ∧ w3 < 2 ^ 32)
    (h4 : 0 ≤ w4 ∧ w4 < 2 ^ 32)
    (h5 : 0 ≤ w5 ∧ w5 < 2 ^ 32)
    (h6 : 0 ≤ w6 ∧ w6 < 2 ^ 32)
    (h7 : 0 ≤ w7 ∧ w7 < 2 ^ 32)
    (h8 : 0 ≤ w8 ∧ w8 < 2 ^ 32)
    (h9 : 0 ≤ w9 ∧ w9 < 2 ^ 32)
    (h10 : 0 ≤ w10 ∧ w10 < 2 ^ 32)
    (h11 : 0 ≤ w11 ∧ w11 < 2 ^ 32)
    (h12 : 0 ≤ w12 ∧ w12 < 2 ^ 32)
    (h13 : 0 ≤ w13 ∧ w13 < 2 ^ 32)
    (h14 : 0 ≤ w14 ∧ w14 < 2 ^ 32)
    (h15 : 0 ≤ w15 ∧ w15 < 2 ^ 32) :
    ∃ p0 p1 p2 p3 p4 p5 p6 p7 p8 q0 q1 q2 q3 q4 q5 q6 q7 q8, limbs16 w0 w1 w2 w3 w4 w5 w6 w7 w8 w9 w10 w11 w12 w13 w14 w15 = [p0, p1, p2, p3, p4, p5, p6, p7, p8, q0, q1, q2, q3, q4, q5, q6, q7, q8] ∧
      Lim (2 ^ 29) [p0, p1, p2, p3, p4, p5, p6, p7, p8] ∧ Lim (2 ^ 29) [q0, q1, q2, q3, q4, q5, q6, q7, q8] ∧
      repZ [p0, p1, p2, p3, p4, p5, p6, p7, p8] + 2 ^ 261 * repZ [q0, q1, q2, q3, q4, q5, q6, q7, q8] = w0 + 2 ^ 32 * (w1 + 2 ^ 32 * (w2 + 2 ^ 32 * (w3 + 2 ^ 32 * (w4 + 2 ^ 32 * (w5 + 2 ^ 32 * (w6 + 2 ^ 32 * (w7 + 2 ^ 32 * (w8 + 2 ^ 32 * (w9 + 2 ^ 32 * (w10 + 2 ^ 32 * (w11 + 2 ^ 32 * (w12 + 2 ^ 32 * (w13 + 2 ^ 32 * (w14 + 2 ^ 32 * w15)))))))))))))) := by
  refine ⟨_, _, _, _, _, _, _, _, _, _, _, _, _, _, _, _, _, _, rfl,
    ⟨emod_lim _ 29, emod_lim _ 29, emod_lim _ 29, emod_lim _ 29, emod_lim _ 29, emod_lim _ 29, emod_lim _ 29,
      emod_lim _ 29, emod_lim _ 29, trivial⟩,
    ⟨emod_lim _ 29, emod_lim _ 29, emod_lim _ 29, emod_lim _ 29, emod_lim _ 29, emod_lim _ 29, emod_lim _ 29,
      emod_lim _ 29, by omega, trivial⟩, ?_⟩
  simp only [repZ]
  rw [mul_zero, add_zero, horner9,
    cut_step 29 3 26 8 w0 w1 _ (by norm_num) h0 (by norm_num),
    cut_step 26 6 23 64 w1 w2 _ (by norm_num) h1 (by norm_num),
    cut_step 23 9 20 512 w2 w3 _ (by norm_num) h2 (by norm_num),
    cut_step 20 12 17 4096 w3 w4 _ (by norm_num) h3 (by norm_num),
    cut_step 17 15 14 32768 w4 w5 _ (by norm_num) h4 (by norm_num),
    cut_step 14 18 11 262144 w5 w6 _ (by norm_num) h5 (by norm_num),
    cut_step 11 21 8 2097152 w6 w7 _ (by norm_num) h6 (by norm_num),
    cut_step 8 24 5 16777216 w7 w8 _ (by norm_num) h7 (by norm_num),
    cut_step 5 27 2 134217728 w8 w9 _ (by norm_num) h8 (by norm_num), cut_mid 2 29 w9,
    cut_step 31 1 28 2 w9 w10 _ (by norm_num) h9 (by norm_num),
    cut_step 28 4 25 16 w10 w11 _ (by norm_num) h10 (by norm_num),
    cut_step 25 7 22 128 w11 w12 _ (by norm_num) h11 (by norm_num),
    cut_step 22 10 19 1024 w12 w13 _ (by norm_num) h12 (by norm_num),
    cut_step 19 13 16 8192 w13 w14 _ (by norm_num) h13 (by norm_num),
    cut_step 16 16 13 65536 w14 w15 _ (by norm_num) h14 (by norm_num), add_zero, Int.emod_add_mul_ediv]

theorem widePrefix_fn_spec (x0 x1 x2 x3 x4 x5 x6 x7 x8 x9 x10 x11 x12 x13 x14 x15 x16 x17 x18 x19 x20 x21 x22 x23 x24 x25 x26 x27 x28 x29 x30 x31 x32 x33 x34 x35 x36 x37 x38 x39 x40 x41 x42 x43 x44 x45 x46 x47 x48 x49 x50 x51 x52 x53 x54 x55 x56 x57 x58 x59 x60 x61 x62 x63 : Int) (h : Lim 256 [x0, x1, x2, x3, x4, x5, x6, x7, x8, x9, x10, x11, x12, x13, x14, x15, x16, x17, x18, x19, x20, x21, x22, x23, x24, x25, x26, x27, x28, x29, x30, x31, x32, x33, x34, x35, x36, x37, x38, x39, x40, x41, x42, x43, x44, x45, x46, x47, x48, x49, x50, x51, x52, x53, x54, x55, x56, x57, x58, x59, x60, x61, x62, x63]) :
    ∃ p0 p1 p2 p3 p4 p5 p6 p7 p8 q0 q1 q2 q3 q4 q5 q6 q7 q8, widePrefix_nprog.evalZ [x0, x1, x2, x3, x4, x5, x6, x7, x8, x9, x10, x11, x12, x13, x14, x15, x16, x17, x18, x19, x20, x21, x22, x23, x24, x25, x26, x27, x28, x29, x30, x31, x32, x33, x34, x35, x36, x37, x38, x39, x40, x41, x42, x43, x44, x45, x46, x47, x48, x49, x50, x51, x52, x53, x54, x55, x56, x57, x58, x59, x60, x61, x62, x63] = [p0, p1, p2, p3, p4, p5, p6, p7, p8, q0, q1, q2, q3, q4, q5, q6, q7, q8] ∧
      Lim (2 ^ 29) [p0, p1, p2, p3, p4, p5, p6, p7, p8] ∧ Lim (2 ^ 29) [q0, q1, q2, q3, q4, q5, q6, q7, q8] ∧
      repZ [p0, p1, p2, p3, p4, p5, p6, p7, p8] + 2 ^ 261 * repZ [q0, q1, q2, q3, q4, q5, q6, q7, q8] = leValZ [x0, x1, x2, x3, x4, x5, x6, x7, x8, x9, x10, x11, x12, x13, x14, x15, x16, x17, x18, x19, x20, x21, x22, x23, x24, x25, x26, x27, x28, x29, x30, x31, x32, x33, x34, x35, x36, x37, x38, x39, x40, x41, x42, x43, x44, x45, x46, x47, x48, x49, x50, x51, x52, x53, x54, x55, x56, x57, x58, x59, x60, x61, x62, x63] := by
  obtain ⟨hb0, h⟩ := Lim_split4 h
  obtain ⟨hb1, h⟩ := Lim_split4 h
  obtain ⟨hb2, h⟩ := Lim_split4 h
  obtain ⟨hb3, h⟩ := Lim_split4 h
  obtain ⟨hb4, h⟩ := Lim_split4 h
  obtain ⟨hb5, h⟩ := Lim_split4 h
  obtain ⟨hb6, h⟩ := Lim_split4 h
  obtain ⟨hb7, h⟩ := Lim_split4 h
  obtain ⟨hb8, h⟩ := Lim_split4 h
  obtain ⟨hb9, h⟩ := Lim_split4 h
  obtain ⟨hb10, h⟩ := Lim_split4 h
  obtain ⟨hb11, h⟩ := Lim_split4 h
  obtain ⟨hb12, h⟩ := Lim_split4 h
  obtain ⟨hb13, h⟩ := Lim_split4 h
  obtain ⟨hb14, h⟩ := Lim_split4 h
  obtain ⟨hb15, h⟩ := Lim_split4 h
  rw [widePrefix_fn_ok]
  simp only [leValZ_cons4, leValZ_nil, mul_zero, add_zero]
  exact limbs16_spec _ _ _ _ _ _ _ _ _ _ _ _ _ _ _ _ (word32_bd hb0) (word32_bd hb1) (word32_bd hb2) (word32_bd hb3) (word32_bd hb4) (word32_bd hb5) (word32_bd hb6) (word32_bd hb7) (word32_bd hb8) (word32_bd hb9) (word32_bd hb10) (word32_bd hb11) (word32_bd hb12) (word32_bd hb13) (word32_bd hb14) (word32_bd hb15)

end Dalek.Proofs.Scalar29
