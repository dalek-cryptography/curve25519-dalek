import Dalek.IR.NormSpec
import Dalek.Gen.Norm.Avx2Field
import Dalek.Proofs.Avx2Field.Defs
/-!
# C11 — no lane overflow in the AVX2 vector field backend (property theorems, kernel level)

Statements are about `Dalek.Gen.Avx2Field.*`: the LimbIR programs REGENERATED on every run from
`curve25519-dalek/src/backend/vector/avx2/field.rs` by lane scalarisation (a `FieldElement2625x4 = [u32x8; 5]` is 40
u32 lanes; every SIMD lane operation is one LimbIR statement at the lane's width, so `evalC` panics exactly when some
u32 / u64 LANE would wrap -- a stronger notion than the debug build of the Rust code, whose SIMD intrinsics wrap
silently).

For every kernel and every input inside its bound contract `Dalek.Model.Contracts.Avx2Field.pre_<k>` (the DOCUMENTED
pre-condition written as an interval vector, see the doc comments there and §"documentation vs. analysis" below):
the lane-checked semantics `evalC` does not fail and agrees with the wrapping semantics `evalW`, and the outputs
satisfy the analysed post-condition `<k>_post` (`<k>_safe`) and the DOCUMENTED post-condition (`<k>_doc_post`).

Excess notation of the source: a vector is "bounded with `b`" if even limbs are `< 2^(26+b)` and odd limbs `< 2^(25+b)`;
`lanes num den` is that bound with `2^b` replaced by the decimal fraction `num/den ≤ 2^b`.
-/
namespace Dalek.Props.C11.Avx2
open Dalek.IR Dalek.Model.Contracts

theorem new_safe (ins : List Nat) (hin : EnvIn ins Avx2Field.pre_new) :
    ∃ outs, Dalek.Gen.Avx2Field.new.evalC ins = some outs ∧ Dalek.Gen.Avx2Field.new.evalW ins = outs ∧
      EnvIn outs Dalek.Gen.Norm.Avx2Field.new_post :=
  Prog.norm_safe Dalek.Gen.Norm.Avx2Field.new_norm_ok (itvsLe_refl _) hin

theorem split_safe (ins : List Nat) (hin : EnvIn ins Avx2Field.pre_split) :
    ∃ outs, Dalek.Gen.Avx2Field.split.evalC ins = some outs ∧ Dalek.Gen.Avx2Field.split.evalW ins = outs ∧
      EnvIn outs Dalek.Gen.Norm.Avx2Field.split_post :=
  Prog.norm_safe Dalek.Gen.Norm.Avx2Field.split_norm_ok (itvsLe_refl _) hin

theorem negate_lazy_safe (ins : List Nat) (hin : EnvIn ins Avx2Field.pre_negate_lazy) :
    ∃ outs, Dalek.Gen.Avx2Field.negate_lazy.evalC ins = some outs ∧ Dalek.Gen.Avx2Field.negate_lazy.evalW ins = outs ∧
      EnvIn outs Dalek.Gen.Norm.Avx2Field.negate_lazy_post :=
  Prog.norm_safe Dalek.Gen.Norm.Avx2Field.negate_lazy_norm_ok (itvsLe_refl _) hin

theorem diff_sum_safe (ins : List Nat) (hin : EnvIn ins Avx2Field.pre_diff_sum) :
    ∃ outs, Dalek.Gen.Avx2Field.diff_sum.evalC ins = some outs ∧ Dalek.Gen.Avx2Field.diff_sum.evalW ins = outs ∧
      EnvIn outs Dalek.Gen.Norm.Avx2Field.diff_sum_post :=
  Prog.norm_safe Dalek.Gen.Norm.Avx2Field.diff_sum_norm_ok (itvsLe_refl _) hin

theorem reduce_safe (ins : List Nat) (hin : EnvIn ins Avx2Field.pre_reduce) :
    ∃ outs, Dalek.Gen.Avx2Field.reduce.evalC ins = some outs ∧ Dalek.Gen.Avx2Field.reduce.evalW ins = outs ∧
      EnvIn outs Dalek.Gen.Norm.Avx2Field.reduce_post :=
  Prog.norm_safe Dalek.Gen.Norm.Avx2Field.reduce_norm_ok (itvsLe_refl _) hin

theorem neg_safe (ins : List Nat) (hin : EnvIn ins Avx2Field.pre_neg) :
    ∃ outs, Dalek.Gen.Avx2Field.neg.evalC ins = some outs ∧ Dalek.Gen.Avx2Field.neg.evalW ins = outs ∧
      EnvIn outs Dalek.Gen.Norm.Avx2Field.neg_post :=
  Prog.norm_safe Dalek.Gen.Norm.Avx2Field.neg_norm_ok (itvsLe_refl _) hin

theorem add_safe (ins : List Nat) (hin : EnvIn ins Avx2Field.pre_add) :
    ∃ outs, Dalek.Gen.Avx2Field.add.evalC ins = some outs ∧ Dalek.Gen.Avx2Field.add.evalW ins = outs ∧
      EnvIn outs Dalek.Gen.Norm.Avx2Field.add_post :=
  Prog.norm_safe Dalek.Gen.Norm.Avx2Field.add_norm_ok (itvsLe_refl _) hin

theorem mul_consts_safe (ins : List Nat) (hin : EnvIn ins Avx2Field.pre_mul_consts) :
    ∃ outs, Dalek.Gen.Avx2Field.mul_consts.evalC ins = some outs ∧ Dalek.Gen.Avx2Field.mul_consts.evalW ins = outs ∧
      EnvIn outs Dalek.Gen.Norm.Avx2Field.mul_consts_post :=
  Prog.norm_safe Dalek.Gen.Norm.Avx2Field.mul_consts_norm_ok (itvsLe_refl _) hin

theorem square_and_negate_D_safe (ins : List Nat) (hin : EnvIn ins Avx2Field.pre_square_and_negate_D) :
    ∃ outs, Dalek.Gen.Avx2Field.square_and_negate_D.evalC ins = some outs ∧ Dalek.Gen.Avx2Field.square_and_negate_D.evalW ins = outs ∧
      EnvIn outs Dalek.Gen.Norm.Avx2Field.square_and_negate_D_post :=
  Prog.norm_safe Dalek.Gen.Norm.Avx2Field.square_and_negate_D_norm_ok (itvsLe_refl _) hin

theorem mul_safe (ins : List Nat) (hin : EnvIn ins Avx2Field.pre_mul) :
    ∃ outs, Dalek.Gen.Avx2Field.mul.evalC ins = some outs ∧ Dalek.Gen.Avx2Field.mul.evalW ins = outs ∧
      EnvIn outs Dalek.Gen.Norm.Avx2Field.mul_post :=
  Prog.norm_safe Dalek.Gen.Norm.Avx2Field.mul_norm_ok (itvsLe_refl _) hin

theorem reduce64_safe (ins : List Nat) (hin : EnvIn ins Avx2Field.pre_reduce64) :
    ∃ outs, Dalek.Gen.Avx2Field.reduce64.evalC ins = some outs ∧ Dalek.Gen.Avx2Field.reduce64.evalW ins = outs ∧
      EnvIn outs Dalek.Gen.Norm.Avx2Field.reduce64_post :=
  Prog.norm_safe Dalek.Gen.Norm.Avx2Field.reduce64_norm_ok (itvsLe_refl _) hin

theorem conditional_select_safe (ins : List Nat) (hin : EnvIn ins Avx2Field.pre_conditional_select) :
    ∃ outs, Dalek.Gen.Avx2Field.conditional_select.evalC ins = some outs ∧ Dalek.Gen.Avx2Field.conditional_select.evalW ins = outs ∧
      EnvIn outs Dalek.Gen.Norm.Avx2Field.conditional_select_post :=
  Prog.norm_safe Dalek.Gen.Norm.Avx2Field.conditional_select_norm_ok (itvsLe_refl _) hin

theorem conditional_assign_safe (ins : List Nat) (hin : EnvIn ins Avx2Field.pre_conditional_assign) :
    ∃ outs, Dalek.Gen.Avx2Field.conditional_assign.evalC ins = some outs ∧ Dalek.Gen.Avx2Field.conditional_assign.evalW ins = outs ∧
      EnvIn outs Dalek.Gen.Norm.Avx2Field.conditional_assign_post :=
  Prog.norm_safe Dalek.Gen.Norm.Avx2Field.conditional_assign_norm_ok (itvsLe_refl _) hin

theorem shuffle_AAAA_safe (ins : List Nat) (hin : EnvIn ins Avx2Field.pre_shuffle_AAAA) :
    ∃ outs, Dalek.Gen.Avx2Field.shuffle_AAAA.evalC ins = some outs ∧ Dalek.Gen.Avx2Field.shuffle_AAAA.evalW ins = outs ∧
      EnvIn outs Dalek.Gen.Norm.Avx2Field.shuffle_AAAA_post :=
  Prog.norm_safe Dalek.Gen.Norm.Avx2Field.shuffle_AAAA_norm_ok (itvsLe_refl _) hin

theorem shuffle_BBBB_safe (ins : List Nat) (hin : EnvIn ins Avx2Field.pre_shuffle_BBBB) :
    ∃ outs, Dalek.Gen.Avx2Field.shuffle_BBBB.evalC ins = some outs ∧ Dalek.Gen.Avx2Field.shuffle_BBBB.evalW ins = outs ∧
      EnvIn outs Dalek.Gen.Norm.Avx2Field.shuffle_BBBB_post :=
  Prog.norm_safe Dalek.Gen.Norm.Avx2Field.shuffle_BBBB_norm_ok (itvsLe_refl _) hin

theorem shuffle_CACA_safe (ins : List Nat) (hin : EnvIn ins Avx2Field.pre_shuffle_CACA) :
    ∃ outs, Dalek.Gen.Avx2Field.shuffle_CACA.evalC ins = some outs ∧ Dalek.Gen.Avx2Field.shuffle_CACA.evalW ins = outs ∧
      EnvIn outs Dalek.Gen.Norm.Avx2Field.shuffle_CACA_post :=
  Prog.norm_safe Dalek.Gen.Norm.Avx2Field.shuffle_CACA_norm_ok (itvsLe_refl _) hin

theorem shuffle_DBBD_safe (ins : List Nat) (hin : EnvIn ins Avx2Field.pre_shuffle_DBBD) :
    ∃ outs, Dalek.Gen.Avx2Field.shuffle_DBBD.evalC ins = some outs ∧ Dalek.Gen.Avx2Field.shuffle_DBBD.evalW ins = outs ∧
      EnvIn outs Dalek.Gen.Norm.Avx2Field.shuffle_DBBD_post :=
  Prog.norm_safe Dalek.Gen.Norm.Avx2Field.shuffle_DBBD_norm_ok (itvsLe_refl _) hin

theorem shuffle_ADDA_safe (ins : List Nat) (hin : EnvIn ins Avx2Field.pre_shuffle_ADDA) :
    ∃ outs, Dalek.Gen.Avx2Field.shuffle_ADDA.evalC ins = some outs ∧ Dalek.Gen.Avx2Field.shuffle_ADDA.evalW ins = outs ∧
      EnvIn outs Dalek.Gen.Norm.Avx2Field.shuffle_ADDA_post :=
  Prog.norm_safe Dalek.Gen.Norm.Avx2Field.shuffle_ADDA_norm_ok (itvsLe_refl _) hin

theorem shuffle_CBCB_safe (ins : List Nat) (hin : EnvIn ins Avx2Field.pre_shuffle_CBCB) :
    ∃ outs, Dalek.Gen.Avx2Field.shuffle_CBCB.evalC ins = some outs ∧ Dalek.Gen.Avx2Field.shuffle_CBCB.evalW ins = outs ∧
      EnvIn outs Dalek.Gen.Norm.Avx2Field.shuffle_CBCB_post :=
  Prog.norm_safe Dalek.Gen.Norm.Avx2Field.shuffle_CBCB_norm_ok (itvsLe_refl _) hin

theorem shuffle_ABAB_safe (ins : List Nat) (hin : EnvIn ins Avx2Field.pre_shuffle_ABAB) :
    ∃ outs, Dalek.Gen.Avx2Field.shuffle_ABAB.evalC ins = some outs ∧ Dalek.Gen.Avx2Field.shuffle_ABAB.evalW ins = outs ∧
      EnvIn outs Dalek.Gen.Norm.Avx2Field.shuffle_ABAB_post :=
  Prog.norm_safe Dalek.Gen.Norm.Avx2Field.shuffle_ABAB_norm_ok (itvsLe_refl _) hin

theorem shuffle_BADC_safe (ins : List Nat) (hin : EnvIn ins Avx2Field.pre_shuffle_BADC) :
    ∃ outs, Dalek.Gen.Avx2Field.shuffle_BADC.evalC ins = some outs ∧ Dalek.Gen.Avx2Field.shuffle_BADC.evalW ins = outs ∧
      EnvIn outs Dalek.Gen.Norm.Avx2Field.shuffle_BADC_post :=
  Prog.norm_safe Dalek.Gen.Norm.Avx2Field.shuffle_BADC_norm_ok (itvsLe_refl _) hin

theorem shuffle_BACD_safe (ins : List Nat) (hin : EnvIn ins Avx2Field.pre_shuffle_BACD) :
    ∃ outs, Dalek.Gen.Avx2Field.shuffle_BACD.evalC ins = some outs ∧ Dalek.Gen.Avx2Field.shuffle_BACD.evalW ins = outs ∧
      EnvIn outs Dalek.Gen.Norm.Avx2Field.shuffle_BACD_post :=
  Prog.norm_safe Dalek.Gen.Norm.Avx2Field.shuffle_BACD_norm_ok (itvsLe_refl _) hin

theorem shuffle_ABDC_safe (ins : List Nat) (hin : EnvIn ins Avx2Field.pre_shuffle_ABDC) :
    ∃ outs, Dalek.Gen.Avx2Field.shuffle_ABDC.evalC ins = some outs ∧ Dalek.Gen.Avx2Field.shuffle_ABDC.evalW ins = outs ∧
      EnvIn outs Dalek.Gen.Norm.Avx2Field.shuffle_ABDC_post :=
  Prog.norm_safe Dalek.Gen.Norm.Avx2Field.shuffle_ABDC_norm_ok (itvsLe_refl _) hin

theorem blend_C_safe (ins : List Nat) (hin : EnvIn ins Avx2Field.pre_blend_C) :
    ∃ outs, Dalek.Gen.Avx2Field.blend_C.evalC ins = some outs ∧ Dalek.Gen.Avx2Field.blend_C.evalW ins = outs ∧
      EnvIn outs Dalek.Gen.Norm.Avx2Field.blend_C_post :=
  Prog.norm_safe Dalek.Gen.Norm.Avx2Field.blend_C_norm_ok (itvsLe_refl _) hin

theorem blend_D_safe (ins : List Nat) (hin : EnvIn ins Avx2Field.pre_blend_D) :
    ∃ outs, Dalek.Gen.Avx2Field.blend_D.evalC ins = some outs ∧ Dalek.Gen.Avx2Field.blend_D.evalW ins = outs ∧
      EnvIn outs Dalek.Gen.Norm.Avx2Field.blend_D_post :=
  Prog.norm_safe Dalek.Gen.Norm.Avx2Field.blend_D_norm_ok (itvsLe_refl _) hin

theorem blend_AB_safe (ins : List Nat) (hin : EnvIn ins Avx2Field.pre_blend_AB) :
    ∃ outs, Dalek.Gen.Avx2Field.blend_AB.evalC ins = some outs ∧ Dalek.Gen.Avx2Field.blend_AB.evalW ins = outs ∧
      EnvIn outs Dalek.Gen.Norm.Avx2Field.blend_AB_post :=
  Prog.norm_safe Dalek.Gen.Norm.Avx2Field.blend_AB_norm_ok (itvsLe_refl _) hin

theorem blend_AC_safe (ins : List Nat) (hin : EnvIn ins Avx2Field.pre_blend_AC) :
    ∃ outs, Dalek.Gen.Avx2Field.blend_AC.evalC ins = some outs ∧ Dalek.Gen.Avx2Field.blend_AC.evalW ins = outs ∧
      EnvIn outs Dalek.Gen.Norm.Avx2Field.blend_AC_post :=
  Prog.norm_safe Dalek.Gen.Norm.Avx2Field.blend_AC_norm_ok (itvsLe_refl _) hin

theorem blend_CD_safe (ins : List Nat) (hin : EnvIn ins Avx2Field.pre_blend_CD) :
    ∃ outs, Dalek.Gen.Avx2Field.blend_CD.evalC ins = some outs ∧ Dalek.Gen.Avx2Field.blend_CD.evalW ins = outs ∧
      EnvIn outs Dalek.Gen.Norm.Avx2Field.blend_CD_post :=
  Prog.norm_safe Dalek.Gen.Norm.Avx2Field.blend_CD_norm_ok (itvsLe_refl _) hin

theorem blend_AD_safe (ins : List Nat) (hin : EnvIn ins Avx2Field.pre_blend_AD) :
    ∃ outs, Dalek.Gen.Avx2Field.blend_AD.evalC ins = some outs ∧ Dalek.Gen.Avx2Field.blend_AD.evalW ins = outs ∧
      EnvIn outs Dalek.Gen.Norm.Avx2Field.blend_AD_post :=
  Prog.norm_safe Dalek.Gen.Norm.Avx2Field.blend_AD_norm_ok (itvsLe_refl _) hin

theorem blend_BC_safe (ins : List Nat) (hin : EnvIn ins Avx2Field.pre_blend_BC) :
    ∃ outs, Dalek.Gen.Avx2Field.blend_BC.evalC ins = some outs ∧ Dalek.Gen.Avx2Field.blend_BC.evalW ins = outs ∧
      EnvIn outs Dalek.Gen.Norm.Avx2Field.blend_BC_post :=
  Prog.norm_safe Dalek.Gen.Norm.Avx2Field.blend_BC_norm_ok (itvsLe_refl _) hin

theorem blend_ABCD_safe (ins : List Nat) (hin : EnvIn ins Avx2Field.pre_blend_ABCD) :
    ∃ outs, Dalek.Gen.Avx2Field.blend_ABCD.evalC ins = some outs ∧ Dalek.Gen.Avx2Field.blend_ABCD.evalW ins = outs ∧
      EnvIn outs Dalek.Gen.Norm.Avx2Field.blend_ABCD_post :=
  Prog.norm_safe Dalek.Gen.Norm.Avx2Field.blend_ABCD_norm_ok (itvsLe_refl _) hin

/-! ## documented post-conditions -/

open Dalek.Proofs.Avx2Field (b0002 b007 b1 b16)

/-- `new`: four `FieldElement51` with limbs `< 2^54` ↦ vector bounded with `b < 0.0002` -/
theorem new_doc_post (ins : List Nat) (hin : EnvIn ins Avx2Field.pre_new) :
    ∃ outs, Dalek.Gen.Avx2Field.new.evalC ins = some outs ∧ Dalek.Gen.Avx2Field.new.evalW ins = outs ∧
      EnvIn outs b0002 :=
  Prog.norm_safe Dalek.Gen.Norm.Avx2Field.new_norm_ok (by decide +kernel) hin

/-- `reduce`: ANY forty u32 lanes ↦ `b < 0.0002` -/
theorem reduce_doc_post (ins : List Nat) (hin : EnvIn ins Avx2Field.pre_reduce) :
    ∃ outs, Dalek.Gen.Avx2Field.reduce.evalC ins = some outs ∧ Dalek.Gen.Avx2Field.reduce.evalW ins = outs ∧
      EnvIn outs b0002 :=
  Prog.norm_safe Dalek.Gen.Norm.Avx2Field.reduce_norm_ok (by decide +kernel) hin

/-- `-x`: every lane `≤` the lane of `(16p,16p,16p,16p)` ↦ `b < 0.0002` -/
theorem neg_doc_post (ins : List Nat) (hin : EnvIn ins Avx2Field.pre_neg) :
    ∃ outs, Dalek.Gen.Avx2Field.neg.evalC ins = some outs ∧ Dalek.Gen.Avx2Field.neg.evalW ins = outs ∧
      EnvIn outs b0002 :=
  Prog.norm_safe Dalek.Gen.Norm.Avx2Field.neg_norm_ok (by decide +kernel) hin

/-- `negate_lazy`: `b < 0.999` ↦ `b < 1` -/
theorem negate_lazy_doc_post (ins : List Nat) (hin : EnvIn ins Avx2Field.pre_negate_lazy) :
    ∃ outs, Dalek.Gen.Avx2Field.negate_lazy.evalC ins = some outs ∧ Dalek.Gen.Avx2Field.negate_lazy.evalW ins = outs ∧
      EnvIn outs b1 :=
  Prog.norm_safe Dalek.Gen.Norm.Avx2Field.negate_lazy_norm_ok (by decide +kernel) hin

/-- `diff_sum`: `b < 0.01` ↦ `b < 1.6` -/
theorem diff_sum_doc_post (ins : List Nat) (hin : EnvIn ins Avx2Field.pre_diff_sum) :
    ∃ outs, Dalek.Gen.Avx2Field.diff_sum.evalC ins = some outs ∧ Dalek.Gen.Avx2Field.diff_sum.evalW ins = outs ∧
      EnvIn outs b16 :=
  Prog.norm_safe Dalek.Gen.Norm.Avx2Field.diff_sum_norm_ok (by decide +kernel) hin

/-- `&x * &y`: `b_x < 2.5`, `b_y < 1.75` ↦ `b < 0.007` -/
theorem mul_doc_post (ins : List Nat) (hin : EnvIn ins Avx2Field.pre_mul) :
    ∃ outs, Dalek.Gen.Avx2Field.mul.evalC ins = some outs ∧ Dalek.Gen.Avx2Field.mul.evalW ins = outs ∧
      EnvIn outs b007 :=
  Prog.norm_safe Dalek.Gen.Norm.Avx2Field.mul_norm_ok (by decide +kernel) hin

/-- `square_and_negate_D`: `b < 1.5` ↦ `b < 0.007` -/
theorem square_and_negate_D_doc_post (ins : List Nat) (hin : EnvIn ins Avx2Field.pre_square_and_negate_D) :
    ∃ outs, Dalek.Gen.Avx2Field.square_and_negate_D.evalC ins = some outs ∧ Dalek.Gen.Avx2Field.square_and_negate_D.evalW ins = outs ∧
      EnvIn outs b007 :=
  Prog.norm_safe Dalek.Gen.Norm.Avx2Field.square_and_negate_D_norm_ok (by decide +kernel) hin

/-- `x * (s0,s1,s2,s3)`: any u32 lanes, scalars `< 2^31` ↦ `b < 0.007` -/
theorem mul_consts_doc_post (ins : List Nat) (hin : EnvIn ins Avx2Field.pre_mul_consts) :
    ∃ outs, Dalek.Gen.Avx2Field.mul_consts.evalC ins = some outs ∧ Dalek.Gen.Avx2Field.mul_consts.evalW ins = outs ∧
      EnvIn outs b007 :=
  Prog.norm_safe Dalek.Gen.Norm.Avx2Field.mul_consts_norm_ok (by decide +kernel) hin

/-- `reduce64`: wide coefficients `≤ 2^64 - 2^39` ↦ `b < 0.007` -/
theorem reduce64_doc_post (ins : List Nat) (hin : EnvIn ins Avx2Field.pre_reduce64) :
    ∃ outs, Dalek.Gen.Avx2Field.reduce64.evalC ins = some outs ∧ Dalek.Gen.Avx2Field.reduce64.evalW ins = outs ∧
      EnvIn outs b007 :=
  Prog.norm_safe Dalek.Gen.Norm.Avx2Field.reduce64_norm_ok (by decide +kernel) hin

/-- `split`: any forty u32 lanes ↦ four `FieldElement51` with limbs `< 2^59` -/
theorem split_doc_post (ins : List Nat) (hin : EnvIn ins Avx2Field.pre_split) :
    ∃ outs, Dalek.Gen.Avx2Field.split.evalC ins = some outs ∧ Dalek.Gen.Avx2Field.split.evalW ins = outs ∧
      EnvIn outs (rep 20 (ub (2 ^ 59 - 1))) :=
  Prog.norm_safe Dalek.Gen.Norm.Avx2Field.split_norm_ok (by decide +kernel) hin

/-! ## the post-conditions chain into the pre-conditions (the bounds the point formulas rely on) -/

/-- a reduced product (`b < 0.007`) is an admissible operand of everything: either operand of `mul`,
`square_and_negate_D`, `negate_lazy`, `diff_sum`, `neg`; a `diff_sum` result (`b < 1.6`) is an admissible
SECOND operand of `mul` (`b < 1.75`), a `negate_lazy` result (`b < 1`) of `square_and_negate_D` (`b < 1.5`) -/
theorem post_pre_chain :
    itvsLe (b007 ++ b007) Avx2Field.pre_mul = true ∧ itvsLe b007 Avx2Field.pre_square_and_negate_D = true ∧
    itvsLe b007 Avx2Field.pre_negate_lazy = true ∧ itvsLe b007 Avx2Field.pre_diff_sum = true ∧
    itvsLe b007 Avx2Field.pre_neg = true ∧ itvsLe (b007 ++ b16) Avx2Field.pre_mul = true ∧
    itvsLe b1 Avx2Field.pre_square_and_negate_D = true ∧ itvsLe b0002 b007 = true := by decide +kernel

/-! ## documentation vs. analysis -/

/-- generic form of `<k>_safe` for an alternative contract: the analyser accepts `pre` -/
theorem safe_of_norm (p : Prog) (pre : List Itv) (h : (p.norm pre).isSome = true) (ins : List Nat)
    (hin : EnvIn ins pre) : ∃ outs, p.evalC ins = some outs ∧ p.evalW ins = outs := by
  obtain ⟨⟨q, post⟩, e⟩ := Option.isSome_iff_exists.mp h
  obtain ⟨outs, h1, h2, _⟩ := Prog.norm_sound _ _ _ _ e ins hin
  exact ⟨outs, h1, h2⟩

/-- `Neg::neg` documents the pre-condition `b < 4.0`.  That is NOT sufficient: `16p − x` needs `x ≤ 16p` lane-wise,
and the lanes of `16p` are `2^30 − 304`, `2^30 − 16`, `2^29 − 16`, all `< 2^(26+4)` resp. `2^(25+4)`.  Witness: lane 0
equal to `2^30 − 1` (inside `b < 4.0`), all other lanes 0: the lane subtraction wraps (`evalC = none`) and the wrapping
(= real) semantics returns a vector whose element A is NOT the negation of the input (it is off by `2^32`). -/
theorem neg_documented_bound_insufficient :
    let ins : List Nat := (2 ^ 30 - 1) :: List.replicate 39 0
    EnvIn ins (Avx2Field.lanes 16 1) ∧ Dalek.Gen.Avx2Field.neg.evalC ins = none ∧
    (Dalek.Proofs.Field26.rep26 (Dalek.Proofs.Avx2Field.lane .A (toZ (Dalek.Gen.Avx2Field.neg.evalW ins)))
      + Dalek.Proofs.Field26.rep26 (Dalek.Proofs.Avx2Field.lane .A (toZ ins))) % ((2 ^ 255 - 19 : Nat) : Int) ≠ 0 := by
  decide +kernel

/-- ... while every excess up to `b < 3.99` (`2^3.99 = 15.889…`; indeed up to `b < 3.9999995`) is inside the exact
contract `pre_neg`, and so is everything the point formulas feed into `neg` -/
theorem neg_b399_ok : itvsLe (Avx2Field.lanes 15889 1000) Avx2Field.pre_neg = true := by decide +kernel

/-- `negate_lazy` / `diff_sum`: the exact requirement is lane `≤` lane of `(2p,2p,2p,2p)`; the documented `b < 0.999`
resp. `b < 0.01` are inside it (`b < 1` is not: `2^27 − 1 > 2^27 − 38`).  [The source comment justifying this says
"the smallest limb of 2*p is 67108845"; 67108845 `= 2^26 − 19` is the smallest limb of `p`, the smallest even limb of
`2p` is 134217690.  The conclusion is unaffected.] -/
theorem negate_lazy_exact :
    let p2 := Avx2Field.leVecs [Dalek.Gen.Consts.Avx2.P_TIMES_2_LO, Dalek.Gen.Consts.Avx2.P_TIMES_2_HI,
      Dalek.Gen.Consts.Avx2.P_TIMES_2_HI, Dalek.Gen.Consts.Avx2.P_TIMES_2_HI, Dalek.Gen.Consts.Avx2.P_TIMES_2_HI]
    (Dalek.Gen.Avx2Field.negate_lazy.norm p2).isSome = true ∧ (Dalek.Gen.Avx2Field.diff_sum.norm p2).isSome = true ∧
    itvsLe Avx2Field.pre_negate_lazy p2 = true ∧ itvsLe Avx2Field.pre_diff_sum p2 = true ∧
    (Dalek.Gen.Avx2Field.negate_lazy.norm (Avx2Field.lanes 2 1)).isSome = false := by
  simp only [Prog.norm_isSome]
  decide +kernel

/-- `reduce64` has no documented pre-condition and its comments argue with `z[i] < 2^64`; but arbitrary u64 lanes
make the carry additions wrap: the carry chain needs `z[i] ≤ 2^64 − 2^39` (the contract).  Witness: `z[0] = z[1] =
2^64 − 1` in element A. -/
theorem reduce64_needs_headroom :
    Dalek.Gen.Avx2Field.reduce64.evalC ((2 ^ 64 - 1) :: 0 :: 0 :: 0 :: (2 ^ 64 - 1) :: List.replicate 35 0) = none ∧
    (Dalek.Gen.Avx2Field.reduce64.norm (rep 40 (ub (2 ^ 64 - 1)))).isSome = false := by
  rw [Prog.norm_isSome]
  decide +kernel

/-- `Mul<(u32,u32,u32,u32)>` ("small constants", no documented bound): arbitrary u32 scalars on arbitrary u32 lanes
wrap inside `reduce64`; scalars `< 2^31` (the contract) or lanes with `b < 5` and scalars `≤ 2^32 − 256` do not -/
theorem mul_consts_headroom :
    Dalek.Gen.Avx2Field.mul_consts.evalC (List.replicate 44 (2 ^ 32 - 1)) = none ∧
    (Dalek.Gen.Avx2Field.mul_consts.norm (Avx2Field.lanes 32 1 ++ rep 4 (ub (2 ^ 32 - 1)))).isSome = true ∧
    (Dalek.Gen.Avx2Field.mul_consts.norm (Avx2Field.anyU32 ++ rep 4 (ub (2 ^ 32 - 256)))).isSome = true := by
  rw [Prog.norm_isSome, Prog.norm_isSome]
  decide +kernel

/-- `new`: the analysis also passes for `FieldElement51` limbs `< 2^58` (from `2^58` on, the `as u32` of the high half
`x >> 26` truncates: still no lane wrap, but a wrong value) -/
theorem new_headroom : (Dalek.Gen.Avx2Field.new.norm (rep 20 (ub (2 ^ 58 - 1)))).isSome = true := by
  rw [Prog.norm_isSome]
  decide +kernel

/-- `mul`: the source remarks that the bound `b_x < 2.5` "is slightly sloppy" since `b_y < 1.75` is needed anyway;
indeed the analysis passes with `(b_x, b_y) < (3.0, 1.75)` (and fails with `b_x < 3.58`, `2^3.58 = 11.96`) -/
theorem mul_bx_headroom :
    (Dalek.Gen.Avx2Field.mul.norm (Avx2Field.lanes 8 1 ++ Avx2Field.lanes 3363 1000)).isSome = true ∧
    (Dalek.Gen.Avx2Field.mul.norm (Avx2Field.lanes 12 1 ++ Avx2Field.lanes 3363 1000)).isSome = false := by
  rw [Prog.norm_isSome, Prog.norm_isSome]
  decide +kernel

/-- `square_and_negate_D`: the documented `b < 1.5` is conservative (it compares every `z_i` with the smallest limb
of `p·2^37`, which is only subtracted from the odd, smaller, `z_i`): no lane wraps up to `b < 1.75`; at `b < 2` the
D-lane subtraction can wrap -/
theorem square_headroom :
    (Dalek.Gen.Avx2Field.square_and_negate_D.norm (Avx2Field.lanes 3363 1000)).isSome = true ∧
    (Dalek.Gen.Avx2Field.square_and_negate_D.norm (Avx2Field.lanes 4 1)).isSome = false := by
  rw [Prog.norm_isSome, Prog.norm_isSome]
  decide +kernel

/-! Non-vacuity: the all-lanes-at-the-bound inputs are inside the contracts. -/
example : EnvIn (Avx2Field.pre_new.map (·.hi)) Avx2Field.pre_new := by decide +kernel
example : EnvIn (Avx2Field.pre_negate_lazy.map (·.hi)) Avx2Field.pre_negate_lazy := by decide +kernel
example : EnvIn (Avx2Field.pre_diff_sum.map (·.hi)) Avx2Field.pre_diff_sum := by decide +kernel
example : EnvIn (Avx2Field.pre_reduce.map (·.hi)) Avx2Field.pre_reduce := by decide +kernel
example : EnvIn (Avx2Field.pre_neg.map (·.hi)) Avx2Field.pre_neg := by decide +kernel
example : EnvIn (Avx2Field.pre_add.map (·.hi)) Avx2Field.pre_add := by decide +kernel
example : EnvIn (Avx2Field.pre_mul_consts.map (·.hi)) Avx2Field.pre_mul_consts := by decide +kernel
example : EnvIn (Avx2Field.pre_square_and_negate_D.map (·.hi)) Avx2Field.pre_square_and_negate_D := by decide +kernel
example : EnvIn (Avx2Field.pre_mul.map (·.hi)) Avx2Field.pre_mul := by decide +kernel
example : EnvIn (Avx2Field.pre_reduce64.map (·.hi)) Avx2Field.pre_reduce64 := by decide +kernel
example : EnvIn (Avx2Field.pre_conditional_select.map (·.hi)) Avx2Field.pre_conditional_select := by decide +kernel
example : EnvIn (Avx2Field.pre_blend_AB.map (·.hi)) Avx2Field.pre_blend_AB := by decide +kernel
example : EnvIn (Avx2Field.pre_shuffle_BADC.map (·.hi)) Avx2Field.pre_shuffle_BADC := by decide +kernel
example : EnvIn (Avx2Field.pre_split.map (·.hi)) Avx2Field.pre_split := by decide +kernel

end Dalek.Props.C11.Avx2
