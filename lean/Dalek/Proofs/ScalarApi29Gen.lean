import Dalek.Proofs.ScalarApiInvert
import Dalek.Model.ScalarKernels
/-!
# `Scalar` API glue over an abstract backend, part 1: the kernels as operations of the field `ZMod l`

`KernelsOk K`: the list-level value theorems of a backend `K : ScalarKernels` (limb contract `limbs`, value
function `val`, Montgomery radix `2^rexp`).  Everything that mentions a kernel is proved here for any `K` with
`KernelsOk K`; `Canonical`, `IsSc`, `F` and the backend-independent facts come from `Dalek/Proofs/ScalarApiAlgebra.lean`.
Instances: `ok52` (`Dalek/Proofs/ScalarApiKernels.lean`, 64-bit backend) and `ok29` (`Dalek/Proofs/ScalarApi29Kernels.lean`,
32-bit backend).  Helper lemmas for `Dalek/Props/C02/Api.lean` and `Api29.lean`.
-/
set_option exponentiation.threshold 600

namespace Dalek.Proofs.ScalarApiGen
open Dalek.IR Dalek.Model.Contracts Dalek.Gen.Consts
open Dalek.Model (ScalarKernels)
open Dalek.Model.FieldBytes (leVal natToLeN)
open Dalek.Props.C02.Scalar52 (l)
open Dalek.Proofs.ScalarApi (F Canonical IsSc l_pos l_lt_pow two_ne_zero_l eq_mod_of_cast cast_of_mod_eq
  leVal_lt_256_32 ZERO_isSc ONE_isSc)

/-- the value theorems of a backend, on limb LISTS (`val`: radix value of a limb list; `limbs`: the limb contract;
`wide`: the contract of the `montgomery_reduce` input; `2^rexp`: the Montgomery radix) -/
structure KernelsOk (K : ScalarKernels) where
  val : List Nat → Nat
  limbs : List Itv
  wide : List Itv
  rexp : Nat
  rexp_ge : 256 ≤ rexp
  fromBytes_ok : ∀ {b : List Nat}, EnvIn b (bytes 32) →
    EnvIn (K.fromBytes b) limbs ∧ val (K.fromBytes b) = leVal b
  fromBytesWide_ok : ∀ {b : List Nat}, EnvIn b (bytes 64) →
    EnvIn (K.fromBytesWide b) limbs ∧ val (K.fromBytesWide b) = leVal b % l
  asBytes_ok : ∀ {a : List Nat}, EnvIn a limbs → val a < 2 ^ 256 →
    EnvIn (K.asBytes a) (bytes 32) ∧ leVal (K.asBytes a) = val a
  add_ok : ∀ {a b : List Nat}, EnvIn a limbs → EnvIn b limbs → val a < l → val b < l →
    EnvIn (K.addU a b) limbs ∧ val (K.addU a b) = (val a + val b) % l
  sub_ok : ∀ {a b : List Nat}, EnvIn a limbs → EnvIn b limbs → val a < l → val b < l →
    EnvIn (K.subU a b) limbs ∧ val (K.subU a b) = (val a + l - val b) % l
  mul_ok : ∀ {a b : List Nat}, EnvIn a limbs → EnvIn b limbs → val a < l → val b < l →
    EnvIn (K.mulU a b) limbs ∧ val (K.mulU a b) = val a * val b % l
  mulInternal_ok : ∀ {a b : List Nat}, EnvIn a limbs → EnvIn b limbs →
    EnvIn (K.mulInternal a b) wide ∧ val (K.mulInternal a b) = val a * val b
  montgomeryReduce_ok : ∀ {z : List Nat}, EnvIn z wide → val z < 2 ^ rexp * l →
    EnvIn (K.montgomeryReduce z) limbs ∧ val (K.montgomeryReduce z) < l ∧
      val (K.montgomeryReduce z) * 2 ^ rexp % l = val z % l
  montgomeryMul_ok : ∀ {a b : List Nat}, EnvIn a limbs → EnvIn b limbs → val a < l → val b < l →
    EnvIn (K.montgomeryMul a b) limbs ∧ val (K.montgomeryMul a b) < l ∧
      val (K.montgomeryMul a b) * 2 ^ rexp % l = val a * val b % l
  montgomerySquare_ok : ∀ {a : List Nat}, EnvIn a limbs → val a < l →
    EnvIn (K.montgomerySquare a) limbs ∧ val (K.montgomerySquare a) < l ∧
      val (K.montgomerySquare a) * 2 ^ rexp % l = val a * val a % l
  asMontgomery_ok : ∀ {a : List Nat}, EnvIn a limbs →
    EnvIn (K.asMontgomery a) limbs ∧ val (K.asMontgomery a) = val a * 2 ^ rexp % l
  fromMontgomery_ok : ∀ {a : List Nat}, EnvIn a limbs →
    EnvIn (K.fromMontgomery a) limbs ∧ val (K.fromMontgomery a) < l ∧
      val (K.fromMontgomery a) * 2 ^ rexp % l = val a % l
  R_limbs : EnvIn K.R limbs
  R_value : val K.R = 2 ^ rexp % l
  ZERO_limbs : EnvIn K.ZERO limbs
  ZERO_val : val K.ZERO = 0

variable {K : ScalarKernels}

/-- the Montgomery radix in `ZMod l` -/
def Rm (ok : KernelsOk K) : F := 2 ^ ok.rexp

/-- canonical limbs representing `v` -/
def IsLm (ok : KernelsOk K) (a : List Nat) (v : F) : Prop :=
  EnvIn a ok.limbs ∧ ok.val a < l ∧ ((ok.val a : Nat) : F) = v

theorem Rm_ne_zero (ok : KernelsOk K) : Rm ok ≠ 0 := pow_ne_zero _ two_ne_zero_l

theorem cast_powR (ok : KernelsOk K) : ((2 ^ ok.rexp : Nat) : F) = Rm ok := by
  rw [Rm, Nat.cast_pow, Nat.cast_ofNat]

theorem cast_R (ok : KernelsOk K) : ((ok.val K.R : Nat) : F) = Rm ok := by
  rw [ok.R_value, ZMod.natCast_mod, cast_powR]

/-- cancel the Montgomery radix -/
theorem mul_Rm_cancel (ok : KernelsOk K) (x : F) : x * Rm ok * (Rm ok)⁻¹ = x := by
  rw [mul_assoc, mul_inv_cancel₀ (Rm_ne_zero ok), mul_one]

/-! ## `unpack`, `pack`, the kernels -/

/-- `unpack` of ANY 32 bytes: limbs whose value is the little-endian value -/
theorem unpack_any (ok : KernelsOk K) {b : List Nat} (hb : EnvIn b (bytes 32)) :
    EnvIn (K.unpack b) ok.limbs ∧ ok.val (K.unpack b) = leVal b ∧ ok.val (K.unpack b) < 2 ^ 256 := by
  obtain ⟨h1, h2⟩ := ok.fromBytes_ok hb
  exact ⟨h1, h2, by rw [show ok.val (K.unpack b) = leVal b from h2]; exact leVal_lt_256_32 hb⟩

/-- `pack` of limbs with value `< 2^256` -/
theorem pack_ok (ok : KernelsOk K) {a : List Nat} (ha : EnvIn a ok.limbs) (hv : ok.val a < 2 ^ 256) :
    EnvIn (K.pack a) (bytes 32) ∧ leVal (K.pack a) = ok.val a := ok.asBytes_ok ha hv

theorem toLimbs (ok : KernelsOk K) {b : List Nat} {v : F} (h : IsSc b v) : IsLm ok (K.unpack b) v := by
  obtain ⟨h1, h2, -⟩ := unpack_any ok h.1.1
  exact ⟨h1, by rw [h2]; exact h.1.2, by rw [h2]; exact h.2⟩

theorem IsLm.toBytes {ok : KernelsOk K} {a : List Nat} {v : F} (h : IsLm ok a v) : IsSc (K.pack a) v := by
  obtain ⟨h1, h2⟩ := pack_ok ok h.1 (lt_trans h.2.1 (by norm_num [l]))
  exact ⟨⟨h1, by rw [show leVal (K.pack a) = ok.val a from h2]; exact h.2.1⟩,
    by rw [show leVal (K.pack a) = ok.val a from h2]; exact h.2.2⟩

/-- `as_montgomery` of ANY limbs inside the contract -/
theorem asMontgomery_any (ok : KernelsOk K) {a : List Nat} (ha : EnvIn a ok.limbs) :
    IsLm ok (K.asMontgomery a) (((ok.val a : Nat) : F) * Rm ok) := by
  obtain ⟨h1, h2⟩ := ok.asMontgomery_ok ha
  refine ⟨h1, by rw [h2]; exact Nat.mod_lt _ l_pos, ?_⟩
  rw [h2, ZMod.natCast_mod, Nat.cast_mul, cast_powR]

theorem IsLm.asMontgomery {ok : KernelsOk K} {a : List Nat} {v : F} (h : IsLm ok a v) :
    IsLm ok (K.asMontgomery a) (v * Rm ok) := by
  have := asMontgomery_any ok h.1
  rwa [h.2.2] at this

/-- `from_montgomery` of ANY limbs inside the contract -/
theorem fromMontgomery_any (ok : KernelsOk K) {a : List Nat} (ha : EnvIn a ok.limbs) :
    IsLm ok (K.fromMontgomery a) (((ok.val a : Nat) : F) * (Rm ok)⁻¹) := by
  obtain ⟨h1, h2, h3⟩ := ok.fromMontgomery_ok ha
  refine ⟨h1, h2, ?_⟩
  have := cast_of_mod_eq h3
  rw [Nat.cast_mul, cast_powR] at this
  rw [← this, mul_Rm_cancel]

theorem IsLm.fromMontgomery {ok : KernelsOk K} {a : List Nat} {v : F} (h : IsLm ok a v) :
    IsLm ok (K.fromMontgomery a) (v * (Rm ok)⁻¹) := by
  have := fromMontgomery_any ok h.1
  rwa [h.2.2] at this

theorem IsLm.montgomeryMul {ok : KernelsOk K} {a b : List Nat} {u v : F} (ha : IsLm ok a u) (hb : IsLm ok b v) :
    IsLm ok (K.montgomeryMul a b) (u * v * (Rm ok)⁻¹) := by
  obtain ⟨h1, h2, h3⟩ := ok.montgomeryMul_ok ha.1 hb.1 ha.2.1 hb.2.1
  refine ⟨h1, h2, ?_⟩
  have := cast_of_mod_eq h3
  rw [Nat.cast_mul, cast_powR, Nat.cast_mul, ha.2.2, hb.2.2] at this
  rw [← this, mul_Rm_cancel]

theorem IsLm.montgomerySquare {ok : KernelsOk K} {a : List Nat} {u : F} (ha : IsLm ok a u) :
    IsLm ok (K.montgomerySquare a) (u * u * (Rm ok)⁻¹) := by
  obtain ⟨h1, h2, h3⟩ := ok.montgomerySquare_ok ha.1 ha.2.1
  refine ⟨h1, h2, ?_⟩
  have := cast_of_mod_eq h3
  rw [Nat.cast_mul, cast_powR, Nat.cast_mul, ha.2.2] at this
  rw [← this, mul_Rm_cancel]

theorem IsLm.add {ok : KernelsOk K} {a b : List Nat} {u v : F} (ha : IsLm ok a u) (hb : IsLm ok b v) :
    IsLm ok (K.addU a b) (u + v) := by
  obtain ⟨h1, h2⟩ := ok.add_ok ha.1 hb.1 ha.2.1 hb.2.1
  refine ⟨h1, by rw [h2]; exact Nat.mod_lt _ l_pos, ?_⟩
  rw [h2, ZMod.natCast_mod, Nat.cast_add, ha.2.2, hb.2.2]

theorem IsLm.sub {ok : KernelsOk K} {a b : List Nat} {u v : F} (ha : IsLm ok a u) (hb : IsLm ok b v) :
    IsLm ok (K.subU a b) (u - v) := by
  obtain ⟨h1, h2⟩ := ok.sub_ok ha.1 hb.1 ha.2.1 hb.2.1
  refine ⟨h1, by rw [h2]; exact Nat.mod_lt _ l_pos, ?_⟩
  have e : ok.val a + l - ok.val b = ok.val a + (l - ok.val b) := by have := hb.2.1; omega
  rw [h2, ZMod.natCast_mod, e, Nat.cast_add, Nat.cast_sub hb.2.1.le, ZMod.natCast_self, ha.2.2, hb.2.2]
  ring

theorem IsLm.mul {ok : KernelsOk K} {a b : List Nat} {u v : F} (ha : IsLm ok a u) (hb : IsLm ok b v) :
    IsLm ok (K.mulU a b) (u * v) := by
  obtain ⟨h1, h2⟩ := ok.mul_ok ha.1 hb.1 ha.2.1 hb.2.1
  refine ⟨h1, by rw [h2]; exact Nat.mod_lt _ l_pos, ?_⟩
  rw [h2, ZMod.natCast_mod, Nat.cast_mul, ha.2.2, hb.2.2]

theorem ZERO_isLm (ok : KernelsOk K) : IsLm ok K.ZERO 0 :=
  ⟨ok.ZERO_limbs, by rw [ok.ZERO_val]; exact l_pos, by rw [ok.ZERO_val]; simp⟩

/-- `montgomery_reduce(mul_internal(x, R))` for ANY limbs `x` with value `< 2^256`: the canonical limbs of `x mod l`
(the body of `reduce` and the first two steps of `Neg`) -/
theorem montReduce_mulR (ok : KernelsOk K) {a : List Nat} (ha : EnvIn a ok.limbs) (hv : ok.val a < 2 ^ 256) :
    IsLm ok (K.montgomeryReduce (K.mulInternal a K.R)) ((ok.val a : Nat) : F) := by
  obtain ⟨h1, h2⟩ := ok.mulInternal_ok ha ok.R_limbs
  have hR : ok.val K.R < l := by rw [ok.R_value]; exact Nat.mod_lt _ l_pos
  have hN : ok.val (K.mulInternal a K.R) < 2 ^ ok.rexp * l := by
    rw [h2]
    exact Nat.mul_lt_mul'' (lt_of_lt_of_le hv (Nat.pow_le_pow_right (by norm_num) ok.rexp_ge)) hR
  obtain ⟨h3, h4, h5⟩ := ok.montgomeryReduce_ok h1 hN
  refine ⟨h3, h4, ?_⟩
  have := cast_of_mod_eq h5
  rw [h2, Nat.cast_mul, Nat.cast_mul, cast_powR, cast_R] at this
  exact mul_right_cancel₀ (Rm_ne_zero ok) this

/-! ## the API functions -/

theorem reduce_isSc (ok : KernelsOk K) {b : List Nat} (hb : EnvIn b (bytes 32)) :
    IsSc (K.reduce b) ((leVal b : Nat) : F) := by
  obtain ⟨h1, h2, h3⟩ := unpack_any ok hb
  have := (montReduce_mulR ok h1 h3).toBytes
  rwa [h2] at this

theorem wide_isSc (ok : KernelsOk K) {b : List Nat} (hb : EnvIn b (bytes 64)) :
    IsSc (K.fromBytesModOrderWide b) ((leVal b : Nat) : F) := by
  obtain ⟨h1, h2⟩ := ok.fromBytesWide_ok hb
  have : IsLm ok (K.fromBytesWide b) ((leVal b : Nat) : F) :=
    ⟨h1, by rw [h2]; exact Nat.mod_lt _ l_pos, by rw [h2, ZMod.natCast_mod]⟩
  exact this.toBytes

theorem add_isSc (ok : KernelsOk K) {a b : List Nat} {u v : F} (ha : IsSc a u) (hb : IsSc b v) :
    IsSc (K.add a b) (u + v) :=
  ((toLimbs ok ha).add (toLimbs ok hb)).toBytes

theorem sub_isSc (ok : KernelsOk K) {a b : List Nat} {u v : F} (ha : IsSc a u) (hb : IsSc b v) :
    IsSc (K.sub a b) (u - v) :=
  ((toLimbs ok ha).sub (toLimbs ok hb)).toBytes

theorem mul_isSc (ok : KernelsOk K) {a b : List Nat} {u v : F} (ha : IsSc a u) (hb : IsSc b v) :
    IsSc (K.mul a b) (u * v) :=
  ((toLimbs ok ha).mul (toLimbs ok hb)).toBytes

/-- `Neg` of ANY 32 bytes (it reduces first) -/
theorem neg_any (ok : KernelsOk K) {b : List Nat} (hb : EnvIn b (bytes 32)) :
    IsSc (K.neg b) (-((leVal b : Nat) : F)) := by
  obtain ⟨h1, h2, h3⟩ := unpack_any ok hb
  have h := ((ZERO_isLm ok).sub (montReduce_mulR ok h1 h3)).toBytes
  rw [h2, zero_sub] at h
  exact h

theorem neg_isSc (ok : KernelsOk K) {a : List Nat} {u : F} (ha : IsSc a u) : IsSc (K.neg a) (-u) := by
  have := neg_any ok ha.1.1
  rwa [ha.2] at this

theorem sum_isSc (ok : KernelsOk K) : ∀ {bs : List (List Nat)} {xs : List F} {acc : List Nat} {a : F},
    List.Forall₂ IsSc bs xs → IsSc acc a →
    IsSc (bs.foldl (fun acc item => K.add acc item) acc) (a + xs.sum)
  | _, _, _, _, .nil, ha => by simpa using ha
  | _, _, _, _, .cons hb hbs, ha => by
      simp only [List.foldl_cons, List.sum_cons]
      rw [← add_assoc]
      exact sum_isSc ok hbs (add_isSc ok ha hb)

theorem product_isSc (ok : KernelsOk K) : ∀ {bs : List (List Nat)} {xs : List F} {acc : List Nat} {a : F},
    List.Forall₂ IsSc bs xs → IsSc acc a →
    IsSc (bs.foldl (fun acc item => K.mul acc item) acc) (a * xs.prod)
  | _, _, _, _, .nil, ha => by simpa using ha
  | _, _, _, _, .cons hb hbs, ha => by
      simp only [List.foldl_cons, List.prod_cons]
      rw [← mul_assoc]
      exact product_isSc ok hbs (mul_isSc ok ha hb)

end Dalek.Proofs.ScalarApiGen
