import Dalek.Proofs.Scalar29.Montgomery
import Dalek.Proofs.Primes
/-! # Scalar29: compositions `montgomery_reduce ∘ mul_internal` (shallow-function level), `montgomery_square`,
`from_montgomery`, and the arithmetic in `ZMod l` with `R = 2^261` -/
set_option exponentiation.threshold 600
set_option maxRecDepth 100000

namespace Dalek.Proofs.Scalar29
open Dalek.IR Dalek.Gen.Norm.Scalar29 Dalek.Gen.Consts
open Dalek.Proofs.Scalar52 (Lim ell ell_eq ell_eqZ)

/-- apply a 17-argument function to a 17-element list -/
def ap17 (f : Int → Int → Int → Int → Int → Int → Int → Int → Int → Int → Int → Int → Int → Int → Int → Int → Int → List Int) : List Int → List Int
  | [z0, z1, z2, z3, z4, z5, z6, z7, z8, z9, z10, z11, z12, z13, z14, z15, z16] => f z0 z1 z2 z3 z4 z5 z6 z7 z8 z9 z10 z11 z12 z13 z14 z15 z16
  | _ => []

/-- apply a 9-argument function to a 9-element list -/
def ap9 (f : Int → Int → Int → Int → Int → Int → Int → Int → Int → List Int) : List Int → List Int
  | [a0, a1, a2, a3, a4, a5, a6, a7, a8] => f a0 a1 a2 a3 a4 a5 a6 a7 a8
  | _ => []

/-- `mul_internal(·, RR)` with the literal limbs of `constants::RR` -/
def mulRR (c0 c1 c2 c3 c4 c5 c6 c7 c8 : Int) : List Int := mul_internal_fn c0 c1 c2 c3 c4 c5 c6 c7 c8 190815506 504634135 361594685 339687255 426956673 70249340 485410621 504909086 328813
/-- `mul_internal(·, R)` with the literal limbs of `constants::R` -/
def mulR (c0 c1 c2 c3 c4 c5 c6 c7 c8 : Int) : List Int := mul_internal_fn c0 c1 c2 c3 c4 c5 c6 c7 c8 290322925 442594051 259787148 377041255 536700270 536870911 536870911 536870911 1048575

theorem RR_literal : toZ U32.RR = [190815506, 504634135, 361594685, 339687255, 426956673, 70249340, 485410621, 504909086, 328813] := rfl
theorem R_literal : toZ U32.R = [290322925, 442594051, 259787148, 377041255, 536700270, 536870911, 536870911, 536870911, 1048575] := rfl

/-! ## structural equalities (by `rfl`) -/

/-- `montgomery_reduce` with the standard first factor and a parameter for the final `carry as u32` -/
def mrStd (top : Int → Int) (z0 z1 z2 z3 z4 z5 z6 z7 z8 z9 z10 z11 z12 z13 z14 z15 z16 : Int) : List Int :=
  mrTail z0 z1 z2 z3 z4 z5 z6 z7 z8 z9 z10 z11 z12 z13 z14 z15 z16 ((((z0 % 2 ^ 32) * 307527195) % 2 ^ 32) % 2 ^ 29) top

theorem mrStd_spec (top : Int → Int) (htop : ∀ c : Int, 0 ≤ c → c < 2 ^ 29 → top c = c) (z0 z1 z2 z3 z4 z5 z6 z7 z8 z9 z10 z11 z12 z13 z14 z15 z16 : Int)
    (hz : Lim W1 [z0, z1, z2, z3, z4, z5, z6, z7, z8, z9, z10, z11, z12, z13, z14, z15, z16])
    (hN : repZ [z0, z1, z2, z3, z4, z5, z6, z7, z8, z9, z10, z11, z12, z13, z14, z15, z16] < 2 ^ 261 * ell) :
    ∃ o0 o1 o2 o3 o4 o5 o6 o7 o8, mrStd top z0 z1 z2 z3 z4 z5 z6 z7 z8 z9 z10 z11 z12 z13 z14 z15 z16 = [o0, o1, o2, o3, o4, o5, o6, o7, o8] ∧
      Lim (2 ^ 29) [o0, o1, o2, o3, o4, o5, o6, o7, o8] ∧
      (0 ≤ repZ [o0, o1, o2, o3, o4, o5, o6, o7, o8] ∧ repZ [o0, o1, o2, o3, o4, o5, o6, o7, o8] < ell) ∧
      (ell : Int) ∣ repZ [o0, o1, o2, o3, o4, o5, o6, o7, o8] * 2 ^ 261 - repZ [z0, z1, z2, z3, z4, z5, z6, z7, z8, z9, z10, z11, z12, z13, z14, z15, z16] :=
  mrTail_spec _ _ _ _ _ _ _ _ _ _ _ _ _ _ _ _ _ _ top htop rfl hz hN

/-- in `montgomery_square` the translator knows that the last carry fits in a `u32` (no truncation emitted) -/
theorem montgomery_square_fn_eq (a0 a1 a2 a3 a4 a5 a6 a7 a8 : Int) :
    montgomery_square_fn a0 a1 a2 a3 a4 a5 a6 a7 a8 = ap17 (mrStd (fun c => c)) (square_internal_fn a0 a1 a2 a3 a4 a5 a6 a7 a8) := by
  kernel_rfl

/-- in `from_montgomery` the translator knows `limbs[0] < 2^32` and drops the first `as u32`, and it knows that
the last carry fits in a `u32` -/
theorem from_montgomery_fn_eq (a0 a1 a2 a3 a4 a5 a6 a7 a8 : Int) :
    from_montgomery_fn a0 a1 a2 a3 a4 a5 a6 a7 a8
      = mrTail a0 a1 a2 a3 a4 a5 a6 a7 a8 0 0 0 0 0 0 0 0 (((a0 * 307527195) % 2 ^ 32) % 2 ^ 29) (fun c => c) := by
  kernel_rfl

/-! ## arithmetic in `ZMod l` -/

theorem two_pow_ne_zero : ((2 : ZMod ell) ^ 261) ≠ 0 := by
  apply pow_ne_zero
  have h : ((2 : Nat) : ZMod ell) ≠ 0 := by
    rw [Ne, ZMod.natCast_eq_zero_iff]
    exact Nat.not_dvd_of_pos_of_lt (by norm_num) (by norm_num [ell])
  exact_mod_cast h

theorem zmod_of_dvd {o N : Int} (h : (ell : Int) ∣ o * 2 ^ 261 - N) :
    (o : ZMod ell) * 2 ^ 261 = (N : ZMod ell) := by
  have := (ZMod.intCast_eq_intCast_iff_dvd_sub N (o * 2 ^ 261) ell).2 h
  rw [this]; push_cast; ring

theorem eq_emod_of_zmod {o X : Int} (h0 : 0 ≤ o) (h1 : o < ell) (h : (o : ZMod ell) = (X : ZMod ell)) :
    o = X % ell := by
  have := (ZMod.intCast_eq_intCast_iff' o X ell).1 h
  rwa [Int.emod_eq_of_lt h0 h1] at this

theorem repZ_RR : repZ [190815506, 504634135, 361594685, 339687255, 426956673, 70249340, 485410621, 504909086, 328813] = (((2 ^ 261) ^ 2 % ell : Nat) : Int) := by
  rw [← val29_RR, ← repZ_toZ, RR_literal]

theorem repZ_R : repZ [290322925, 442594051, 259787148, 377041255, 536700270, 536870911, 536870911, 536870911, 1048575] = ((2 ^ 261 % ell : Nat) : Int) := by
  rw [← val29_R, ← repZ_toZ, R_literal]

theorem RR_zmod : ((repZ [190815506, 504634135, 361594685, 339687255, 426956673, 70249340, 485410621, 504909086, 328813] : Int) : ZMod ell) = (2 ^ 261) ^ 2 := by
  rw [repZ_RR, Int.cast_natCast, ZMod.natCast_mod]; push_cast; rfl

theorem R_zmod : ((repZ [290322925, 442594051, 259787148, 377041255, 536700270, 536870911, 536870911, 536870911, 1048575] : Int) : ZMod ell) = 2 ^ 261 := by
  rw [repZ_R, Int.cast_natCast, ZMod.natCast_mod]; push_cast; rfl

theorem RR_lim_lit : Lim (2 ^ 29) [190815506, 504634135, 361594685, 339687255, 426956673, 70249340, 485410621, 504909086, 328813] := by simp only [Lim]; norm_num
theorem R_lim_lit : Lim (2 ^ 29) [290322925, 442594051, 259787148, 377041255, 536700270, 536870911, 536870911, 536870911, 1048575] := by simp only [Lim]; norm_num

theorem RR_canon : (0 : Int) ≤ repZ [190815506, 504634135, 361594685, 339687255, 426956673, 70249340, 485410621, 504909086, 328813] ∧ repZ [190815506, 504634135, 361594685, 339687255, 426956673, 70249340, 485410621, 504909086, 328813] < ell := by
  rw [repZ_RR]
  exact ⟨Int.natCast_nonneg _, by exact_mod_cast Nat.mod_lt _ (by norm_num [ell])⟩

theorem R_canon : (0 : Int) ≤ repZ [290322925, 442594051, 259787148, 377041255, 536700270, 536870911, 536870911, 536870911, 1048575] ∧ repZ [290322925, 442594051, 259787148, 377041255, 536700270, 536870911, 536870911, 536870911, 1048575] < ell := by
  rw [repZ_R]
  exact ⟨Int.natCast_nonneg _, by exact_mod_cast Nat.mod_lt _ (by norm_num [ell])⟩

theorem mul_lt_of_lt_pow {A B : Int} (hA : A < 2 ^ 261) (hB0 : 0 ≤ B) (hB : B < ell) :
    A * B < 2 ^ 261 * ell := by
  rcases hB0.eq_or_lt with h | h
  · rw [← h]; norm_num [ell]
  · exact Int.mul_lt_mul hA (le_of_lt hB) h (by norm_num)

/-! ## `montgomery_reduce ∘ mul_internal` -/

/-- `montgomery_reduce(mul_internal(a, b))` for `a·b < 2^261·l`: canonical `o` with `o·2^261 = a·b` in `ZMod l` -/
theorem mr_mi_spec (a0 a1 a2 a3 a4 a5 a6 a7 a8 b0 b1 b2 b3 b4 b5 b6 b7 b8 : Int)
    (ha : Lim (2 ^ 29) [a0, a1, a2, a3, a4, a5, a6, a7, a8]) (hb : Lim (2 ^ 29) [b0, b1, b2, b3, b4, b5, b6, b7, b8])
    (hab : repZ [a0, a1, a2, a3, a4, a5, a6, a7, a8] * repZ [b0, b1, b2, b3, b4, b5, b6, b7, b8] < 2 ^ 261 * ell) :
    ∃ o0 o1 o2 o3 o4 o5 o6 o7 o8, ap17 montgomery_reduce_fn (mul_internal_fn a0 a1 a2 a3 a4 a5 a6 a7 a8 b0 b1 b2 b3 b4 b5 b6 b7 b8) = [o0, o1, o2, o3, o4, o5, o6, o7, o8] ∧
      Lim (2 ^ 29) [o0, o1, o2, o3, o4, o5, o6, o7, o8] ∧ (0 ≤ repZ [o0, o1, o2, o3, o4, o5, o6, o7, o8] ∧ repZ [o0, o1, o2, o3, o4, o5, o6, o7, o8] < ell) ∧
      ((repZ [o0, o1, o2, o3, o4, o5, o6, o7, o8] : Int) : ZMod ell) * 2 ^ 261
        = ((repZ [a0, a1, a2, a3, a4, a5, a6, a7, a8] : Int) : ZMod ell) * ((repZ [b0, b1, b2, b3, b4, b5, b6, b7, b8] : Int) : ZMod ell) := by
  obtain ⟨z0, z1, z2, z3, z4, z5, z6, z7, z8, z9, z10, z11, z12, z13, z14, z15, z16, hz, hzl, hzv⟩ := mul_internal_fn_spec a0 a1 a2 a3 a4 a5 a6 a7 a8 b0 b1 b2 b3 b4 b5 b6 b7 b8 ha hb
  rw [hz]
  obtain ⟨o0, o1, o2, o3, o4, o5, o6, o7, o8, he, hl, hc, hd⟩ := montgomery_reduce_fn_spec z0 z1 z2 z3 z4 z5 z6 z7 z8 z9 z10 z11 z12 z13 z14 z15 z16 hzl (by rw [hzv]; exact hab)
  refine ⟨o0, o1, o2, o3, o4, o5, o6, o7, o8, he, hl, hc, ?_⟩
  rw [zmod_of_dvd hd, hzv]; push_cast; rfl

/-- `montgomery_reduce(mul_internal(c, RR))`: canonical representative of `c·2^261` (any 29-bit limbs `c`) -/
theorem mr_mulRR_spec (c0 c1 c2 c3 c4 c5 c6 c7 c8 : Int) (hc : Lim (2 ^ 29) [c0, c1, c2, c3, c4, c5, c6, c7, c8]) :
    ∃ o0 o1 o2 o3 o4 o5 o6 o7 o8, ap17 montgomery_reduce_fn (mulRR c0 c1 c2 c3 c4 c5 c6 c7 c8) = [o0, o1, o2, o3, o4, o5, o6, o7, o8] ∧
      Lim (2 ^ 29) [o0, o1, o2, o3, o4, o5, o6, o7, o8] ∧ (0 ≤ repZ [o0, o1, o2, o3, o4, o5, o6, o7, o8] ∧ repZ [o0, o1, o2, o3, o4, o5, o6, o7, o8] < ell) ∧
      ((repZ [o0, o1, o2, o3, o4, o5, o6, o7, o8] : Int) : ZMod ell) = ((repZ [c0, c1, c2, c3, c4, c5, c6, c7, c8] : Int) : ZMod ell) * 2 ^ 261 := by
  obtain ⟨_, hC⟩ := repZ9_bd c0 c1 c2 c3 c4 c5 c6 c7 c8 hc
  obtain ⟨o0, o1, o2, o3, o4, o5, o6, o7, o8, he, hl, hcan, hv⟩ := mr_mi_spec c0 c1 c2 c3 c4 c5 c6 c7 c8 _ _ _ _ _ _ _ _ _ hc RR_lim_lit
    (mul_lt_of_lt_pow hC RR_canon.1 RR_canon.2)
  refine ⟨o0, o1, o2, o3, o4, o5, o6, o7, o8, he, hl, hcan, ?_⟩
  rw [RR_zmod] at hv
  apply mul_right_cancel₀ two_pow_ne_zero
  rw [hv]; ring

/-- `montgomery_reduce(mul_internal(c, R))`: the canonical representative of `c` (any 29-bit limbs `c`) -/
theorem mr_mulR_spec (c0 c1 c2 c3 c4 c5 c6 c7 c8 : Int) (hc : Lim (2 ^ 29) [c0, c1, c2, c3, c4, c5, c6, c7, c8]) :
    ∃ o0 o1 o2 o3 o4 o5 o6 o7 o8, ap17 montgomery_reduce_fn (mulR c0 c1 c2 c3 c4 c5 c6 c7 c8) = [o0, o1, o2, o3, o4, o5, o6, o7, o8] ∧
      Lim (2 ^ 29) [o0, o1, o2, o3, o4, o5, o6, o7, o8] ∧ (0 ≤ repZ [o0, o1, o2, o3, o4, o5, o6, o7, o8] ∧ repZ [o0, o1, o2, o3, o4, o5, o6, o7, o8] < ell) ∧
      ((repZ [o0, o1, o2, o3, o4, o5, o6, o7, o8] : Int) : ZMod ell) = ((repZ [c0, c1, c2, c3, c4, c5, c6, c7, c8] : Int) : ZMod ell) := by
  obtain ⟨_, hC⟩ := repZ9_bd c0 c1 c2 c3 c4 c5 c6 c7 c8 hc
  obtain ⟨o0, o1, o2, o3, o4, o5, o6, o7, o8, he, hl, hcan, hv⟩ := mr_mi_spec c0 c1 c2 c3 c4 c5 c6 c7 c8 _ _ _ _ _ _ _ _ _ hc R_lim_lit
    (mul_lt_of_lt_pow hC R_canon.1 R_canon.2)
  refine ⟨o0, o1, o2, o3, o4, o5, o6, o7, o8, he, hl, hcan, ?_⟩
  rw [R_zmod] at hv
  exact mul_right_cancel₀ two_pow_ne_zero hv

/-! ## registered composed kernels -/

theorem montgomery_square_fn_spec (a0 a1 a2 a3 a4 a5 a6 a7 a8 : Int) (ha : Lim (2 ^ 29) [a0, a1, a2, a3, a4, a5, a6, a7, a8])
    (hab : repZ [a0, a1, a2, a3, a4, a5, a6, a7, a8] * repZ [a0, a1, a2, a3, a4, a5, a6, a7, a8] < 2 ^ 261 * ell) :
    ∃ o0 o1 o2 o3 o4 o5 o6 o7 o8, montgomery_square_fn a0 a1 a2 a3 a4 a5 a6 a7 a8 = [o0, o1, o2, o3, o4, o5, o6, o7, o8] ∧
      Lim (2 ^ 29) [o0, o1, o2, o3, o4, o5, o6, o7, o8] ∧ (0 ≤ repZ [o0, o1, o2, o3, o4, o5, o6, o7, o8] ∧ repZ [o0, o1, o2, o3, o4, o5, o6, o7, o8] < ell) ∧
      ((repZ [o0, o1, o2, o3, o4, o5, o6, o7, o8] : Int) : ZMod ell) * 2 ^ 261
        = ((repZ [a0, a1, a2, a3, a4, a5, a6, a7, a8] : Int) : ZMod ell) * ((repZ [a0, a1, a2, a3, a4, a5, a6, a7, a8] : Int) : ZMod ell) := by
  rw [montgomery_square_fn_eq, square_internal_fn_eq]
  obtain ⟨z0, z1, z2, z3, z4, z5, z6, z7, z8, z9, z10, z11, z12, z13, z14, z15, z16, hz, hzl, hzv⟩ := school_spec a0 a1 a2 a3 a4 a5 a6 a7 a8 a0 a1 a2 a3 a4 a5 a6 a7 a8 ha ha
  rw [hz]
  obtain ⟨o0, o1, o2, o3, o4, o5, o6, o7, o8, he, hl, hc, hd⟩ := mrStd_spec (fun c => c) (fun _ _ _ => rfl) z0 z1 z2 z3 z4 z5 z6 z7 z8 z9 z10 z11 z12 z13 z14 z15 z16 hzl (by rw [hzv]; exact hab)
  refine ⟨o0, o1, o2, o3, o4, o5, o6, o7, o8, he, hl, hc, ?_⟩
  rw [zmod_of_dvd hd, hzv]; push_cast; rfl

theorem from_montgomery_fn_spec (a0 a1 a2 a3 a4 a5 a6 a7 a8 : Int) (ha : Lim (2 ^ 29) [a0, a1, a2, a3, a4, a5, a6, a7, a8]) :
    ∃ o0 o1 o2 o3 o4 o5 o6 o7 o8, from_montgomery_fn a0 a1 a2 a3 a4 a5 a6 a7 a8 = [o0, o1, o2, o3, o4, o5, o6, o7, o8] ∧
      Lim (2 ^ 29) [o0, o1, o2, o3, o4, o5, o6, o7, o8] ∧ (0 ≤ repZ [o0, o1, o2, o3, o4, o5, o6, o7, o8] ∧ repZ [o0, o1, o2, o3, o4, o5, o6, o7, o8] < ell) ∧
      ((repZ [o0, o1, o2, o3, o4, o5, o6, o7, o8] : Int) : ZMod ell) * 2 ^ 261 = ((repZ [a0, a1, a2, a3, a4, a5, a6, a7, a8] : Int) : ZMod ell) := by
  rw [from_montgomery_fn_eq]
  obtain ⟨hA0, hA⟩ := repZ9_bd a0 a1 a2 a3 a4 a5 a6 a7 a8 ha
  have hrep : repZ [a0, a1, a2, a3, a4, a5, a6, a7, a8, 0, 0, 0, 0, 0, 0, 0, 0] = repZ [a0, a1, a2, a3, a4, a5, a6, a7, a8] := by simp only [repZ]; ring
  obtain ⟨o0, o1, o2, o3, o4, o5, o6, o7, o8, he, hl, hcan, hd⟩ := mrTail_spec a0 a1 a2 a3 a4 a5 a6 a7 a8 0 0 0 0 0 0 0 0 (((a0 * 307527195) % 2 ^ 32) % 2 ^ 29) (fun c => c)
    (fun _ _ _ => rfl)
    (by simp only [Lim] at ha; rw [Int.emod_eq_of_lt ha.1.1 (by omega)])
    (by simp only [Lim, W1, and_true] at ha ⊢; omega)
    (by rw [hrep]; have : (0:Int) < ell := by norm_num [ell]
        nlinarith)
  refine ⟨o0, o1, o2, o3, o4, o5, o6, o7, o8, he, hl, hcan, ?_⟩
  rw [zmod_of_dvd hd, hrep]

end Dalek.Proofs.Scalar29
