/-
Twisted Edwards curve `-x^2 + y^2 = 1 + d x^2 y^2` (a = -1) over an arbitrary field:
definitions, completeness of the addition law (denominators never vanish), closure.

Completeness follows Bernstein–Birkner–Joye–Lange–Peters, "Twisted Edwards curves", Thm 3.3
(specialised to a = -1 = i^2, d a non-square).
-/
import Mathlib.Tactic.Ring
import Mathlib.Tactic.FieldSimp
import Mathlib.Tactic.LinearCombination
import Mathlib.Algebra.Field.Basic
import Mathlib.Algebra.Group.Even

namespace Dalek.Edwards

variable {K : Type*} [Field K]

/-- Parameters of a complete twisted Edwards curve with `a = -1`. -/
structure EdParams (K : Type*) [Field K] where
  d : K
  d_nonsquare : ¬ IsSquare d
  neg_one_square : IsSquare (-1 : K)
  two_ne_zero : (2 : K) ≠ 0

/-- The affine curve equation `-x^2 + y^2 = 1 + d x^2 y^2`. -/
def onCurve (d x y : K) : Prop := -x^2 + y^2 = 1 + d * x^2 * y^2

/-- An affine point of the curve. -/
structure EdPoint (c : EdParams K) where
  x : K
  y : K
  on : onCurve c.d x y

@[ext] theorem EdPoint.ext {c : EdParams K} {P Q : EdPoint c} (hx : P.x = Q.x) (hy : P.y = Q.y) :
    P = Q := by
  cases P; cases Q; simp only at hx hy; subst hx; subst hy; rfl

/-! ### Completeness -/

/-- If `A^2 = d * B^2` with `B ≠ 0` then `d` is a square. -/
theorem isSquare_of_sq_eq_mul_sq {d A B : K} (hB : B ≠ 0) (h : A ^ 2 = d * B ^ 2) : IsSquare d := by
  refine ⟨A / B, ?_⟩
  field_simp
  linear_combination -h

/-- Core of the completeness argument: if `ε = d x1 x2 y1 y2` satisfies `ε^2 = 1`
(i.e. `ε = ±1`), both points being on the curve, then `d` is a square. -/
theorem isSquare_d_of_eps {d i x1 y1 x2 y2 ε : K} (hi : -1 = i * i) (h2 : (2 : K) ≠ 0)
    (h1 : onCurve d x1 y1) (h2c : onCurve d x2 y2)
    (hε : ε = d * x1 * x2 * y1 * y2) (hε2 : ε * ε = 1) : IsSquare d := by
  unfold onCurve at h1 h2c
  -- all coordinates are nonzero
  have hne : d * x1 * x2 * y1 * y2 ≠ 0 := by
    rw [← hε]; intro h0; rw [h0] at hε2; simp at hε2
  have hx1 : x1 ≠ 0 := fun h => hne (by rw [h]; ring)
  have hy1 : y1 ≠ 0 := fun h => hne (by rw [h]; ring)
  have hy2 : y2 ≠ 0 := fun h => hne (by rw [h]; ring)
  -- (i x1 ± ε y1)^2 = d (x1 y1 (i x2 ± y2))^2
  have key1 : (i * x1 + ε * y1) ^ 2 = d * (x1 * y1 * (i * x2 + y2)) ^ 2 := by
    subst hε
    linear_combination (-(x1 ^ 2)) * hi + h1 - (d * x1 ^ 2 * y1 ^ 2) * h2c
      + (y1 ^ 2 - 1) * hε2 + (d * x1 ^ 2 * y1 ^ 2 * x2 ^ 2) * hi
  have key2 : (i * x1 - ε * y1) ^ 2 = d * (x1 * y1 * (i * x2 - y2)) ^ 2 := by
    subst hε
    linear_combination (-(x1 ^ 2)) * hi + h1 - (d * x1 ^ 2 * y1 ^ 2) * h2c
      + (y1 ^ 2 - 1) * hε2 + (d * x1 ^ 2 * y1 ^ 2 * x2 ^ 2) * hi
  by_cases hp : i * x2 + y2 = 0
  · have hm : i * x2 - y2 ≠ 0 := by
      intro hm
      have : 2 * y2 = 0 := by linear_combination hp - hm
      rcases mul_eq_zero.mp this with h | h
      · exact h2 h
      · exact hy2 h
    exact isSquare_of_sq_eq_mul_sq (mul_ne_zero (mul_ne_zero hx1 hy1) hm) key2
  · exact isSquare_of_sq_eq_mul_sq (mul_ne_zero (mul_ne_zero hx1 hy1) hp) key1

variable (c : EdParams K)

/-- Completeness, `+` denominator. -/
theorem den_pos_ne_zero {x1 y1 x2 y2 : K} (h1 : onCurve c.d x1 y1) (h2 : onCurve c.d x2 y2) :
    1 + c.d * x1 * x2 * y1 * y2 ≠ 0 := by
  intro h
  obtain ⟨i, hi⟩ := c.neg_one_square
  refine c.d_nonsquare (isSquare_d_of_eps (ε := c.d * x1 * x2 * y1 * y2) hi c.two_ne_zero h1 h2 rfl ?_)
  have : c.d * x1 * x2 * y1 * y2 = -1 := by linear_combination h
  rw [this]; ring

/-- Completeness, `-` denominator. -/
theorem den_neg_ne_zero {x1 y1 x2 y2 : K} (h1 : onCurve c.d x1 y1) (h2 : onCurve c.d x2 y2) :
    1 - c.d * x1 * x2 * y1 * y2 ≠ 0 := by
  intro h
  obtain ⟨i, hi⟩ := c.neg_one_square
  refine c.d_nonsquare (isSquare_d_of_eps (ε := c.d * x1 * x2 * y1 * y2) hi c.two_ne_zero h1 h2 rfl ?_)
  have : c.d * x1 * x2 * y1 * y2 = 1 := by linear_combination -h
  rw [this]; ring

/-- Completeness of the Edwards addition law: both denominators are nonzero. -/
theorem complete {x1 y1 x2 y2 : K} (h1 : onCurve c.d x1 y1) (h2 : onCurve c.d x2 y2) :
    1 + c.d * x1 * x2 * y1 * y2 ≠ 0 ∧ 1 - c.d * x1 * x2 * y1 * y2 ≠ 0 :=
  ⟨den_pos_ne_zero c h1 h2, den_neg_ne_zero c h1 h2⟩

/-! ### Closure -/

/-- A pair of fractions is on the curve as soon as the cleared-denominator equation holds. -/
theorem onCurve_div {d xn xd yn yd : K} (hxd : xd ≠ 0) (hyd : yd ≠ 0)
    (h : -xn ^ 2 * yd ^ 2 + yn ^ 2 * xd ^ 2 - xd ^ 2 * yd ^ 2 - d * xn ^ 2 * yn ^ 2 = 0) :
    onCurve d (xn / xd) (yn / yd) := by
  unfold onCurve
  field_simp
  linear_combination h

/-- Closure of the addition law, given nonvanishing denominators (pure algebra, any `d`). -/
theorem closure_of_den_ne_zero {d x1 y1 x2 y2 : K} (h1 : onCurve d x1 y1) (h2 : onCurve d x2 y2)
    (hp : 1 + d * x1 * x2 * y1 * y2 ≠ 0) (hm : 1 - d * x1 * x2 * y1 * y2 ≠ 0) :
    onCurve d ((x1 * y2 + y1 * x2) / (1 + d * x1 * x2 * y1 * y2))
      ((y1 * y2 + x1 * x2) / (1 - d * x1 * x2 * y1 * y2)) := by
  unfold onCurve at h1 h2
  have e1 : -x1 ^ 2 + y1 ^ 2 - 1 - d * x1 ^ 2 * y1 ^ 2 = 0 := by linear_combination h1
  have e2 : -x2 ^ 2 + y2 ^ 2 - 1 - d * x2 ^ 2 * y2 ^ 2 = 0 := by linear_combination h2
  -- cleared-denominator identity with the stored cofactors
  have key : -(x1 * y2 + y1 * x2) ^ 2 * (1 - d * x1 * x2 * y1 * y2) ^ 2
      + (y1 * y2 + x1 * x2) ^ 2 * (1 + d * x1 * x2 * y1 * y2) ^ 2
      - (1 + d * x1 * x2 * y1 * y2) ^ 2 * (1 - d * x1 * x2 * y1 * y2) ^ 2
      - d * (x1 * y2 + y1 * x2) ^ 2 * (y1 * y2 + x1 * x2) ^ 2 = 0 := by
    linear_combination
      (x2*(x2*(y2*(y2*(d*(x2*(x2*(y2*(y2*(d*(x1*(x1*(d*y1*y1 - 1)) + y1*y1 - 1) - 2)) - x1*x1 + y1*y1))
        + y2*(y2*(x1*x1 - y1*y1)) - 2) - 2*x2*x2 + 2*y2*y2 - 4)) + x2*x2)) + y2*y2*y2*y2) * e1
      + (x2*(x2*(y2*(y2*(d*(x1*(x1*(x1*x1 + 2)) + y1*(y1*(y1*y1 - 2)) + 1) + 2*x1*x1 - 2*y1*y1 + 2))
        - x1*x1 + y1*y1 - 1)) + y2*(y2*(x1*x1 - y1*y1 + 1)) + 1) * e2
  exact onCurve_div hp hm key

/-- Closure: the sum of two curve points is on the curve. -/
theorem closure {x1 y1 x2 y2 : K} (h1 : onCurve c.d x1 y1) (h2 : onCurve c.d x2 y2) :
    onCurve c.d ((x1 * y2 + y1 * x2) / (1 + c.d * x1 * x2 * y1 * y2))
      ((y1 * y2 + x1 * x2) / (1 - c.d * x1 * x2 * y1 * y2)) :=
  closure_of_den_ne_zero h1 h2 (den_pos_ne_zero c h1 h2) (den_neg_ne_zero c h1 h2)

end Dalek.Edwards
