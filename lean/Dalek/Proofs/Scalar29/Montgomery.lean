import Dalek.Proofs.Scalar29.Mul
/-! # Scalar29: `montgomery_reduce` divides by `R = 2^261` modulo `l` and returns the canonical representative -/
set_option exponentiation.threshold 600

namespace Dalek.Proofs.Scalar29
open Dalek.IR Dalek.Gen.Norm.Scalar29 Dalek.Gen.Consts
open Dalek.Proofs.Scalar52 (Lim ell ell_eq ell_eqZ lim_map_emod lt_two_ell)

/-- `part1`: with `p = (sum · LFACTOR mod 2^32) mod 2^29`, `sum + p·L[0]` is divisible by `2^29` -/
theorem part1_div (s : Int) :
    (s + ((((s % 2 ^ 32) * 307527195) % 2 ^ 32) % 2 ^ 29) * 485872621) % 2 ^ 29 = 0 := by
  omega

theorem part1_step (s n c : Int) (hn : n = (((s % 2 ^ 32) * 307527195) % 2 ^ 32) % 2 ^ 29)
    (hc : c = (s + n * 485872621) / 2 ^ 29) :
    (0 ≤ n ∧ n < 2 ^ 29) ∧ s + n * 485872621 = 2 ^ 29 * c := by
  have d := part1_div s
  rw [← hn] at d
  omega

theorem part2_step (s c : Int) (hc : c = s / 2 ^ 29) : s = (s % 2 ^ 32) % 2 ^ 29 + 2 ^ 29 * c := by
  omega

theorem repZ17_nonneg (z0 z1 z2 z3 z4 z5 z6 z7 z8 z9 z10 z11 z12 z13 z14 z15 z16 : Int) (h : Lim W1 [z0, z1, z2, z3, z4, z5, z6, z7, z8, z9, z10, z11, z12, z13, z14, z15, z16]) : 0 ≤ repZ [z0, z1, z2, z3, z4, z5, z6, z7, z8, z9, z10, z11, z12, z13, z14, z15, z16] := by
  simp only [Lim, repZ] at *
  omega

theorem top_limb_bd (r0 r1 r2 r3 r4 r5 r6 r7 r8 : Int) (hr : Lim (2 ^ 29) [r0, r1, r2, r3, r4, r5, r6, r7])
    (h0 : 0 ≤ repZ [r0, r1, r2, r3, r4, r5, r6, r7, r8]) (h : repZ [r0, r1, r2, r3, r4, r5, r6, r7, r8] < 2 * ell) : 0 ≤ r8 ∧ r8 < 2 ^ 29 := by
  simp only [Lim, repZ] at *
  rw [ell_eqZ] at h
  omega

/-- nine `part1` steps (the first Montgomery factor `n0` is a parameter), eight `part2` steps, the final
`carry as u32` (parameter `top`) and `sub(·, L)` -/
def mrTail (z0 z1 z2 z3 z4 z5 z6 z7 z8 z9 z10 z11 z12 z13 z14 z15 z16 n0 : Int) (top : Int → Int) : List Int :=
  let B : Int := 2 ^ 29
  let M : Int := 2 ^ 32
  let c0 := (z0 + n0 * 485872621) / B
  let s1 := (c0 + z1) + n0 * 9640146
  let n1 := (((s1 % M) * 307527195) % M) % B
  let c1 := (s1 + n1 * 485872621) / B
  let s2 := ((c1 + z2) + n0 * 501691798) + n1 * 9640146
  let n2 := (((s2 % M) * 307527195) % M) % B
  let c2 := (s2 + n2 * 485872621) / B
  let s3 := (((c2 + z3) + n0 * 502512965) + n1 * 501691798) + n2 * 9640146
  let n3 := (((s3 % M) * 307527195) % M) % B
  let c3 := (s3 + n3 * 485872621) / B
  let s4 := ((((c3 + z4) + n0 * 333) + n1 * 502512965) + n2 * 501691798) + n3 * 9640146
  let n4 := (((s4 % M) * 307527195) % M) % B
  let c4 := (s4 + n4 * 485872621) / B
  let s5 := ((((c4 + z5) + n1 * 333) + n2 * 502512965) + n3 * 501691798) + n4 * 9640146
  let n5 := (((s5 % M) * 307527195) % M) % B
  let c5 := (s5 + n5 * 485872621) / B
  let s6 := ((((c5 + z6) + n2 * 333) + n3 * 502512965) + n4 * 501691798) + n5 * 9640146
  let n6 := (((s6 % M) * 307527195) % M) % B
  let c6 := (s6 + n6 * 485872621) / B
  let s7 := ((((c6 + z7) + n3 * 333) + n4 * 502512965) + n5 * 501691798) + n6 * 9640146
  let n7 := (((s7 % M) * 307527195) % M) % B
  let c7 := (s7 + n7 * 485872621) / B
  let s8 := (((((c7 + z8) + n0 * 1048576) + n4 * 333) + n5 * 502512965) + n6 * 501691798) + n7 * 9640146
  let n8 := (((s8 % M) * 307527195) % M) % B
  let c8 := (s8 + n8 * 485872621) / B
  let s9 := (((((c8 + z9) + n1 * 1048576) + n5 * 333) + n6 * 502512965) + n7 * 501691798) + n8 * 9640146
  let c9 := s9 / B
  let s10 := ((((c9 + z10) + n2 * 1048576) + n6 * 333) + n7 * 502512965) + n8 * 501691798
  let c10 := s10 / B
  let s11 := (((c10 + z11) + n3 * 1048576) + n7 * 333) + n8 * 502512965
  let c11 := s11 / B
  let s12 := ((c11 + z12) + n4 * 1048576) + n8 * 333
  let c12 := s12 / B
  let s13 := (c12 + z13) + n5 * 1048576
  let c13 := s13 / B
  let s14 := (c13 + z14) + n6 * 1048576
  let c14 := s14 / B
  let s15 := (c14 + z15) + n7 * 1048576
  let c15 := s15 / B
  let s16 := (c15 + z16) + n8 * 1048576
  let c16 := s16 / B
  sub_fn ((s9 % M) % B) ((s10 % M) % B) ((s11 % M) % B) ((s12 % M) % B) ((s13 % M) % B) ((s14 % M) % B) ((s15 % M) % B) ((s16 % M) % B) (top c16)
    485872621 9640146 501691798 502512965 333 0 0 0 1048576

/-- `montgomery_reduce_fn` has this shape (structural equality, by `rfl`). -/
theorem montgomery_reduce_fn_eq (z0 z1 z2 z3 z4 z5 z6 z7 z8 z9 z10 z11 z12 z13 z14 z15 z16 : Int) :
    montgomery_reduce_fn z0 z1 z2 z3 z4 z5 z6 z7 z8 z9 z10 z11 z12 z13 z14 z15 z16 =
      mrTail z0 z1 z2 z3 z4 z5 z6 z7 z8 z9 z10 z11 z12 z13 z14 z15 z16 ((((z0 % 2 ^ 32) * 307527195) % 2 ^ 32) % 2 ^ 29) (fun c => c % 2 ^ 32) := by
  kernel_rfl

/-- the arithmetic core: the intermediate `r = (N + n·l) / 2^261` -/
theorem montgomery_core (B M : Int) (hB : B = 2 ^ 29) (hM : M = 2 ^ 32) (z0 z1 z2 z3 z4 z5 z6 z7 z8 z9 z10 z11 z12 z13 z14 z15 z16 : Int)
    (n0 c0 s1 n1 c1 s2 n2 c2 s3 n3 c3 s4 n4 c4 s5 n5 c5 s6 n6 c6 s7 n7 c7 s8 n8 c8 s9 c9 s10 c10 s11 c11 s12 c12 s13 c13 s14 c14 s15 c15 s16 c16 : Int)
    (hz : Lim W1 [z0, z1, z2, z3, z4, z5, z6, z7, z8, z9, z10, z11, z12, z13, z14, z15, z16])
    (hN : repZ [z0, z1, z2, z3, z4, z5, z6, z7, z8, z9, z10, z11, z12, z13, z14, z15, z16] < 2 ^ 261 * ell)
    (hn0 : n0 = (((z0 % M) * 307527195) % M) % B)
    (hc0 : c0 = (z0 + n0 * 485872621) / B)
    (hs1 : s1 = (c0 + z1) + n0 * 9640146)
    (hn1 : n1 = (((s1 % M) * 307527195) % M) % B)
    (hc1 : c1 = (s1 + n1 * 485872621) / B)
    (hs2 : s2 = ((c1 + z2) + n0 * 501691798) + n1 * 9640146)
    (hn2 : n2 = (((s2 % M) * 307527195) % M) % B)
    (hc2 : c2 = (s2 + n2 * 485872621) / B)
    (hs3 : s3 = (((c2 + z3) + n0 * 502512965) + n1 * 501691798) + n2 * 9640146)
    (hn3 : n3 = (((s3 % M) * 307527195) % M) % B)
    (hc3 : c3 = (s3 + n3 * 485872621) / B)
    (hs4 : s4 = ((((c3 + z4) + n0 * 333) + n1 * 502512965) + n2 * 501691798) + n3 * 9640146)
    (hn4 : n4 = (((s4 % M) * 307527195) % M) % B)
    (hc4 : c4 = (s4 + n4 * 485872621) / B)
    (hs5 : s5 = ((((c4 + z5) + n1 * 333) + n2 * 502512965) + n3 * 501691798) + n4 * 9640146)
    (hn5 : n5 = (((s5 % M) * 307527195) % M) % B)
    (hc5 : c5 = (s5 + n5 * 485872621) / B)
    (hs6 : s6 = ((((c5 + z6) + n2 * 333) + n3 * 502512965) + n4 * 501691798) + n5 * 9640146)
    (hn6 : n6 = (((s6 % M) * 307527195) % M) % B)
    (hc6 : c6 = (s6 + n6 * 485872621) / B)
    (hs7 : s7 = ((((c6 + z7) + n3 * 333) + n4 * 502512965) + n5 * 501691798) + n6 * 9640146)
    (hn7 : n7 = (((s7 % M) * 307527195) % M) % B)
    (hc7 : c7 = (s7 + n7 * 485872621) / B)
    (hs8 : s8 = (((((c7 + z8) + n0 * 1048576) + n4 * 333) + n5 * 502512965) + n6 * 501691798) + n7 * 9640146)
    (hn8 : n8 = (((s8 % M) * 307527195) % M) % B)
    (hc8 : c8 = (s8 + n8 * 485872621) / B)
    (hs9 : s9 = (((((c8 + z9) + n1 * 1048576) + n5 * 333) + n6 * 502512965) + n7 * 501691798) + n8 * 9640146)
    (hc9 : c9 = s9 / B)
    (hs10 : s10 = ((((c9 + z10) + n2 * 1048576) + n6 * 333) + n7 * 502512965) + n8 * 501691798)
    (hc10 : c10 = s10 / B)
    (hs11 : s11 = (((c10 + z11) + n3 * 1048576) + n7 * 333) + n8 * 502512965)
    (hc11 : c11 = s11 / B)
    (hs12 : s12 = ((c11 + z12) + n4 * 1048576) + n8 * 333)
    (hc12 : c12 = s12 / B)
    (hs13 : s13 = (c12 + z13) + n5 * 1048576)
    (hc13 : c13 = s13 / B)
    (hs14 : s14 = (c13 + z14) + n6 * 1048576)
    (hc14 : c14 = s14 / B)
    (hs15 : s15 = (c14 + z15) + n7 * 1048576)
    (hc15 : c15 = s15 / B)
    (hs16 : s16 = (c15 + z16) + n8 * 1048576)
    (hc16 : c16 = s16 / B) :
    Lim (B) [(s9 % M) % B, (s10 % M) % B, (s11 % M) % B, (s12 % M) % B, (s13 % M) % B, (s14 % M) % B, (s15 % M) % B, (s16 % M) % B, c16] ∧
    repZ [(s9 % M) % B, (s10 % M) % B, (s11 % M) % B, (s12 % M) % B, (s13 % M) % B, (s14 % M) % B, (s15 % M) % B, (s16 % M) % B, c16] < 2 * ell ∧
    2 ^ 261 * repZ [(s9 % M) % B, (s10 % M) % B, (s11 % M) % B, (s12 % M) % B, (s13 % M) % B, (s14 % M) % B, (s15 % M) % B, (s16 % M) % B, c16]
      = repZ [z0, z1, z2, z3, z4, z5, z6, z7, z8, z9, z10, z11, z12, z13, z14, z15, z16] + repZ [n0, n1, n2, n3, n4, n5, n6, n7, n8] * ell := by
  subst hB hM
  obtain ⟨b0, e0⟩ := part1_step z0 n0 c0 hn0 hc0
  obtain ⟨b1, e1⟩ := part1_step s1 n1 c1 hn1 hc1
  obtain ⟨b2, e2⟩ := part1_step s2 n2 c2 hn2 hc2
  obtain ⟨b3, e3⟩ := part1_step s3 n3 c3 hn3 hc3
  obtain ⟨b4, e4⟩ := part1_step s4 n4 c4 hn4 hc4
  obtain ⟨b5, e5⟩ := part1_step s5 n5 c5 hn5 hc5
  obtain ⟨b6, e6⟩ := part1_step s6 n6 c6 hn6 hc6
  obtain ⟨b7, e7⟩ := part1_step s7 n7 c7 hn7 hc7
  obtain ⟨b8, e8⟩ := part1_step s8 n8 c8 hn8 hc8
  have e9 := part2_step s9 c9 hc9
  have e10 := part2_step s10 c10 hc10
  have e11 := part2_step s11 c11 hc11
  have e12 := part2_step s12 c12 hc12
  have e13 := part2_step s13 c13 hc13
  have e14 := part2_step s14 c14 hc14
  have e15 := part2_step s15 c15 hc15
  have e16 := part2_step s16 c16 hc16
  have hN0 := repZ17_nonneg z0 z1 z2 z3 z4 z5 z6 z7 z8 z9 z10 z11 z12 z13 z14 z15 z16 hz
  clear hn0 hc0 hn1 hc1 hn2 hc2 hn3 hc3 hn4 hc4 hn5 hc5 hn6 hc6 hn7 hc7 hn8 hc8 hc9 hc10 hc11 hc12 hc13 hc14 hc15 hc16 hz
  have key : 2 ^ 261 * repZ [(s9 % 2 ^ 32) % 2 ^ 29, (s10 % 2 ^ 32) % 2 ^ 29, (s11 % 2 ^ 32) % 2 ^ 29, (s12 % 2 ^ 32) % 2 ^ 29, (s13 % 2 ^ 32) % 2 ^ 29, (s14 % 2 ^ 32) % 2 ^ 29, (s15 % 2 ^ 32) % 2 ^ 29, (s16 % 2 ^ 32) % 2 ^ 29, c16]
      = repZ [z0, z1, z2, z3, z4, z5, z6, z7, z8, z9, z10, z11, z12, z13, z14, z15, z16] + repZ [n0, n1, n2, n3, n4, n5, n6, n7, n8] * ell := by
    rw [ell_eqZ]
    simp only [repZ]
    linear_combination (-1 : Int) * e0 - 2 ^ 29 * (e1 - hs1) - 2 ^ 58 * (e2 - hs2) - 2 ^ 87 * (e3 - hs3) - 2 ^ 116 * (e4 - hs4) - 2 ^ 145 * (e5 - hs5) - 2 ^ 174 * (e6 - hs6) - 2 ^ 203 * (e7 - hs7) - 2 ^ 232 * (e8 - hs8) - 2 ^ 261 * (e9 - hs9) - 2 ^ 290 * (e10 - hs10) - 2 ^ 319 * (e11 - hs11) - 2 ^ 348 * (e12 - hs12) - 2 ^ 377 * (e13 - hs13) - 2 ^ 406 * (e14 - hs14) - 2 ^ 435 * (e15 - hs15) - 2 ^ 464 * (e16 - hs16)
  obtain ⟨hn', hn⟩ := repZ9_bd n0 n1 n2 n3 n4 n5 n6 n7 n8 ⟨b0, b1, b2, b3, b4, b5, b6, b7, b8, trivial⟩
  obtain ⟨hR0, h2l⟩ := lt_two_ell key hN0 hN hn' hn
  have hlr := lim_map_emod (B := 2 ^ 29) (by norm_num)
    [s9 % 2 ^ 32, s10 % 2 ^ 32, s11 % 2 ^ 32, s12 % 2 ^ 32, s13 % 2 ^ 32, s14 % 2 ^ 32, s15 % 2 ^ 32, s16 % 2 ^ 32]
  have ht := top_limb_bd _ _ _ _ _ _ _ _ c16 hlr hR0 h2l
  obtain ⟨h9, h10, h11, h12, h13, h14, h15, h16, -⟩ := hlr
  exact ⟨⟨h9, h10, h11, h12, h13, h14, h15, h16, ht, trivial⟩, h2l, key⟩

/-- `montgomery_reduce` (with the first factor given): canonical output `o` with `o·2^261 ≡ N (mod l)` -/
theorem mrTail_spec (z0 z1 z2 z3 z4 z5 z6 z7 z8 z9 z10 z11 z12 z13 z14 z15 z16 n0 : Int) (top : Int → Int)
    (htop : ∀ c : Int, 0 ≤ c → c < 2 ^ 29 → top c = c)
    (hn0 : n0 = (((z0 % 2 ^ 32) * 307527195) % 2 ^ 32) % 2 ^ 29)
    (hz : Lim W1 [z0, z1, z2, z3, z4, z5, z6, z7, z8, z9, z10, z11, z12, z13, z14, z15, z16])
    (hN : repZ [z0, z1, z2, z3, z4, z5, z6, z7, z8, z9, z10, z11, z12, z13, z14, z15, z16] < 2 ^ 261 * ell) :
    ∃ o0 o1 o2 o3 o4 o5 o6 o7 o8, mrTail z0 z1 z2 z3 z4 z5 z6 z7 z8 z9 z10 z11 z12 z13 z14 z15 z16 n0 top = [o0, o1, o2, o3, o4, o5, o6, o7, o8] ∧
      Lim (2 ^ 29) [o0, o1, o2, o3, o4, o5, o6, o7, o8] ∧
      (0 ≤ repZ [o0, o1, o2, o3, o4, o5, o6, o7, o8] ∧ repZ [o0, o1, o2, o3, o4, o5, o6, o7, o8] < ell) ∧
      (ell : Int) ∣ repZ [o0, o1, o2, o3, o4, o5, o6, o7, o8] * 2 ^ 261 - repZ [z0, z1, z2, z3, z4, z5, z6, z7, z8, z9, z10, z11, z12, z13, z14, z15, z16] := by
  unfold mrTail
  extract_lets B M c0 s1 n1 c1 s2 n2 c2 s3 n3 c3 s4 n4 c4 s5 n5 c5 s6 n6 c6 s7 n7 c7 s8 n8 c8 s9 c9 s10 c10 s11 c11 s12 c12 s13 c13 s14 c14 s15 c15 s16 c16
  obtain ⟨hl, h2l, key⟩ := montgomery_core B M rfl rfl z0 z1 z2 z3 z4 z5 z6 z7 z8 z9 z10 z11 z12 z13 z14 z15 z16 n0 c0 s1 n1 c1 s2 n2 c2 s3 n3 c3 s4 n4 c4 s5 n5 c5 s6 n6 c6 s7 n7 c7 s8 n8 c8 s9 c9 s10 c10 s11 c11 s12 c12 s13 c13 s14 c14 s15 c15 s16 c16 hz hN hn0
    rfl rfl rfl rfl rfl rfl rfl rfl rfl rfl rfl rfl rfl rfl rfl rfl rfl rfl rfl rfl rfl rfl rfl rfl rfl rfl rfl rfl rfl rfl rfl rfl rfl rfl rfl rfl rfl rfl rfl rfl rfl
  have hc16 : top c16 = c16 := by
    simp only [Lim, and_true] at hl
    exact htop c16 hl.2.2.2.2.2.2.2.2.1 hl.2.2.2.2.2.2.2.2.2
  rw [hc16]
  obtain ⟨o0, o1, o2, o3, o4, o5, o6, o7, o8, he, hlo, hv⟩ := sub_fn_L_spec _ _ _ _ _ _ _ _ _ hl h2l
  refine ⟨o0, o1, o2, o3, o4, o5, o6, o7, o8, he, hlo, ?_, ?_⟩
  · rw [hv]
    exact ⟨Int.emod_nonneg _ (by norm_num [ell]), Int.emod_lt_of_pos _ (by norm_num [ell])⟩
  · rw [hv]
    generalize repZ [(s9 % 2 ^ 32) % 2 ^ 29, (s10 % 2 ^ 32) % 2 ^ 29, (s11 % 2 ^ 32) % 2 ^ 29, (s12 % 2 ^ 32) % 2 ^ 29, (s13 % 2 ^ 32) % 2 ^ 29, (s14 % 2 ^ 32) % 2 ^ 29, (s15 % 2 ^ 32) % 2 ^ 29, (s16 % 2 ^ 32) % 2 ^ 29, c16] = R at *
    have h1 := Int.emod_add_mul_ediv R ell
    exact ⟨repZ [n0, n1, n2, n3, n4, n5, n6, n7, n8] - 2 ^ 261 * (R / ell), by linear_combination (2 : Int) ^ 261 * h1 + key⟩

theorem montgomery_reduce_fn_spec (z0 z1 z2 z3 z4 z5 z6 z7 z8 z9 z10 z11 z12 z13 z14 z15 z16 : Int)
    (hz : Lim W1 [z0, z1, z2, z3, z4, z5, z6, z7, z8, z9, z10, z11, z12, z13, z14, z15, z16])
    (hN : repZ [z0, z1, z2, z3, z4, z5, z6, z7, z8, z9, z10, z11, z12, z13, z14, z15, z16] < 2 ^ 261 * ell) :
    ∃ o0 o1 o2 o3 o4 o5 o6 o7 o8, montgomery_reduce_fn z0 z1 z2 z3 z4 z5 z6 z7 z8 z9 z10 z11 z12 z13 z14 z15 z16 = [o0, o1, o2, o3, o4, o5, o6, o7, o8] ∧
      Lim (2 ^ 29) [o0, o1, o2, o3, o4, o5, o6, o7, o8] ∧
      (0 ≤ repZ [o0, o1, o2, o3, o4, o5, o6, o7, o8] ∧ repZ [o0, o1, o2, o3, o4, o5, o6, o7, o8] < ell) ∧
      (ell : Int) ∣ repZ [o0, o1, o2, o3, o4, o5, o6, o7, o8] * 2 ^ 261 - repZ [z0, z1, z2, z3, z4, z5, z6, z7, z8, z9, z10, z11, z12, z13, z14, z15, z16] := by
  rw [montgomery_reduce_fn_eq]
  exact mrTail_spec _ _ _ _ _ _ _ _ _ _ _ _ _ _ _ _ _ _ (fun c => c % 2 ^ 32)
    (fun c h0 h1 => Int.emod_eq_of_lt h0 (by omega)) rfl hz hN

end Dalek.Proofs.Scalar29
