import Dalek.Proofs.Scalar52.Montgomery
import Dalek.Proofs.Primes
import Mathlib.Data.ZMod.Basic
/-! # Scalar52: the composed kernels (`montgomery_mul`, `mul`, `square`, `as_montgomery`, `from_montgomery`, …)

Each composed kernel is a separate translated program that inlines its sub-kernels.  Its shallow function is
shown (by `rfl`) to be the composition of the shallow functions of the sub-kernels; the specifications of the
latter are then composed in `ZMod l`. -/
set_option exponentiation.threshold 600
set_option maxRecDepth 100000

namespace Dalek.Proofs.Scalar52
open Dalek.IR Dalek.Gen.Norm.Scalar52 Dalek.Gen.Consts

/-- apply a 9-argument function to a 9-element list -/
def ap9 (f : Int → Int → Int → Int → Int → Int → Int → Int → Int → List Int) : List Int → List Int
  | [z0, z1, z2, z3, z4, z5, z6, z7, z8] => f z0 z1 z2 z3 z4 z5 z6 z7 z8
  | _ => []

/-- apply a 5-argument function to a 5-element list -/
def ap5 (f : Int → Int → Int → Int → Int → List Int) : List Int → List Int
  | [a0, a1, a2, a3, a4] => f a0 a1 a2 a3 a4
  | _ => []

/-- `mul_internal(·, RR)` with the literal limbs of `constants::RR` -/
def mulRR (c0 c1 c2 c3 c4 : Int) : List Int :=
  mul_internal_fn c0 c1 c2 c3 c4 2764609938444603 3768881411696287 1616719297148420 1087343033131391 10175238647962

theorem RR_literal : toZ U64.RR = [2764609938444603, 3768881411696287, 1616719297148420, 1087343033131391, 10175238647962] := rfl
theorem R_literal : toZ U64.R = [4302102966953709, 1049714374468698, 4503599278581019, 4503599627370495, 17592186044415] := rfl

/-! ## structural equalities (all by `rfl`) -/

theorem montgomery_mul_fn_eq (a0 a1 a2 a3 a4 b0 b1 b2 b3 b4 : Int) :
    montgomery_mul_fn a0 a1 a2 a3 a4 b0 b1 b2 b3 b4
      = ap9 montgomery_reduce_fn (mul_internal_fn a0 a1 a2 a3 a4 b0 b1 b2 b3 b4) := rfl

theorem montgomery_square_fn_eq (a0 a1 a2 a3 a4 : Int) :
    montgomery_square_fn a0 a1 a2 a3 a4 = ap9 montgomery_reduce_fn (square_internal_fn a0 a1 a2 a3 a4) := rfl

theorem mul_fn_eq (a0 a1 a2 a3 a4 b0 b1 b2 b3 b4 : Int) :
    mul_fn a0 a1 a2 a3 a4 b0 b1 b2 b3 b4
      = ap9 montgomery_reduce_fn (ap5 mulRR (ap9 montgomery_reduce_fn (mul_internal_fn a0 a1 a2 a3 a4 b0 b1 b2 b3 b4))) := rfl

theorem square_fn_eq (a0 a1 a2 a3 a4 : Int) :
    square_fn a0 a1 a2 a3 a4
      = ap9 montgomery_reduce_fn (ap5 mulRR (ap9 montgomery_reduce_fn (square_internal_fn a0 a1 a2 a3 a4))) := rfl

theorem as_montgomery_fn_eq (a0 a1 a2 a3 a4 : Int) :
    as_montgomery_fn a0 a1 a2 a3 a4 = ap9 montgomery_reduce_fn (mulRR a0 a1 a2 a3 a4) := rfl

/-- in `from_montgomery` the translator knows `limbs[0] < 2^64` and drops the first `as u64` -/
theorem from_montgomery_fn_eq (a0 a1 a2 a3 a4 : Int) :
    from_montgomery_fn a0 a1 a2 a3 a4
      = mrTail a0 a1 a2 a3 a4 0 0 0 0 (((a0 * 1439961107955227) % 2 ^ 64) % 2 ^ 52) := by
  kernel_rfl

/-! ## arithmetic in `ZMod l` -/

theorem two_pow_ne_zero : ((2 : ZMod ell) ^ 260) ≠ 0 := by
  apply pow_ne_zero
  have h : ((2 : Nat) : ZMod ell) ≠ 0 := by
    rw [Ne, ZMod.natCast_eq_zero_iff]
    exact Nat.not_dvd_of_pos_of_lt (by norm_num) (by norm_num [ell])
  exact_mod_cast h

theorem zmod_of_dvd {o N : Int} (h : (ell : Int) ∣ o * 2 ^ 260 - N) :
    (o : ZMod ell) * 2 ^ 260 = (N : ZMod ell) := by
  have := (ZMod.intCast_eq_intCast_iff_dvd_sub N (o * 2 ^ 260) ell).2 h
  rw [this]; push_cast; ring

theorem eq_emod_of_zmod {o X : Int} (h0 : 0 ≤ o) (h1 : o < ell) (h : (o : ZMod ell) = (X : ZMod ell)) :
    o = X % ell := by
  have := (ZMod.intCast_eq_intCast_iff' o X ell).1 h
  rwa [Int.emod_eq_of_lt h0 h1] at this

theorem repZ_RR : repZ [2764609938444603, 3768881411696287, 1616719297148420, 1087343033131391, 10175238647962]
    = (((2 ^ 260) ^ 2 % ell : Nat) : Int) := by
  rw [← val52_RR, ← repZ_toZ, RR_literal]

theorem repZ_R : repZ [4302102966953709, 1049714374468698, 4503599278581019, 4503599627370495, 17592186044415]
    = ((2 ^ 260 % ell : Nat) : Int) := by
  rw [← val52_R, ← repZ_toZ, R_literal]

theorem RR_zmod : ((repZ [2764609938444603, 3768881411696287, 1616719297148420, 1087343033131391, 10175238647962] : Int) : ZMod ell)
    = (2 ^ 260) ^ 2 := by
  rw [repZ_RR, Int.cast_natCast, ZMod.natCast_mod]; push_cast; rfl

theorem R_zmod : ((repZ [4302102966953709, 1049714374468698, 4503599278581019, 4503599627370495, 17592186044415] : Int) : ZMod ell)
    = 2 ^ 260 := by
  rw [repZ_R, Int.cast_natCast, ZMod.natCast_mod]; push_cast; rfl

theorem RR_lim_lit : Lim (2 ^ 52) [2764609938444603, 3768881411696287, 1616719297148420, 1087343033131391, 10175238647962] := by
  simp only [Lim]; norm_num

theorem R_lim_lit : Lim (2 ^ 52) [4302102966953709, 1049714374468698, 4503599278581019, 4503599627370495, 17592186044415] := by
  simp only [Lim]; norm_num

/-! ## `montgomery_reduce ∘ mul_internal` -/

/-- `montgomery_reduce(mul_internal(a, b))` for `a·b < 2^260·l`: canonical `o` with `o·2^260 = a·b` in `ZMod l` -/
theorem mr_mi_spec (a0 a1 a2 a3 a4 b0 b1 b2 b3 b4 : Int)
    (ha : Lim (2 ^ 52) [a0, a1, a2, a3, a4]) (hb : Lim (2 ^ 52) [b0, b1, b2, b3, b4])
    (hab : repZ [a0, a1, a2, a3, a4] * repZ [b0, b1, b2, b3, b4] < 2 ^ 260 * ell) :
    ∃ o0 o1 o2 o3 o4, ap9 montgomery_reduce_fn (mul_internal_fn a0 a1 a2 a3 a4 b0 b1 b2 b3 b4) = [o0, o1, o2, o3, o4] ∧
      Lim (2 ^ 52) [o0, o1, o2, o3, o4] ∧
      (0 ≤ repZ [o0, o1, o2, o3, o4] ∧ repZ [o0, o1, o2, o3, o4] < ell) ∧
      ((repZ [o0, o1, o2, o3, o4] : Int) : ZMod ell) * 2 ^ 260
        = ((repZ [a0, a1, a2, a3, a4] : Int) : ZMod ell) * ((repZ [b0, b1, b2, b3, b4] : Int) : ZMod ell) := by
  obtain ⟨z0, z1, z2, z3, z4, z5, z6, z7, z8, hz, hzl, hzv⟩ := mul_internal_fn_spec a0 a1 a2 a3 a4 b0 b1 b2 b3 b4 ha hb
  rw [hz]
  obtain ⟨o0, o1, o2, o3, o4, he, hl, hc, hd⟩ := montgomery_reduce_fn_spec z0 z1 z2 z3 z4 z5 z6 z7 z8 hzl (by rw [hzv]; exact hab)
  refine ⟨o0, o1, o2, o3, o4, he, hl, hc, ?_⟩
  rw [zmod_of_dvd hd, hzv]; push_cast; rfl

theorem mul_lt_of_lt_pow {A B : Int} (hA : A < 2 ^ 260) (hB0 : 0 ≤ B) (hB : B < ell) :
    A * B < 2 ^ 260 * ell := by
  rcases hB0.eq_or_lt with h | h
  · rw [← h]; norm_num [ell]
  · exact Int.mul_lt_mul hA (le_of_lt hB) h (by norm_num)

/-- `montgomery_reduce(mul_internal(c, RR))`: canonical representative of `c·2^260` (any 52-bit limbs `c`) -/
theorem mr_mulRR_spec (c0 c1 c2 c3 c4 : Int) (hc : Lim (2 ^ 52) [c0, c1, c2, c3, c4]) :
    ∃ o0 o1 o2 o3 o4, ap9 montgomery_reduce_fn (mulRR c0 c1 c2 c3 c4) = [o0, o1, o2, o3, o4] ∧
      Lim (2 ^ 52) [o0, o1, o2, o3, o4] ∧
      (0 ≤ repZ [o0, o1, o2, o3, o4] ∧ repZ [o0, o1, o2, o3, o4] < ell) ∧
      ((repZ [o0, o1, o2, o3, o4] : Int) : ZMod ell) = ((repZ [c0, c1, c2, c3, c4] : Int) : ZMod ell) * 2 ^ 260 := by
  obtain ⟨hC0, hC⟩ := repZ5_bd c0 c1 c2 c3 c4 hc
  have hRR : (0 : Int) ≤ repZ [2764609938444603, 3768881411696287, 1616719297148420, 1087343033131391, 10175238647962]
      ∧ repZ [2764609938444603, 3768881411696287, 1616719297148420, 1087343033131391, 10175238647962] < ell := by
    rw [repZ_RR]
    exact ⟨Int.natCast_nonneg _, by exact_mod_cast Nat.mod_lt _ (by norm_num [ell])⟩
  obtain ⟨o0, o1, o2, o3, o4, he, hl, hcan, hv⟩ := mr_mi_spec c0 c1 c2 c3 c4 _ _ _ _ _ hc RR_lim_lit
    (mul_lt_of_lt_pow hC hRR.1 hRR.2)
  refine ⟨o0, o1, o2, o3, o4, he, hl, hcan, ?_⟩
  rw [RR_zmod] at hv
  apply mul_right_cancel₀ two_pow_ne_zero
  rw [hv]; ring

/-! ## the composed kernels -/

theorem montgomery_mul_fn_spec (a0 a1 a2 a3 a4 b0 b1 b2 b3 b4 : Int)
    (ha : Lim (2 ^ 52) [a0, a1, a2, a3, a4]) (hb : Lim (2 ^ 52) [b0, b1, b2, b3, b4])
    (hab : repZ [a0, a1, a2, a3, a4] * repZ [b0, b1, b2, b3, b4] < 2 ^ 260 * ell) :
    ∃ o0 o1 o2 o3 o4, montgomery_mul_fn a0 a1 a2 a3 a4 b0 b1 b2 b3 b4 = [o0, o1, o2, o3, o4] ∧
      Lim (2 ^ 52) [o0, o1, o2, o3, o4] ∧
      (0 ≤ repZ [o0, o1, o2, o3, o4] ∧ repZ [o0, o1, o2, o3, o4] < ell) ∧
      ((repZ [o0, o1, o2, o3, o4] : Int) : ZMod ell) * 2 ^ 260
        = ((repZ [a0, a1, a2, a3, a4] : Int) : ZMod ell) * ((repZ [b0, b1, b2, b3, b4] : Int) : ZMod ell) := by
  rw [montgomery_mul_fn_eq]
  exact mr_mi_spec _ _ _ _ _ _ _ _ _ _ ha hb hab

theorem montgomery_square_fn_spec (a0 a1 a2 a3 a4 : Int) (ha : Lim (2 ^ 52) [a0, a1, a2, a3, a4])
    (hab : repZ [a0, a1, a2, a3, a4] * repZ [a0, a1, a2, a3, a4] < 2 ^ 260 * ell) :
    ∃ o0 o1 o2 o3 o4, montgomery_square_fn a0 a1 a2 a3 a4 = [o0, o1, o2, o3, o4] ∧
      Lim (2 ^ 52) [o0, o1, o2, o3, o4] ∧
      (0 ≤ repZ [o0, o1, o2, o3, o4] ∧ repZ [o0, o1, o2, o3, o4] < ell) ∧
      ((repZ [o0, o1, o2, o3, o4] : Int) : ZMod ell) * 2 ^ 260
        = ((repZ [a0, a1, a2, a3, a4] : Int) : ZMod ell) * ((repZ [a0, a1, a2, a3, a4] : Int) : ZMod ell) := by
  rw [montgomery_square_fn_eq, square_internal_fn_eq]
  exact mr_mi_spec _ _ _ _ _ _ _ _ _ _ ha ha hab

/-- two Montgomery reductions: `montgomery_reduce(mul_internal(montgomery_reduce(mul_internal(a,b)), RR))` -/
theorem mr_mulRR_mr_mi_spec (a0 a1 a2 a3 a4 b0 b1 b2 b3 b4 : Int)
    (ha : Lim (2 ^ 52) [a0, a1, a2, a3, a4]) (hb : Lim (2 ^ 52) [b0, b1, b2, b3, b4])
    (hab : repZ [a0, a1, a2, a3, a4] * repZ [b0, b1, b2, b3, b4] < 2 ^ 260 * ell) :
    ∃ o0 o1 o2 o3 o4,
      ap9 montgomery_reduce_fn (ap5 mulRR (ap9 montgomery_reduce_fn (mul_internal_fn a0 a1 a2 a3 a4 b0 b1 b2 b3 b4)))
        = [o0, o1, o2, o3, o4] ∧
      Lim (2 ^ 52) [o0, o1, o2, o3, o4] ∧
      repZ [o0, o1, o2, o3, o4] = (repZ [a0, a1, a2, a3, a4] * repZ [b0, b1, b2, b3, b4]) % ell := by
  obtain ⟨c0, c1, c2, c3, c4, he1, hl1, _, hv1⟩ := mr_mi_spec a0 a1 a2 a3 a4 b0 b1 b2 b3 b4 ha hb hab
  rw [he1]
  obtain ⟨o0, o1, o2, o3, o4, he2, hl2, hcan2, hv2⟩ := mr_mulRR_spec c0 c1 c2 c3 c4 hl1
  refine ⟨o0, o1, o2, o3, o4, he2, hl2, ?_⟩
  apply eq_emod_of_zmod hcan2.1 hcan2.2
  rw [hv2, hv1]; push_cast; rfl

theorem mul_fn_spec (a0 a1 a2 a3 a4 b0 b1 b2 b3 b4 : Int)
    (ha : Lim (2 ^ 52) [a0, a1, a2, a3, a4]) (hb : Lim (2 ^ 52) [b0, b1, b2, b3, b4])
    (hab : repZ [a0, a1, a2, a3, a4] * repZ [b0, b1, b2, b3, b4] < 2 ^ 260 * ell) :
    ∃ o0 o1 o2 o3 o4, mul_fn a0 a1 a2 a3 a4 b0 b1 b2 b3 b4 = [o0, o1, o2, o3, o4] ∧
      Lim (2 ^ 52) [o0, o1, o2, o3, o4] ∧
      repZ [o0, o1, o2, o3, o4] = (repZ [a0, a1, a2, a3, a4] * repZ [b0, b1, b2, b3, b4]) % ell := by
  rw [mul_fn_eq]
  exact mr_mulRR_mr_mi_spec _ _ _ _ _ _ _ _ _ _ ha hb hab

theorem square_fn_spec (a0 a1 a2 a3 a4 : Int) (ha : Lim (2 ^ 52) [a0, a1, a2, a3, a4])
    (hab : repZ [a0, a1, a2, a3, a4] * repZ [a0, a1, a2, a3, a4] < 2 ^ 260 * ell) :
    ∃ o0 o1 o2 o3 o4, square_fn a0 a1 a2 a3 a4 = [o0, o1, o2, o3, o4] ∧
      Lim (2 ^ 52) [o0, o1, o2, o3, o4] ∧
      repZ [o0, o1, o2, o3, o4] = (repZ [a0, a1, a2, a3, a4] * repZ [a0, a1, a2, a3, a4]) % ell := by
  rw [square_fn_eq, square_internal_fn_eq]
  exact mr_mulRR_mr_mi_spec _ _ _ _ _ _ _ _ _ _ ha ha hab

theorem as_montgomery_fn_spec (a0 a1 a2 a3 a4 : Int) (ha : Lim (2 ^ 52) [a0, a1, a2, a3, a4]) :
    ∃ o0 o1 o2 o3 o4, as_montgomery_fn a0 a1 a2 a3 a4 = [o0, o1, o2, o3, o4] ∧
      Lim (2 ^ 52) [o0, o1, o2, o3, o4] ∧
      repZ [o0, o1, o2, o3, o4] = (repZ [a0, a1, a2, a3, a4] * 2 ^ 260) % ell := by
  rw [as_montgomery_fn_eq]
  obtain ⟨o0, o1, o2, o3, o4, he, hl, hcan, hv⟩ := mr_mulRR_spec a0 a1 a2 a3 a4 ha
  refine ⟨o0, o1, o2, o3, o4, he, hl, ?_⟩
  apply eq_emod_of_zmod hcan.1 hcan.2
  rw [hv]; push_cast; rfl

theorem from_montgomery_fn_spec (a0 a1 a2 a3 a4 : Int) (ha : Lim (2 ^ 52) [a0, a1, a2, a3, a4]) :
    ∃ o0 o1 o2 o3 o4, from_montgomery_fn a0 a1 a2 a3 a4 = [o0, o1, o2, o3, o4] ∧
      Lim (2 ^ 52) [o0, o1, o2, o3, o4] ∧
      (0 ≤ repZ [o0, o1, o2, o3, o4] ∧ repZ [o0, o1, o2, o3, o4] < ell) ∧
      ((repZ [o0, o1, o2, o3, o4] : Int) : ZMod ell) * 2 ^ 260 = ((repZ [a0, a1, a2, a3, a4] : Int) : ZMod ell) := by
  rw [from_montgomery_fn_eq]
  obtain ⟨hA0, hA⟩ := repZ5_bd a0 a1 a2 a3 a4 ha
  have hrep : repZ [a0, a1, a2, a3, a4, 0, 0, 0, 0] = repZ [a0, a1, a2, a3, a4] := by simp only [repZ]; ring
  obtain ⟨o0, o1, o2, o3, o4, he, hl, hcan, hd⟩ := mrTail_spec a0 a1 a2 a3 a4 0 0 0 0 (((a0 * 1439961107955227) % 2 ^ 64) % 2 ^ 52)
    (by simp only [Lim] at ha; rw [Int.emod_eq_of_lt ha.1.1 (by omega)])
    (by simp only [Lim, W1, and_true] at ha ⊢; omega)
    (by rw [hrep]; have : (0:Int) < ell := by norm_num [ell]
        nlinarith)
  refine ⟨o0, o1, o2, o3, o4, he, hl, hcan, ?_⟩
  rw [zmod_of_dvd hd, hrep]

end Dalek.Proofs.Scalar52
