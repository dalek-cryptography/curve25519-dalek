import Dalek.Proofs.ByteLists
import Dalek.Proofs.ListAux
import Dalek.Gen.Norm.Field26
/-!
# Byte codecs of the serial-u32 field backend: integer-level correctness of the normalised kernels

Helper lemmas for `Dalek/Props/C01/Bytes26.lean`; same plan as `Dalek/Proofs/Bytes51.lean`, limb widths
`ws26 = [26, 25, …, 26, 25]`.

* `from_bytes_fn_eq`: on bytes in `[0,255]` the ten limbs are `digits ws26 (N % 2^255)` (the ten loads are slices of the
  bits of `N`; then one `omega` over the one variable `N` per limb);
* `as_bytes_fn_eq_model`: the generated normal form equals the hand model `asBytesModel26` (normalising);
* `asBytesModel26_eq`, `as_bytes_fn_eq`: for limbs inside the contract (even `< 2^28`, odd `< 2^27`) the output bytes are
  the base-256 digits of `(Σ a_i 2^⌈25.5 i⌉) % p`.
-/
set_option linter.unusedVariables false
set_option linter.unusedTactic false
set_option linter.unreachableTactic false
set_option linter.unusedSimpArgs false
namespace Dalek.Proofs.Bytes26
open Dalek Dalek.IR Dalek.Model.FieldBytes Dalek.Proofs.Bytes51 Dalek.Proofs.Radix

theorem val26Z_toZ (l : List Nat) : val26Z (toZ l) = (val26N l : Int) := by
  simp only [val26Z, val26N, getD_toZ]; push_cast; rfl

theorem list_eq_of_length_10 {α : Type} {l : List α} (hl : l.length = 10) :
    ∃ a0 a1 a2 a3 a4 a5 a6 a7 a8 a9, l = [a0, a1, a2, a3, a4, a5, a6, a7, a8, a9] :=
  list_of_length_10 l hl

theorem and_chain {a b : Prop} (ha : a) (hb : a → b) : a ∧ b := ⟨ha, hb ha⟩

abbrev ws26 : List Nat := [26, 25, 26, 25, 26, 25, 26, 25, 26, 25]

theorem val26Z_eq_radVal (a0 a1 a2 a3 a4 a5 a6 a7 a8 a9 : Int) :
    val26Z [a0, a1, a2, a3, a4, a5, a6, a7, a8, a9] = radVal ws26 [a0, a1, a2, a3, a4, a5, a6, a7, a8, a9] := by
  simp only [val26Z, radVal, List.getD_cons_zero, List.getD_cons_succ]; ring

theorem val26Z_digits (N : Int) : val26Z (digits ws26 N) = N % 2 ^ 255 :=
  (val26Z_eq_radVal ..).trans (radVal_digits ws26 N)

/-! ### `from_bytes` -/
open Dalek.Gen.Norm.Field26

/-- the ten loads of `from_bytes` are slices of the bits of the little-endian value `N` -/
theorem from_bytes_loads {x0 x1 x2 x3 x4 x5 x6 x7 x8 x9 x10 x11 x12 x13 x14 x15 x16 x17 x18 x19 x20 x21 x22 x23 x24 x25 x26 x27 x28 x29 x30 x31 N : Int}
    (hs : ∀ j n, j + n ≤ 32 → leValZ (([x0, x1, x2, x3, x4, x5, x6, x7, x8, x9, x10, x11, x12, x13, x14, x15, x16, x17, x18, x19, x20, x21, x22, x23, x24, x25, x26, x27, x28, x29, x30, x31].drop j).take n) = N / 2 ^ (8 * j) % 2 ^ (8 * n)) :
    x0 + x1 * 256 + x2 * 65536 + x3 * 16777216 = N % 2 ^ 32 ∧
    x4 + x5 * 256 + x6 * 65536 = N / 2 ^ 32 % 2 ^ 24 ∧
    x7 + x8 * 256 + x9 * 65536 = N / 2 ^ 56 % 2 ^ 24 ∧
    x10 + x11 * 256 + x12 * 65536 = N / 2 ^ 80 % 2 ^ 24 ∧
    x13 + x14 * 256 + x15 * 65536 = N / 2 ^ 104 % 2 ^ 24 ∧
    x16 + x17 * 256 + x18 * 65536 + x19 * 16777216 = N / 2 ^ 128 % 2 ^ 32 ∧
    x20 + x21 * 256 + x22 * 65536 = N / 2 ^ 160 % 2 ^ 24 ∧
    x23 + x24 * 256 + x25 * 65536 = N / 2 ^ 184 % 2 ^ 24 ∧
    x26 + x27 * 256 + x28 * 65536 = N / 2 ^ 208 % 2 ^ 24 ∧
    x29 + x30 * 256 + x31 * 65536 = N / 2 ^ 232 % 2 ^ 24 := by
  refine ⟨?_, ?_, ?_, ?_, ?_, ?_, ?_, ?_, ?_, ?_⟩
  · have h := hs 0 4 (by simp); simp only [List.drop, List.take, leValZ] at h; clear hs; omega
  · have h := hs 4 3 (by simp); simp only [List.drop, List.take, leValZ] at h; clear hs; omega
  · have h := hs 7 3 (by simp); simp only [List.drop, List.take, leValZ] at h; clear hs; omega
  · have h := hs 10 3 (by simp); simp only [List.drop, List.take, leValZ] at h; clear hs; omega
  · have h := hs 13 3 (by simp); simp only [List.drop, List.take, leValZ] at h; clear hs; omega
  · have h := hs 16 4 (by simp); simp only [List.drop, List.take, leValZ] at h; clear hs; omega
  · have h := hs 20 3 (by simp); simp only [List.drop, List.take, leValZ] at h; clear hs; omega
  · have h := hs 23 3 (by simp); simp only [List.drop, List.take, leValZ] at h; clear hs; omega
  · have h := hs 26 3 (by simp); simp only [List.drop, List.take, leValZ] at h; clear hs; omega
  · have h := hs 29 3 (by simp); simp only [List.drop, List.take, leValZ] at h; clear hs; omega

/-- the limbs 0…4 are 26/25-bit digits of the little-endian value `N`: with the loads written in terms of `N`, each limb
is an expression in `N` alone.  Limb 1 receives the last carry of `reduce` and is done after rewriting with the result
for limb 0. -/
theorem from_bytes_fn_lo {x0 x1 x2 x3 x4 x5 x6 x7 x8 x9 x10 x11 x12 x13 x14 x15 x16 x17 x18 x19 x20 x21 x22 x23 x24 x25 x26 x27 x28 x29 x30 x31 : Int} (hb : ∀ b ∈ [x0, x1, x2, x3, x4, x5, x6, x7, x8, x9, x10, x11, x12, x13, x14, x15, x16, x17, x18, x19, x20, x21, x22, x23, x24, x25, x26, x27, x28, x29, x30, x31], 0 ≤ b ∧ b ≤ 255) :
    (from_bytes_fn x0 x1 x2 x3 x4 x5 x6 x7 x8 x9 x10 x11 x12 x13 x14 x15 x16 x17 x18 x19 x20 x21 x22 x23 x24 x25 x26 x27 x28 x29 x30 x31).take 5 = (digits ws26 (leValZ [x0, x1, x2, x3, x4, x5, x6, x7, x8, x9, x10, x11, x12, x13, x14, x15, x16, x17, x18, x19, x20, x21, x22, x23, x24, x25, x26, x27, x28, x29, x30, x31])).take 5 := by
  have hs := leValZ_slice _ hb
  generalize leValZ [x0, x1, x2, x3, x4, x5, x6, x7, x8, x9, x10, x11, x12, x13, x14, x15, x16, x17, x18, x19, x20, x21, x22, x23, x24, x25, x26, x27, x28, x29, x30, x31] = N at hs ⊢
  obtain ⟨e0, e1, e2, e3, e4, e5, e6, e7, e8, e9⟩ := from_bytes_loads hs
  simp only [from_bytes_fn, digits, ediv_pow_ediv_pow, e0, e1, e2, e3, e4, e5, e6, e7, e8, e9, List.take, List.cons.injEq,
    and_true]
  clear e0 e1 e2 e3 e4 e5 e6 e7 e8 e9 hs hb
  refine and_chain (by omega) fun h0 => ?_
  rw [h0]
  clear h0
  refine ⟨?_, ?_, ?_, ?_⟩ <;> omega

/-- the same for the limbs 5…9 -/
theorem from_bytes_fn_hi {x0 x1 x2 x3 x4 x5 x6 x7 x8 x9 x10 x11 x12 x13 x14 x15 x16 x17 x18 x19 x20 x21 x22 x23 x24 x25 x26 x27 x28 x29 x30 x31 : Int} (hb : ∀ b ∈ [x0, x1, x2, x3, x4, x5, x6, x7, x8, x9, x10, x11, x12, x13, x14, x15, x16, x17, x18, x19, x20, x21, x22, x23, x24, x25, x26, x27, x28, x29, x30, x31], 0 ≤ b ∧ b ≤ 255) :
    (from_bytes_fn x0 x1 x2 x3 x4 x5 x6 x7 x8 x9 x10 x11 x12 x13 x14 x15 x16 x17 x18 x19 x20 x21 x22 x23 x24 x25 x26 x27 x28 x29 x30 x31).drop 5 = (digits ws26 (leValZ [x0, x1, x2, x3, x4, x5, x6, x7, x8, x9, x10, x11, x12, x13, x14, x15, x16, x17, x18, x19, x20, x21, x22, x23, x24, x25, x26, x27, x28, x29, x30, x31])).drop 5 := by
  have hs := leValZ_slice _ hb
  generalize leValZ [x0, x1, x2, x3, x4, x5, x6, x7, x8, x9, x10, x11, x12, x13, x14, x15, x16, x17, x18, x19, x20, x21, x22, x23, x24, x25, x26, x27, x28, x29, x30, x31] = N at hs ⊢
  obtain ⟨e0, e1, e2, e3, e4, e5, e6, e7, e8, e9⟩ := from_bytes_loads hs
  simp only [from_bytes_fn, digits, ediv_pow_ediv_pow, e0, e1, e2, e3, e4, e5, e6, e7, e8, e9, List.drop, List.cons.injEq,
    and_true]
  clear e0 e1 e2 e3 e4 e5 e6 e7 e8 e9 hs hb
  refine ⟨?_, ?_, ?_, ?_, ?_⟩ <;> omega

/-- the ten limbs are the 26/25-bit digits of the little-endian value with bit 255 cleared -/
theorem from_bytes_fn_eq {x0 x1 x2 x3 x4 x5 x6 x7 x8 x9 x10 x11 x12 x13 x14 x15 x16 x17 x18 x19 x20 x21 x22 x23 x24 x25 x26 x27 x28 x29 x30 x31 : Int} (hb : ∀ b ∈ [x0, x1, x2, x3, x4, x5, x6, x7, x8, x9, x10, x11, x12, x13, x14, x15, x16, x17, x18, x19, x20, x21, x22, x23, x24, x25, x26, x27, x28, x29, x30, x31], 0 ≤ b ∧ b ≤ 255) :
    from_bytes_fn x0 x1 x2 x3 x4 x5 x6 x7 x8 x9 x10 x11 x12 x13 x14 x15 x16 x17 x18 x19 x20 x21 x22 x23 x24 x25 x26 x27 x28 x29 x30 x31 = digits ws26 (leValZ [x0, x1, x2, x3, x4, x5, x6, x7, x8, x9, x10, x11, x12, x13, x14, x15, x16, x17, x18, x19, x20, x21, x22, x23, x24, x25, x26, x27, x28, x29, x30, x31] % 2 ^ 255) := by
  rw [show digits ws26 (_ % 2 ^ 255) = _ from digits_emod ws26 _, ← List.take_append_drop 5 (from_bytes_fn ..),
    from_bytes_fn_lo hb, from_bytes_fn_hi hb, List.take_append_drop]

/-- limbs whose integer form is `digits ws26` of the value of `bs` with bit 255 cleared have that value -/
theorem val26N_of_digits {out bs : List Nat} (h : digits ws26 (leValZ (toZ bs) % 2 ^ 255) = toZ out) :
    val26N out = leVal bs % 2 ^ 255 := by
  have := congrArg val26Z h
  rw [val26Z_digits, val26Z_toZ, leValZ_toZ] at this
  omega

/-! ### `as_bytes` -/

/-- the generated normal form and the hand model are the same integer function -/
theorem as_bytes_fn_eq_model (a0 a1 a2 a3 a4 a5 a6 a7 a8 a9 : Int) :
    as_bytes_fn a0 a1 a2 a3 a4 a5 a6 a7 a8 a9 = asBytesModel26 a0 a1 a2 a3 a4 a5 a6 a7 a8 a9 := by
  unfold as_bytes_fn asBytesModel26 pack26
  simp only [List.cons.injEq, and_true, pow_zero, Int.ediv_one]
  repeat' apply And.intro
  all_goals ring_nf

/-- weak reduction (`FieldElement2625::reduce`): limbs `< 2^26 + 2^10` / `< 2^25 + 2^10`, value changed by a multiple of `p` -/
theorem reduce26_abs (a0 a1 a2 a3 a4 a5 a6 a7 a8 a9 l0 l1 l2 l3 l4 l5 l6 l7 l8 l9 b1 b2 b3 b4 b5 b6 b7 b8 b9 c0 z0 z1 z4 z5 : Int)
    (ba0 : 0 ≤ a0 ∧ a0 < 2 ^ 28) (ba1 : 0 ≤ a1 ∧ a1 < 2 ^ 27) (ba2 : 0 ≤ a2 ∧ a2 < 2 ^ 28) (ba3 : 0 ≤ a3 ∧ a3 < 2 ^ 27) (ba4 : 0 ≤ a4 ∧ a4 < 2 ^ 28) (ba5 : 0 ≤ a5 ∧ a5 < 2 ^ 27) (ba6 : 0 ≤ a6 ∧ a6 < 2 ^ 28) (ba7 : 0 ≤ a7 ∧ a7 < 2 ^ 27) (ba8 : 0 ≤ a8 ∧ a8 < 2 ^ 28) (ba9 : 0 ≤ a9 ∧ a9 < 2 ^ 27)
    (e1 : b1 = a1 + a0 / 2 ^ 26) (ez0 : z0 = a0 % 2 ^ 26) (e5 : b5 = a5 + a4 / 2 ^ 26) (ez4 : z4 = a4 % 2 ^ 26)
    (e2 : b2 = a2 + b1 / 2 ^ 25) (ez1 : z1 = b1 % 2 ^ 25) (e6 : b6 = a6 + b5 / 2 ^ 25) (ez5 : z5 = b5 % 2 ^ 25)
    (e3 : b3 = a3 + b2 / 2 ^ 26) (el2 : l2 = b2 % 2 ^ 26) (e7 : b7 = a7 + b6 / 2 ^ 26) (el6 : l6 = b6 % 2 ^ 26)
    (e4 : b4 = z4 + b3 / 2 ^ 25) (el3 : l3 = b3 % 2 ^ 25) (e8 : b8 = a8 + b7 / 2 ^ 25) (el7 : l7 = b7 % 2 ^ 25)
    (el5 : l5 = z5 + b4 / 2 ^ 26) (el4 : l4 = b4 % 2 ^ 26) (e9 : b9 = a9 + b8 / 2 ^ 26) (el8 : l8 = b8 % 2 ^ 26)
    (ec0 : c0 = z0 + 19 * (b9 / 2 ^ 25)) (el9 : l9 = b9 % 2 ^ 25) (el1 : l1 = z1 + c0 / 2 ^ 26) (el0 : l0 = c0 % 2 ^ 26) :
    (0 ≤ radVal ws26 [l0, l1, l2, l3, l4, l5, l6, l7, l8, l9] ∧ radVal ws26 [l0, l1, l2, l3, l4, l5, l6, l7, l8, l9] < 2 * (2 ^ 255 - 19)) ∧
    radVal ws26 [l0, l1, l2, l3, l4, l5, l6, l7, l8, l9] = val26Z [a0, a1, a2, a3, a4, a5, a6, a7, a8, a9] - (2 ^ 255 - 19) * (b9 / 2 ^ 25) := by
  simp only [radVal, val26Z, List.getD_cons_zero, List.getD_cons_succ]
  refine ⟨?_, ?_⟩
  · omega
  · omega

/-- packing is a change of digit widths: limbs and bytes are digits of the same integer -/
theorem pack26_digits (G : Int) (h : 0 ≤ G ∧ G < 2 ^ 255) :
    pack26 (G % 2 ^ 26) (G / 2 ^ 26 % 2 ^ 25) (G / 2 ^ 26 / 2 ^ 25 % 2 ^ 26) (G / 2 ^ 26 / 2 ^ 25 / 2 ^ 26 % 2 ^ 25)
      (G / 2 ^ 26 / 2 ^ 25 / 2 ^ 26 / 2 ^ 25 % 2 ^ 26) (G / 2 ^ 26 / 2 ^ 25 / 2 ^ 26 / 2 ^ 25 / 2 ^ 26 % 2 ^ 25)
      (G / 2 ^ 26 / 2 ^ 25 / 2 ^ 26 / 2 ^ 25 / 2 ^ 26 / 2 ^ 25 % 2 ^ 26)
      (G / 2 ^ 26 / 2 ^ 25 / 2 ^ 26 / 2 ^ 25 / 2 ^ 26 / 2 ^ 25 / 2 ^ 26 % 2 ^ 25)
      (G / 2 ^ 26 / 2 ^ 25 / 2 ^ 26 / 2 ^ 25 / 2 ^ 26 / 2 ^ 25 / 2 ^ 26 / 2 ^ 25 % 2 ^ 26)
      (G / 2 ^ 26 / 2 ^ 25 / 2 ^ 26 / 2 ^ 25 / 2 ^ 26 / 2 ^ 25 / 2 ^ 26 / 2 ^ 25 / 2 ^ 26 % 2 ^ 25)
      = digits (List.replicate 32 8) G := by
  simp only [pack26, digits, List.replicate, emod_ediv_byte, ediv_pow_ediv_pow, Nat.reduceAdd, Nat.reduceLeDiff,
    List.cons.injEq, and_true, true_and]
  and_intros <;> omega

/-- **the hand model computes the canonical encoding**: for limbs inside the contract (even `< 2^28`, odd `< 2^27`) the
output is the 32 base-256 digits of `(Σ a_i 2^⌈25.5 i⌉) mod p` -/
theorem asBytesModel26_eq (a0 a1 a2 a3 a4 a5 a6 a7 a8 a9 : Int)
    (ha0 : 0 ≤ a0 ∧ a0 < 2 ^ 28) (ha1 : 0 ≤ a1 ∧ a1 < 2 ^ 27) (ha2 : 0 ≤ a2 ∧ a2 < 2 ^ 28) (ha3 : 0 ≤ a3 ∧ a3 < 2 ^ 27) (ha4 : 0 ≤ a4 ∧ a4 < 2 ^ 28) (ha5 : 0 ≤ a5 ∧ a5 < 2 ^ 27) (ha6 : 0 ≤ a6 ∧ a6 < 2 ^ 28) (ha7 : 0 ≤ a7 ∧ a7 < 2 ^ 27) (ha8 : 0 ≤ a8 ∧ a8 < 2 ^ 28) (ha9 : 0 ≤ a9 ∧ a9 < 2 ^ 27) :
    asBytesModel26 a0 a1 a2 a3 a4 a5 a6 a7 a8 a9
      = digits (List.replicate 32 8) (val26Z [a0, a1, a2, a3, a4, a5, a6, a7, a8, a9] % (2 ^ 255 - 19)) := by
  unfold asBytesModel26
  extract_lets b1 z0 b5 z4 b2 z1 b6 z5 b3 l2 b7 l6 b4 l3 b8 l7 l5 l4 b9 l8 c0 l9 l1 l0 q0 q1 q2 q3 q4 q5 q6 q7 q8 q t0 t1 t2 t3 t4 t5 t6 t7 t8 t9 f0 f1 f2 f3 f4 f5 f6 f7 f8 f9
  obtain ⟨hH, hA⟩ :=
    reduce26_abs a0 a1 a2 a3 a4 a5 a6 a7 a8 a9 l0 l1 l2 l3 l4 l5 l6 l7 l8 l9 b1 b2 b3 b4 b5 b6 b7 b8 b9 c0 z0 z1 z4 z5
      ha0 ha1 ha2 ha3 ha4 ha5 ha6 ha7 ha8 ha9 rfl rfl rfl rfl rfl rfl rfl rfl rfl rfl rfl rfl rfl rfl rfl rfl rfl rfl rfl rfl rfl rfl rfl rfl
  have hq := (Chain.spec (show Chain ws26 19 [l0, l1, l2, l3, l4, l5, l6, l7, l8, l9] _ q from
    .cons rfl (.cons rfl (.cons rfl (.cons rfl (.cons rfl (.cons rfl (.cons rfl (.cons rfl (.cons rfl (.cons rfl
      .nil))))))))))).2
  have hf := (Chain.spec (show Chain ws26 (19 * q) [l0, l1, l2, l3, l4, l5, l6, l7, l8, l9] [f0, f1, f2, f3, f4, f5, f6, f7, f8, f9] (t9 / 2 ^ 25) from
    .cons rfl (.cons rfl (.cons rfl (.cons rfl (.cons rfl (.cons rfl (.cons rfl (.cons rfl (.cons rfl (.cons rfl
      .nil))))))))))).1
  rw [hq, ← digits_emod, show (2 : Int) ^ ws26.sum = 2 ^ 255 from rfl, serial_canon _ hH, hA,
    Int.sub_mul_emod_self_left] at hf
  obtain ⟨e0, e1, e2, e3, e4, e5, e6, e7, e8, e9, -⟩ :
      f0 = _ ∧ f1 = _ ∧ f2 = _ ∧ f3 = _ ∧ f4 = _ ∧ f5 = _ ∧ f6 = _ ∧ f7 = _ ∧ f8 = _ ∧ f9 = _ ∧ _ := by
    simpa only [digits, List.cons.injEq] using hf
  rw [e0, e1, e2, e3, e4, e5, e6, e7, e8, e9]
  exact pack26_digits _ (by omega)

/-- the same for the generated normal form -/
theorem as_bytes_fn_eq (a0 a1 a2 a3 a4 a5 a6 a7 a8 a9 : Int)
    (ha0 : 0 ≤ a0 ∧ a0 < 2 ^ 28) (ha1 : 0 ≤ a1 ∧ a1 < 2 ^ 27) (ha2 : 0 ≤ a2 ∧ a2 < 2 ^ 28) (ha3 : 0 ≤ a3 ∧ a3 < 2 ^ 27) (ha4 : 0 ≤ a4 ∧ a4 < 2 ^ 28) (ha5 : 0 ≤ a5 ∧ a5 < 2 ^ 27) (ha6 : 0 ≤ a6 ∧ a6 < 2 ^ 28) (ha7 : 0 ≤ a7 ∧ a7 < 2 ^ 27) (ha8 : 0 ≤ a8 ∧ a8 < 2 ^ 28) (ha9 : 0 ≤ a9 ∧ a9 < 2 ^ 27) :
    as_bytes_fn a0 a1 a2 a3 a4 a5 a6 a7 a8 a9
      = digits (List.replicate 32 8) (val26Z [a0, a1, a2, a3, a4, a5, a6, a7, a8, a9] % (2 ^ 255 - 19)) :=
  (as_bytes_fn_eq_model ..).trans (asBytesModel26_eq a0 a1 a2 a3 a4 a5 a6 a7 a8 a9 ha0 ha1 ha2 ha3 ha4 ha5 ha6 ha7 ha8 ha9)

end Dalek.Proofs.Bytes26
