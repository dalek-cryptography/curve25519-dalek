import Dalek.Proofs.IfmaField.Defs
import Dalek.Gen.Norm.IfmaField
/-! The two selects of the IFMA backend.  (Shuffles and blends are pure lane renamings: their statements in
`Dalek/Props/C01/Ifma.lean` hold by `rfl`, lane by lane.) -/
set_option maxRecDepth 100000
set_option linter.unusedSimpArgs false
namespace Dalek.Proofs.IfmaField
open Dalek Dalek.Gen.Norm.IfmaField Dalek.Proofs.Field26 Dalek.Proofs.Avx2Field

/-- `conditional_select(a, b, choice)`: all 20 lanes of `a` if `choice = 0`, else all 20 lanes of `b` -/
theorem conditional_select_correct (x0 x1 x2 x3 x4 x5 x6 x7 x8 x9 x10 x11 x12 x13 x14 x15 x16 x17 x18 x19 y0 y1 y2 y3 y4 y5 y6 y7 y8 y9 y10 y11 y12 y13 y14 y15 y16 y17 y18 y19 c : Int) :
    conditional_select_fn x0 x1 x2 x3 x4 x5 x6 x7 x8 x9 x10 x11 x12 x13 x14 x15 x16 x17 x18 x19 y0 y1 y2 y3 y4 y5 y6 y7 y8 y9 y10 y11 y12 y13 y14 y15 y16 y17 y18 y19 c = if c = 0 then (x0 :: x1 :: x2 :: x3 :: x4 :: x5 :: x6 :: x7 :: x8 :: x9 :: x10 :: x11 :: x12 :: x13 :: x14 :: x15 :: x16 :: x17 :: x18 :: x19 :: []) else (y0 :: y1 :: y2 :: y3 :: y4 :: y5 :: y6 :: y7 :: y8 :: y9 :: y10 :: y11 :: y12 :: y13 :: y14 :: y15 :: y16 :: y17 :: y18 :: y19 :: []) := by
  by_cases h : c = 0 <;> simp only [conditional_select_fn, h, ↓reduceIte]

/-- `conditional_assign(a, b, choice)`: all 20 lanes of `a` if `choice = 0`, else all 20 lanes of `b` -/
theorem conditional_assign_correct (x0 x1 x2 x3 x4 x5 x6 x7 x8 x9 x10 x11 x12 x13 x14 x15 x16 x17 x18 x19 y0 y1 y2 y3 y4 y5 y6 y7 y8 y9 y10 y11 y12 y13 y14 y15 y16 y17 y18 y19 c : Int) :
    conditional_assign_fn x0 x1 x2 x3 x4 x5 x6 x7 x8 x9 x10 x11 x12 x13 x14 x15 x16 x17 x18 x19 y0 y1 y2 y3 y4 y5 y6 y7 y8 y9 y10 y11 y12 y13 y14 y15 y16 y17 y18 y19 c = if c = 0 then (x0 :: x1 :: x2 :: x3 :: x4 :: x5 :: x6 :: x7 :: x8 :: x9 :: x10 :: x11 :: x12 :: x13 :: x14 :: x15 :: x16 :: x17 :: x18 :: x19 :: []) else (y0 :: y1 :: y2 :: y3 :: y4 :: y5 :: y6 :: y7 :: y8 :: y9 :: y10 :: y11 :: y12 :: y13 :: y14 :: y15 :: y16 :: y17 :: y18 :: y19 :: []) := by
  by_cases h : c = 0 <;> simp only [conditional_assign_fn, h, ↓reduceIte]

end Dalek.Proofs.IfmaField
