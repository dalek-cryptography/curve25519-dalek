import Dalek.IR.NormSpec
import Dalek.Proofs.FiatField26
import Dalek.Props.C01.Field26
/-!
# C01 / C11 / C05 — the fiat u32 backend: field arithmetic is exact arithmetic modulo 2^255-19 (property theorems)

Statements are about `Dalek.Gen.FiatField26.*`: LimbIR programs REGENERATED on every run from the wrapper methods of
`curve25519-dalek/src/backend/serial/fiat_u32/field.rs` with the `fiat_crypto::curve25519_32` functions they call
INLINED (source: the cargo-registry copy of the fiat-crypto version pinned by /repo/Cargo.lock).  For every input inside
fiat's documented *tight* bounds (`Dalek.Model.Contracts.FiatField26.tight`) the debug build (`evalC`: overflow checks) does not
panic, the release build (`evalW`) returns the same limbs, the result is again *tight* (so every composition of these
operations stays inside the contracts: the C11 invariant of this backend is one interval vector), and its value in `ZMod p`
is the field operation applied to the values of the inputs.
-/
namespace Dalek.Props.C01.Fiat26
open Dalek.IR Dalek.Model.Contracts
open Dalek.Proofs.Field26 (P rep26)
open Dalek.Props.C01.Field26 (val26)

/-- the output contract of every fiat wrapper operation: fiat's tight bounds -/
abbrev tightOut : List Itv := FiatField26.tight

section
variable (a0 a1 a2 a3 a4 a5 a6 a7 a8 a9 b0 b1 b2 b3 b4 b5 b6 b7 b8 b9 : Nat)

/-- `-&a`: `fiat_25519_opp` then `fiat_25519_carry` -/
theorem neg_spec (hin : EnvIn [a0, a1, a2, a3, a4, a5, a6, a7, a8, a9] FiatField26.pre_neg) :
    ∃ out, Dalek.Gen.FiatField26.neg.evalC [a0, a1, a2, a3, a4, a5, a6, a7, a8, a9] = some out ∧
      Dalek.Gen.FiatField26.neg.evalW [a0, a1, a2, a3, a4, a5, a6, a7, a8, a9] = out ∧
      EnvIn out tightOut ∧ val26 out = - val26 [a0, a1, a2, a3, a4, a5, a6, a7, a8, a9] :=
  Prog.fn_spec Dalek.Gen.Norm.FiatField26.neg_norm_ok (by decide +kernel) hin (fun v => ((rep26 v : Int) : ZMod P)) (Dalek.Gen.Norm.FiatField26.neg_fn_ok _ _ _ _ _ _ _ _ _ _) (Dalek.Proofs.FiatField26.neg_correct _ _ _ _ _ _ _ _ _ _)

/-- `square()`: relax, `fiat_25519_carry_square` -/
theorem square_spec (hin : EnvIn [a0, a1, a2, a3, a4, a5, a6, a7, a8, a9] FiatField26.pre_square) :
    ∃ out, Dalek.Gen.FiatField26.square.evalC [a0, a1, a2, a3, a4, a5, a6, a7, a8, a9] = some out ∧
      Dalek.Gen.FiatField26.square.evalW [a0, a1, a2, a3, a4, a5, a6, a7, a8, a9] = out ∧
      EnvIn out tightOut ∧ val26 out = val26 [a0, a1, a2, a3, a4, a5, a6, a7, a8, a9] ^ 2 :=
  Prog.fn_spec Dalek.Gen.Norm.FiatField26.square_norm_ok (by decide +kernel) hin (fun v => ((rep26 v : Int) : ZMod P)) (Dalek.Gen.Norm.FiatField26.square_fn_ok _ _ _ _ _ _ _ _ _ _) (Dalek.Proofs.FiatField26.square_correct _ _ _ _ _ _ _ _ _ _)

/-- `square2()`: carry_square, `add(sq, sq)`, carry -/
theorem square2_spec (hin : EnvIn [a0, a1, a2, a3, a4, a5, a6, a7, a8, a9] FiatField26.pre_square2) :
    ∃ out, Dalek.Gen.FiatField26.square2.evalC [a0, a1, a2, a3, a4, a5, a6, a7, a8, a9] = some out ∧
      Dalek.Gen.FiatField26.square2.evalW [a0, a1, a2, a3, a4, a5, a6, a7, a8, a9] = out ∧
      EnvIn out tightOut ∧ val26 out = 2 * val26 [a0, a1, a2, a3, a4, a5, a6, a7, a8, a9] ^ 2 :=
  Prog.fn_spec Dalek.Gen.Norm.FiatField26.square2_norm_ok (by decide +kernel) hin (fun v => ((rep26 v : Int) : ZMod P)) (Dalek.Gen.Norm.FiatField26.square2_fn_ok _ _ _ _ _ _ _ _ _ _) (Dalek.Proofs.FiatField26.square2_correct _ _ _ _ _ _ _ _ _ _)

/-- one iteration of the `pow2k` loop (tight in, tight out: it iterates) -/
theorem pow2k_body_spec (hin : EnvIn [a0, a1, a2, a3, a4, a5, a6, a7, a8, a9] FiatField26.pre_pow2k_body) :
    ∃ out, Dalek.Gen.FiatField26.pow2k_body.evalC [a0, a1, a2, a3, a4, a5, a6, a7, a8, a9] = some out ∧
      Dalek.Gen.FiatField26.pow2k_body.evalW [a0, a1, a2, a3, a4, a5, a6, a7, a8, a9] = out ∧
      EnvIn out tightOut ∧ val26 out = val26 [a0, a1, a2, a3, a4, a5, a6, a7, a8, a9] ^ 2 :=
  Prog.fn_spec Dalek.Gen.Norm.FiatField26.pow2k_body_norm_ok (by decide +kernel) hin (fun v => ((rep26 v : Int) : ZMod P)) (Dalek.Gen.Norm.FiatField26.pow2k_body_fn_ok _ _ _ _ _ _ _ _ _ _) (Dalek.Proofs.FiatField26.pow2k_body_correct _ _ _ _ _ _ _ _ _ _)

/-- `+=`: `fiat_25519_add` then `fiat_25519_carry` -/
theorem add_spec (hin : EnvIn [a0, a1, a2, a3, a4, a5, a6, a7, a8, a9, b0, b1, b2, b3, b4, b5, b6, b7, b8, b9] FiatField26.pre_add) :
    ∃ out, Dalek.Gen.FiatField26.add.evalC [a0, a1, a2, a3, a4, a5, a6, a7, a8, a9, b0, b1, b2, b3, b4, b5, b6, b7, b8, b9] = some out ∧
      Dalek.Gen.FiatField26.add.evalW [a0, a1, a2, a3, a4, a5, a6, a7, a8, a9, b0, b1, b2, b3, b4, b5, b6, b7, b8, b9] = out ∧
      EnvIn out tightOut ∧ val26 out = val26 [a0, a1, a2, a3, a4, a5, a6, a7, a8, a9] + val26 [b0, b1, b2, b3, b4, b5, b6, b7, b8, b9] :=
  Prog.fn_spec Dalek.Gen.Norm.FiatField26.add_norm_ok (by decide +kernel) hin (fun v => ((rep26 v : Int) : ZMod P)) (Dalek.Gen.Norm.FiatField26.add_fn_ok _ _ _ _ _ _ _ _ _ _ _ _ _ _ _ _ _ _ _ _) (Dalek.Proofs.FiatField26.add_correct _ _ _ _ _ _ _ _ _ _ _ _ _ _ _ _ _ _ _ _)

/-- `&a + &b` -/
theorem add_ref_spec (hin : EnvIn [a0, a1, a2, a3, a4, a5, a6, a7, a8, a9, b0, b1, b2, b3, b4, b5, b6, b7, b8, b9] FiatField26.pre_add_ref) :
    ∃ out, Dalek.Gen.FiatField26.add_ref.evalC [a0, a1, a2, a3, a4, a5, a6, a7, a8, a9, b0, b1, b2, b3, b4, b5, b6, b7, b8, b9] = some out ∧
      Dalek.Gen.FiatField26.add_ref.evalW [a0, a1, a2, a3, a4, a5, a6, a7, a8, a9, b0, b1, b2, b3, b4, b5, b6, b7, b8, b9] = out ∧
      EnvIn out tightOut ∧ val26 out = val26 [a0, a1, a2, a3, a4, a5, a6, a7, a8, a9] + val26 [b0, b1, b2, b3, b4, b5, b6, b7, b8, b9] :=
  Prog.fn_spec Dalek.Gen.Norm.FiatField26.add_ref_norm_ok (by decide +kernel) hin (fun v => ((rep26 v : Int) : ZMod P)) (Dalek.Gen.Norm.FiatField26.add_ref_fn_ok _ _ _ _ _ _ _ _ _ _ _ _ _ _ _ _ _ _ _ _) (Dalek.Proofs.FiatField26.add_ref_correct _ _ _ _ _ _ _ _ _ _ _ _ _ _ _ _ _ _ _ _)

/-- `&a - &b`: `fiat_25519_sub` (adds 2p) then carry -/
theorem sub_spec (hin : EnvIn [a0, a1, a2, a3, a4, a5, a6, a7, a8, a9, b0, b1, b2, b3, b4, b5, b6, b7, b8, b9] FiatField26.pre_sub) :
    ∃ out, Dalek.Gen.FiatField26.sub.evalC [a0, a1, a2, a3, a4, a5, a6, a7, a8, a9, b0, b1, b2, b3, b4, b5, b6, b7, b8, b9] = some out ∧
      Dalek.Gen.FiatField26.sub.evalW [a0, a1, a2, a3, a4, a5, a6, a7, a8, a9, b0, b1, b2, b3, b4, b5, b6, b7, b8, b9] = out ∧
      EnvIn out tightOut ∧ val26 out = val26 [a0, a1, a2, a3, a4, a5, a6, a7, a8, a9] - val26 [b0, b1, b2, b3, b4, b5, b6, b7, b8, b9] :=
  Prog.fn_spec Dalek.Gen.Norm.FiatField26.sub_norm_ok (by decide +kernel) hin (fun v => ((rep26 v : Int) : ZMod P)) (Dalek.Gen.Norm.FiatField26.sub_fn_ok _ _ _ _ _ _ _ _ _ _ _ _ _ _ _ _ _ _ _ _) (Dalek.Proofs.FiatField26.sub_correct _ _ _ _ _ _ _ _ _ _ _ _ _ _ _ _ _ _ _ _)

/-- `-=` -/
theorem sub_assign_spec (hin : EnvIn [a0, a1, a2, a3, a4, a5, a6, a7, a8, a9, b0, b1, b2, b3, b4, b5, b6, b7, b8, b9] FiatField26.pre_sub_assign) :
    ∃ out, Dalek.Gen.FiatField26.sub_assign.evalC [a0, a1, a2, a3, a4, a5, a6, a7, a8, a9, b0, b1, b2, b3, b4, b5, b6, b7, b8, b9] = some out ∧
      Dalek.Gen.FiatField26.sub_assign.evalW [a0, a1, a2, a3, a4, a5, a6, a7, a8, a9, b0, b1, b2, b3, b4, b5, b6, b7, b8, b9] = out ∧
      EnvIn out tightOut ∧ val26 out = val26 [a0, a1, a2, a3, a4, a5, a6, a7, a8, a9] - val26 [b0, b1, b2, b3, b4, b5, b6, b7, b8, b9] :=
  Prog.fn_spec Dalek.Gen.Norm.FiatField26.sub_assign_norm_ok (by decide +kernel) hin (fun v => ((rep26 v : Int) : ZMod P)) (Dalek.Gen.Norm.FiatField26.sub_assign_fn_ok _ _ _ _ _ _ _ _ _ _ _ _ _ _ _ _ _ _ _ _) (Dalek.Proofs.FiatField26.sub_assign_correct _ _ _ _ _ _ _ _ _ _ _ _ _ _ _ _ _ _ _ _)

/-- `&a * &b`: relax both, `fiat_25519_carry_mul` -/
theorem mul_spec (hin : EnvIn [a0, a1, a2, a3, a4, a5, a6, a7, a8, a9, b0, b1, b2, b3, b4, b5, b6, b7, b8, b9] FiatField26.pre_mul) :
    ∃ out, Dalek.Gen.FiatField26.mul.evalC [a0, a1, a2, a3, a4, a5, a6, a7, a8, a9, b0, b1, b2, b3, b4, b5, b6, b7, b8, b9] = some out ∧
      Dalek.Gen.FiatField26.mul.evalW [a0, a1, a2, a3, a4, a5, a6, a7, a8, a9, b0, b1, b2, b3, b4, b5, b6, b7, b8, b9] = out ∧
      EnvIn out tightOut ∧ val26 out = val26 [a0, a1, a2, a3, a4, a5, a6, a7, a8, a9] * val26 [b0, b1, b2, b3, b4, b5, b6, b7, b8, b9] :=
  Prog.fn_spec Dalek.Gen.Norm.FiatField26.mul_norm_ok (by decide +kernel) hin (fun v => ((rep26 v : Int) : ZMod P)) (Dalek.Gen.Norm.FiatField26.mul_fn_ok _ _ _ _ _ _ _ _ _ _ _ _ _ _ _ _ _ _ _ _) (Dalek.Proofs.FiatField26.mul_correct _ _ _ _ _ _ _ _ _ _ _ _ _ _ _ _ _ _ _ _)

/-- `*=` -/
theorem mul_assign_spec (hin : EnvIn [a0, a1, a2, a3, a4, a5, a6, a7, a8, a9, b0, b1, b2, b3, b4, b5, b6, b7, b8, b9] FiatField26.pre_mul_assign) :
    ∃ out, Dalek.Gen.FiatField26.mul_assign.evalC [a0, a1, a2, a3, a4, a5, a6, a7, a8, a9, b0, b1, b2, b3, b4, b5, b6, b7, b8, b9] = some out ∧
      Dalek.Gen.FiatField26.mul_assign.evalW [a0, a1, a2, a3, a4, a5, a6, a7, a8, a9, b0, b1, b2, b3, b4, b5, b6, b7, b8, b9] = out ∧
      EnvIn out tightOut ∧ val26 out = val26 [a0, a1, a2, a3, a4, a5, a6, a7, a8, a9] * val26 [b0, b1, b2, b3, b4, b5, b6, b7, b8, b9] :=
  Prog.fn_spec Dalek.Gen.Norm.FiatField26.mul_assign_norm_ok (by decide +kernel) hin (fun v => ((rep26 v : Int) : ZMod P)) (Dalek.Gen.Norm.FiatField26.mul_assign_fn_ok _ _ _ _ _ _ _ _ _ _ _ _ _ _ _ _ _ _ _ _) (Dalek.Proofs.FiatField26.mul_assign_correct _ _ _ _ _ _ _ _ _ _ _ _ _ _ _ _ _ _ _ _)

end

section
variable (a0 a1 a2 a3 a4 a5 a6 a7 a8 a9 b0 b1 b2 b3 b4 b5 b6 b7 b8 b9 c : Nat)

/-- `conditional_select(a, b, c)` (`fiat_25519_selectznz`): limb-for-limb `a` if `c = 0`, `b` if `c = 1` -/
theorem conditional_select_spec (hin : EnvIn [a0, a1, a2, a3, a4, a5, a6, a7, a8, a9, b0, b1, b2, b3, b4, b5, b6, b7, b8, b9, c] FiatField26.pre_conditional_select) :
    ∃ out, Dalek.Gen.FiatField26.conditional_select.evalC [a0, a1, a2, a3, a4, a5, a6, a7, a8, a9, b0, b1, b2, b3, b4, b5, b6, b7, b8, b9, c] = some out ∧
      Dalek.Gen.FiatField26.conditional_select.evalW [a0, a1, a2, a3, a4, a5, a6, a7, a8, a9, b0, b1, b2, b3, b4, b5, b6, b7, b8, b9, c] = out ∧
      out = if c = 0 then [a0, a1, a2, a3, a4, a5, a6, a7, a8, a9] else [b0, b1, b2, b3, b4, b5, b6, b7, b8, b9] :=
  Prog.norm_val Dalek.Gen.Norm.FiatField26.conditional_select_norm_ok hin fun _ hZ => toZ_inj <| by
    rw [toZ_ite]; exact Prog.of_fn (V := id) hZ (Dalek.Gen.Norm.FiatField26.conditional_select_fn_ok ..) (Dalek.Proofs.FiatField26.conditional_select_correct ..)

/-- `a.conditional_assign(b, c)` (five/ten `fiat_25519_cmovznz`) -/
theorem conditional_assign_spec (hin : EnvIn [a0, a1, a2, a3, a4, a5, a6, a7, a8, a9, b0, b1, b2, b3, b4, b5, b6, b7, b8, b9, c] FiatField26.pre_conditional_assign) :
    ∃ out, Dalek.Gen.FiatField26.conditional_assign.evalC [a0, a1, a2, a3, a4, a5, a6, a7, a8, a9, b0, b1, b2, b3, b4, b5, b6, b7, b8, b9, c] = some out ∧
      Dalek.Gen.FiatField26.conditional_assign.evalW [a0, a1, a2, a3, a4, a5, a6, a7, a8, a9, b0, b1, b2, b3, b4, b5, b6, b7, b8, b9, c] = out ∧
      out = if c = 0 then [a0, a1, a2, a3, a4, a5, a6, a7, a8, a9] else [b0, b1, b2, b3, b4, b5, b6, b7, b8, b9] :=
  Prog.norm_val Dalek.Gen.Norm.FiatField26.conditional_assign_norm_ok hin fun _ hZ => toZ_inj <| by
    rw [toZ_ite]; exact Prog.of_fn (V := id) hZ (Dalek.Gen.Norm.FiatField26.conditional_assign_fn_ok ..) (Dalek.Proofs.FiatField26.conditional_assign_correct ..)

/-- `conditional_swap(a, b, c)` (five/ten `u64::conditional_swap` on the limbs): the pair unchanged if `c = 0`, exchanged if `c = 1` -/
theorem conditional_swap_spec (hin : EnvIn [a0, a1, a2, a3, a4, a5, a6, a7, a8, a9, b0, b1, b2, b3, b4, b5, b6, b7, b8, b9, c] FiatField26.pre_conditional_swap) :
    ∃ out, Dalek.Gen.FiatField26.conditional_swap.evalC [a0, a1, a2, a3, a4, a5, a6, a7, a8, a9, b0, b1, b2, b3, b4, b5, b6, b7, b8, b9, c] = some out ∧
      Dalek.Gen.FiatField26.conditional_swap.evalW [a0, a1, a2, a3, a4, a5, a6, a7, a8, a9, b0, b1, b2, b3, b4, b5, b6, b7, b8, b9, c] = out ∧
      out = if c = 0 then [a0, a1, a2, a3, a4, a5, a6, a7, a8, a9, b0, b1, b2, b3, b4, b5, b6, b7, b8, b9] else [b0, b1, b2, b3, b4, b5, b6, b7, b8, b9, a0, a1, a2, a3, a4, a5, a6, a7, a8, a9] :=
  Prog.norm_val Dalek.Gen.Norm.FiatField26.conditional_swap_norm_ok hin fun _ hZ => toZ_inj <| by
    rw [toZ_ite]; exact Prog.of_fn (V := id) hZ (Dalek.Gen.Norm.FiatField26.conditional_swap_fn_ok ..) (Dalek.Proofs.FiatField26.conditional_swap_correct ..)

end

/-- non-vacuity: all limbs at the tight bound satisfy the contract of `mul` -/
example : EnvIn ([0x4000000, 0x2000000, 0x4000000, 0x2000000, 0x4000000, 0x2000000, 0x4000000, 0x2000000, 0x4000000, 0x2000000] ++ [0x4000000, 0x2000000, 0x4000000, 0x2000000, 0x4000000, 0x2000000, 0x4000000, 0x2000000, 0x4000000, 0x2000000]) FiatField26.pre_mul := by decide +kernel

end Dalek.Props.C01.Fiat26
