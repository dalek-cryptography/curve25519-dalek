import Dalek.Proofs.AlgBoundsInv
import Dalek.Proofs.AlgBoundsEval
/-!
# C11, formula level: the kernel evaluation of the abstract interpretation (serial u64 backend)

For every translated formula of the table `sigs`, the abstract run of the formula from the type invariants of its inputs
(every abstract field operation being the verified analysis of the regenerated limb kernel) proves every statement safe
and every output inside the type invariant of its type.  One `decide +kernel` for the whole table, evaluated with
`Prog.post` (`sigs_ok_of_post`).  Helper of `Dalek/Props/C11/Formulas.lean`; which formula fails, if one does, is
printed by the driver (`report51`).
-/
namespace Dalek.Props.C11.Formulas
open Dalek.Model.AlgBounds

theorem all_ok51 : ∀ s ∈ sigs I51, s.ok B51 = true := sigs_ok_of_post (by decide +kernel)

end Dalek.Props.C11.Formulas
