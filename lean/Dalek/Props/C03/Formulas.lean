import Dalek.Proofs.AlgCurveLemmas
import Dalek.Proofs.AlgEdwardsLemmas
import Dalek.Gen.AlgCurveSh
import Dalek.Gen.AlgEdwardsSh
/-!
# C03 — the curve formulas compute the group law of the Ed25519 curve (property theorems)

Statements are about the AlgIR programs `Dalek.Gen.AlgCurve.*` / `Dalek.Gen.AlgEdwards.*` REGENERATED from
`curve25519-dalek/src/backend/serial/curve_models/mod.rs` and `curve25519-dalek/src/edwards.rs` on every
run, interpreted in the field `Fp = ZMod (2^255-19)` by `zmodOps` (`run_natOps_eq_val` ties this
interpretation to the executable one over canonical naturals).

`Ed = EdPoint edParams` is the commutative group of the curve `-x² + y² = 1 + d x² y²` over `Fp`.
Representation predicates: `RepExt P X Y Z T` (`EdwardsPoint`: `Z ≠ 0`, `x = X/Z`, `y = Y/Z`, `XY = ZT`;
this is the validity invariant of `EdwardsPoint`), `RepProj` (`ProjectivePoint`), `RepCompleted`
(`CompletedPoint`: `Z, T ≠ 0`, `x = X/Z`, `y = Y/T`), `RepPNiels` (`ProjectiveNielsPoint`),
`RepANiels` (`AffineNielsPoint`).  Each theorem: inputs representing points ⟹ the outputs represent the
result of the group operation.

Where a proof is the pair `⟨…_sh_ok .., lemma⟩`, the outputs of the shallow program are, once the
operations of `zmodOps` are unfolded, literally the formulas in the statement of the lemma
(`Proofs/Edwards/Extended.lean`, written after the Rust source), so the two are identified by
definitional unfolding; where a constant of the table occurs or the shapes differ, by `simp only` and `ring`.
-/
namespace Dalek.Props.C03

open Dalek.IR Dalek.Proofs Dalek.Gen
open Dalek.Edwards
open Dalek.Bridge (Ed edParams edParams_d)
open Dalek.FieldFacts (d)

/-! ## `curve_models`: mixed additions, doubling, conversions -/

/-- `&EdwardsPoint + &ProjectiveNielsPoint` computes `P + Q` (as a `CompletedPoint`). -/
theorem add_ProjectiveNielsPoint_spec {P Q : Ed} {X1 Y1 Z1 T1 Yp Ym Z2 T2d : Fp}
    (hP : RepExt P X1 Y1 Z1 T1) (hQ : RepPNiels Q Yp Ym Z2 T2d) :
    ∃ X Y Z T, AProg.run zmodOps AlgCurve.add_ProjectiveNielsPoint [X1, Y1, Z1, T1, Yp, Ym, Z2, T2d]
      = [X, Y, Z, T] ∧ RepCompleted (P + Q) X Y Z T := by
  obtain ⟨X2, Y2, T2, hQ, rfl, rfl, rfl⟩ := hQ
  exact ⟨_, _, _, _, AlgCurve.add_ProjectiveNielsPoint_sh_ok .., add_projectiveNiels hP hQ⟩

/-- `&EdwardsPoint - &ProjectiveNielsPoint` computes `P - Q`. -/
theorem sub_ProjectiveNielsPoint_spec {P Q : Ed} {X1 Y1 Z1 T1 Yp Ym Z2 T2d : Fp}
    (hP : RepExt P X1 Y1 Z1 T1) (hQ : RepPNiels Q Yp Ym Z2 T2d) :
    ∃ X Y Z T, AProg.run zmodOps AlgCurve.sub_ProjectiveNielsPoint [X1, Y1, Z1, T1, Yp, Ym, Z2, T2d]
      = [X, Y, Z, T] ∧ RepCompleted (P - Q) X Y Z T := by
  obtain ⟨X2, Y2, T2, hQ, rfl, rfl, rfl⟩ := hQ
  exact ⟨_, _, _, _, AlgCurve.sub_ProjectiveNielsPoint_sh_ok .., sub_projectiveNiels hP hQ⟩

/-- `&EdwardsPoint + &AffineNielsPoint` computes `P + Q`. -/
theorem add_AffineNielsPoint_spec {P Q : Ed} {X1 Y1 Z1 T1 yp ym xy2d : Fp}
    (hP : RepExt P X1 Y1 Z1 T1) (hQ : RepANiels Q yp ym xy2d) :
    ∃ X Y Z T, AProg.run zmodOps AlgCurve.add_AffineNielsPoint [X1, Y1, Z1, T1, yp, ym, xy2d]
      = [X, Y, Z, T] ∧ RepCompleted (P + Q) X Y Z T := by
  obtain ⟨rfl, rfl, rfl⟩ := hQ
  exact ⟨_, _, _, _, AlgCurve.add_AffineNielsPoint_sh_ok .., add_affineNiels (Q := Q) hP⟩

/-- `&EdwardsPoint - &AffineNielsPoint` computes `P - Q`. -/
theorem sub_AffineNielsPoint_spec {P Q : Ed} {X1 Y1 Z1 T1 yp ym xy2d : Fp}
    (hP : RepExt P X1 Y1 Z1 T1) (hQ : RepANiels Q yp ym xy2d) :
    ∃ X Y Z T, AProg.run zmodOps AlgCurve.sub_AffineNielsPoint [X1, Y1, Z1, T1, yp, ym, xy2d]
      = [X, Y, Z, T] ∧ RepCompleted (P - Q) X Y Z T := by
  obtain ⟨rfl, rfl, rfl⟩ := hQ
  exact ⟨_, _, _, _, AlgCurve.sub_AffineNielsPoint_sh_ok .., sub_affineNiels (Q := Q) hP⟩

/-- `ProjectivePoint::double` computes `2 • P` (as a `CompletedPoint`). -/
theorem ProjectivePoint_double_spec {P : Ed} {X Y Z : Fp} (hP : RepProj P X Y Z) :
    ∃ X' Y' Z' T', AProg.run zmodOps AlgCurve.ProjectivePoint_double [X, Y, Z] = [X', Y', Z', T'] ∧
      RepCompleted (2 • P) X' Y' Z' T' :=
  ⟨_, _, _, _, AlgCurve.ProjectivePoint_double_sh_ok .., double_projective_nsmul hP⟩

/-- `CompletedPoint::as_extended`. -/
theorem CompletedPoint_as_extended_spec {P : Ed} {X Y Z T : Fp} (hP : RepCompleted P X Y Z T) :
    ∃ X' Y' Z' T', AProg.run zmodOps AlgCurve.CompletedPoint_as_extended [X, Y, Z, T] = [X', Y', Z', T'] ∧
      RepExt P X' Y' Z' T' :=
  ⟨_, _, _, _, AlgCurve.CompletedPoint_as_extended_sh_ok .., hP.as_extended⟩

/-- `CompletedPoint::as_projective`. -/
theorem CompletedPoint_as_projective_spec {P : Ed} {X Y Z T : Fp} (hP : RepCompleted P X Y Z T) :
    ∃ X' Y' Z', AProg.run zmodOps AlgCurve.CompletedPoint_as_projective [X, Y, Z, T] = [X', Y', Z'] ∧
      RepProj P X' Y' Z' :=
  ⟨_, _, _, AlgCurve.CompletedPoint_as_projective_sh_ok .., hP.as_projective⟩

/-- `ProjectivePoint::as_extended`. -/
theorem ProjectivePoint_as_extended_spec {P : Ed} {X Y Z : Fp} (hP : RepProj P X Y Z) :
    ∃ X' Y' Z' T', AProg.run zmodOps AlgCurve.ProjectivePoint_as_extended [X, Y, Z] = [X', Y', Z', T'] ∧
      RepExt P X' Y' Z' T' := by
  rw [AlgCurve.ProjectivePoint_as_extended_sh_ok]
  simp only [AlgCurve.ProjectivePoint_as_extended_sh, zmodOps_mul, zmodOps_square]
  refine ⟨_, _, _, _, rfl, ?_⟩
  have h := hP.as_extended
  exact h.of_eq (by ring) (by ring) (by ring) (by ring)

/-- `EdwardsPoint::as_projective` (drops `T`). -/
theorem as_projective_spec {P : Ed} {X Y Z T : Fp} (hP : RepExt P X Y Z T) :
    ∃ X' Y' Z', AProg.run zmodOps AlgEdwards.as_projective [X, Y, Z, T] = [X', Y', Z'] ∧
      RepProj P X' Y' Z' :=
  ⟨_, _, _, AlgEdwards.as_projective_sh_ok .., hP.toProj⟩

/-- `EdwardsPoint::as_projective_niels`. -/
theorem as_projective_niels_spec {P : Ed} {X Y Z T : Fp} (hP : RepExt P X Y Z T) :
    ∃ Yp Ym Z' T2d, AProg.run zmodOps AlgEdwards.as_projective_niels [X, Y, Z, T] = [Yp, Ym, Z', T2d] ∧
      RepPNiels P Yp Ym Z' T2d := by
  rw [AlgEdwards.as_projective_niels_sh_ok]
  simp only [AlgEdwards.as_projective_niels_sh, zmodOps_add, zmodOps_sub, zmodOps_mul, const_EDWARDS_D2]
  exact ⟨_, _, _, _, rfl, hP.toPNiels⟩

/-! ## Negation, identities, conditional selection -/

/-- `-&EdwardsPoint`. -/
theorem neg_spec {P : Ed} {X Y Z T : Fp} (hP : RepExt P X Y Z T) :
    ∃ X' Y' Z' T', AProg.run zmodOps AlgEdwards.neg [X, Y, Z, T] = [X', Y', Z', T'] ∧
      RepExt (-P) X' Y' Z' T' :=
  ⟨_, _, _, _, AlgEdwards.neg_sh_ok .., hP.neg⟩

/-- `-&ProjectiveNielsPoint` (swap `Y+X`/`Y−X`, negate `T2d`). -/
theorem ProjectiveNielsPoint_neg_spec {P : Ed} {Yp Ym Z T2d : Fp} (hP : RepPNiels P Yp Ym Z T2d) :
    ∃ Yp' Ym' Z' T2d', AProg.run zmodOps AlgCurve.ProjectiveNielsPoint_neg [Yp, Ym, Z, T2d]
      = [Yp', Ym', Z', T2d'] ∧ RepPNiels (-P) Yp' Ym' Z' T2d' := by
  obtain ⟨X, Y, T, hP, rfl, rfl, rfl⟩ := hP
  rw [AlgCurve.ProjectiveNielsPoint_neg_sh_ok]
  simp only [AlgCurve.ProjectiveNielsPoint_neg_sh, zmodOps_neg]
  exact ⟨_, _, _, _, rfl, -X, Y, -T, hP.neg, by ring, by ring, by ring⟩

/-- `-&AffineNielsPoint`. -/
theorem AffineNielsPoint_neg_spec {P : Ed} {yp ym xy2d : Fp} (hP : RepANiels P yp ym xy2d) :
    ∃ yp' ym' xy2d', AProg.run zmodOps AlgCurve.AffineNielsPoint_neg [yp, ym, xy2d] = [yp', ym', xy2d'] ∧
      RepANiels (-P) yp' ym' xy2d' := by
  obtain ⟨rfl, rfl, rfl⟩ := hP
  rw [AlgCurve.AffineNielsPoint_neg_sh_ok]
  simp only [AlgCurve.AffineNielsPoint_neg_sh, zmodOps_neg]
  refine ⟨_, _, _, rfl, ?_, ?_, ?_⟩ <;> simp only [EdPoint.neg_x, EdPoint.neg_y] <;> ring

/-- `EdwardsPoint::identity()` represents `0`. -/
theorem identity_spec :
    ∃ X Y Z T, AProg.run zmodOps AlgEdwards.identity [] = [X, Y, Z, T] ∧ RepExt (0 : Ed) X Y Z T := by
  rw [AlgEdwards.identity_sh_ok]
  simp only [AlgEdwards.identity_sh, const_ZERO, const_ONE]
  exact ⟨_, _, _, _, rfl, repExt_zero⟩

/-- `ProjectivePoint::identity()` represents `0`. -/
theorem ProjectivePoint_identity_spec :
    ∃ X Y Z, AProg.run zmodOps AlgCurve.ProjectivePoint_identity [] = [X, Y, Z] ∧
      RepProj (0 : Ed) X Y Z := by
  rw [AlgCurve.ProjectivePoint_identity_sh_ok]
  simp only [AlgCurve.ProjectivePoint_identity_sh, const_ZERO, const_ONE]
  exact ⟨_, _, _, rfl, (repExt_zero (c := edParams)).toProj⟩

/-- `ProjectiveNielsPoint::identity()` represents `0`. -/
theorem ProjectiveNielsPoint_identity_spec :
    ∃ Yp Ym Z T2d, AProg.run zmodOps AlgCurve.ProjectiveNielsPoint_identity [] = [Yp, Ym, Z, T2d] ∧
      RepPNiels (0 : Ed) Yp Ym Z T2d := by
  rw [AlgCurve.ProjectiveNielsPoint_identity_sh_ok]
  simp only [AlgCurve.ProjectiveNielsPoint_identity_sh, const_ZERO, const_ONE]
  exact ⟨_, _, _, _, rfl, 0, 1, 0, repExt_zero, by ring, by ring, by ring⟩

/-- `AffineNielsPoint::identity()` represents `0`. -/
theorem AffineNielsPoint_identity_spec :
    ∃ yp ym xy2d, AProg.run zmodOps AlgCurve.AffineNielsPoint_identity [] = [yp, ym, xy2d] ∧
      RepANiels (0 : Ed) yp ym xy2d := by
  rw [AlgCurve.AffineNielsPoint_identity_sh_ok]
  simp only [AlgCurve.AffineNielsPoint_identity_sh, const_ZERO, const_ONE]
  refine ⟨_, _, _, rfl, ?_, ?_, ?_⟩ <;> simp only [EdPoint.zero_x, EdPoint.zero_y] <;> ring

/-- `EdwardsPoint::conditional_select(a, b, choice)`: `a` if `choice = 0`, else `b`. -/
theorem conditional_select_spec {P Q : Ed} {X1 Y1 Z1 T1 X2 Y2 Z2 T2 : Fp} (c : Fp)
    (hP : RepExt P X1 Y1 Z1 T1) (hQ : RepExt Q X2 Y2 Z2 T2) :
    ∃ X Y Z T, AProg.run zmodOps AlgEdwards.conditional_select [X1, Y1, Z1, T1, X2, Y2, Z2, T2, c]
      = [X, Y, Z, T] ∧ RepExt (if c = 0 then P else Q) X Y Z T :=
  ⟨_, _, _, _, AlgEdwards.conditional_select_sh_ok .., ite_rel₄ hP hQ⟩

/-- `ProjectiveNielsPoint::conditional_select`. -/
theorem ProjectiveNielsPoint_conditional_select_spec {P Q : Ed} {a0 a1 a2 a3 b0 b1 b2 b3 : Fp} (c : Fp)
    (hP : RepPNiels P a0 a1 a2 a3) (hQ : RepPNiels Q b0 b1 b2 b3) :
    ∃ Yp Ym Z T2d, AProg.run zmodOps AlgCurve.ProjectiveNielsPoint_conditional_select
      [a0, a1, a2, a3, b0, b1, b2, b3, c] = [Yp, Ym, Z, T2d] ∧
      RepPNiels (if c = 0 then P else Q) Yp Ym Z T2d :=
  ⟨_, _, _, _, AlgCurve.ProjectiveNielsPoint_conditional_select_sh_ok .., ite_rel₄ hP hQ⟩

/-- `ProjectiveNielsPoint::conditional_assign`. -/
theorem ProjectiveNielsPoint_conditional_assign_spec {P Q : Ed} {a0 a1 a2 a3 b0 b1 b2 b3 : Fp} (c : Fp)
    (hP : RepPNiels P a0 a1 a2 a3) (hQ : RepPNiels Q b0 b1 b2 b3) :
    ∃ Yp Ym Z T2d, AProg.run zmodOps AlgCurve.ProjectiveNielsPoint_conditional_assign
      [a0, a1, a2, a3, b0, b1, b2, b3, c] = [Yp, Ym, Z, T2d] ∧
      RepPNiels (if c = 0 then P else Q) Yp Ym Z T2d :=
  ⟨_, _, _, _, AlgCurve.ProjectiveNielsPoint_conditional_assign_sh_ok .., ite_rel₄ hP hQ⟩

/-- `AffineNielsPoint::conditional_select`. -/
theorem AffineNielsPoint_conditional_select_spec {P Q : Ed} {a0 a1 a2 b0 b1 b2 : Fp} (c : Fp)
    (hP : RepANiels P a0 a1 a2) (hQ : RepANiels Q b0 b1 b2) :
    ∃ yp ym xy2d, AProg.run zmodOps AlgCurve.AffineNielsPoint_conditional_select
      [a0, a1, a2, b0, b1, b2, c] = [yp, ym, xy2d] ∧
      RepANiels (if c = 0 then P else Q) yp ym xy2d :=
  ⟨_, _, _, AlgCurve.AffineNielsPoint_conditional_select_sh_ok .., ite_rel₃ hP hQ⟩

/-- `AffineNielsPoint::conditional_assign`. -/
theorem AffineNielsPoint_conditional_assign_spec {P Q : Ed} {a0 a1 a2 b0 b1 b2 : Fp} (c : Fp)
    (hP : RepANiels P a0 a1 a2) (hQ : RepANiels Q b0 b1 b2) :
    ∃ yp ym xy2d, AProg.run zmodOps AlgCurve.AffineNielsPoint_conditional_assign
      [a0, a1, a2, b0, b1, b2, c] = [yp, ym, xy2d] ∧
      RepANiels (if c = 0 then P else Q) yp ym xy2d :=
  ⟨_, _, _, AlgCurve.AffineNielsPoint_conditional_assign_sh_ok .., ite_rel₃ hP hQ⟩

/-! ## The composed `EdwardsPoint` operations preserve the validity invariant `RepExt` -/

/-- `EdwardsPoint::double` computes `2 • P`; the output is again a valid extended point. -/
theorem double_spec {P : Ed} {X Y Z T : Fp} (hP : RepExt P X Y Z T) :
    ∃ X' Y' Z' T', AProg.run zmodOps AlgEdwards.double [X, Y, Z, T] = [X', Y', Z', T'] ∧
      RepExt (2 • P) X' Y' Z' T' :=
  ⟨_, _, _, _, AlgEdwards.double_sh_ok .., (double_projective_nsmul hP.toProj).as_extended⟩

/-- `&EdwardsPoint + &EdwardsPoint` computes `P + Q`; the output is again a valid extended point. -/
theorem add_spec {P Q : Ed} {X1 Y1 Z1 T1 X2 Y2 Z2 T2 : Fp}
    (hP : RepExt P X1 Y1 Z1 T1) (hQ : RepExt Q X2 Y2 Z2 T2) :
    ∃ X Y Z T, AProg.run zmodOps AlgEdwards.add [X1, Y1, Z1, T1, X2, Y2, Z2, T2] = [X, Y, Z, T] ∧
      RepExt (P + Q) X Y Z T := by
  rw [AlgEdwards.add_sh_ok]
  simp only [AlgEdwards.add_sh, zmodOps_add, zmodOps_sub, zmodOps_mul, const_EDWARDS_D2]
  refine ⟨_, _, _, _, rfl, ?_⟩
  have h := (add_projectiveNiels hP hQ).as_extended
  simp only [edParams_d] at h
  exact h.of_eq (by ring) (by ring) (by ring) (by ring)

/-- `&EdwardsPoint - &EdwardsPoint` computes `P - Q`; the output is again a valid extended point. -/
theorem sub_spec {P Q : Ed} {X1 Y1 Z1 T1 X2 Y2 Z2 T2 : Fp}
    (hP : RepExt P X1 Y1 Z1 T1) (hQ : RepExt Q X2 Y2 Z2 T2) :
    ∃ X Y Z T, AProg.run zmodOps AlgEdwards.sub [X1, Y1, Z1, T1, X2, Y2, Z2, T2] = [X, Y, Z, T] ∧
      RepExt (P - Q) X Y Z T := by
  rw [AlgEdwards.sub_sh_ok]
  simp only [AlgEdwards.sub_sh, zmodOps_add, zmodOps_sub, zmodOps_mul, const_EDWARDS_D2]
  refine ⟨_, _, _, _, rfl, ?_⟩
  have h := (sub_projectiveNiels hP hQ).as_extended
  simp only [edParams_d] at h
  exact h.of_eq (by ring) (by ring) (by ring) (by ring)

/-! ## Equality and validity tests -/

/-- `EdwardsPoint::ct_eq` decides equality of the represented points. -/
theorem ct_eq_spec {P Q : Ed} {X1 Y1 Z1 T1 X2 Y2 Z2 T2 : Fp}
    (hP : RepExt P X1 Y1 Z1 T1) (hQ : RepExt Q X2 Y2 Z2 T2) :
    AProg.run zmodOps AlgEdwards.ct_eq [X1, Y1, Z1, T1, X2, Y2, Z2, T2] = [c2f (P = Q)] := by
  rw [AlgEdwards.ct_eq_sh_ok]
  simp only [AlgEdwards.ct_eq_sh, zmodOps_mul, zmodOps_ctEq, zmodOps_cand, c2f_ne_zero_iff]
  refine congrArg (fun a => [a]) (c2f_congr ?_)
  rw [RepProj.eq_iff hP.toProj hQ.toProj]

/-- `EdwardsPoint::is_valid` returns `1` on every valid extended point. -/
theorem is_valid_spec {P : Ed} {X Y Z T : Fp} (hP : RepExt P X Y Z T) :
    AProg.run zmodOps AlgEdwards.is_valid [X, Y, Z, T] = [1] := by
  rw [AlgEdwards.is_valid_sh_ok]
  simp only [AlgEdwards.is_valid_sh, zmodOps_mul, zmodOps_ctEq, zmodOps_cand, zmodOps_square,
    zmodOps_add, zmodOps_sub, const_EDWARDS_D, c2f_ne_zero_iff]
  refine congrArg (fun a => [a]) (c2f_true ⟨hP.toProj.curve_eq, hP.2.2.2⟩)

/-- Converse: when `Z ≠ 0`, `is_valid = 1` only for quadruples representing a curve point. -/
theorem is_valid_iff {X Y Z T : Fp} (hZ : Z ≠ 0) :
    AProg.run zmodOps AlgEdwards.is_valid [X, Y, Z, T] = [1] ↔ ∃ P : Ed, RepExt P X Y Z T := by
  constructor
  · rw [AlgEdwards.is_valid_sh_ok]
    simp only [AlgEdwards.is_valid_sh, zmodOps_mul, zmodOps_ctEq, zmodOps_cand, zmodOps_square,
      zmodOps_add, zmodOps_sub, const_EDWARDS_D, c2f_ne_zero_iff]
    intro h
    have h1 := (c2f_eq_one_iff.1 (List.head_eq_of_cons_eq h))
    obtain ⟨P, hP⟩ := exists_repProj hZ h1.1
    exact ⟨P, hP.1, hP.2.1, hP.2.2, h1.2⟩
  · rintro ⟨P, hP⟩; exact is_valid_spec hP

/-- `ProjectivePoint::is_valid` returns `1` on every represented point. -/
theorem ProjectivePoint_is_valid_spec {P : Ed} {X Y Z : Fp} (hP : RepProj P X Y Z) :
    AProg.run zmodOps AlgCurve.ProjectivePoint_is_valid [X, Y, Z] = [1] := by
  rw [AlgCurve.ProjectivePoint_is_valid_sh_ok]
  simp only [AlgCurve.ProjectivePoint_is_valid_sh, zmodOps_mul, zmodOps_ctEq, zmodOps_square,
    zmodOps_add, zmodOps_sub, const_EDWARDS_D]
  refine congrArg (fun a => [a]) (c2f_true hP.curve_eq)

/-! ## Formulas containing the inversion chain: `compress`, `to_montgomery`, `as_affine_niels` -/

/-- `EdwardsPoint::compress` (field part; the byte packing is modelled by hand): the encoded value is
the affine `y` of the point and the sign bit is `is_negative(x)`. -/
theorem compress_spec {P : Ed} {X Y Z T : Fp} (hP : RepExt P X Y Z T) :
    AProg.run zmodOps AlgEdwards.compress [X, Y, Z, T] = [P.y, c2f (fpIsNeg P.x)] := by
  rw [AlgEdwards.compress_sh_ok, compress_sh_eq, hP.x_eq, hP.y_eq]

/-- `EdwardsPoint::to_montgomery` (field part): `u = (1 + y)/(1 − y)`; for `y = 1` (the identity) the
inverse of `0` is `0` and the result is `u = 0` (also the value of `(1+y)/(1-y)` in Lean, `x/0 = 0`). -/
theorem to_montgomery_spec {P : Ed} {X Y Z T : Fp} (hP : RepExt P X Y Z T) :
    AProg.run zmodOps AlgEdwards.to_montgomery [X, Y, Z, T] = [(1 + P.y) / (1 - P.y)] := by
  rw [AlgEdwards.to_montgomery_sh_ok, to_montgomery_sh_eq, montgomery_u_eq hP.1, hP.2.2.1]

/-- The exceptional case of `to_montgomery` made explicit: `y = 1` gives `u = 0`. -/
theorem to_montgomery_identity {P : Ed} {X Y Z T : Fp} (hP : RepExt P X Y Z T) (hy : P.y = 1) :
    AProg.run zmodOps AlgEdwards.to_montgomery [X, Y, Z, T] = [0] := by
  rw [to_montgomery_spec hP, hy, sub_self, div_zero]

/-- `EdwardsPoint::as_affine_niels`. -/
theorem as_affine_niels_spec {P : Ed} {X Y Z T : Fp} (hP : RepExt P X Y Z T) :
    ∃ yp ym xy2d, AProg.run zmodOps AlgEdwards.as_affine_niels [X, Y, Z, T] = [yp, ym, xy2d] ∧
      RepANiels P yp ym xy2d := by
  rw [AlgEdwards.as_affine_niels_sh_ok, as_affine_niels_sh_eq, hP.x_eq, hP.y_eq]
  exact ⟨_, _, _, rfl, rfl, rfl, rfl⟩

/-! ## Decompression (field part: `decompress::step_1`, `decompress::step_2`) -/

/-- `decompress::step_1` on the decoded `y`: returns `(is_valid_y_coord, X, Y, Z) = (ok, r, y, 1)` where
`ok` is a choice, `ok = 1` iff `y` is the ordinate of a curve point, `r` is non-negative, and if
`ok = 1` then `(r, y)` is on the curve. -/
theorem decompress_step_1_spec (y : Fp) :
    ∃ ok r, AProg.run zmodOps AlgEdwards.decompress_step_1 [y] = [ok, r, y, 1] ∧
      (ok = 0 ∨ ok = 1) ∧ ¬ fpIsNeg r ∧ (ok = 1 ↔ ∃ x, onCurve d x y) ∧ (ok = 1 → onCurve d r y) := by
  refine ⟨_, _, ?_, sqrtRatioFp_flag _ _, sqrtRatioFp_not_isNeg _ _, decompress_flag_iff y,
    decompress_root_onCurve⟩
  rw [AlgEdwards.decompress_step_1_sh_ok, decompress_step_1_sh_eq]

/-- `decompress::step_2` on a non-negative root `r` with `(r, y)` on the curve and the sign bit `s`
(a choice): `X` is negated iff `s ≠ 0`, `T = X·Y`; the result is a valid extended point `Q` with
`Q.y = y`, `Q.x = ±r`, and — unless `Q.x = 0`, in which case the sign bit is ignored — the sign of
`Q.x` is the requested one. -/
theorem decompress_step_2_spec {r y : Fp} (s : Fp) (hr : onCurve d r y) (hneg : ¬ fpIsNeg r) :
    ∃ Q : Ed, Q.y = y ∧ Q.x = (if s = 0 then r else -r) ∧
      (Q.x ≠ 0 → (fpIsNeg Q.x ↔ s ≠ 0)) ∧
      ∃ X Y Z T, AProg.run zmodOps AlgEdwards.decompress_step_2 [r, y, 1, s] = [X, Y, Z, T] ∧
        RepExt Q X Y Z T := by
  have hon : onCurve edParams.d (if s = 0 then r else -r) y := by
    rw [edParams_d]
    by_cases h : s = 0
    · rw [if_pos h]; exact hr
    · rw [if_neg h]; unfold onCurve at hr ⊢; linear_combination hr
  refine ⟨⟨_, y, hon⟩, rfl, rfl, ?_, ?_⟩
  · show (if s = 0 then r else -r) ≠ 0 → (fpIsNeg (if s = 0 then r else -r) ↔ s ≠ 0)
    by_cases h : s = 0
    · simp only [if_pos h]; intro _
      exact ⟨fun h' => absurd h' hneg, fun h' => absurd h h'⟩
    · simp only [if_neg h]; intro h0
      have hr0 : r ≠ 0 := fun e => h0 (by rw [e, neg_zero])
      exact ⟨fun _ => h, fun _ => (fpIsNeg_neg hr0).2 hneg⟩
  · rw [AlgEdwards.decompress_step_2_sh_ok, decompress_step_2_sh_eq]
    refine ⟨_, _, _, _, rfl, one_ne_zero, ?_, ?_, ?_⟩
    · show (if s = 0 then r else -r) = _ / 1; rw [div_one]
    · show y = y / 1; rw [div_one]
    · rw [one_mul]

/-- **Decompression, both steps**: for the decoded `y` and sign bit `s`, `step_1` accepts iff `y` is the
ordinate of a curve point, and then `step_2` returns a valid `EdwardsPoint` for the point with that `y`
and the requested sign of `x` (for `x = 0` the sign bit is ignored). -/
theorem decompress_spec (y s : Fp) :
    ∃ ok r, AProg.run zmodOps AlgEdwards.decompress_step_1 [y] = [ok, r, y, 1] ∧
      (ok = 0 ∨ ok = 1) ∧ (ok = 1 ↔ ∃ x, onCurve d x y) ∧
      (ok = 1 → ∃ Q : Ed, Q.y = y ∧ (Q.x ≠ 0 → (fpIsNeg Q.x ↔ s ≠ 0)) ∧
        ∃ X Y Z T, AProg.run zmodOps AlgEdwards.decompress_step_2 [r, y, 1, s] = [X, Y, Z, T] ∧
          RepExt Q X Y Z T) := by
  obtain ⟨ok, r, h1, h2, h3, h4, h5⟩ := decompress_step_1_spec y
  refine ⟨ok, r, h1, h2, h4, fun h => ?_⟩
  obtain ⟨Q, hy, -, hs, hrep⟩ := decompress_step_2_spec s (h5 h) h3
  exact ⟨Q, hy, hs, hrep⟩

/-- **Agreement with the executable specification `Spec.decompress`** (which `Bridge.decompress_some`,
`decompress_none_iff`, `decompress_complete` characterise): on the field element decoded from the bytes
`b` and the sign bit of `b`, the translated steps reject exactly when `Spec.decompress b = none`, and
otherwise return the extended coordinates `(x : y : 1 : x·y)` of the specification's point. -/
theorem decompress_eq_spec (b : List UInt8) :
    ∃ ok r, AProg.run zmodOps AlgEdwards.decompress_step_1 [((Spec.feFromBytes b : Nat) : Fp)]
        = [ok, r, ((Spec.feFromBytes b : Nat) : Fp), 1] ∧
      (Spec.decompress b = none → ok = 0) ∧
      (∀ p, Spec.decompress b = some p → ok = 1 ∧
        AProg.run zmodOps AlgEdwards.decompress_step_2
            [r, ((Spec.feFromBytes b : Nat) : Fp), 1, c2f (Spec.signBit b = true)]
          = [(p.x : Fp), (p.y : Fp), 1, (p.x : Fp) * (p.y : Fp)] ∧
        ∃ h : Spec.onCurve p = true,
          RepExt (Bridge.toEd p h) (p.x : Fp) (p.y : Fp) 1 ((p.x : Fp) * (p.y : Fp))) := by
  have hu : ((Bridge.decU b : Nat) : Fp) = ((Spec.feFromBytes b : Nat) : Fp) ^ 2 - 1 := Bridge.cast_decU b
  have hv : ((Bridge.decV b : Nat) : Fp) = d * ((Spec.feFromBytes b : Nat) : Fp) ^ 2 + 1 := Bridge.cast_decV b
  have huv : (((Spec.feFromBytes b : Nat) : Fp) ^ 2 - 1).val = Bridge.decU b := by
    rw [← hu, Bridge.val_cast, Nat.mod_eq_of_lt (show Bridge.decU b < Spec.P from Bridge.fsub_lt _ _)]
  have hvv : (d * ((Spec.feFromBytes b : Nat) : Fp) ^ 2 + 1).val = Bridge.decV b := by
    rw [← hv, Bridge.val_cast, Nat.mod_eq_of_lt (show Bridge.decV b < Spec.P from Bridge.fadd_lt _ _)]
  refine ⟨(sqrtRatioFp (((Spec.feFromBytes b : Nat) : Fp) ^ 2 - 1)
      (d * ((Spec.feFromBytes b : Nat) : Fp) ^ 2 + 1)).1,
    (sqrtRatioFp (((Spec.feFromBytes b : Nat) : Fp) ^ 2 - 1)
      (d * ((Spec.feFromBytes b : Nat) : Fp) ^ 2 + 1)).2, ?_, ?_, ?_⟩
  · rw [AlgEdwards.decompress_step_1_sh_ok, decompress_step_1_sh_eq]
  · intro hnone
    rw [sqrtRatioFp_fst, huv, hvv]
    rw [Bridge.decompress_unfold] at hnone
    by_cases hok : (Spec.sqrtRatioM1 (Bridge.decU b) (Bridge.decV b)).1 = true
    · rw [if_pos hok] at hnone; cases hnone
    · exact c2f_false hok
  · intro p hp
    obtain ⟨hon, -⟩ := Bridge.decompress_some hp
    rw [Bridge.decompress_unfold] at hp
    by_cases hok : (Spec.sqrtRatioM1 (Bridge.decU b) (Bridge.decV b)).1 = true
    · rw [if_pos hok] at hp
      have hp' := (Option.some.inj hp).symm
      have hx : (p.x : Fp) = if c2f (Spec.signBit b = true) = 0 then
          (((Spec.sqrtRatioM1 (Bridge.decU b) (Bridge.decV b)).2 : Nat) : Fp)
          else -(((Spec.sqrtRatioM1 (Bridge.decU b) (Bridge.decV b)).2 : Nat) : Fp) := by
        rw [hp']
        by_cases hs : Spec.signBit b = true
        · simp only [if_pos hs, c2f_true hs, one_ne_zero, if_false, Bridge.cast_fneg]
        · simp only [if_neg hs, c2f_false hs, if_true]
      have hy : (p.y : Fp) = ((Spec.feFromBytes b : Nat) : Fp) := by rw [hp']
      refine ⟨?_, ?_, hon, ?_⟩
      · rw [sqrtRatioFp_fst, huv, hvv]; exact c2f_true hok
      · rw [AlgEdwards.decompress_step_2_sh_ok, decompress_step_2_sh_eq, sqrtRatioFp_snd, huv, hvv,
          ← hx, ← hy]
      · exact Dalek.Edwards.repExt_affine (Bridge.toEd p hon)
    · rw [if_neg hok] at hp; cases hp

/-! ### The hypotheses are satisfiable -/

/-- `(0 : 1 : 1 : 0)` is a valid extended point, so none of the theorems above is vacuous. -/
example : RepExt (0 : Ed) 0 1 1 0 := repExt_zero


/-! ### Axiom audit -/

/-- info: 'Dalek.Props.C03.add_ProjectiveNielsPoint_spec' depends on axioms: [propext, Classical.choice, Quot.sound] -/
#guard_msgs in #print axioms add_ProjectiveNielsPoint_spec

/-- info: 'Dalek.Props.C03.sub_ProjectiveNielsPoint_spec' depends on axioms: [propext, Classical.choice, Quot.sound] -/
#guard_msgs in #print axioms sub_ProjectiveNielsPoint_spec

/-- info: 'Dalek.Props.C03.add_AffineNielsPoint_spec' depends on axioms: [propext, Classical.choice, Quot.sound] -/
#guard_msgs in #print axioms add_AffineNielsPoint_spec

/-- info: 'Dalek.Props.C03.sub_AffineNielsPoint_spec' depends on axioms: [propext, Classical.choice, Quot.sound] -/
#guard_msgs in #print axioms sub_AffineNielsPoint_spec

/-- info: 'Dalek.Props.C03.ProjectivePoint_double_spec' depends on axioms: [propext, Classical.choice, Quot.sound] -/
#guard_msgs in #print axioms ProjectivePoint_double_spec

/-- info: 'Dalek.Props.C03.double_spec' depends on axioms: [propext, Classical.choice, Quot.sound] -/
#guard_msgs in #print axioms double_spec

/-- info: 'Dalek.Props.C03.add_spec' depends on axioms: [propext, Classical.choice, Quot.sound] -/
#guard_msgs in #print axioms add_spec

/-- info: 'Dalek.Props.C03.sub_spec' depends on axioms: [propext, Classical.choice, Quot.sound] -/
#guard_msgs in #print axioms sub_spec

/-- info: 'Dalek.Props.C03.ct_eq_spec' depends on axioms: [propext, Classical.choice, Quot.sound] -/
#guard_msgs in #print axioms ct_eq_spec

/-- info: 'Dalek.Props.C03.is_valid_iff' depends on axioms: [propext, Classical.choice, Quot.sound] -/
#guard_msgs in #print axioms is_valid_iff

/-- info: 'Dalek.Props.C03.compress_spec' depends on axioms: [propext, Classical.choice, Quot.sound] -/
#guard_msgs in #print axioms compress_spec

/-- info: 'Dalek.Props.C03.to_montgomery_spec' depends on axioms: [propext, Classical.choice, Quot.sound] -/
#guard_msgs in #print axioms to_montgomery_spec

/-- info: 'Dalek.Props.C03.as_affine_niels_spec' depends on axioms: [propext, Classical.choice, Quot.sound] -/
#guard_msgs in #print axioms as_affine_niels_spec

/-- info: 'Dalek.Props.C03.decompress_spec' depends on axioms: [propext, Classical.choice, Quot.sound] -/
#guard_msgs in #print axioms decompress_spec

/-- info: 'Dalek.Props.C03.decompress_eq_spec' depends on axioms: [propext, Classical.choice, Quot.sound] -/
#guard_msgs in #print axioms decompress_eq_spec

end Dalek.Props.C03
