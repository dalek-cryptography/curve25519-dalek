/-
Membership in the even subgroup `2E`: a curve point whose ordinate is `y = (1 − s²)/(1 + s²)` for an `s` with
`v(s) = −d(1−s²)² − (1+s²)²` a square is the double of a curve point (explicit halving).  This covers the points
returned by DECODE and by MAP (Elligator), so every reachable `RistrettoPoint` is in `2E`.
-/
import Dalek.Proofs.RisRoundTrip

namespace Dalek.Proofs.Ris

open Dalek.IR Dalek.Spec Dalek.Proofs
open Dalek.Edwards
open Dalek.Bridge (Ed edParams edParams_d)
open Dalek.FieldFacts (d sqrtM1)

/-- `-1/d` is not a square: if `A₁ A₂ d = −1` then one of `A₁`, `A₂` is a square -/
theorem isSquare_or_of_mul_d {A₁ A₂ : Fp} (h : A₁ * A₂ * d = -1) : IsSquare A₁ ∨ IsSquare A₂ := by
  by_contra hne
  rw [not_or] at hne
  obtain ⟨z, hz⟩ := Dalek.FieldFacts.isSquare_mul_of_not_isSquare hne.1 hne.2
  have hz0 : z ≠ 0 := by
    rintro rfl
    rw [hz, mul_zero, zero_mul] at h
    exact one_ne_zero (α := Fp) (by linear_combination h)
  apply neg_d_not_isSquare
  refine ⟨z⁻¹, ?_⟩
  rw [hz] at h
  field_simp
  linear_combination -h

/-- core of the halving construction: from a square root `A = a²` of the quadratic `A = κ(1+A)(1−dA)`,
`κ = m² s²`, a curve point `R = (a, b)` with `y(2R) (1+s²) = 1 − s²` -/
theorem half_core {s a : Fp} (hs0 : s ≠ 0)
    (hA : a * a = invSqrtAmD ^ 2 * s ^ 2 * (1 + a * a) * (1 - d * (a * a))) :
    ∃ R : Ed, (2 • R).y * (1 + s ^ 2) = 1 - s ^ 2 := by
  have hm := magic_sq
  have hm0 := magic_ne_zero
  have hκ0 : invSqrtAmD ^ 2 * s ^ 2 ≠ 0 := mul_ne_zero (pow_ne_zero _ hm0) (pow_ne_zero _ hs0)
  have ha0 : a ≠ 0 := by
    rintro rfl
    apply hκ0; linear_combination -hA
  have h1dA : 1 - d * (a * a) ≠ 0 := by
    have := one_sub_d_sq_ne_zero a
    intro h; apply this; linear_combination h
  have h1A : 1 + a * a ≠ 0 := by
    intro h
    rw [h, mul_zero, zero_mul] at hA
    exact ha0 (mul_self_eq_zero.1 hA)
  have hden : invSqrtAmD * s * (1 - d * (a * a)) ≠ 0 := mul_ne_zero (mul_ne_zero hm0 hs0) h1dA
  obtain ⟨b, hb⟩ : ∃ b, b * (invSqrtAmD * s * (1 - d * (a * a))) = a := ⟨a / _, div_mul_cancel₀ _ hden⟩
  have hb2 : b ^ 2 * (1 - d * (a * a)) = 1 + a * a := by
    apply mul_right_cancel₀ (mul_ne_zero hκ0 h1dA)
    linear_combination (b * (invSqrtAmD * s * (1 - d * (a * a))) + a) * hb + hA
  have hcurve : Dalek.Edwards.onCurve edParams.d a b := by
    unfold Dalek.Edwards.onCurve; rw [edParams_d]
    linear_combination hb2
  have hb1 : 1 - b ^ 2 = s ^ 2 * (1 + a * a) := by
    apply mul_right_cancel₀ (mul_ne_zero h1dA (pow_ne_zero 2 hm0))
    linear_combination (a * a) * hm - (invSqrtAmD ^ 2) * hb2 + hA
  refine ⟨⟨a, b, hcurve⟩, ?_⟩
  have hY := EdPoint.two_nsmul_y (⟨a, b, hcurve⟩ : Ed)
  have hdn := (EdPoint.add_den_ne_zero (⟨a, b, hcurve⟩ : Ed) ⟨a, b, hcurve⟩).2
  rw [edParams_d] at hY hdn
  dsimp only at hY hdn
  have hd2 : 1 - d * a ^ 2 * b ^ 2 ≠ 0 := by intro h'; apply hdn; linear_combination h'
  have hY' : (2 • (⟨a, b, hcurve⟩ : Ed)).y * (1 - d * a ^ 2 * b ^ 2) = b ^ 2 + a ^ 2 := by
    rw [hY, div_mul_cancel₀ _ hd2]
  generalize (2 • (⟨a, b, hcurve⟩ : Ed)).y = Y at hY'
  apply mul_right_cancel₀ h1A
  have hc' : -a ^ 2 + b ^ 2 = 1 + d * a ^ 2 * b ^ 2 := by linear_combination hb2
  linear_combination hY' - (Y + 1) * hb1 - Y * hc'

/-- **Halving.**  A curve point `P` with `y (1 + s²) = 1 − s²` and `−d(1−s²)² − (1+s²)²` a square is a double. -/
theorem even_of_s {P : Ed} {s : Fp} (hy : P.y * (1 + s ^ 2) = 1 - s ^ 2)
    (hv : IsSquare (-d * (1 - s ^ 2) ^ 2 - (1 + s ^ 2) ^ 2)) : ∃ R : Ed, P = 2 • R := by
  have hm := magic_sq
  have hm0 := magic_ne_zero
  have hd0 := Dalek.FieldFacts.d_ne_zero
  have h2 := Dalek.FieldFacts.two_ne_zero_p
  have hPon : -P.x ^ 2 + P.y ^ 2 = 1 + d * P.x ^ 2 * P.y ^ 2 := P.on
  have hu2 : 1 + s ^ 2 ≠ 0 := by
    intro h
    rw [h, mul_zero] at hy
    apply h2; linear_combination h - hy
  by_cases hs0 : s = 0
  · -- the identity
    refine ⟨0, ?_⟩
    rw [smul_zero]
    have hy1 : P.y = 1 := by rw [hs0] at hy; linear_combination hy
    have hx0 : P.x = 0 := by
      rw [hy1] at hPon
      have : P.x ^ 2 * (1 + d) = 0 := by linear_combination -hPon
      rcases mul_eq_zero.1 this with h' | h'
      · exact (pow_eq_zero_iff two_ne_zero).1 h'
      · exact absurd (by linear_combination h') d_ne_neg_one
    ext
    · exact hx0
    · exact hy1
  obtain ⟨r, hr⟩ := hv
  have hκ0 : invSqrtAmD ^ 2 * s ^ 2 ≠ 0 := mul_ne_zero (pow_ne_zero _ hm0) (pow_ne_zero _ hs0)
  have hD0 : 2 * (invSqrtAmD ^ 2 * s ^ 2) * d ≠ 0 := mul_ne_zero (mul_ne_zero h2 hκ0) hd0
  -- discriminant `β² + 4κ²d = (r m)²`
  have hdisc : (1 - invSqrtAmD ^ 2 * s ^ 2 * (1 - d)) ^ 2 + 4 * (invSqrtAmD ^ 2 * s ^ 2) ^ 2 * d
      = (r * invSqrtAmD) ^ 2 := by
    linear_combination (invSqrtAmD ^ 2) * hr - (1 + s ^ 4 * invSqrtAmD ^ 2 * (1 + d)) * hm
  -- the two roots
  obtain ⟨A₁, hA₁⟩ : ∃ A, A * (2 * (invSqrtAmD ^ 2 * s ^ 2) * d) =
      r * invSqrtAmD - (1 - invSqrtAmD ^ 2 * s ^ 2 * (1 - d)) := ⟨_ / _, div_mul_cancel₀ _ hD0⟩
  obtain ⟨A₂, hA₂⟩ : ∃ A, A * (2 * (invSqrtAmD ^ 2 * s ^ 2) * d) =
      -(r * invSqrtAmD) - (1 - invSqrtAmD ^ 2 * s ^ 2 * (1 - d)) := ⟨_ / _, div_mul_cancel₀ _ hD0⟩
  have hprod : A₁ * A₂ * d = -1 := by
    apply mul_right_cancel₀ (pow_ne_zero 2 hD0)
    linear_combination (d * A₂ * (2 * (invSqrtAmD ^ 2 * s ^ 2) * d)) * hA₁
      + (d * (r * invSqrtAmD - (1 - invSqrtAmD ^ 2 * s ^ 2 * (1 - d)))) * hA₂ + d * hdisc
  -- either root gives a half
  have hroot : ∀ A : Fp, (A * (2 * (invSqrtAmD ^ 2 * s ^ 2) * d) + (1 - invSqrtAmD ^ 2 * s ^ 2 * (1 - d))) ^ 2
      = (r * invSqrtAmD) ^ 2 → A = invSqrtAmD ^ 2 * s ^ 2 * (1 + A) * (1 - d * A) := by
    intro A h
    apply mul_right_cancel₀ hD0
    apply mul_left_cancel₀ h2
    linear_combination h - hdisc
  have hhalf : ∃ R : Ed, (2 • R).y * (1 + s ^ 2) = 1 - s ^ 2 := by
    rcases isSquare_or_of_mul_d hprod with ⟨a, ha⟩ | ⟨a, ha⟩
    · refine half_core (a := a) hs0 ?_
      rw [← ha]; exact hroot A₁ (by rw [hA₁]; ring)
    · refine half_core (a := a) hs0 ?_
      rw [← ha]; exact hroot A₂ (by rw [hA₂]; ring)
  obtain ⟨R, hR⟩ := hhalf
  -- same `y`, hence `x = ±x`
  have hyeq : P.y = (2 • R).y := by
    apply mul_right_cancel₀ hu2; rw [hy, hR]
  have hRon : -(2 • R).x ^ 2 + (2 • R).y ^ 2 = 1 + d * (2 • R).x ^ 2 * (2 • R).y ^ 2 := (2 • R).on
  have hx2 : P.x ^ 2 = (2 • R).x ^ 2 := by
    have hne := Bridge.dyy_add_one_ne_zero P.y
    apply mul_right_cancel₀ hne
    rw [← hyeq] at hRon
    linear_combination hRon - hPon
  rcases sq_eq_cases hx2 with hx | hx
  · exact ⟨R, by ext; exact hx; exact hyeq⟩
  · refine ⟨-R, ?_⟩
    rw [smul_neg]
    ext
    · rw [EdPoint.neg_x]; exact hx
    · rw [EdPoint.neg_y]; exact hyeq

/-! ## DECODE returns points of the even subgroup -/

theorem dec_even {s : Fp} (hok : (decI s).1 = 1) {P : Ed} (hy : P.y = decY s) : ∃ R : Ed, P = 2 • R := by
  obtain ⟨hI, -, hyy⟩ := dec_facts hok
  obtain ⟨hv0, hu2, hI0⟩ := dec_ne_zero hok
  refine even_of_s (s := s) (by rw [hy]; exact hyy) ?_
  have hvdef : decV s = -d * (1 - s ^ 2) ^ 2 - (1 + s ^ 2) ^ 2 := rfl
  rw [← hvdef]
  refine ⟨((decI s).2 * (1 + s ^ 2))⁻¹, ?_⟩
  have hne : (decI s).2 * (1 + s ^ 2) ≠ 0 := mul_ne_zero hI0 hu2
  field_simp
  linear_combination hI

/-! ## MAP returns points of the even subgroup -/

/-- in every branch of MAP: `s = 0`, or `v ≠ 0` and `N²(d+1) = v²((1+s²)² + d(1−s²)²)` -/
theorem map_K (t : Fp) :
    mapS t = 0 ∨ (mapV t ≠ 0 ∧ mapN t ^ 2 * (d + 1) =
      mapV t ^ 2 * ((1 + mapS t ^ 2) ^ 2 + d * (1 - mapS t ^ 2) ^ 2)) := by
  have hc6 : zmodOps.const 6 = 1 - d ^ 2 := const_ONE_MINUS_EDWARDS_D_SQUARED
  have hc7 : zmodOps.const 7 = (d - 1) ^ 2 := const_EDWARDS_D_MINUS_ONE_SQUARED
  have hd1 : d - 1 ≠ 0 := sub_ne_zero.2 d_ne_one
  have hd1' : d + 1 ≠ 0 := fun h => d_ne_neg_one (by linear_combination h)
  have hUdef : mapU t = (mapR t + 1) * (1 - d ^ 2) := by unfold mapU; rw [hc6]
  have hVdef : mapV t = (-1 - d * mapR t) * (mapR t + d) := rfl
  have hNdef : mapN t = mapC t * (mapR t - 1) * (d - 1) ^ 2 - mapV t := by unfold mapN; rw [hc7]
  have hRdef : mapR t = sqrtM1 * t ^ 2 := rfl
  have hSq : mapSq t = sqrtRatioFp (mapU t) (mapV t) := rfl
  have hu_v : mapU t = 0 → mapV t ≠ 0 := by
    intro hu hv
    rw [hUdef] at hu; rw [hVdef] at hv
    have hr : mapR t = -1 := by
      rcases mul_eq_zero.1 hu with h | h
      · linear_combination h
      · exfalso
        have : (1 - d) * (1 + d) = 0 := by linear_combination h
        rcases mul_eq_zero.1 this with h' | h'
        · exact hd1 (by linear_combination -h')
        · exact hd1' (by linear_combination h')
    rw [hr] at hv
    have : (d - 1) ^ 2 = 0 := by linear_combination hv
    exact hd1 ((pow_eq_zero_iff two_ne_zero).1 this)
  rcases sqrtRatioFp_flag (mapU t) (mapV t) with h0 | h1
  · have hflag : ¬ (mapSq t).1 ≠ 0 := by rw [hSq, h0]; exact not_not.2 rfl
    have hS : mapS t = fpNegAbs ((mapSq t).2 * t) := by unfold mapS; rw [if_neg hflag]
    have hC : mapC t = mapR t := by unfold mapC; rw [if_neg hflag]
    have hnot : ¬ (mapU t = 0 ∨ (mapV t ≠ 0 ∧ IsSquare (mapU t / mapV t))) := by
      rw [← sqrtRatioFp_ok_iff, h0]; exact zero_ne_one
    have hu : mapU t ≠ 0 := fun h => hnot (Or.inl h)
    by_cases hv : mapV t = 0
    · left
      rw [hS, hSq, (sqrtRatioFp_spec _ _).2.1 hv hu, zero_mul]; exact fpNegAbs_zero
    · right
      refine ⟨hv, ?_⟩
      have hns : ¬ IsSquare (mapU t / mapV t) := fun h => hnot (Or.inr ⟨hv, h⟩)
      have h4 := ((sqrtRatioFp_spec (mapU t) (mapV t)).2.2.2 hv hns).2
      rw [← hSq] at h4
      have hs : mapS t ^ 2 * mapV t = mapR t * mapU t := by
        rw [hS, fpNegAbs_sq, hRdef]; linear_combination (t ^ 2) * h4
      have hid := map_identity_nonsq (mapR t)
      rw [hNdef, hC]
      rw [hUdef] at hs
      rw [hVdef] at hs ⊢
      generalize mapR t = r at hs hid ⊢
      generalize mapS t = s at hs ⊢
      linear_combination hid - ((2 * ((-1 - d * r) * (r + d)) + s ^ 2 * ((-1 - d * r) * (r + d))
        + r * ((r + 1) * (1 - d ^ 2))) - d * (2 * ((-1 - d * r) * (r + d)) - s ^ 2 * ((-1 - d * r) * (r + d))
        - r * ((r + 1) * (1 - d ^ 2)))) * hs
  · right
    have hflag : (mapSq t).1 ≠ 0 := by rw [hSq, h1]; exact one_ne_zero
    have hS : mapS t = (mapSq t).2 := by unfold mapS; rw [if_pos hflag]
    have hC : mapC t = -1 := by unfold mapC; rw [if_pos hflag]
    have hs : mapS t ^ 2 * mapV t = mapU t := by rw [hS, hSq]; exact sqrtRatioFp_ok h1
    have hv : mapV t ≠ 0 := by
      intro hv
      refine hu_v ?_ hv
      rw [← hs, hv, mul_zero]
    refine ⟨hv, ?_⟩
    have hid := map_identity_sq (mapR t)
    rw [hNdef, hC]
    rw [hUdef] at hs
    rw [hVdef] at hs ⊢
    generalize mapR t = r at hs hid ⊢
    generalize mapS t = s at hs ⊢
    linear_combination hid - ((2 * ((-1 - d * r) * (r + d)) + s ^ 2 * ((-1 - d * r) * (r + d))
      + (r + 1) * (1 - d ^ 2)) - d * (2 * ((-1 - d * r) * (r + d)) - s ^ 2 * ((-1 - d * r) * (r + d))
      - (r + 1) * (1 - d ^ 2))) * hs

/-- **MAP lands in the even subgroup.** -/
theorem map_even (t : Fp) {Q : Ed} (hQ : RepCompleted Q (mapW0 t) (mapW2 t) (mapW1 t) (mapW3 t)) :
    ∃ R : Ed, Q = 2 • R := by
  have hm := magic_sq
  have hm0 := magic_ne_zero
  obtain ⟨-, hw3, -, hy⟩ := hQ
  have hw3' : 1 + mapS t ^ 2 ≠ 0 := hw3
  have hyy : Q.y * (1 + mapS t ^ 2) = 1 - mapS t ^ 2 := by
    rw [hy]; unfold mapW2 mapW3; rw [div_mul_cancel₀ _ hw3']
  refine even_of_s hyy ?_
  rcases map_K t with h0 | ⟨hv, hK⟩
  · rw [h0]
    refine ⟨invSqrtAmD⁻¹, ?_⟩
    field_simp
    linear_combination hm
  · refine ⟨mapN t / (invSqrtAmD * mapV t), ?_⟩
    rw [div_mul_div_comm, eq_div_iff (mul_ne_zero (mul_ne_zero hm0 hv) (mul_ne_zero hm0 hv))]
    linear_combination (mapN t ^ 2) * hm + (invSqrtAmD ^ 2) * hK

/-- MAP on the executable specification: a valid extended point of the even subgroup -/
theorem mapExt_valid_even (t : Nat) :
    ∃ Q R : Ed, Dalek.Bridge.ERep (toEPt (Ristretto.mapExt t)) Q ∧ Q = 2 • R := by
  obtain ⟨Q, hQ⟩ := map_valid (t : Fp)
  obtain ⟨R, hR⟩ := map_even (t : Fp) hQ
  obtain ⟨h1, h2, h3, h4⟩ := cast_mapExt t
  refine ⟨Q, R, ?_, hR⟩
  unfold Dalek.Bridge.ERep toEPt
  dsimp only
  rw [h1, h2, h3, h4]
  exact hQ.as_extended

end Dalek.Proofs.Ris
