import Dalek.Props.C01.Fiat26
import Dalek.Proofs.ByteLists
import Dalek.Props.C01.FiatExpr
import Dalek.Proofs.Bytes26
/-!
# C01 / C11 — the fiat u32 backend: EVERY expression over the wrapper operations is overflow-free and exact

`FExpr` is the language of field computations a fiat build can perform on `FieldElement2625` values: variables and the
wrapper operations `+ - * neg square square2 pow2k(k)`.  It is interpreted three ways: with the overflow-checked
semantics of the TRANSLATED wrappers (`evalC`, `none` = a debug build would panic), with their release semantics
(`evalW`), and in `ZMod p`.  `fiat51_expr`: for every expression and every environment of *tight* limb vectors the checked
run does not panic, equals the release run, is tight again, and its value is the `ZMod p` value of the expression.
This is the `histories` quantifier of C11 for this backend ("the headroom each kernel needs is re-established by every
operation that can feed it"): the invariant is fiat's own documented tight bound.
-/
namespace Dalek.Props.C01.Fiat26
open Dalek.IR Dalek.Model.Contracts Dalek.Props.C01.FiatExpr
open Dalek.Props.C01.Field26 (val26)

/-- debug-build run (overflow checks on) -/
def evalC (env : List (List Nat)) : FExpr → Option (List Nat)
  | .var i => env[i]?
  | .add a b => do let x ← evalC env a; let y ← evalC env b; Dalek.Gen.FiatField26.add_ref.evalC (x ++ y)
  | .sub a b => do let x ← evalC env a; let y ← evalC env b; Dalek.Gen.FiatField26.sub.evalC (x ++ y)
  | .mul a b => do let x ← evalC env a; let y ← evalC env b; Dalek.Gen.FiatField26.mul.evalC (x ++ y)
  | .neg a => do let x ← evalC env a; Dalek.Gen.FiatField26.neg.evalC x
  | .square a => do let x ← evalC env a; Dalek.Gen.FiatField26.square.evalC x
  | .square2 a => do let x ← evalC env a; Dalek.Gen.FiatField26.square2.evalC x
  | .pow2k k a => do let x ← evalC env a; iterC Dalek.Gen.FiatField26.pow2k_body.evalC k x

/-- release-build run -/
def evalW (env : List (List Nat)) : FExpr → List Nat
  | .var i => env.getD i []
  | .add a b => Dalek.Gen.FiatField26.add_ref.evalW (evalW env a ++ evalW env b)
  | .sub a b => Dalek.Gen.FiatField26.sub.evalW (evalW env a ++ evalW env b)
  | .mul a b => Dalek.Gen.FiatField26.mul.evalW (evalW env a ++ evalW env b)
  | .neg a => Dalek.Gen.FiatField26.neg.evalW (evalW env a)
  | .square a => Dalek.Gen.FiatField26.square.evalW (evalW env a)
  | .square2 a => Dalek.Gen.FiatField26.square2.evalW (evalW env a)
  | .pow2k k a => iterW Dalek.Gen.FiatField26.pow2k_body.evalW k (evalW env a)

theorem tight10 {l : List Nat} (h : EnvIn l tightOut) : ∃ a0 a1 a2 a3 a4 a5 a6 a7 a8 a9, l = [a0, a1, a2, a3, a4, a5, a6, a7, a8, a9] := by
  have hl := Dalek.Proofs.Bytes51.envIn_length h
  exact Dalek.Proofs.Bytes26.list_eq_of_length_10 (by simpa [tightOut, FiatField26.tight] using hl)

theorem envIn_append {xs ys : List Nat} {ts us : List Itv} (h1 : EnvIn xs ts) (h2 : EnvIn ys us) :
    EnvIn (xs ++ ys) (ts ++ us) := by
  induction xs generalizing ts with
  | nil => cases ts with
    | nil => simpa using h2
    | cons t ts => simp [EnvIn] at h1
  | cons x xs ih => cases ts with
    | nil => simp [EnvIn] at h1
    | cons t ts =>
      simp only [EnvIn] at h1
      simp only [List.cons_append, EnvIn]
      exact ⟨h1.1, ih h1.2⟩

/-- the `pow2k` loop: any number of iterations -/
theorem pow2k_iter (k : Nat) (l : List Nat) (h : EnvIn l tightOut) :
    ∃ out, iterC Dalek.Gen.FiatField26.pow2k_body.evalC k l = some out ∧
      iterW Dalek.Gen.FiatField26.pow2k_body.evalW k l = out ∧ EnvIn out tightOut ∧
      val26 out = val26 l ^ (2 ^ (k + 1)) := by
  induction k generalizing l with
  | zero =>
    obtain ⟨a0, a1, a2, a3, a4, a5, a6, a7, a8, a9, rfl⟩ := tight10 h
    obtain ⟨out, hC, hW, hT, hV⟩ := pow2k_body_spec a0 a1 a2 a3 a4 a5 a6 a7 a8 a9 (by simpa [FiatField26.pre_pow2k_body, tightOut] using h)
    exact ⟨out, by simpa [iterC] using hC, by simpa [iterW] using hW, hT, by simpa using hV⟩
  | succ k ih =>
    obtain ⟨a0, a1, a2, a3, a4, a5, a6, a7, a8, a9, rfl⟩ := tight10 h
    obtain ⟨o1, hC, hW, hT, hV⟩ := pow2k_body_spec a0 a1 a2 a3 a4 a5 a6 a7 a8 a9 (by simpa [FiatField26.pre_pow2k_body, tightOut] using h)
    obtain ⟨out, hC2, hW2, hT2, hV2⟩ := ih o1 hT
    refine ⟨out, ?_, ?_, hT2, ?_⟩
    · simp [iterC, hC, hC2]
    · simp [iterW, hW, hW2]
    · rw [hV2, hV, ← pow_mul]; congr 1; ring

/-- **every expression over the fiat u64 wrapper operations**, on tight inputs: no panic, checked = release, tight
result, exact value in `ZMod p`. -/
theorem fiat26_expr (env : List (List Nat)) (henv : ∀ l ∈ env, EnvIn l tightOut) (e : FExpr)
    (hs : e.scoped env.length) :
    ∃ out, evalC env e = some out ∧ evalW env e = out ∧ EnvIn out tightOut ∧
      val26 out = e.evalF (env.map val26) := by
  induction e with
  | var i =>
    simp only [FExpr.scoped] at hs
    refine ⟨env[i], by simp [evalC, hs], by simp [evalW, List.getD, hs], henv _ (List.getElem_mem hs), ?_⟩
    simp [FExpr.evalF, List.getD, hs]
  | add a b iha ihb =>
    obtain ⟨x, hxC, hxW, hxT, hxV⟩ := iha hs.1
    obtain ⟨y, hyC, hyW, hyT, hyV⟩ := ihb hs.2
    obtain ⟨a0, a1, a2, a3, a4, a5, a6, a7, a8, a9, rfl⟩ := tight10 hxT
    obtain ⟨b0, b1, b2, b3, b4, b5, b6, b7, b8, b9, rfl⟩ := tight10 hyT
    obtain ⟨out, hC, hW, hT, hV⟩ := add_ref_spec a0 a1 a2 a3 a4 a5 a6 a7 a8 a9 b0 b1 b2 b3 b4 b5 b6 b7 b8 b9
      (by simpa [FiatField26.pre_add_ref, tightOut] using envIn_append hxT hyT)
    exact ⟨out, by simp [evalC, hxC, hyC, hC], by simp [evalW, hxW, hyW, hW], hT,
      by simp [FExpr.evalF, hV, hxV, hyV]⟩
  | sub a b iha ihb =>
    obtain ⟨x, hxC, hxW, hxT, hxV⟩ := iha hs.1
    obtain ⟨y, hyC, hyW, hyT, hyV⟩ := ihb hs.2
    obtain ⟨a0, a1, a2, a3, a4, a5, a6, a7, a8, a9, rfl⟩ := tight10 hxT
    obtain ⟨b0, b1, b2, b3, b4, b5, b6, b7, b8, b9, rfl⟩ := tight10 hyT
    obtain ⟨out, hC, hW, hT, hV⟩ := sub_spec a0 a1 a2 a3 a4 a5 a6 a7 a8 a9 b0 b1 b2 b3 b4 b5 b6 b7 b8 b9
      (by simpa [FiatField26.pre_sub, tightOut] using envIn_append hxT hyT)
    exact ⟨out, by simp [evalC, hxC, hyC, hC], by simp [evalW, hxW, hyW, hW], hT,
      by simp [FExpr.evalF, hV, hxV, hyV]⟩
  | mul a b iha ihb =>
    obtain ⟨x, hxC, hxW, hxT, hxV⟩ := iha hs.1
    obtain ⟨y, hyC, hyW, hyT, hyV⟩ := ihb hs.2
    obtain ⟨a0, a1, a2, a3, a4, a5, a6, a7, a8, a9, rfl⟩ := tight10 hxT
    obtain ⟨b0, b1, b2, b3, b4, b5, b6, b7, b8, b9, rfl⟩ := tight10 hyT
    obtain ⟨out, hC, hW, hT, hV⟩ := mul_spec a0 a1 a2 a3 a4 a5 a6 a7 a8 a9 b0 b1 b2 b3 b4 b5 b6 b7 b8 b9
      (by simpa [FiatField26.pre_mul, tightOut] using envIn_append hxT hyT)
    exact ⟨out, by simp [evalC, hxC, hyC, hC], by simp [evalW, hxW, hyW, hW], hT,
      by simp [FExpr.evalF, hV, hxV, hyV]⟩
  | neg a iha =>
    obtain ⟨x, hxC, hxW, hxT, hxV⟩ := iha hs
    obtain ⟨a0, a1, a2, a3, a4, a5, a6, a7, a8, a9, rfl⟩ := tight10 hxT
    obtain ⟨out, hC, hW, hT, hV⟩ := neg_spec a0 a1 a2 a3 a4 a5 a6 a7 a8 a9 (by simpa [FiatField26.pre_neg, tightOut] using hxT)
    exact ⟨out, by simp [evalC, hxC, hC], by simp [evalW, hxW, hW], hT, by simp [FExpr.evalF, hV, hxV]⟩
  | square a iha =>
    obtain ⟨x, hxC, hxW, hxT, hxV⟩ := iha hs
    obtain ⟨a0, a1, a2, a3, a4, a5, a6, a7, a8, a9, rfl⟩ := tight10 hxT
    obtain ⟨out, hC, hW, hT, hV⟩ := square_spec a0 a1 a2 a3 a4 a5 a6 a7 a8 a9 (by simpa [FiatField26.pre_square, tightOut] using hxT)
    exact ⟨out, by simp [evalC, hxC, hC], by simp [evalW, hxW, hW], hT, by simp [FExpr.evalF, hV, hxV]⟩
  | square2 a iha =>
    obtain ⟨x, hxC, hxW, hxT, hxV⟩ := iha hs
    obtain ⟨a0, a1, a2, a3, a4, a5, a6, a7, a8, a9, rfl⟩ := tight10 hxT
    obtain ⟨out, hC, hW, hT, hV⟩ := square2_spec a0 a1 a2 a3 a4 a5 a6 a7 a8 a9 (by simpa [FiatField26.pre_square2, tightOut] using hxT)
    exact ⟨out, by simp [evalC, hxC, hC], by simp [evalW, hxW, hW], hT, by simp [FExpr.evalF, hV, hxV]⟩
  | pow2k k a iha =>
    obtain ⟨x, hxC, hxW, hxT, hxV⟩ := iha hs
    obtain ⟨out, hC, hW, hT, hV⟩ := pow2k_iter k x hxT
    exact ⟨out, by simp [evalC, hxC, hC], by simp [evalW, hxW, hW], hT, by simp [FExpr.evalF, hV, hxV]⟩

/-- non-vacuity: `invert`'s shape `(x^2)^(2^5) * x - (-x)` on the all-limbs-at-the-bound input is a scoped expression over a
tight environment -/
example : (FExpr.sub (.mul (.pow2k 4 (.square (.var 0))) (.var 0)) (.neg (.var 0))).scoped [[0x4000000, 0x2000000, 0x4000000, 0x2000000, 0x4000000, 0x2000000, 0x4000000, 0x2000000, 0x4000000, 0x2000000]].length ∧
    ∀ l ∈ [[0x4000000, 0x2000000, 0x4000000, 0x2000000, 0x4000000, 0x2000000, 0x4000000, 0x2000000, 0x4000000, 0x2000000]], EnvIn l tightOut := by
  refine ⟨by simp [FExpr.scoped], ?_⟩
  intro l hl
  simp only [List.mem_singleton] at hl
  subst hl
  decide +kernel

end Dalek.Props.C01.Fiat26
