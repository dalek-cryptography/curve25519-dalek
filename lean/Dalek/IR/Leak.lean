/-
Source-level LEAKAGE SEMANTICS of the two translator target languages (property C10).  Mathlib-free.

What an execution reveals to a control-flow / address observer is a list of `LeakEvent`s:

* `branch b`   a conditional jump was taken (`b = true`) or not;
* `index i`    memory was addressed at offset `i` of an array (a data-dependent address);
* `loopLen n`  a loop ran `n` times;
* pseudo-events `limbOp`/`algOp`/`call`: the KIND of operation that was executed (the program counter).
  They carry no run-time value; they make the trace "the sequence of opcodes executed".

LimbIR (`E`, `S`, `Prog`) and AlgIR (`FOp`, `AStmt`, `AProg`) have, BY CONSTRUCTION of their syntax,
no branch constructor, no constructor that indexes memory with a computed value (the operands of a statement are
SSA numbers, i.e. literals of the program text), and no loop whose trip count is data (`pow2k k` carries the
literal `k`).  Consequently `leakW`/`leak` below, although they are defined by *running* the program (the
environment is threaded through every statement, exactly as `runW`/`arunBody` do, so that a constructor that
consulted it could be added), never consult the environment, and

  `limb_leak_const : p.leakW env₁ = p.leakW env₂`,   `alg_leak_const : p.leak o ins₁ = p.leak o' ins₂`.

These two theorems are close to trivial and that is the point: their content is NOT in the proof but in the fact
that the translator `tools/rs2lean` *places* an item in this language.  An `if borrow != 0 { … }`, an early
`return`, a `match` on a value, a table access `t[x]` with non-literal `x`, a `while` loop — none of them has an
image in `E`/`FOp`, and the translator's "never guess" rule makes the translation FAIL (the item disappears from
`Dalek.Gen.*` and every theorem naming it stops compiling).

HONESTY NOTE on `sel` / `csel`.  `E.sel c a b` is the image of `subtle`'s `u64::conditional_select(&a, &b, c)`
(`a ^ (mask & (a ^ b))` with `mask = -(c as i64)` behind an optimisation barrier) and `FOp.csel` that of
`FieldElement::conditional_select/conditional_assign/conditional_negate` (the same mask arithmetic per limb).
Their *value* semantics (`evalW`, `FOps.csel`) is an `if`; their *leakage* semantics here evaluates BOTH arms and
emits the single opcode event `sel`: we MODEL them as data-independent, which is what the source (mask arithmetic)
says.  Whether the compiler keeps them branch-free is not a source-level fact; see the module doc of
`Dalek/Props/C10/NonInterference.lean` and `lib/special.py` (`extra_C10`) for the compiled artefact.
To show that the semantics is not blind, `BE` at the end of this file extends `E` with a genuine branch and with a
computed index; for it the trace DOES depend on the environment (`be_branch_leaks`, `be_index_leaks`).
-/
import Dalek.IR.Limb
import Dalek.IR.Alg

namespace Dalek.IR

/-- opcode of a LimbIR operation (everything but the operand sub-terms) -/
inductive LimbOp where
  | v (i : Nat) | c (n : Nat)
  | add (w : Nat) | sub (w : Nat) | mul (w : Nat)
  | wadd (w : Nat) | wsub (w : Nat) | wmul (w : Nat)
  | shr (k : Nat) | shl (w k : Nat)
  | band | bor | bxor
  | cast (w : Nat)
  | sel
  | set
deriving DecidableEq, Repr, Inhabited

/-- What one step of an execution reveals. -/
inductive LeakEvent where
  /-- outcome of a conditional jump -/
  | branch (b : Bool)
  /-- offset of a memory access whose address is computed -/
  | index (i : Nat)
  /-- trip count of a loop -/
  | loopLen (n : Nat)
  /-- pseudo-event: a LimbIR opcode was executed -/
  | limbOp (o : LimbOp)
  /-- pseudo-event: an AlgIR opcode was executed -/
  | algOp (o : FOp)
  /-- pseudo-event: a named routine was entered whose own leakage is accounted for elsewhere
  (a translated item, by `limb_leak_const`/`alg_leak_const`) or ASSUMED (SHA-512, outside the repository) -/
  | call (name : String)
deriving DecidableEq, Repr, Inhabited

abbrev Leak := List LeakEvent

/-! ## LimbIR -/

/-- Leakage of evaluating an expression in environment `env` (release semantics, post-order = evaluation order).
`sel` evaluates the condition and BOTH arms, then emits one `sel` opcode (mask arithmetic, see the module doc). -/
def E.leakW (env : List Nat) : E → Leak
  | .v i => [.limbOp (.v i)]
  | .c n => [.limbOp (.c n)]
  | .add w a b => a.leakW env ++ b.leakW env ++ [.limbOp (.add w)]
  | .sub w a b => a.leakW env ++ b.leakW env ++ [.limbOp (.sub w)]
  | .mul w a b => a.leakW env ++ b.leakW env ++ [.limbOp (.mul w)]
  | .wadd w a b => a.leakW env ++ b.leakW env ++ [.limbOp (.wadd w)]
  | .wsub w a b => a.leakW env ++ b.leakW env ++ [.limbOp (.wsub w)]
  | .wmul w a b => a.leakW env ++ b.leakW env ++ [.limbOp (.wmul w)]
  | .shr a k => a.leakW env ++ [.limbOp (.shr k)]
  | .shl w a k => a.leakW env ++ [.limbOp (.shl w k)]
  | .band a b => a.leakW env ++ b.leakW env ++ [.limbOp .band]
  | .bor a b => a.leakW env ++ b.leakW env ++ [.limbOp .bor]
  | .bxor a b => a.leakW env ++ b.leakW env ++ [.limbOp .bxor]
  | .cast w a => a.leakW env ++ [.limbOp (.cast w)]
  | .sel cnd a b => cnd.leakW env ++ a.leakW env ++ b.leakW env ++ [.limbOp .sel]

/-- The same trace computed from the program text alone. -/
def E.ops : E → Leak
  | .v i => [.limbOp (.v i)]
  | .c n => [.limbOp (.c n)]
  | .add w a b => a.ops ++ b.ops ++ [.limbOp (.add w)]
  | .sub w a b => a.ops ++ b.ops ++ [.limbOp (.sub w)]
  | .mul w a b => a.ops ++ b.ops ++ [.limbOp (.mul w)]
  | .wadd w a b => a.ops ++ b.ops ++ [.limbOp (.wadd w)]
  | .wsub w a b => a.ops ++ b.ops ++ [.limbOp (.wsub w)]
  | .wmul w a b => a.ops ++ b.ops ++ [.limbOp (.wmul w)]
  | .shr a k => a.ops ++ [.limbOp (.shr k)]
  | .shl w a k => a.ops ++ [.limbOp (.shl w k)]
  | .band a b => a.ops ++ b.ops ++ [.limbOp .band]
  | .bor a b => a.ops ++ b.ops ++ [.limbOp .bor]
  | .bxor a b => a.ops ++ b.ops ++ [.limbOp .bxor]
  | .cast w a => a.ops ++ [.limbOp (.cast w)]
  | .sel cnd a b => cnd.ops ++ a.ops ++ b.ops ++ [.limbOp .sel]

/-- Release build: `set e` evaluates `e` and stores a new SSA variable; `assertLt` is a `debug_assert!` and is
compiled out (in a DEBUG build it is a branch on data; C10 is about release builds). -/
def S.leakW (env : List Nat) : S → Leak
  | .set e => e.leakW env ++ [.limbOp .set]
  | .assertLt _ _ => []

def S.ops : S → Leak
  | .set e => e.ops ++ [.limbOp .set]
  | .assertLt _ _ => []

/-- Leakage of running a statement list: the environment is threaded exactly as in `runW`. -/
def leakBodyW : List S → List Nat → Leak
  | [], _ => []
  | s :: ss, env => s.leakW env ++ leakBodyW ss (s.stepW env)

def opsBody : List S → Leak
  | [] => []
  | s :: ss => s.ops ++ opsBody ss

/-- Leakage trace of a release-build execution of the kernel on inputs `ins`. -/
def Prog.leakW (p : Prog) (ins : List Nat) : Leak := leakBodyW p.body ins

/-- The opcode sequence of the program text. -/
def Prog.ops (p : Prog) : Leak := opsBody p.body

theorem E.leakW_eq_ops (env : List Nat) (e : E) : e.leakW env = e.ops := by
  induction e <;> simp_all [E.leakW, E.ops]

theorem S.leakW_eq_ops (env : List Nat) (s : S) : s.leakW env = s.ops := by
  cases s <;> simp [S.leakW, S.ops, E.leakW_eq_ops]

theorem leakBodyW_eq_ops (ss : List S) (env : List Nat) : leakBodyW ss env = opsBody ss := by
  induction ss generalizing env with
  | nil => rfl
  | cons s ss ih => simp [leakBodyW, opsBody, S.leakW_eq_ops, ih]

/-- The trace of a LimbIR kernel is its opcode sequence: a function of the program text only. -/
theorem Prog.leakW_eq_ops (p : Prog) (ins : List Nat) : p.leakW ins = p.ops :=
  leakBodyW_eq_ops p.body ins

/-- **LimbIR non-interference.**  Two executions of the same kernel on ANY two inputs (of any length, inside or
outside the bound contract) produce the same leakage trace. -/
theorem limb_leak_const (p : Prog) (env₁ env₂ : List Nat) : p.leakW env₁ = p.leakW env₂ := by
  rw [p.leakW_eq_ops, p.leakW_eq_ops]

/-- the event is an opcode pseudo-event of LimbIR: not a jump, an address or a trip count -/
def LeakEvent.isLimbOp : LeakEvent → Bool
  | .limbOp _ => true
  | _ => false

theorem E.ops_all_limbOp (e : E) : e.ops.all LeakEvent.isLimbOp = true := by
  induction e <;>
    simp only [E.ops, List.all_append, List.all_cons, List.all_nil, LeakEvent.isLimbOp, Bool.and_self, *]

/-- The syntax of LimbIR offers nothing but opcodes: no kernel has a jump or a computed offset in its trace. -/
theorem opsBody_all_limbOp (ss : List S) : (opsBody ss).all LeakEvent.isLimbOp = true := by
  induction ss with
  | nil => rfl
  | cons s ss ih => cases s <;> simp [opsBody, S.ops, E.ops_all_limbOp, ih, LeakEvent.isLimbOp]

/-- number of `sel` opcodes executed (`conditional_select` sites) -/
def Prog.selCount (p : Prog) : Nat := p.ops.count (.limbOp .sel)

/-! ## AlgIR -/

/-- Leakage of one AlgIR statement: its opcode; `pow2k k` additionally reveals the trip count `k` of its
squaring loop (`for _ in 0..k`), a literal of the program text. -/
def FOp.leak : FOp → Leak
  | .pow2k k => [.algOp (.pow2k k), .loopLen k]
  | op => [.algOp op]

/-- Leakage of running a statement list under interpretation `o`: the environment is threaded exactly as in
`arunBody`.  `csel` is one opcode (both arms are already-computed SSA values; see the module doc). -/
def aleakBody {V : Type} (o : FOps V) : List AStmt → List V → Leak
  | [], _ => []
  | s :: ss, env =>
      s.op.leak ++ aleakBody o ss (env ++ [o.apply s.op (s.args.map (fun i => env.getD i o.dflt))])

def aopsBody : List AStmt → Leak
  | [] => []
  | s :: ss => s.op.leak ++ aopsBody ss

/-- Leakage trace of an execution of the AlgIR item on inputs `ins` under interpretation `o`. -/
def AProg.leak {V : Type} (o : FOps V) (p : AProg) (ins : List V) : Leak := aleakBody o p.body ins

/-- The opcode sequence of the program text. -/
def AProg.ops (p : AProg) : Leak := aopsBody p.body

theorem aleakBody_eq_ops {V : Type} (o : FOps V) (ss : List AStmt) (env : List V) :
    aleakBody o ss env = aopsBody ss := by
  induction ss generalizing env with
  | nil => rfl
  | cons s ss ih => simp [aleakBody, aopsBody, ih]

theorem AProg.leak_eq_ops {V : Type} (o : FOps V) (p : AProg) (ins : List V) : p.leak o ins = p.ops :=
  aleakBody_eq_ops o p.body ins

/-- **AlgIR non-interference.**  Two executions of the same item on any two input vectors — even under two
different interpretations of the field signature (two backends) — produce the same leakage trace. -/
theorem alg_leak_const {V W : Type} (p : AProg) (o : FOps V) (o' : FOps W) (ins₁ : List V) (ins₂ : List W) :
    p.leak o ins₁ = p.leak o' ins₂ := by
  rw [p.leak_eq_ops, p.leak_eq_ops]

/-! ## Non-vacuity: a language WITH a branch and a computed index leaks

`BE` is not a translator target.  It only shows that the event vocabulary distinguishes executions as soon as the
syntax offers a data-dependent construct — i.e. that `limb_leak_const` is a statement about `E`, not about the
definition of `Leak`. -/

inductive BE where
  /-- a LimbIR expression -/
  | base (e : E)
  /-- `if c != 0 { a } else { b }` : a real branch, only one arm is executed -/
  | ite (c : E) (a b : BE)
  /-- `table[i]` with a computed `i` -/
  | load (table : List Nat) (i : E)

def BE.evalW (env : List Nat) : BE → Nat
  | .base e => e.evalW env
  | .ite c a b => if c.evalW env ≠ 0 then a.evalW env else b.evalW env
  | .load t i => t.getD (i.evalW env) 0

def BE.leakW (env : List Nat) : BE → Leak
  | .base e => e.leakW env
  | .ite c a b =>
      c.leakW env ++ [.branch (c.evalW env != 0)] ++ (if c.evalW env ≠ 0 then a.leakW env else b.leakW env)
  | .load _ i => i.leakW env ++ [.index (i.evalW env)]

/-- the pre-fix shape of `Scalar52::sub` (RUSTSEC-2024-0344): `if borrow != 0 { add l }` leaks the borrow -/
theorem be_branch_leaks :
    (BE.ite (.v 0) (.base (.c 1)) (.base (.c 0))).leakW [0] ≠ (BE.ite (.v 0) (.base (.c 1)) (.base (.c 0))).leakW [1] := by
  decide

/-- a table lookup with a secret index leaks the index -/
theorem be_index_leaks :
    (BE.load [10, 20, 30] (.v 0)).leakW [0] ≠ (BE.load [10, 20, 30] (.v 0)).leakW [2] := by
  decide

end Dalek.IR
