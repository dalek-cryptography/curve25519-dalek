import Dalek.Proofs.Avx2Field.Defs
/-! Lane-level value semantics of the AVX512-IFMA vector field backend (`backend/vector/ifma/field.rs`).

An `F51x4Unreduced` / `F51x4Reduced = [u64x4; 5]` is modelled as a list of 20 u64 lanes; lane `4 i + j` is lane `j` of
vector `i` and holds limb `i` (radix 2^51) of element `j` of `(A, B, C, D)` (read off the translated `new` / `split`).
`Lane`, `Lane.idx`, `Lane.sel`, `elem51`, `val51` and the proof tactics are shared with the AVX2 development. -/
namespace Dalek.Proofs.IfmaField
open Dalek Dalek.Proofs.Field26 Dalek.Proofs.Avx2Field

/-- the five limbs of element `k` inside the 20 lanes `v` -/
def lane51 (k : Lane) (v : List Int) : List Int :=
  [v.getD k.idx 0, v.getD (k.idx + 4) 0, v.getD (k.idx + 8) 0, v.getD (k.idx + 12) 0, v.getD (k.idx + 16) 0]

/-- value in `ZMod (2^255-19)` of element `k` of the vector `v` (20 lanes) -/
def laneVal51 (k : Lane) (v : List Int) : ZMod P := ((Dalek.Proofs.Field51.rep51 (lane51 k v) : Int) : ZMod P)

/-- the five limbs / the value of element `k` of a vector of 20 u64 lanes (naturals) -/
def vecLimbs51 (k : Lane) (v : List Nat) : List Int := lane51 k (Dalek.IR.toZ v)
def vecVal51 (k : Lane) (v : List Nat) : ZMod P := laneVal51 k (Dalek.IR.toZ v)

theorem vecVal51_eq_limbs (k : Lane) (v : List Nat) :
    vecVal51 k v = ((Dalek.Proofs.Field51.rep51 (vecLimbs51 k v) : Int) : ZMod P) := rfl

/-- `limbs < 2^52` : the invariant of `F51x4Reduced` (`docs/ifma-notes.md`) -/
def reduced52 : List Dalek.IR.Itv := Dalek.Model.Contracts.IfmaField.reduced

/-- unfold the lane-value notions in the goal down to the SSA variables -/
macro "ifma_goal" : tactic =>
  `(tactic| simp only [laneVal51, lane51, val51, elem51, Lane.idx, Lane.sel, Nat.reduceAdd, Nat.reduceMul,
               Dalek.Proofs.Field51.rep51, List.getD_cons_zero, List.getD_cons_succ])

end Dalek.Proofs.IfmaField
