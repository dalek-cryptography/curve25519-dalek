/-
The points of the twisted Edwards curve `-x^2 + y^2 = 1 + d x^2 y^2` (d non-square, -1 a square,
char ≠ 2) form a commutative group under the complete addition law.
-/
import Dalek.Proofs.Edwards.AssocCert
import Mathlib.Algebra.Group.Defs

namespace Dalek.Edwards

variable {K : Type*} [Field K]

/-- x-coordinate of the Edwards sum of `(x1,y1)` and `(x2,y2)`. -/
def addX (d x1 y1 x2 y2 : K) : K := (x1 * y2 + y1 * x2) / (1 + d * x1 * x2 * y1 * y2)
/-- y-coordinate of the Edwards sum of `(x1,y1)` and `(x2,y2)`. -/
def addY (d x1 y1 x2 y2 : K) : K := (y1 * y2 + x1 * x2) / (1 - d * x1 * x2 * y1 * y2)

/-! ### Associativity on raw coordinates (any field, any `d`, denominators assumed nonzero) -/

section raw
variable {d x1 y1 x2 y2 x3 y3 : K}

private theorem addX_eq_frac : addX d x1 y1 x2 y2
    = xn x1 1 y1 1 x2 1 y2 1 / xd d x1 1 y1 1 x2 1 y2 1 := by
  simp only [addX, xn, xd]; congr 1 <;> ring

private theorem addY_eq_frac : addY d x1 y1 x2 y2
    = yn x1 1 y1 1 x2 1 y2 1 / yd d x1 1 y1 1 x2 1 y2 1 := by
  simp only [addY, yn, yd]; congr 1 <;> ring

private theorem xd_base_ne_zero (p : 1 + d * x1 * x2 * y1 * y2 ≠ 0) :
    xd d x1 1 y1 1 x2 1 y2 1 ≠ 0 := by
  intro h; apply p; rw [← h]; simp only [xd]; ring

private theorem yd_base_ne_zero (m : 1 - d * x1 * x2 * y1 * y2 ≠ 0) :
    yd d x1 1 y1 1 x2 1 y2 1 ≠ 0 := by
  intro h; apply m; rw [← h]; simp only [yd]; ring

/-- `Ln / Ld = Rn / Rd` from a certificate that puts `Ln * Rd - Rn * Ld` in the ideal of the curve
equations of three points. -/
private theorem div_eq_div_of_cert {Ln Ld Rn Rd q1 q2 q3 : K} (h1 : onCurve d x1 y1)
    (h2 : onCurve d x2 y2) (h3 : onCurve d x3 y3) (hL : Ld ≠ 0) (hR : Rd ≠ 0)
    (cert : Ln * Rd - Rn * Ld = q1 * E d x1 y1 + q2 * E d x2 y2 + q3 * E d x3 y3) :
    Ln / Ld = Rn / Rd := by
  rw [E_eq_zero h1, E_eq_zero h2, E_eq_zero h3, mul_zero, mul_zero, mul_zero, add_zero,
    add_zero] at cert
  rw [div_eq_div_iff hL hR]; exact sub_eq_zero.mp cert

/-- Associativity of the addition law, both coordinates, under nonvanishing denominators: the two
sides are brought to numerator/denominator form by `add_x_frac`/`add_y_frac`, the certificates
compare them. -/
theorem assoc_raw (h1 : onCurve d x1 y1) (h2 : onCurve d x2 y2) (h3 : onCurve d x3 y3)
    (p12 : 1 + d * x1 * x2 * y1 * y2 ≠ 0) (m12 : 1 - d * x1 * x2 * y1 * y2 ≠ 0)
    (p23 : 1 + d * x2 * x3 * y2 * y3 ≠ 0) (m23 : 1 - d * x2 * x3 * y2 * y3 ≠ 0)
    (pL : 1 + d * addX d x1 y1 x2 y2 * x3 * addY d x1 y1 x2 y2 * y3 ≠ 0)
    (mL : 1 - d * addX d x1 y1 x2 y2 * x3 * addY d x1 y1 x2 y2 * y3 ≠ 0)
    (pR : 1 + d * x1 * addX d x2 y2 x3 y3 * y1 * addY d x2 y2 x3 y3 ≠ 0)
    (mR : 1 - d * x1 * addX d x2 y2 x3 y3 * y1 * addY d x2 y2 x3 y3 ≠ 0) :
    addX d (addX d x1 y1 x2 y2) (addY d x1 y1 x2 y2) x3 y3
        = addX d x1 y1 (addX d x2 y2 x3 y3) (addY d x2 y2 x3 y3) ∧
      addY d (addX d x1 y1 x2 y2) (addY d x1 y1 x2 y2) x3 y3
        = addY d x1 y1 (addX d x2 y2 x3 y3) (addY d x2 y2 x3 y3) := by
  have a12 := xd_base_ne_zero p12
  have b12 := yd_base_ne_zero m12
  have a23 := xd_base_ne_zero p23
  have b23 := yd_base_ne_zero m23
  rw [addX_eq_frac (x1 := x1), addY_eq_frac (x1 := x1)] at pL mL ⊢
  rw [addX_eq_frac (x1 := x2), addY_eq_frac (x1 := x2)] at pR mR ⊢
  have Lx := add_x_frac d (xn x1 1 y1 1 x2 1 y2 1) _ (yn x1 1 y1 1 x2 1 y2 1) _ x3 1 y3 1 a12 b12 one_ne_zero one_ne_zero
  have Rx := add_x_frac d x1 1 y1 1 (xn x2 1 y2 1 x3 1 y3 1) _ (yn x2 1 y2 1 x3 1 y3 1) _ one_ne_zero one_ne_zero a23 b23
  have Lxd := xd_ne_zero d (xn x1 1 y1 1 x2 1 y2 1) _ (yn x1 1 y1 1 x2 1 y2 1) _ x3 1 y3 1 a12 b12 one_ne_zero one_ne_zero
  have Rxd := xd_ne_zero d x1 1 y1 1 (xn x2 1 y2 1 x3 1 y3 1) _ (yn x2 1 y2 1 x3 1 y3 1) _ one_ne_zero one_ne_zero a23 b23
  have Ly := add_y_frac d (xn x1 1 y1 1 x2 1 y2 1) _ (yn x1 1 y1 1 x2 1 y2 1) _ x3 1 y3 1 a12 b12 one_ne_zero one_ne_zero
  have Ry := add_y_frac d x1 1 y1 1 (xn x2 1 y2 1 x3 1 y3 1) _ (yn x2 1 y2 1 x3 1 y3 1) _ one_ne_zero one_ne_zero a23 b23
  have Lyd := yd_ne_zero d (xn x1 1 y1 1 x2 1 y2 1) _ (yn x1 1 y1 1 x2 1 y2 1) _ x3 1 y3 1 a12 b12 one_ne_zero one_ne_zero
  have Ryd := yd_ne_zero d x1 1 y1 1 (xn x2 1 y2 1 x3 1 y3 1) _ (yn x2 1 y2 1 x3 1 y3 1) _ one_ne_zero one_ne_zero a23 b23
  simp only [div_one] at Lx Rx Lxd Rxd Ly Ry Lyd Ryd
  rw [addX, addX, addY, addY, Lx, Rx, Ly, Ry]
  exact ⟨div_eq_div_of_cert h1 h2 h3 (Lxd pL) (Rxd pR) (assoc_x_cert d x1 y1 x2 y2 x3 y3),
    div_eq_div_of_cert h1 h2 h3 (Lyd mL) (Ryd mR) (assoc_y_cert d x1 y1 x2 y2 x3 y3)⟩

end raw

/-! ### The group -/

namespace EdPoint

variable {c : EdParams K}

/-- The neutral element `(0, 1)`. -/
protected def zero : EdPoint c := ⟨0, 1, by unfold onCurve; ring⟩

/-- Negation `(x, y) ↦ (-x, y)`. -/
protected def neg (P : EdPoint c) : EdPoint c :=
  ⟨-P.x, P.y, by have := P.on; unfold onCurve at *; linear_combination this⟩

/-- The complete Edwards addition law. -/
protected def add (P Q : EdPoint c) : EdPoint c :=
  ⟨addX c.d P.x P.y Q.x Q.y, addY c.d P.x P.y Q.x Q.y, closure c P.on Q.on⟩

instance : Zero (EdPoint c) := ⟨EdPoint.zero⟩
instance : Neg (EdPoint c) := ⟨EdPoint.neg⟩
instance : Add (EdPoint c) := ⟨EdPoint.add⟩

@[simp] theorem zero_x : (0 : EdPoint c).x = 0 := rfl
@[simp] theorem zero_y : (0 : EdPoint c).y = 1 := rfl
@[simp] theorem neg_x (P : EdPoint c) : (-P).x = -P.x := rfl
@[simp] theorem neg_y (P : EdPoint c) : (-P).y = P.y := rfl
theorem add_x (P Q : EdPoint c) :
    (P + Q).x = (P.x * Q.y + P.y * Q.x) / (1 + c.d * P.x * Q.x * P.y * Q.y) := rfl
theorem add_y (P Q : EdPoint c) :
    (P + Q).y = (P.y * Q.y + P.x * Q.x) / (1 - c.d * P.x * Q.x * P.y * Q.y) := rfl
theorem add_x' (P Q : EdPoint c) : (P + Q).x = addX c.d P.x P.y Q.x Q.y := rfl
theorem add_y' (P Q : EdPoint c) : (P + Q).y = addY c.d P.x P.y Q.x Q.y := rfl

/-- Both denominators of `P + Q` are nonzero. -/
theorem add_den_ne_zero (P Q : EdPoint c) :
    1 + c.d * P.x * Q.x * P.y * Q.y ≠ 0 ∧ 1 - c.d * P.x * Q.x * P.y * Q.y ≠ 0 :=
  complete c P.on Q.on

protected theorem add_comm' (P Q : EdPoint c) : P + Q = Q + P := by
  ext
  · rw [add_x, add_x]; congr 1 <;> ring
  · rw [add_y, add_y]; congr 1 <;> ring

protected theorem zero_add' (P : EdPoint c) : 0 + P = P := by
  ext
  · rw [add_x]; simp
  · rw [add_y]; simp

protected theorem add_zero' (P : EdPoint c) : P + 0 = P := by
  rw [EdPoint.add_comm', EdPoint.zero_add']

protected theorem neg_add_cancel' (P : EdPoint c) : -P + P = 0 := by
  ext
  · rw [add_x, zero_x, div_eq_zero_iff]; left; simp only [neg_x, neg_y]; ring
  · rw [add_y, zero_y, div_eq_one_iff_eq (add_den_ne_zero (-P) P).2]
    have := P.on; unfold onCurve at this
    simp only [neg_x, neg_y]; linear_combination this

/-- Associativity of the Edwards addition law. -/
protected theorem add_assoc' (P Q R : EdPoint c) : P + Q + R = P + (Q + R) := by
  have hPQ := add_den_ne_zero P Q
  have hQR := add_den_ne_zero Q R
  have hL := add_den_ne_zero (P + Q) R
  have hR := add_den_ne_zero P (Q + R)
  have h := assoc_raw P.on Q.on R.on hPQ.1 hPQ.2 hQR.1 hQR.2 hL.1 hL.2 hR.1 hR.2
  exact EdPoint.ext h.1 h.2

/-- The points of a complete twisted Edwards curve (a = -1) form a commutative group. -/
instance instAddCommGroup : AddCommGroup (EdPoint c) where
  add := (· + ·)
  add_assoc := EdPoint.add_assoc'
  zero := 0
  zero_add := EdPoint.zero_add'
  add_zero := EdPoint.add_zero'
  nsmul := nsmulRec
  neg := Neg.neg
  zsmul := zsmulRec
  neg_add_cancel := EdPoint.neg_add_cancel'
  add_comm := EdPoint.add_comm'

/-- Doubling in explicit coordinates. -/
theorem two_nsmul_x (P : EdPoint c) :
    (2 • P).x = (2 * P.x * P.y) / (1 + c.d * P.x ^ 2 * P.y ^ 2) := by
  rw [two_nsmul, add_x]; congr 1 <;> ring

theorem two_nsmul_y (P : EdPoint c) :
    (2 • P).y = (P.y ^ 2 + P.x ^ 2) / (1 - c.d * P.x ^ 2 * P.y ^ 2) := by
  rw [two_nsmul, add_y]; congr 1 <;> ring

end EdPoint

end Dalek.Edwards
