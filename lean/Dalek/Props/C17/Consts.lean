import Dalek.Model.ConstCheck
import Dalek.Proofs.Primes
/-!
# C17 (constants part) — the advertised `ff::Field` / `ff::PrimeField` constants of `Scalar`

Statements about the literals of `Dalek.Gen.Consts.ScalarRs`, REGENERATED from
`curve25519-dalek/src/scalar.rs` (`impl Field for Scalar`, `impl PrimeField for Scalar`, and the exponent
passed to `sqrt_tonelli_shanks`).  Scalars are 32 little-endian bytes (`bytesLE`); `L` is `Dalek.Spec.L`,
`spow a e = a^e mod l`, `smul a b = a·b mod l`.  Each theorem is `check… = true` for a checker documented in
`Dalek/Model/ConstCheck.lean`, proved by kernel evaluation.
-/
namespace Dalek.Props.C17
open Dalek.Spec Dalek.Model.ConstCheck
open Dalek.Gen.Consts

/-- `MODULUS` (the hex string `"0x1000…d3ed"`, parsed by `parseHex`) is `l` -/
theorem MODULUS_ok : checkModulus = true := by decide +kernel
theorem MODULUS_eq : parseHex ScalarRs.MODULUS = some L := by
  have h := MODULUS_ok
  unfold checkModulus optIs at h
  revert h
  cases parseHex ScalarRs.MODULUS with
  | none => simp
  | some m => simp only [Bool.and_eq_true, beq_iff_eq]; rintro ⟨rfl, -⟩; rfl

/-- `NUM_BITS = 253` is the bit length of `l` -/
theorem NUM_BITS_ok : checkNumBits = true := by decide +kernel
/-- `CAPACITY = 252 = NUM_BITS - 1` and `2^CAPACITY ≤ l` -/
theorem CAPACITY_ok : checkCapacity = true := by decide +kernel
/-- `ZERO = 0`, `ONE = 1` (inherent constants and the `Field::` ones that alias them) -/
theorem ZERO_ONE_ok : checkZeroOne = true := by decide +kernel

/-- `TWO_INV · 2 = 1 (mod l)`, canonical encoding -/
theorem TWO_INV_ok : checkTwoInv = true := by decide +kernel
theorem TWO_INV_eq : bytesLE ScalarRs.TWO_INV * 2 % L = 1 := by decide +kernel

/-- `S = 2`: `l - 1 = 2^S · t` with `t` odd (`t = ffT`) -/
theorem S_ok : checkS = true := by decide +kernel
theorem S_eq : 2 ^ ScalarRs.S * ffT = L - 1 ∧ ffT % 2 = 1 := by decide +kernel

/-- `l - 1 = 2² · 3 · 11 · 198211423230930754013084525763697 · 276602624281642239937218680557139826668747` -/
theorem l_minus_one_factorisation : checkLMinusOneFactorisation = true := by decide +kernel

/-- the entries of `lMinusOneFactors` are primes (they occur in the Pratt certificate chain of `l`) -/
theorem l_minus_one_factors_prime : ∀ qe ∈ lMinusOneFactors, Nat.Prime qe.1 := by
  have h3 : Nat.Prime 3 := Dalek.Primes.prime_of_cert Dalek.Primes.certL_ok (by decide +kernel)
  have h11 : Nat.Prime 11 := Dalek.Primes.prime_of_cert Dalek.Primes.certL_ok (by decide +kernel)
  have h4 : Nat.Prime 198211423230930754013084525763697 :=
    Dalek.Primes.prime_of_cert Dalek.Primes.certL_ok (by decide +kernel)
  have h5 : Nat.Prime 276602624281642239937218680557139826668747 :=
    Dalek.Primes.prime_of_cert Dalek.Primes.certL_ok (by decide +kernel)
  intro qe hqe
  simp only [lMinusOneFactors, List.mem_cons, List.not_mem_nil, or_false] at hqe
  rcases hqe with rfl | rfl | rfl | rfl | rfl
  · exact Nat.prime_two
  · exact h3
  · exact h11
  · exact h4
  · exact h5

/-- `MULTIPLICATIVE_GENERATOR = g` (= 2): `g ≠ 0`, `g^(l-1) = 1`, and `g^((l-1)/q) ≠ 1` for each `q` in
`lMinusOneFactors`, i.e. (with the two theorems above and `l` prime) `g` generates `(Z/l)ˣ` -/
theorem MULTIPLICATIVE_GENERATOR_ok : checkGenerator = true := by decide +kernel

/-- `ROOT_OF_UNITY = g^t`, `ROOT_OF_UNITY^(2^S) = 1`, `ROOT_OF_UNITY^(2^(S-1)) ≠ 1` -/
theorem ROOT_OF_UNITY_ok : checkRootOfUnity = true := by decide +kernel
theorem ROOT_OF_UNITY_eq : bytesLE ScalarRs.ROOT_OF_UNITY = spow ffG ffT := by decide +kernel

/-- `ROOT_OF_UNITY_INV · ROOT_OF_UNITY = 1` -/
theorem ROOT_OF_UNITY_INV_ok : checkRootOfUnityInv = true := by decide +kernel

/-- `DELTA = g^(2^S)` -/
theorem DELTA_ok : checkDelta = true := by decide +kernel
theorem DELTA_eq : bytesLE ScalarRs.DELTA = spow ffG (2 ^ ScalarRs.S) := by decide +kernel

/-- the four `u64` limbs passed to `sqrt_tonelli_shanks` denote `(t - 1)/2` (with `t` odd, so
`2·w + 1 = t`) -/
theorem sqrt_tonelli_shanks_exponent_ok : checkTonelliExponent = true := by decide +kernel

/-- every check that `Dalek.Model.ConstCheck.reportC17` (the list the driver prints) names succeeds -/
theorem reportC17_all_ok : reportC17.all (fun nb => nb.2) = true := by
  simp only [reportC17, List.all_cons, List.all_nil, MODULUS_ok, NUM_BITS_ok, CAPACITY_ok, ZERO_ONE_ok,
    TWO_INV_ok, S_ok, l_minus_one_factorisation, MULTIPLICATIVE_GENERATOR_ok, ROOT_OF_UNITY_ok,
    ROOT_OF_UNITY_INV_ok, DELTA_ok, sqrt_tonelli_shanks_exponent_ok, Bool.and_self]

end Dalek.Props.C17
