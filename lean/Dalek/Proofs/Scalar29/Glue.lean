import Dalek.Proofs.Scalar29.Bytes
import Dalek.Proofs.Scalar52.Glue
/-! # Scalar29: glue between the `Nat`-level property statements and the `Int`-level kernel lemmas -/
set_option exponentiation.threshold 600

namespace Dalek.Proofs.Scalar29
open Dalek.IR Dalek.Model.FieldBytes
open Dalek.Proofs.Scalar52 (Lim ell ell_eq ell_eqZ lim_of_envIn Lim_split8 nat_emod_of_int)

theorem val_of_toZ {out : List Nat} {o : List Int} (h : toZ out = o) : (val29 out : Int) = repZ o := by
  rw [← repZ_toZ, h]

/-- a bound on the value of limbs, read on their integer form `zs` (`hz` is `rfl` for explicit limbs) -/
theorem repZ_lt {xs : List Nat} {n : Nat} {zs : List Int} (h : val29 xs < n) (hz : toZ xs = zs) :
    repZ zs < (n : Int) := by
  rw [← hz, repZ_toZ]; exact_mod_cast h

/-- from the kernel's normal form to the value of its output: `f` is the shallow function of the normal form
(`k_fn_ok`), `o` its limbs and `V` their value (the `k_fn_spec` lemma) -/
theorem val_glue {q : NProg} {ins out : List Nat} {f o : List Int} {V : Int} (hZ : q.evalZ (toZ ins) = toZ out)
    (hf : q.evalZ (toZ ins) = f) (he : f = o) (hv : repZ o = V) : (val29 out : Int) = V := by
  rw [← repZ_toZ, ← hZ, hf, he, hv]

theorem repZ_cast9 (a0 a1 a2 a3 a4 a5 a6 a7 a8 : Nat) :
    repZ [(a0 : Int), (a1 : Int), (a2 : Int), (a3 : Int), (a4 : Int), (a5 : Int), (a6 : Int), (a7 : Int), (a8 : Int)] = (val29 [a0, a1, a2, a3, a4, a5, a6, a7, a8] : Int) := repZ_toZ [a0, a1, a2, a3, a4, a5, a6, a7, a8]

theorem repZ_cast17 (a0 a1 a2 a3 a4 a5 a6 a7 a8 a9 a10 a11 a12 a13 a14 a15 a16 : Nat) :
    repZ [(a0 : Int), (a1 : Int), (a2 : Int), (a3 : Int), (a4 : Int), (a5 : Int), (a6 : Int), (a7 : Int), (a8 : Int), (a9 : Int), (a10 : Int), (a11 : Int), (a12 : Int), (a13 : Int), (a14 : Int), (a15 : Int), (a16 : Int)] = (val29 [a0, a1, a2, a3, a4, a5, a6, a7, a8, a9, a10, a11, a12, a13, a14, a15, a16] : Int) :=
  repZ_toZ [a0, a1, a2, a3, a4, a5, a6, a7, a8, a9, a10, a11, a12, a13, a14, a15, a16]

theorem Lim_split9 {B : Int} {a0 a1 a2 a3 a4 a5 a6 a7 a8 : Int} {rest : List Int}
    (h : Lim B (a0 :: a1 :: a2 :: a3 :: a4 :: a5 :: a6 :: a7 :: a8 :: rest)) : Lim B [a0, a1, a2, a3, a4, a5, a6, a7, a8] ∧ Lim B rest := by
  simp only [Lim] at h ⊢
  exact ⟨⟨h.1, h.2.1, h.2.2.1, h.2.2.2.1, h.2.2.2.2.1, h.2.2.2.2.2.1, h.2.2.2.2.2.2.1, h.2.2.2.2.2.2.2.1, h.2.2.2.2.2.2.2.2.1, trivial⟩, h.2.2.2.2.2.2.2.2.2⟩

theorem nat_mont_of_zmod {o N : Nat} (h : ((o : Int) : ZMod ell) * 2 ^ 261 = ((N : Int) : ZMod ell)) :
    o * 2 ^ 261 % ell = N % ell := by
  apply (ZMod.natCast_eq_natCast_iff' _ _ ell).1
  rw [Int.cast_natCast, Int.cast_natCast] at h
  rw [Nat.cast_mul, Nat.cast_pow, Nat.cast_ofNat]
  exact h

theorem nat_mont_mul_of_zmod {o A B : Nat}
    (h : ((o : Int) : ZMod ell) * 2 ^ 261 = ((A : Int) : ZMod ell) * ((B : Int) : ZMod ell)) :
    o * 2 ^ 261 % ell = A * B % ell := by
  apply nat_mont_of_zmod
  rw [h, Nat.cast_mul, Int.cast_mul]

/-- a vector of 17 naturals whose `Int` image is within `[0, 9·(2^29-1)^2]` satisfies the `montgomery_reduce`
input contract -/
theorem envIn_wide_of_lim {xs : List Nat} (hlen : xs.length = 17) (h : Lim W1 (toZ xs)) :
    EnvIn xs Dalek.Model.Contracts.Scalar29.pre_montgomery_reduce := by
  apply envIn_of_lim _ 17 xs hlen
  have e : ((9 * (2 ^ 29 - 1) * (2 ^ 29 - 1) : Nat) : Int) + 1 = W1 := by norm_num [W1]
  rw [e]; exact h

theorem length_of_toZ {out : List Nat} {o : List Int} (h : toZ out = o) : out.length = o.length := by
  rw [← h]; exact (List.length_map _).symm

/-! ## destructuring output vectors, joining contracts -/

theorem list_of_length_succ {α : Type} {l : List α} {n : Nat} (h : l.length = n + 1) :
    ∃ a t, l = a :: t ∧ t.length = n := by
  cases l with
  | nil => simp at h
  | cons a t => exact ⟨a, t, rfl, by simpa using h⟩

theorem list9_of_length {l : List Nat} (h : l.length = 9) : ∃ o0 o1 o2 o3 o4 o5 o6 o7 o8, l = [o0, o1, o2, o3, o4, o5, o6, o7, o8] := by
  obtain ⟨o0, t0, rfl, h0⟩ := list_of_length_succ h
  obtain ⟨o1, t1, rfl, h1⟩ := list_of_length_succ h0
  obtain ⟨o2, t2, rfl, h2⟩ := list_of_length_succ h1
  obtain ⟨o3, t3, rfl, h3⟩ := list_of_length_succ h2
  obtain ⟨o4, t4, rfl, h4⟩ := list_of_length_succ h3
  obtain ⟨o5, t5, rfl, h5⟩ := list_of_length_succ h4
  obtain ⟨o6, t6, rfl, h6⟩ := list_of_length_succ h5
  obtain ⟨o7, t7, rfl, h7⟩ := list_of_length_succ h6
  obtain ⟨o8, t8, rfl, h8⟩ := list_of_length_succ h7
  have h := h8
  generalize t8 = t at *
  have : t = [] := List.eq_nil_of_length_eq_zero h
  subst this
  exact ⟨o0, o1, o2, o3, o4, o5, o6, o7, o8, rfl⟩

theorem list17_of_length {l : List Nat} (h : l.length = 17) : ∃ o0 o1 o2 o3 o4 o5 o6 o7 o8 o9 o10 o11 o12 o13 o14 o15 o16, l = [o0, o1, o2, o3, o4, o5, o6, o7, o8, o9, o10, o11, o12, o13, o14, o15, o16] := by
  obtain ⟨o0, t0, rfl, h0⟩ := list_of_length_succ h
  obtain ⟨o1, t1, rfl, h1⟩ := list_of_length_succ h0
  obtain ⟨o2, t2, rfl, h2⟩ := list_of_length_succ h1
  obtain ⟨o3, t3, rfl, h3⟩ := list_of_length_succ h2
  obtain ⟨o4, t4, rfl, h4⟩ := list_of_length_succ h3
  obtain ⟨o5, t5, rfl, h5⟩ := list_of_length_succ h4
  obtain ⟨o6, t6, rfl, h6⟩ := list_of_length_succ h5
  obtain ⟨o7, t7, rfl, h7⟩ := list_of_length_succ h6
  obtain ⟨o8, t8, rfl, h8⟩ := list_of_length_succ h7
  obtain ⟨o9, t9, rfl, h9⟩ := list_of_length_succ h8
  obtain ⟨o10, t10, rfl, h10⟩ := list_of_length_succ h9
  obtain ⟨o11, t11, rfl, h11⟩ := list_of_length_succ h10
  obtain ⟨o12, t12, rfl, h12⟩ := list_of_length_succ h11
  obtain ⟨o13, t13, rfl, h13⟩ := list_of_length_succ h12
  obtain ⟨o14, t14, rfl, h14⟩ := list_of_length_succ h13
  obtain ⟨o15, t15, rfl, h15⟩ := list_of_length_succ h14
  obtain ⟨o16, t16, rfl, h16⟩ := list_of_length_succ h15
  have h := h16
  generalize t16 = t at *
  have : t = [] := List.eq_nil_of_length_eq_zero h
  subst this
  exact ⟨o0, o1, o2, o3, o4, o5, o6, o7, o8, o9, o10, o11, o12, o13, o14, o15, o16, rfl⟩

/-! ## Montgomery arithmetic on naturals (through `ZMod l`) -/

theorem zmod_of_nat_mod {a b : Nat} (h : a % ell = b % ell) : (a : ZMod ell) = (b : ZMod ell) :=
  (ZMod.natCast_eq_natCast_iff' a b ell).2 h

theorem nat_of_zmod_lt {o X : Nat} (ho : o < ell) (h : (o : ZMod ell) = (X : ZMod ell)) : o = X % ell := by
  have := (ZMod.natCast_eq_natCast_iff' o X ell).1 h
  rwa [Nat.mod_eq_of_lt ho] at this

/-- two Montgomery reductions with the constant `RR = R² mod l` in between give the plain product -/
theorem mont_twice {A B C O RRv : Nat} (h1 : C * 2 ^ 261 % ell = A * B % ell)
    (h2 : O * 2 ^ 261 % ell = C * RRv % ell) (hRR : RRv = (2 ^ 261) ^ 2 % ell) (hO : O < ell) :
    O = A * B % ell := by
  apply nat_of_zmod_lt hO
  have e1 := zmod_of_nat_mod h1
  have e2 := zmod_of_nat_mod h2
  have eR : (RRv : ZMod ell) = (2 ^ 261) ^ 2 := by
    rw [hRR, ZMod.natCast_mod, Nat.cast_pow, Nat.cast_pow, Nat.cast_ofNat]
  rw [Nat.cast_mul, Nat.cast_pow, Nat.cast_ofNat] at e1 e2
  rw [Nat.cast_mul] at e1 e2
  rw [eR] at e2
  rw [Nat.cast_mul]
  apply mul_right_cancel₀ two_pow_ne_zero
  apply mul_right_cancel₀ two_pow_ne_zero
  rw [e2, ← e1]; ring

/-- one Montgomery reduction of `a·RR` gives `a·R` -/
theorem mont_as {A O RRv : Nat} (h : O * 2 ^ 261 % ell = A * RRv % ell) (hRR : RRv = (2 ^ 261) ^ 2 % ell)
    (hO : O < ell) : O = A * 2 ^ 261 % ell := by
  apply nat_of_zmod_lt hO
  have e := zmod_of_nat_mod h
  have eR : (RRv : ZMod ell) = (2 ^ 261) ^ 2 := by
    rw [hRR, ZMod.natCast_mod, Nat.cast_pow, Nat.cast_pow, Nat.cast_ofNat]
  rw [Nat.cast_mul, Nat.cast_pow, Nat.cast_ofNat, Nat.cast_mul, eR] at e
  rw [Nat.cast_mul, Nat.cast_pow, Nat.cast_ofNat]
  apply mul_right_cancel₀ two_pow_ne_zero
  rw [e]; ring

theorem list18_of_length {l : List Nat} (h : l.length = 18) : ∃ o0 o1 o2 o3 o4 o5 o6 o7 o8 o9 o10 o11 o12 o13 o14 o15 o16 o17, l = [o0, o1, o2, o3, o4, o5, o6, o7, o8, o9, o10, o11, o12, o13, o14, o15, o16, o17] := by
  obtain ⟨a, t, rfl, ht⟩ := list_of_length_succ h
  obtain ⟨o0, o1, o2, o3, o4, o5, o6, o7, o8, o9, o10, o11, o12, o13, o14, o15, o16, rfl⟩ := list17_of_length ht
  exact ⟨a, o0, o1, o2, o3, o4, o5, o6, o7, o8, o9, o10, o11, o12, o13, o14, o15, o16, rfl⟩

/-- one Montgomery reduction of `a·R` gives `a` -/
theorem mont_R {A O Rv : Nat} (h : O * 2 ^ 261 % ell = A * Rv % ell) (hR : Rv = 2 ^ 261 % ell)
    (hO : O < ell) : O = A % ell := by
  apply nat_of_zmod_lt hO
  have e := zmod_of_nat_mod h
  have eR : (Rv : ZMod ell) = 2 ^ 261 := by
    rw [hR, ZMod.natCast_mod, Nat.cast_pow, Nat.cast_ofNat]
  rw [Nat.cast_mul, Nat.cast_pow, Nat.cast_ofNat, Nat.cast_mul, eR] at e
  exact mul_right_cancel₀ two_pow_ne_zero e

end Dalek.Proofs.Scalar29
