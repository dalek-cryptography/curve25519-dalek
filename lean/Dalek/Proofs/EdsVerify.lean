/-
Characterisation of the verification core of the executable specification (`verifyCoreWith`, the body of
ed25519-dalek `verify`, `verify_strict`, `verify_prehashed`, `verify_prehashed_strict`) and of one entry of
the batch model (`batchItemWith`), in terms of the group `Ed`.

Technical note.  The definitions `match` on `decompress vk` for a symbolic `vk`.  Neither the elaborator nor
the kernel may be led to evaluate that term (`decompress` is square-and-multiply arithmetic on 255-bit
literals; weak-head normalising it symbolically does not terminate in practice), and the kernel unfolds
matchers eagerly.  The unfolding equations are therefore produced at the level of functions
(`@f = delta% @f`, i.e. `@f = fun … => body`, proof `Eq.refl` assigned without asking the elaborator (`kernel_rfl`); both
sides meet syntactically after one δ-step) and used by rewriting; `decompress` is locally irreducible for the elaborator.
-/
import Dalek.Proofs.Eds
import Dalek.IR.Tactics
import Mathlib.Util.TermReduce

namespace Dalek.Eds

open Dalek.Spec Dalek.Spec.Ed25519 Dalek.Bridge

attribute [local irreducible] decompress

theorem verifyCoreWith_def : @verifyCoreWith = delta% @verifyCoreWith := by kernel_rfl
theorem batchItemWith_def : @batchItemWith = delta% @batchItemWith := by kernel_rfl

/-! ## SHA-512: only the digest length is used -/

theorem sha512_length (m : List UInt8) : (sha512 m).length = 64 := by
  simp [sha512, Sha512.stateToBytes, Sha512.wordToBytes]

/-! ## `check_scalar` -/

theorem checkScalar_false_iff {S : List UInt8} {s : Nat} :
    checkScalar false S = some s ↔ leToNat S < L ∧ s = leToNat S := by
  unfold checkScalar
  simp only [Bool.false_eq_true, if_false]
  by_cases h : leToNat S < L
  · rw [if_pos h, Option.some.injEq]; exact ⟨fun e => ⟨h, e.symm⟩, fun e => e.2.symm⟩
  · rw [if_neg h]; exact ⟨fun e => (by cases e), fun e => absurd e.1 h⟩

theorem checkScalar_true_iff {S : List UInt8} {s : Nat} :
    checkScalar true S = some s ↔ (S.getD 31 0) &&& 224 = 0 ∧ s = leToNat S := by
  unfold checkScalar
  simp only [if_true]
  by_cases h : (S.getD 31 0) &&& 224 = 0
  · rw [if_neg (by rw [bne_iff_ne]; exact not_not.2 h), Option.some.injEq]
    exact ⟨fun e => ⟨h, e.symm⟩, fun e => e.2.symm⟩
  · rw [if_pos (by rw [bne_iff_ne]; exact h)]; exact ⟨fun e => (by cases e), fun e => absurd e.1 h⟩

/-- The acceptance condition of `check_scalar` as a proposition: canonical (`< ℓ`) by default, top three
bits of byte 31 clear under `legacy_compatibility`. -/
def ScalarOk (legacy : Bool) (S : List UInt8) : Prop :=
  if legacy then (S.getD 31 0) &&& 224 = 0 else leToNat S < L

theorem scalarOk_false (S : List UInt8) : ScalarOk false S ↔ leToNat S < L := by simp [ScalarOk]
theorem scalarOk_true (S : List UInt8) : ScalarOk true S ↔ (S.getD 31 0) &&& 224 = 0 := by
  simp [ScalarOk]

theorem checkScalar_iff {legacy : Bool} {S : List UInt8} {s : Nat} :
    checkScalar legacy S = some s ↔ ScalarOk legacy S ∧ s = leToNat S := by
  cases legacy
  · rw [checkScalar_false_iff, scalarOk_false]
  · rw [checkScalar_true_iff, scalarOk_true]

theorem byte_and_224 : ∀ n, n < 256 → ((n &&& 224 = 0) ↔ n < 32) := by decide +kernel

theorem and_224_iff (x : UInt8) : x &&& 224 = 0 ↔ x.toNat < 32 := by
  rw [← UInt8.toNat_inj, UInt8.toNat_and]
  have h1 : (224 : UInt8).toNat = 224 := rfl
  have h2 : (0 : UInt8).toNat = 0 := rfl
  rw [h1, h2, byte_and_224 _ (UInt8.toNat_lt _)]

/-- For a 32-byte string the legacy check `S[31] & 0xE0 = 0` says exactly `S < 2^253`. -/
theorem top3_iff {S : List UInt8} (hlen : S.length = 32) :
    (S.getD 31 0) &&& 224 = 0 ↔ leToNat S < 2 ^ 253 := by
  have h := getD_toNat S 31 (by omega)
  have hlt := leToNat_lt S
  rw [hlen] at hlt
  rw [and_224_iff, h]
  have e : (256:Nat)^32 = 256^31 * 256 := by norm_num
  have e2 : (2:Nat)^253 = 256^31 * 32 := by norm_num
  have hq : leToNat S / 256 ^ 31 < 256 := by
    rw [Nat.div_lt_iff_lt_mul (by norm_num), Nat.mul_comm, ← e]; exact hlt
  rw [Nat.mod_eq_of_lt hq, e2, Nat.div_lt_iff_lt_mul (by norm_num), Nat.mul_comm]

/-- A value below `2^253` (in particular a canonical scalar) passes the legacy check, whatever the length
of the byte string. -/
theorem top3_of_lt {S : List UInt8} (h : leToNat S < 2 ^ 253) : (S.getD 31 0) &&& 224 = 0 := by
  rw [and_224_iff]
  by_cases hlen : 31 < S.length
  · rw [getD_toNat S 31 hlen]
    have e2 : (2:Nat)^253 = 256^31 * 32 := by norm_num
    have : leToNat S / 256 ^ 31 < 32 := by
      rw [Nat.div_lt_iff_lt_mul (by norm_num), Nat.mul_comm, ← e2]; exact h
    omega
  · rw [List.getD_eq_getElem?_getD, List.getElem?_eq_none (by omega)]; decide

theorem scalarOk_legacy_of_canonical {S : List UInt8} (h : leToNat S < L) : ScalarOk true S :=
  (scalarOk_true S).2 (top3_of_lt (Nat.lt_trans h L_lt_253))

/-! ## The verification core -/

/-- Any correct `Ops` gives the same verification function as the specification `Ops`. -/
theorem verifyCoreWith_congr {ops : Ops} (hc : OpsCorrect ops) (legacy strict : Bool)
    (dom vk m sig : List UInt8) :
    verifyCoreWith ops legacy strict dom vk m sig = verifyCoreWith Ops.spec legacy strict dom vk m sig := by
  rw [show verifyCoreWith ops legacy strict dom vk m sig = _ from
    congrFun (congrFun (congrFun (congrFun (congrFun (congrFun (congrFun verifyCoreWith_def ops) legacy) strict) dom) vk) m) sig,
    show verifyCoreWith Ops.spec legacy strict dom vk m sig = _ from
    congrFun (congrFun (congrFun (congrFun (congrFun (congrFun (congrFun verifyCoreWith_def Ops.spec) legacy) strict) dom) vk) m) sig]
  cases hA : decompress vk with
  | none => rfl
  | some A =>
    obtain ⟨hAon, hAc, -⟩ := decompress_some hA
    simp only
    cases checkScalar legacy (sig.drop 32) with
    | none => rfl
    | some s =>
      simp only
      rw [hc.dsm _ _ _ hAon hAc, hc.smallOrder _ hAon hAc]
      cases hR : decompress (sig.take 32) with
      | none => rfl
      | some R =>
        obtain ⟨hRon, hRc, -⟩ := decompress_some hR
        simp only
        rw [hc.smallOrder _ hRon hRc]

/-- **The verification core, stated outright.**  `verifyCoreWith … dom vk m sig` (with `R = sig[0..32]`,
`S = sig[32..]`) accepts iff
* `vk` decodes to a point `A`,
* `S` passes `check_scalar` (value `s`),
* in strict mode: `R` decodes to a point `R'`, and neither `R'` nor `A` has small order,
* the canonical encoding of `[s]B - [k]A`, `k = H(dom ‖ R ‖ vk ‖ m) mod ℓ`, equals `R` **as bytes**. -/
theorem verifyCore_iff (legacy strict : Bool) (dom vk m sig : List UInt8) :
    verifyCoreWith Ops.spec legacy strict dom vk m sig = true ↔
      ∃ A s, decodeEd vk = some A ∧ checkScalar legacy (sig.drop 32) = some s ∧
        (strict = true → ∃ R, decodeEd (sig.take 32) = some R ∧ 8 • R ≠ 0 ∧ 8 • A ≠ 0) ∧
        encodeEd (s • Bpt - hashToScalar (dom ++ sig.take 32 ++ vk ++ m) • A) = sig.take 32 := by
  rw [show verifyCoreWith Ops.spec legacy strict dom vk m sig = _ from
    congrFun (congrFun (congrFun (congrFun (congrFun (congrFun (congrFun verifyCoreWith_def Ops.spec) legacy) strict) dom) vk) m) sig]
  cases hA : decompress vk with
  | none =>
    have : decodeEd vk = none := decodeEd_eq_none_iff.2 hA
    simp [this]
  | some A =>
    obtain ⟨hAon, hAc, -⟩ := decompress_some hA
    have hdA := decodeEd_of_decompress hA
    simp only [hdA, Option.some.injEq]
    cases hs : checkScalar legacy (sig.drop 32) with
    | none => simp
    | some s =>
      simp only [Option.some.injEq, dsm_spec _ hAon]
      cases strict with
      | false =>
        simp only [Bool.false_eq_true, if_false, Bool.not_true, false_imp_iff, true_and]
        constructor
        · intro h; exact ⟨_, _, rfl, rfl, beq_iff_eq.1 h⟩
        · rintro ⟨_, _, rfl, rfl, h⟩; exact beq_iff_eq.2 h
      | true =>
        simp only [if_true, true_imp_iff]
        cases hR : decompress (sig.take 32) with
        | none =>
          have : decodeEd (sig.take 32) = none := decodeEd_eq_none_iff.2 hR
          simp [this]
        | some R =>
          obtain ⟨hRon, hRc, -⟩ := decompress_some hR
          have hdR := decodeEd_of_decompress hR
          simp only [hdR, Option.some.injEq]
          have e1 := smallOrder_spec hRon
          have e2 := smallOrder_spec hAon
          constructor
          · intro h
            split at h
            · cases h
            · rename_i hso
              simp only [Bool.not_not, Bool.or_eq_true, not_or, Bool.not_eq_true] at hso
              refine ⟨_, _, rfl, rfl, ⟨_, rfl, ?_, ?_⟩, beq_iff_eq.1 h⟩
              · intro h8; rw [e1.2 h8] at hso; cases hso.1
              · intro h8; rw [e2.2 h8] at hso; cases hso.2
          · rintro ⟨_, _, rfl, rfl, ⟨_, rfl, h1, h2⟩, h⟩
            have f1 : Ops.spec.smallOrder R = false := by
              cases hh : Ops.spec.smallOrder R
              · rfl
              · exact absurd (e1.1 hh) h1
            have f2 : Ops.spec.smallOrder A = false := by
              cases hh : Ops.spec.smallOrder A
              · rfl
              · exact absurd (e2.1 hh) h2
            simp only [f1, f2, Bool.or_self, Bool.not_false, Bool.not_true, Bool.false_eq_true, if_false]
            exact beq_iff_eq.2 h

/-! ## One entry of the batch model -/

theorem batchItemWith_congr {ops : Ops} (hc : OpsCorrect ops) (legacy : Bool) (msg sig vk : List UInt8) :
    batchItemWith ops legacy msg sig vk = batchItemWith Ops.spec legacy msg sig vk := by
  rw [show batchItemWith ops legacy msg sig vk = _ from
    congrFun (congrFun (congrFun (congrFun (congrFun batchItemWith_def ops) legacy) msg) sig) vk,
    show batchItemWith Ops.spec legacy msg sig vk = _ from
    congrFun (congrFun (congrFun (congrFun (congrFun batchItemWith_def Ops.spec) legacy) msg) sig) vk]
  cases hA : decompress vk with
  | none => rfl
  | some A =>
    obtain ⟨hAon, hAc, -⟩ := decompress_some hA
    cases checkScalar legacy (sig.drop 32) with
    | none => rfl
    | some s =>
      cases decompress (sig.take 32) with
      | none => rfl
      | some R =>
        simp only
        rw [hc.dsm _ _ _ hAon hAc]

/-- `batchItemWith` returns `none` (malformed entry ⇒ the batch is an error) exactly when the key does not
decode, `S` fails `check_scalar`, or `R` does not decode. -/
theorem batchItem_eq_none_iff (legacy : Bool) (msg sig vk : List UInt8) :
    batchItemWith Ops.spec legacy msg sig vk = none ↔
      decodeEd vk = none ∨ checkScalar legacy (sig.drop 32) = none ∨ decodeEd (sig.take 32) = none := by
  rw [show batchItemWith Ops.spec legacy msg sig vk = _ from
    congrFun (congrFun (congrFun (congrFun (congrFun batchItemWith_def Ops.spec) legacy) msg) sig) vk]
  rw [decodeEd_eq_none_iff, decodeEd_eq_none_iff]
  cases decompress vk with
  | none => simp
  | some A =>
    cases checkScalar legacy (sig.drop 32) with
    | none => simp
    | some s =>
      cases decompress (sig.take 32) with
      | none => simp
      | some R => simp

/-- **One batch equation.**  The entry is well formed and its equation holds iff key, `S` and `R` decode
(to `A`, `s`, `R'`) and `[s]B - R' - [k]A = 0` in the group, `k = H(R ‖ vk ‖ msg) mod ℓ` (`R` enters the
hash as the given bytes, the equation as the decoded point). -/
theorem batchItem_eq_some_true_iff (legacy : Bool) (msg sig vk : List UInt8) :
    batchItemWith Ops.spec legacy msg sig vk = some true ↔
      ∃ A s R, decodeEd vk = some A ∧ checkScalar legacy (sig.drop 32) = some s ∧
        decodeEd (sig.take 32) = some R ∧
        s • Bpt - R - hashToScalar (sig.take 32 ++ vk ++ msg) • A = 0 := by
  rw [show batchItemWith Ops.spec legacy msg sig vk = _ from
    congrFun (congrFun (congrFun (congrFun (congrFun batchItemWith_def Ops.spec) legacy) msg) sig) vk]
  cases hA : decompress vk with
  | none =>
    have : decodeEd vk = none := decodeEd_eq_none_iff.2 hA
    simp [this]
  | some A =>
    obtain ⟨hAon, hAc, -⟩ := decompress_some hA
    have hdA := decodeEd_of_decompress hA
    cases hs : checkScalar legacy (sig.drop 32) with
    | none => simp
    | some s =>
      cases hR : decompress (sig.take 32) with
      | none =>
        have : decodeEd (sig.take 32) = none := decodeEd_eq_none_iff.2 hR
        simp [this]
      | some R =>
        obtain ⟨hRon, hRc, -⟩ := decompress_some hR
        have hdR := decodeEd_of_decompress hR
        simp only [hdA, hdR, Option.some.injEq, dsm_spec _ hAon, compress_eq_encodeEd hRon hRc,
          beq_iff_eq, encodeEd_injective.eq_iff]
        constructor
        · intro h
          refine ⟨_, _, _, rfl, rfl, rfl, ?_⟩
          rw [sub_right_comm, h, sub_self]
        · rintro ⟨_, _, _, rfl, rfl, rfl, h⟩
          rw [sub_right_comm, sub_eq_zero] at h
          exact h

/-! ## The batch model -/

theorem verifyBatchWith_congr {ops : Ops} (hc : OpsCorrect ops) (legacy : Bool)
    (msgs sigs vks : List (List UInt8)) :
    verifyBatchWith ops legacy msgs sigs vks = verifyBatchWith Ops.spec legacy msgs sigs vks := by
  unfold verifyBatchWith
  simp only [batchItemWith_congr hc]

/-- The batch model accepts iff the three lists have the same length and every entry's equation holds. -/
theorem verifyBatch_iff (legacy : Bool) (msgs sigs vks : List (List UInt8)) :
    verifyBatchWith Ops.spec legacy msgs sigs vks = true ↔
      msgs.length = sigs.length ∧ sigs.length = vks.length ∧
        ∀ x ∈ msgs.zip (sigs.zip vks), batchItemWith Ops.spec legacy x.1 x.2.1 x.2.2 = some true := by
  unfold verifyBatchWith
  by_cases h1 : msgs.length = sigs.length
  · by_cases h2 : sigs.length = vks.length
    · simp only [h1, h2, bne_self_eq_false, Bool.or_self, Bool.false_eq_true, if_false, true_and,
        List.all_eq_true, List.mem_map, beq_iff_eq]
      constructor
      · intro h x hx; exact h _ ⟨x, hx, rfl⟩
      · rintro h _ ⟨x, hx, rfl⟩; exact h x hx
    · have : (sigs.length != vks.length) = true := bne_iff_ne.2 h2
      simp [this, h2]
  · have : (msgs.length != sigs.length) = true := bne_iff_ne.2 h1
    simp [this, h1]

/-! ## Single verification versus one batch equation -/

/-- **Link between single and batch verification.**  Ordinary (non-strict) verification accepts iff the
batch equation of the entry holds **and** the `R` bytes are the canonical encoding of a point.  (Single
verification compares `R` as bytes; the batch equation uses the decoded point, so it cannot see a
non-canonical encoding.) -/
theorem verify_iff_batchItem (legacy : Bool) (msg sig vk : List UInt8) :
    verifyCoreWith Ops.spec legacy false [] vk msg sig = true ↔
      batchItemWith Ops.spec legacy msg sig vk = some true ∧ IsCanonicalEnc (sig.take 32) := by
  rw [verifyCore_iff, batchItem_eq_some_true_iff]
  simp only [List.nil_append, Bool.false_eq_true, false_imp_iff, true_and]
  constructor
  · rintro ⟨A, s, hA, hs, he⟩
    refine ⟨⟨A, s, s • Bpt - hashToScalar (List.take 32 sig ++ vk ++ msg) • A, hA, hs, ?_, ?_⟩,
      ⟨_, he⟩⟩
    · rw [← he, decodeEd_encodeEd, he]
    · abel
  · rintro ⟨⟨A, s, R, hA, hs, hR, he⟩, ⟨Q, hQ⟩⟩
    refine ⟨A, s, hA, hs, ?_⟩
    rw [← hQ, decodeEd_encodeEd] at hR
    have hQR : Q = R := Option.some.inj hR
    rw [sub_right_comm, sub_eq_zero] at he
    rw [he, ← hQR]
    exact hQ

end Dalek.Eds
