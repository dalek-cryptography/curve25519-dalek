/-
C04 layer 2, helper lemmas (part 2): the multiscalar algorithms (Straus constant-time and variable-time,
vartime double-base, precomputed Straus) at DIGIT level, over an arbitrary commutative group.
-/
import Dalek.Proofs.ScalarMul
import Mathlib.Data.List.GetD

namespace Dalek.Proofs.ScalarMul
open Dalek.Model.ScalarMul Dalek.Model.Recode

variable {G : Type} [AddCommGroup G]

/-- value of a digit list: `Σ_{i<n} dᵢ·2^(w·i)` -/
def digVal (w n : ℕ) (d : List ℤ) : ℤ := ∑ i ∈ Finset.range n, d.getD i 0 * 2 ^ (w * i)

/-- `Σ (digit value) • point` over the zipped lists -/
def zipSum (w n : ℕ) (ds : List (List ℤ)) (ps : List G) : G :=
  ((List.zip ds ps).map fun dp => digVal w n dp.1 • dp.2).sum

/-- outer loop `for j in (0..n).rev()`, inner loop over a list, every inner step adds `digit • point` -/
theorem multi_horner {α : Type} (w n : ℕ) (l : List α) (stp : ℕ → G → α → G) (pre : G → G)
    (dig : α → ℕ → ℤ) (pt : α → G) (hpre : ∀ Q, pre Q = ((2 : ℤ) ^ w) • Q)
    (h : ∀ j, j < n → ∀ x ∈ l, ∀ Q, stp j Q x = Q + dig x j • pt x) :
    (List.range n).reverse.foldl (fun acc j => l.foldl (stp j) (pre acc)) 0
      = (l.map fun x => (∑ j ∈ Finset.range n, dig x j * 2 ^ (w * j)) • pt x).sum := by
  rw [foldl_congr_mem _ (fun acc j => ((2 : ℤ) ^ w) • acc + (l.map fun x => dig x j • pt x).sum)]
  · rw [horner_fold, smul_zero, zero_add, sum_smul_list_sum]
    congr 1
    refine List.map_congr_left fun x _ => ?_
    rw [sum_smul_smul]
  · intro acc j hj
    rw [List.mem_reverse, List.mem_range] at hj
    rw [foldl_congr_mem _ (fun Q x => Q + dig x j • pt x) l _ (fun Q x hx => h j hj x hx Q),
      foldl_add_eq, hpre]

/-! ### Straus, constant time -/

theorem strausCT_eq (digits : List (List ℤ)) (points : List G) (hd : ∀ d ∈ digits, Radix16Range d) :
    strausCT groupOps digits points = zipSum 4 64 digits points := by
  unfold strausCT zipSum digVal
  simp only [List.zip_map_right, List.foldl_map, groupOps_zero]
  exact multi_horner 4 64 (List.zip digits points) _ _ (fun dp j => dp.1.getD j 0) (fun dp => dp.2)
    (fun Q => mulByPow2_eq 4 Q) (fun j hj x hx Q => by
      obtain ⟨d, P⟩ := x
      have := (List.of_mem_zip hx).1
      simp only [Prod.map, id, groupOps_add]
      rw [select16 (hd d this) P j hj])

/-! ### `collect::<Option<Vec<_>>>` -/

theorem collectOption_map_some {α : Type} (l : List α) : collectOption (l.map some) = some l := by
  induction l with
  | nil => rfl
  | cons a l ih => simp [collectOption, ih]

theorem collectOption_eq_some {α : Type} {l : List (Option α)} {r : List α}
    (h : collectOption l = some r) : l = r.map some := by
  induction l generalizing r with
  | nil => simp [collectOption] at h; subst h; rfl
  | cons a l ih =>
    cases a with
    | none => simp [collectOption] at h
    | some a =>
      simp only [collectOption, Option.map_eq_some_iff] at h
      obtain ⟨r', hr', rfl⟩ := h
      rw [ih hr']; rfl

theorem collectOption_eq_none_iff {α : Type} (l : List (Option α)) :
    collectOption l = none ↔ none ∈ l := by
  induction l with
  | nil => simp [collectOption]
  | cons a l ih =>
    cases a with
    | none => simp [collectOption]
    | some a => simp [collectOption, ih]

/-! ### Straus, variable time (width-5 NAF) -/

/-- digit shape of a width-`k` NAF: every digit is `0` or odd with `|d| < 2^(k-1)` -/
def NafRange (k : ℕ) (d : List ℤ) : Prop :=
  ∀ i, d.getD i 0 = 0 ∨ (d.getD i 0 % 2 = 1 ∧ -(2 ^ (k - 1) : ℤ) < d.getD i 0 ∧ d.getD i 0 < 2 ^ (k - 1))

/-- a width-`k` NAF digit and a table of `m ≥ 2^(k-2)` odd multiples: the step adds `digit • A` -/
theorem nafStep_of_range {k m : ℕ} {d : List ℤ} (h : NafRange k d) (hm : 2 ^ (k - 1) ≤ 2 * m)
    {table : List G} {A : G} (ht : IsOddTable table m A) (t : G) (i : ℕ) :
    nafStep groupOps t table (d.getD i 0) = t + d.getD i 0 • A := by
  refine nafStep_eq ht t ?_
  have hm' : (2 : ℤ) ^ (k - 1) ≤ 2 * m := by exact_mod_cast hm
  rcases h i with h0 | ⟨h1, h2, h3⟩
  · exact Or.inl h0
  · exact Or.inr ⟨h1, by omega, by omega⟩

theorem nafStep5 {d : List ℤ} (h : NafRange 5 d) {table : List G} {A : G} (ht : IsOddTable table 8 A)
    (t : G) (i : ℕ) : nafStep groupOps t table (d.getD i 0) = t + d.getD i 0 • A :=
  nafStep_of_range h (by norm_num) ht t i

theorem nafStep8 {d : List ℤ} (h : NafRange 8 d) {table : List G} {A : G} (ht : IsOddTable table 64 A)
    (t : G) (i : ℕ) : nafStep groupOps t table (d.getD i 0) = t + d.getD i 0 • A :=
  nafStep_of_range h (by norm_num) ht t i

theorem strausVT_eq (nafs : List (List ℤ)) (points : List (Option G)) (hd : ∀ d ∈ nafs, NafRange 5 d) :
    strausVT groupOps nafs points = (collectOption points).map fun ps => zipSum 1 256 nafs ps := by
  unfold strausVT
  cases hc : collectOption points with
  | none => rfl
  | some ps =>
    simp only [Option.map_some, Option.some.injEq]
    unfold zipSum digVal
    simp only [List.zip_map_right, List.foldl_map, groupOps_zero]
    exact multi_horner 1 256 (List.zip nafs ps) _ _ (fun dp j => dp.1.getD j 0) (fun dp => dp.2)
      (fun Q => by rw [groupOps_double]; norm_num) (fun j _ x hx Q => by
        obtain ⟨d, P⟩ := x
        have := (List.of_mem_zip hx).1
        simp only [Prod.map, id]
        exact nafStep5 (hd d this) (nafTableFrom_isOddTable 8 P) Q j)

/-! ### vartime double-base -/

theorem doubleBaseTop_spec (a b : List ℤ) (n : ℕ) :
    (doubleBaseTop a b n < n ∨ n = 0 ∧ doubleBaseTop a b n = 0) ∧
    ∀ i, doubleBaseTop a b n < i → i < n → a.getD i 0 = 0 ∧ b.getD i 0 = 0 := by
  induction n with
  | zero => exact ⟨Or.inr ⟨rfl, rfl⟩, fun i _ h => by omega⟩
  | succ n ih =>
    rw [doubleBaseTop]
    by_cases h : (a.getD n 0 != 0 || b.getD n 0 != 0) = true
    · rw [if_pos h]
      exact ⟨Or.inl (by omega), fun i h1 h2 => by omega⟩
    · rw [if_neg h]
      have hz : a.getD n 0 = 0 ∧ b.getD n 0 = 0 := by
        simpa using h
      refine ⟨Or.inl ?_, fun i h1 h2 => ?_⟩
      · rcases ih.1 with h | ⟨_, h⟩ <;> omega
      · rcases Nat.lt_or_ge i n with h3 | h3
        · exact ih.2 i h1 h3
        · have : i = n := by omega
          subst this; exact hz

/-- `vartime_double_base::mul`, digit level: `aNaf` of width 5 with the table built from `A`; `bNaf` of a
width `k` whose digits fit the table `tableB` of `m` odd multiples of `B`. -/
theorem doubleBaseLoop_eq {aNaf bNaf : List ℤ} (A B : G) {tableB : List G} {k m : ℕ}
    (ha : NafRange 5 aNaf) (htB : IsOddTable tableB m B) (hb : NafRange k bNaf) (hm : 2 ^ (k - 1) ≤ 2 * m) :
    doubleBaseLoop groupOps aNaf bNaf A tableB = digVal 1 256 aNaf • A + digVal 1 256 bNaf • B := by
  unfold doubleBaseLoop
  simp only
  obtain ⟨htop, hzero⟩ := doubleBaseTop_spec aNaf bNaf 256
  have htop' : doubleBaseTop aNaf bNaf 256 + 1 ≤ 256 := by omega
  rw [foldl_congr_mem _ (fun acc i => ((2 : ℤ) ^ 1) • acc + (aNaf.getD i 0 • A + bNaf.getD i 0 • B))]
  · rw [horner_fold, groupOps_zero, smul_zero, zero_add,
      Finset.sum_subset (Finset.range_subset_range.2 htop')]
    · simp only [smul_add, Finset.sum_add_distrib, sum_smul_smul]
      rfl
    · intro i hi1 hi2
      rw [Finset.mem_range] at hi1 hi2
      obtain ⟨h1, h2⟩ := hzero i (by omega) hi1
      rw [h1, h2]; simp
  · intro acc i _
    rw [nafStep5 ha (nafTableFrom_isOddTable 8 A), nafStep_of_range hb hm htB, groupOps_double]
    norm_num
    abel

/-! ### precomputed Straus -/

/-- `Σ_{i<n} f i (l[i])` as a list sum -/
theorem sum_range_getD_zip {α β : Type} (l : List α) (m : List β) (da : α) (db : β)
    (f : α → β → G) (n : ℕ) (hn : n = min l.length m.length) :
    ∑ i ∈ Finset.range n, f (l.getD i da) (m.getD i db) = ((List.zip l m).map fun x => f x.1 x.2).sum := by
  induction l generalizing m n with
  | nil => simp at hn; subst hn; simp
  | cons a l ih =>
    cases m with
    | nil => simp at hn; subst hn; simp
    | cons b m =>
      simp only [List.length_cons] at hn
      have : n = min l.length m.length + 1 := by omega
      subst this
      rw [Finset.sum_range_succ', List.zip_cons_cons, List.map_cons, List.sum_cons]
      simp only [List.getD_cons_succ, List.getD_cons_zero]
      rw [ih m _ rfl, add_comm]

theorem sum_sum_zip (ds : List (List ℤ)) (ps : List G) (n : ℕ) (hn : n = min ds.length ps.length) :
    ∑ j ∈ Finset.range 256, ∑ i ∈ Finset.range n,
        ((2 : ℤ) ^ (1 * j)) • (ds.getD i []).getD j 0 • ps.getD i 0 = zipSum 1 256 ds ps := by
  rw [Finset.sum_comm]
  unfold zipSum digVal
  rw [← sum_range_getD_zip ds ps [] 0
    (fun d P => (∑ i ∈ Finset.range 256, d.getD i 0 * 2 ^ (1 * i)) • P) n hn]
  refine Finset.sum_congr rfl fun i _ => ?_
  rw [Finset.sum_smul]
  refine Finset.sum_congr rfl fun j _ => ?_
  rw [smul_smul, mul_comm]

theorem foldl_range_add (f : ℕ → G) (n : ℕ) (z : G) :
    (List.range n).foldl (fun acc i => acc + f i) z = z + ∑ i ∈ Finset.range n, f i := by
  rw [foldl_add_eq, list_range_map_sum]

/-- `optional_mixed_multiscalar_mul`, digit level.  `staticTables` are odd-multiples tables (64 entries) of
`staticPoints`; there may be fewer static NAFs than static tables. -/
theorem precomputedMixed_eq (staticPoints : List G) (staticTables : List (List G))
    (staticNafs dynamicNafs : List (List ℤ)) (dynamicPoints : List (Option G))
    (hlenT : staticTables.length = staticPoints.length)
    (hT : ∀ i, i < staticPoints.length →
      IsOddTable (staticTables.getD i []) 64 (staticPoints.getD i 0))
    (hs : ∀ d ∈ staticNafs, NafRange 5 d) (hd : ∀ d ∈ dynamicNafs, NafRange 5 d) :
    precomputedMixed groupOps staticTables staticNafs dynamicNafs dynamicPoints =
      match collectOption dynamicPoints with
      | none => some none
      | some dps =>
        if staticNafs.length ≤ staticPoints.length ∧ dps.length = dynamicNafs.length then
          some (some (zipSum 1 256 staticNafs staticPoints + zipSum 1 256 dynamicNafs dps))
        else none := by
  unfold precomputedMixed
  cases hc : collectOption dynamicPoints with
  | none => rfl
  | some dps =>
    simp only [List.length_map, hlenT, ge_iff_le, not_le, ne_eq, ite_not]
    by_cases h1 : staticNafs.length ≤ staticPoints.length
    · by_cases h2 : dps.length = dynamicNafs.length
      · rw [if_neg (by omega), if_pos h2, if_pos ⟨h1, h2⟩]
        congr 2
        -- NAF digits of list entries (default `[]` is harmless)
        have hsR : ∀ i, NafRange 5 (staticNafs.getD i []) := by
          intro i
          by_cases hi : i < staticNafs.length
          · rw [List.getD_eq_getElem _ _ hi]; exact hs _ (List.getElem_mem hi)
          · rw [List.getD_eq_default _ _ (by omega)]; intro j; left; simp
        have hdR : ∀ i, NafRange 5 (dynamicNafs.getD i []) := by
          intro i
          by_cases hi : i < dynamicNafs.length
          · rw [List.getD_eq_getElem _ _ hi]; exact hd _ (List.getElem_mem hi)
          · rw [List.getD_eq_default _ _ (by omega)]; intro j; left; simp
        have hdT : ∀ i, i < dps.length →
            IsOddTable ((dps.map (nafTableFrom groupOps 8)).getD i []) 8 (dps.getD i 0) := by
          intro i hi
          rw [List.getD_eq_getElem _ _ (by simpa using hi), List.getElem_map,
            List.getD_eq_getElem _ _ hi]
          exact nafTableFrom_isOddTable 8 _
        rw [foldl_congr_mem _ (fun acc j => ((2 : ℤ) ^ 1) • acc +
          (∑ i ∈ Finset.range dps.length, (dynamicNafs.getD i []).getD j 0 • dps.getD i 0 +
           ∑ i ∈ Finset.range staticNafs.length, (staticNafs.getD i []).getD j 0 • staticPoints.getD i 0))]
        · rw [horner_fold, groupOps_zero, smul_zero, zero_add]
          simp only [smul_add, Finset.sum_add_distrib, Finset.smul_sum]
          rw [add_comm]
          congr 1
          · exact sum_sum_zip staticNafs staticPoints _ (by omega)
          · exact sum_sum_zip dynamicNafs dps _ (by omega)
        · intro acc j _
          rw [foldl_congr_mem _ (fun R i => R + (dynamicNafs.getD i []).getD j 0 • dps.getD i 0)
            (List.range dps.length) _ (fun R i hi => by
              rw [List.mem_range] at hi
              exact nafStep5 (hdR i) (hdT i hi) R j)]
          rw [foldl_congr_mem _ (fun R i => R + (staticNafs.getD i []).getD j 0 • staticPoints.getD i 0)
            (List.range staticNafs.length) _ (fun R i hi => by
              rw [List.mem_range] at hi
              exact nafStep_of_range (hsR i) (by norm_num) (hT i (by omega)) R j)]
          rw [foldl_range_add, foldl_range_add, groupOps_double]
          norm_num
          abel
      · rw [if_neg (by omega), if_neg h2, if_neg (by tauto)]
    · rw [if_pos (by omega), if_neg (by tauto)]

end Dalek.Proofs.ScalarMul
