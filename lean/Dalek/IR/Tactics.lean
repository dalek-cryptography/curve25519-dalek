import Lean
/-! Small tactics used by generated and hand-written proofs about LimbIR kernels.
They only build proof terms that the kernel re-checks; nothing here is trusted. -/
open Lean Elab Tactic Meta

/-- Close `lhs = rhs` with `Eq.refl lhs`, leaving the definitional-equality check to the kernel
(the elaborator's `rfl` is much slower on evaluation of deep-embedded programs). -/
elab "kernel_rfl" : tactic => do
  let g ← getMainGoal
  let t ← g.getType'
  let some (_, lhs, _) := t.eq? | throwError "kernel_rfl: not an equality"
  g.assign (← mkEqRefl lhs)

/-- For every local definition `x : ℤ := v` (as produced by `extract_lets`), add a hypothesis
`hL_<n> : x = v` at the end of the context (latest definition first) and forget the values.
The values are forgotten in one step: the goal becomes `m x… hL…` for a new goal `m : ∀ x…, x = v → … → G` stated
outside the definitions.  (`clearValue` re-checks the whole goal for each definition, which is quadratic over the few
hundred definitions of a kernel; and a goal whose *type* is a chain of `let`s makes the kernel substitute the values
into one another.) -/
elab "lets_to_eqs" : tactic => withMainContext do
  let g ← getMainGoal
  let xs := (← getLCtx).foldl (init := #[]) fun a d =>
    if d.isLet && !d.isImplementationDetail then a.push d.toExpr else a
  let mut tgt ← g.getType
  for x in xs, i in [0:xs.size] do
    tgt := mkForall (.mkSimple s!"hL_{xs.size - 1 - i}") .default (← mkEq x (← x.fvarId!.getValue?).get!) tgt
  let mut args := xs
  let mut outer ← getLCtx
  for x in xs.reverse do
    tgt := .forallE (← x.fvarId!.getUserName) (← inferType x) (tgt.abstract #[x]) .default
    outer := outer.erase x.fvarId!
    args := args.push (← mkEqRefl x)
  let m ← mkFreshExprMVarAt outer (← getLocalInstances) tgt .syntheticOpaque
  g.assign (mkAppN m args)
  replaceMainGoal [(← m.mvarId!.introNP args.size).2]

/-- Replace every hypothesis `hL_i : x = v` over `ℤ` by its image under `Int.cast : ℤ → R`. -/
elab "cast_eqs " R:term : tactic => withMainContext do
  for d in ← getLCtx do
    if d.userName.toString.startsWith "hL_" then
      let h := mkIdent d.userName
      evalTactic (← `(tactic| replace $h := congrArg (Int.cast : Int → $R) $h))

/-- Definitions of limb representations (`rep51`, `rep26`, the lane selectors of the vector backends): `limb_finish`
(`Dalek/Proofs/LimbTac.lean`) unfolds them down to the SSA variables. -/
register_simp_attr limb_rep
