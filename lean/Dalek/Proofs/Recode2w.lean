import Dalek.Proofs.RecodeBase
import Dalek.Proofs.Recode16
import Mathlib.Tactic.IntervalCases
import Mathlib.Tactic.LinearCombination
/-!
# `Scalar::as_radix_2w(w)` (model `asRadix2w`), `w = 5, 6, 7, 8`: loop invariant, final carry
-/
namespace Dalek.Proofs.Recode
open Dalek.Model.Recode Dalek.Spec

theorem window_eq' (X : List Nat) (s pos w : Nat) (single : Bool) (hX : WordsOf X s) (hw : w ≤ 64)
    (hs : single = true → pos % 64 + w ≤ 64 ∨ s < 2 ^ (64 * (pos / 64 + 1))) :
    bitBuf X (pos / 64) (pos % 64) single &&& (2 ^ w - 1) = s / 2 ^ pos % 2 ^ w := by
  rw [← window_eq X s pos w single hX hw hs, Nat.one_shiftLeft]

/-- One iteration of the `for i in 0..digits_count` loop, with the model's `let`s inlined. -/
theorem radix2wLoop_succ (w : Nat) (X : List Nat) (n i carry : Nat) :
    radix2wLoop w X (n + 1) i carry =
      (toI8 (((carry + (bitBuf X (i * w / 64) (i * w % 64) (decide (i * w % 64 < 64 - w) || (i * w / 64 == 3)) &&& (2 ^ w - 1)) : Nat) : Int) -
          (((carry + (bitBuf X (i * w / 64) (i * w % 64) (decide (i * w % 64 < 64 - w) || (i * w / 64 == 3)) &&& (2 ^ w - 1)) + 2 ^ w / 2) / 2 ^ w * 2 ^ w : Nat) : Int)) ::
        (radix2wLoop w X n (i + 1) ((carry + (bitBuf X (i * w / 64) (i * w % 64) (decide (i * w % 64 < 64 - w) || (i * w / 64 == 3)) &&& (2 ^ w - 1)) + 2 ^ w / 2) / 2 ^ w)).1,
       (radix2wLoop w X n (i + 1) ((carry + (bitBuf X (i * w / 64) (i * w % 64) (decide (i * w % 64 < 64 - w) || (i * w / 64 == 3)) &&& (2 ^ w - 1)) + 2 ^ w / 2) / 2 ^ w)).2) := by
  rw [radix2wLoop]
  simp only [Nat.shiftRight_eq_div_pow, Nat.shiftLeft_eq, Nat.one_mul, Int.ofNat_eq_natCast]

/-- One recentring step.  The carry `co = (coef + 2^w/2) >> w` is `0` below half the radix and `1` from there
on, so the digit `coef - co·2^w` fits an `i8` and lies in `[-2^(w-1), 2^(w-1))`. -/
theorem recenter_step (w coef co : Nat) (hw1 : 1 ≤ w) (hw8 : w ≤ 8) (hc : coef ≤ 2 ^ w)
    (hco : co = (coef + 2 ^ w / 2) / 2 ^ w) :
    co ≤ 1 ∧ (coef < 2 ^ (w - 1) → co = 0) ∧
    toI8 ((coef : Int) - ((co * 2 ^ w : Nat) : Int)) = (coef : Int) - ((co * 2 ^ w : Nat) : Int) ∧
    -(2 ^ (w - 1) : Int) ≤ (coef : Int) - ((co * 2 ^ w : Nat) : Int) ∧
    (coef : Int) - ((co * 2 ^ w : Nat) : Int) < 2 ^ (w - 1) := by
  subst hco
  have hW : (2 : Nat) ^ w = 2 * 2 ^ (w - 1) := by rw [← pow_succ']; congr 1; omega
  have hK128 : (2 : Nat) ^ (w - 1) ≤ 2 ^ 7 := Nat.pow_le_pow_right (by norm_num) (by omega)
  have hKI : ((2 : Int) ^ (w - 1)) = ((2 ^ (w - 1) : Nat) : Int) := by push_cast; rfl
  have hK : (0 : Nat) < 2 ^ (w - 1) := Nat.two_pow_pos _
  rw [hW] at hc
  rw [hKI, hW]
  generalize (2 : Nat) ^ (w - 1) = K at *
  rcases Nat.lt_or_ge coef K with h | h
  · rw [Nat.div_eq_of_lt (by omega)]
    refine ⟨by omega, fun _ => rfl, toI8_id (by omega) (by omega), by omega, by omega⟩
  · rw [Nat.div_eq_of_lt_le (k := 1) (by omega) (by omega)]
    refine ⟨by omega, fun h' => by omega, toI8_id (by push_cast; omega) (by push_cast; omega),
      by push_cast; omega, by push_cast; omega⟩

/-- Loop invariant of `as_radix_2w`, for `n` iterations starting at digit index `i` with incoming
carry `carry`: the produced digits plus the outgoing carry account exactly for
`carry + s / 2^(w·i)`; every digit lies in `[-2^(w-1), 2^(w-1))`; the outgoing carry is `0` when
the last window (plus a carry) stays below half the radix. -/
theorem radix2wLoop_spec (w s : Nat) (X : List Nat) (hX : WordsOf X s) (hw1 : 1 ≤ w) (hw8 : w ≤ 8)
    (hs : s < 2 ^ 256) (n : Nat) : ∀ (i carry : Nat), carry ≤ 1 →
      (radix2wLoop w X n i carry).1.length = n ∧ (radix2wLoop w X n i carry).2 ≤ 1 ∧
      digitSum (2 ^ w) (radix2wLoop w X n i carry).1 +
          (2 ^ w) ^ n * (((radix2wLoop w X n i carry).2 + s / 2 ^ (w * (i + n)) : Nat) : Int) =
        ((carry + s / 2 ^ (w * i) : Nat) : Int) ∧
      (∀ j, j < n → -(2 ^ (w - 1) : Int) ≤ (radix2wLoop w X n i carry).1.getD j 0 ∧
        (radix2wLoop w X n i carry).1.getD j 0 < 2 ^ (w - 1)) ∧
      (1 ≤ n → s / 2 ^ (w * (i + n - 1)) + 1 < 2 ^ (w - 1) →
        (radix2wLoop w X n i carry).2 = 0) := by
  induction n with
  | zero =>
    intro i carry hc
    simp [radix2wLoop, digitSum, hc]
  | succ n ih =>
    intro i carry hc
    rw [radix2wLoop_succ,
      window_eq' X s (i * w) w _ hX (by omega) (by
        intro hsg
        simp only [Bool.or_eq_true, decide_eq_true_eq, beq_iff_eq] at hsg
        rcases hsg with h | h
        · left; omega
        · right; rw [h]; exact hs)]
    have hsplit := div_split s (i * w) w
    have hmlt : s / 2 ^ (i * w) % 2 ^ w < 2 ^ w := Nat.mod_lt _ (Nat.two_pow_pos _)
    have hWI : ((2 : Int) ^ w) = ((2 ^ w : Nat) : Int) := by push_cast; rfl
    have e1 : i * w + w = w * (i + 1) := by ring
    have e2 : i * w = w * i := by ring
    have e3 : w * (i + 1 + n) = w * (i + (n + 1)) := by ring
    rw [e1, e2] at hsplit
    rw [e2] at hmlt ⊢
    generalize hm : s / 2 ^ (w * i) % 2 ^ w = m at *
    generalize hq : s / 2 ^ (w * (i + 1)) = q at *
    generalize ht : s / 2 ^ (w * i) = t at *
    obtain ⟨hco1, hco0, hti8, hlo, hhi⟩ := recenter_step w (carry + m) _ hw1 hw8 (by omega) rfl
    generalize (carry + m + 2 ^ w / 2) / 2 ^ w = co at *
    obtain ⟨h1, h2, h3, h4, h5⟩ := ih (i + 1) co hco1
    rw [e3, hq] at h3
    dsimp only
    refine ⟨by simp [h1], h2, ?_, ?_, ?_⟩
    · rw [hti8]
      simp only [digitSum, pow_succ]
      rw [hsplit, hWI]
      rw [hWI] at h3
      push_cast at h3 ⊢
      linear_combination (2 ^ w : Int) * h3
    · intro j hj
      cases j with
      | zero => simp only [List.getD_cons_zero]; rw [hti8]; exact ⟨hlo, hhi⟩
      | succ j => simp only [List.getD_cons_succ]; exact h4 j (by omega)
    · intro _ hsmall
      cases n with
      | zero =>
        simp only [Nat.zero_add, Nat.add_sub_cancel] at hsmall
        rw [ht] at hsmall
        have : m ≤ t := by rw [hsplit]; omega
        simp only [radix2wLoop]
        exact hco0 (by omega)
      | succ n =>
        apply h5 (by omega)
        rw [show i + 1 + (n + 1) - 1 = i + (n + 1 + 1) - 1 by omega]
        exact hsmall

theorem getD_append_replicate (ds : List Int) (k j : Nat) :
    (ds ++ List.replicate k 0).getD j 0 = ds.getD j 0 := by
  simp only [List.getD_eq_getElem?_getD]
  by_cases hj : j < ds.length
  · rw [List.getElem?_append_left hj]
  · rw [List.getElem?_append_right (by omega), List.getElem?_eq_none (l := ds) (by omega),
      List.getElem?_replicate]
    split <;> rfl

theorem getD_of_length_le (ds : List Int) (j : Nat) (h : ds.length ≤ j) : ds.getD j 0 = 0 := by
  simp only [List.getD_eq_getElem?_getD, List.getElem?_eq_none h]; rfl

/-- The epilogue of `as_radix_2w` (padding to 64 digits and folding in the final carry). -/
theorem radix2w_finish (w s dc : Nat) (ds : List Int) (c : Nat) (hw1 : 1 ≤ w) (hw8 : w ≤ 8)
    (hdc1 : 1 ≤ dc) (hdc : dc < 64) (hlen : ds.length = dc) (hc : c ≤ 1)
    (hval : digitSum (2 ^ w) ds + (2 ^ w) ^ dc * ((c : Nat) : Int) = (s : Int))
    (hrange : ∀ j, j < dc → -(2 ^ (w - 1) : Int) ≤ ds.getD j 0 ∧ ds.getD j 0 < 2 ^ (w - 1))
    (hc0 : w ≠ 8 → c = 0) (out : List Int)
    (hout : out = if (w == 8) = true then
        (ds ++ List.replicate (64 - dc) 0).set dc
          (toI8 ((ds ++ List.replicate (64 - dc) 0).getD dc 0 + toI8 ((c : Nat) : Int)))
      else
        (ds ++ List.replicate (64 - dc) 0).set (dc - 1)
          (toI8 ((ds ++ List.replicate (64 - dc) 0).getD (dc - 1) 0 + toI8 ((c <<< w : Nat) : Int)))) :
    out.length = 64 ∧ digitSum (2 ^ w) out = (s : Int) ∧
    (∀ i, (if w = 8 then dc + 1 else dc) ≤ i → out.getD i 0 = 0) ∧
    (∀ j, j < dc → -(2 ^ (w - 1) : Int) ≤ out.getD j 0 ∧ out.getD j 0 < 2 ^ (w - 1)) ∧
    (w = 8 → out.getD dc 0 = ((c : Nat) : Int)) := by
  have hK128 : (2 : Int) ^ (w - 1) ≤ 2 ^ 7 := pow_le_pow_right₀ (by norm_num) (by omega)
  have hdl : (ds ++ List.replicate (64 - dc) (0 : Int)).length = 64 := by
    rw [List.length_append, List.length_replicate, hlen]; omega
  have hds : digitSum (2 ^ w) (ds ++ List.replicate (64 - dc) (0 : Int)) = digitSum (2 ^ w) ds := by
    rw [digitSum_append, digitSum_replicate_zero]; ring
  by_cases h8 : w = 8
  · subst h8
    simp only [beq_self_eq_true, if_true] at hout
    rw [getD_append_replicate, getD_of_length_le ds dc (by omega),
      toI8_id (x := ((c : Nat) : Int)) (by omega) (by omega), Int.zero_add,
      toI8_id (by omega) (by omega)] at hout
    subst hout
    refine ⟨by rw [List.length_set, hdl], ?_, ?_, ?_, ?_⟩
    · rw [digitSum_set _ _ _ _ (by omega), hds, getD_append_replicate,
        getD_of_length_le ds dc (by omega), ← hval]
      ring
    · intro i hi
      simp only [if_true] at hi
      rw [getD_set _ _ _ _ (by omega), if_neg (by omega), getD_append_replicate]
      exact getD_of_length_le ds i (by omega)
    · intro j hj
      rw [getD_set _ _ _ _ (by omega), if_neg (by omega), getD_append_replicate]
      exact hrange j hj
    · intro _
      rw [getD_set _ _ _ _ (by omega), if_pos rfl]
  · have hne : (w == 8) = false := by simpa using h8
    have hcz := hc0 h8
    subst hcz
    rw [hne] at hout
    simp only [Bool.false_eq_true, if_false, Nat.zero_shiftLeft] at hout
    have hr := hrange (dc - 1) (by omega)
    rw [getD_append_replicate, toI8_id (x := ((0 : Nat) : Int)) (by omega) (by omega),
      Nat.cast_zero, Int.add_zero, toI8_id (by omega) (by omega)] at hout
    subst hout
    refine ⟨by rw [List.length_set, hdl], ?_, ?_, ?_, ?_⟩
    · rw [digitSum_set _ _ _ _ (by omega), hds, getD_append_replicate, ← hval]
      push_cast; ring
    · intro i hi
      rw [if_neg h8] at hi
      rw [getD_set _ _ _ _ (by omega), if_neg (by omega), getD_append_replicate]
      exact getD_of_length_le ds i (by omega)
    · intro j hj
      rw [getD_set _ _ _ _ (by omega), getD_append_replicate]
      split
      · exact hr
      · exact hrange j hj
    · intro h; exact absurd h h8

/-- Result of `as_radix_2w(w)`, `w ∈ {5,6,7,8}`, on any 32-byte string (no bound on the value
needed): `dc = ⌈256/w⌉` digits in `[-2^(w-1), 2^(w-1))`, then (only for `w = 8`) one digit in
`{0,1}` holding the final carry, then zeros. -/
theorem asRadix2w_out (bytes : List UInt8) (w : Nat) (hlen : bytes.length = 32) (hw5 : 5 ≤ w)
    (hw8 : w ≤ 8) :
    (asRadix2w bytes w).length = 64 ∧
    digitSum (2 ^ w) (asRadix2w bytes w) = (leToNat bytes : Int) ∧
    (∀ i, toRadix2wSizeHint w ≤ i → (asRadix2w bytes w).getD i 0 = 0) ∧
    (∀ j, j < (256 + w - 1) / w →
      -(2 ^ (w - 1) : Int) ≤ (asRadix2w bytes w).getD j 0 ∧ (asRadix2w bytes w).getD j 0 < 2 ^ (w - 1)) ∧
    (w = 8 → (asRadix2w bytes w).getD 32 0 = 0 ∨ (asRadix2w bytes w).getD 32 0 = 1) := by
  have hs : leToNat bytes < 2 ^ 256 := by
    have := leToNat_lt bytes; rw [hlen] at this; norm_num at this ⊢; exact this
  have hX := wordsOf_read4 bytes hlen
  obtain ⟨h1, h2, h3, h4, h5⟩ :=
    radix2wLoop_spec w (leToNat bytes) _ hX (by omega) hw8 hs ((256 + w - 1) / w) 0 0 (by omega)
  have hdc : 1 ≤ (256 + w - 1) / w ∧ (256 + w - 1) / w < 64 ∧ 256 ≤ w * (0 + (256 + w - 1) / w) ∧
      (w = 8 → (256 + w - 1) / w = 32) := by
    interval_cases w <;> norm_num
  have hc0 : w ≠ 8 → (radix2wLoop w (readLeU64 4 bytes) ((256 + w - 1) / w) 0 0).2 = 0 := by
    intro h8
    apply h5 hdc.1
    interval_cases w
    · norm_num; omega
    · norm_num; omega
    · norm_num; omega
    · exact absurd rfl h8
  rw [div_pow_eq_zero_of_lt hs hdc.2.2.1] at h3
  simp only [Nat.mul_zero, pow_zero, Nat.div_one, Nat.zero_add, Nat.add_zero] at h3
  have hfin := radix2w_finish w (leToNat bytes) ((256 + w - 1) / w) _ _ (by omega) hw8 hdc.1
    hdc.2.1 h1 h2 h3 h4 hc0 (asRadix2w bytes w) (by
      unfold asRadix2w
      have h4' : (w == 4) = false := by simp; omega
      rw [h4']
      simp only [Bool.false_eq_true, if_false, Int.ofNat_eq_natCast])
  obtain ⟨f1, f2, f3, f4, f5⟩ := hfin
  refine ⟨f1, f2, ?_, f4, ?_⟩
  · intro i hi
    apply f3
    unfold toRadix2wSizeHint at hi
    by_cases h8 : w = 8
    · rw [if_pos h8]; subst h8; simpa using hi
    · rw [if_neg h8]
      have hne : (w == 8) = false := by simpa using h8
      rw [hne] at hi; simpa using hi
  · intro h8
    subst h8
    have h32 := f5 rfl
    have e : (256 + 8 - 1) / 8 = 32 := by norm_num
    rw [e] at h32 h2
    rw [h32]
    omega

end Dalek.Proofs.Recode
