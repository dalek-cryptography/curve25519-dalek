import Dalek.IR.NormSpec
import Dalek.Proofs.IfmaField
/-!
# C01 — the AVX512-IFMA vector field backend computes exact arithmetic modulo 2^255-19, lane by lane

Statements are about `Dalek.Gen.IfmaField.*`: the LimbIR programs REGENERATED on every run from
`curve25519-dalek/src/backend/vector/ifma/field.rs` by lane scalarisation.  An `F51x4Unreduced` / `F51x4Reduced =
[u64x4; 5]` is a list of 20 u64 lanes; lane `4 i + j` holds limb `i` (radix 2^51) of element `j` of `(A, B, C, D)`.
`vecVal51 k v : ZMod (2^255-19)` is the value `Σ_i 2^(51 i) · limb_i` of element `k` of `v`, `vecLimbs51 k v` its five
limbs, `elemVal k l` the value of the `k`-th of four `FieldElement51`.

Every theorem: for ALL inputs inside the contract `Dalek.Model.Contracts.IfmaField.pre_<k>`, the lane-checked semantics
`evalC` does not fail (no u64 lane wraps), the wrapping semantics `evalW` (what the SIMD instructions compute) returns
the same lanes, and their lane values in `ZMod p` are the field operation applied to the lane values of the inputs.
-/
set_option maxRecDepth 100000
namespace Dalek.Props.C01.Ifma
open Dalek.IR Dalek.Proofs.Avx2Field Dalek.Proofs.IfmaField Dalek.Proofs.Field26 Dalek.Gen.Norm.IfmaField Dalek.Model.Contracts

section
variable (x0 x1 x2 x3 x4 x5 x6 x7 x8 x9 x10 x11 x12 x13 x14 x15 x16 x17 x18 x19 y0 y1 y2 y3 y4 y5 y6 y7 y8 y9 y10 y11 y12 y13 y14 y15 y16 y17 y18 y19 : Nat)
/-- the vector `x` (20 lanes) -/
local notation "X" => (x0 :: x1 :: x2 :: x3 :: x4 :: x5 :: x6 :: x7 :: x8 :: x9 :: x10 :: x11 :: x12 :: x13 :: x14 :: x15 :: x16 :: x17 :: x18 :: x19 :: [])
/-- the vector `y` (20 lanes) -/
local notation "Y" => (y0 :: y1 :: y2 :: y3 :: y4 :: y5 :: y6 :: y7 :: y8 :: y9 :: y10 :: y11 :: y12 :: y13 :: y14 :: y15 :: y16 :: y17 :: y18 :: y19 :: [])

/-- `&x * &y` on `F51x4Reduced` (limbs `< 2^52`) ↦ `F51x4Unreduced` (limbs `< 2^56`), element-wise product -/
theorem mul_spec (hin : EnvIn (X ++ Y) IfmaField.pre_mul) :
    ∃ out, Dalek.Gen.IfmaField.mul.evalC (X ++ Y) = some out ∧ Dalek.Gen.IfmaField.mul.evalW (X ++ Y) = out ∧
      EnvIn out (rep 20 (ub (2 ^ 56 - 1))) ∧
      ∀ k : Lane, vecVal51 k out = vecVal51 k X * vecVal51 k Y :=
  Prog.norm_spec mul_norm_ok (by decide +kernel) hin fun _ hZ k =>
    Prog.of_fn (V := laneVal51 k) hZ (mul_fn_ok ..) (mul_correct k ..)

/-- `x.square()` on `F51x4Reduced` (limbs `< 2^52`) ↦ limbs `< 2^56`, element-wise square -/
theorem square_spec (hin : EnvIn X IfmaField.pre_square) :
    ∃ out, Dalek.Gen.IfmaField.square.evalC X = some out ∧ Dalek.Gen.IfmaField.square.evalW X = out ∧
      EnvIn out (rep 20 (ub (2 ^ 56 - 1))) ∧
      ∀ k : Lane, vecVal51 k out = vecVal51 k X ^ 2 :=
  Prog.norm_spec square_norm_ok (by decide +kernel) hin fun _ hZ k =>
    Prog.of_fn (V := laneVal51 k) hZ (square_fn_ok ..) (square_correct k ..)

/-- `x + y` on `F51x4Unreduced`: lanes of both operands `< 2^63` ↦ element-wise sum -/
theorem add_spec (hin : EnvIn (X ++ Y) IfmaField.pre_add) :
    ∃ out, Dalek.Gen.IfmaField.add.evalC (X ++ Y) = some out ∧ Dalek.Gen.IfmaField.add.evalW (X ++ Y) = out ∧
      EnvIn out IfmaField.anyU64 ∧
      ∀ k : Lane, vecVal51 k out = vecVal51 k X + vecVal51 k Y :=
  Prog.norm_spec add_norm_ok (by decide +kernel) hin fun _ hZ k =>
    Prog.of_fn (V := laneVal51 k) hZ (add_fn_ok ..) (add_correct k ..)

/-- `x.negate_lazy()` (`32p − x`): lanes `≤` the lanes of `32p` (in particular: any product or square of reduced vectors, `Dalek.Props.C11.Ifma.mul_post_le32p`) ↦ lanes `< 2^56`, element-wise negation -/
theorem negate_lazy_spec (hin : EnvIn X IfmaField.pre_negate_lazy) :
    ∃ out, Dalek.Gen.IfmaField.negate_lazy.evalC X = some out ∧ Dalek.Gen.IfmaField.negate_lazy.evalW X = out ∧
      EnvIn out (rep 20 (ub (2 ^ 56 - 1))) ∧
      ∀ k : Lane, vecVal51 k out = - vecVal51 k X :=
  Prog.norm_spec negate_lazy_norm_ok (by decide +kernel) hin fun _ hZ k =>
    Prog.of_fn (V := laneVal51 k) hZ (negate_lazy_fn_ok ..) (negate_lazy_correct k ..)

/-- `x.diff_sum()`: lanes `≤` the lanes of `32p` ↦ lanes `< 2^57`, `(A,B,C,D) ↦ (B − A, B + A, D − C, D + C)` -/
theorem diff_sum_spec (hin : EnvIn X IfmaField.pre_diff_sum) :
    ∃ out, Dalek.Gen.IfmaField.diff_sum.evalC X = some out ∧ Dalek.Gen.IfmaField.diff_sum.evalW X = out ∧
      EnvIn out (rep 20 (ub (2 ^ 57 - 1))) ∧
      ∀ k : Lane, vecVal51 k out = k.sel (vecVal51 .B X - vecVal51 .A X) (vecVal51 .B X + vecVal51 .A X) (vecVal51 .D X - vecVal51 .C X) (vecVal51 .D X + vecVal51 .C X) :=
  Prog.norm_spec diff_sum_norm_ok (by decide +kernel) hin fun _ hZ k =>
    Prog.of_fn (V := laneVal51 k) hZ (diff_sum_fn_ok ..) (diff_sum_correct k ..)

/-- `F51x4Reduced::from(x)` (weak reduction): ANY twenty u64 lanes ↦ limbs `< 2^51 + 2^18` (so `< 2^52`), same four values -/
theorem reduce_spec (hin : EnvIn X IfmaField.pre_reduce) :
    ∃ out, Dalek.Gen.IfmaField.reduce.evalC X = some out ∧ Dalek.Gen.IfmaField.reduce.evalW X = out ∧
      EnvIn out (rep 20 (ub (2 ^ 51 + 2 ^ 18 - 1))) ∧
      ∀ k : Lane, vecVal51 k out = vecVal51 k X :=
  Prog.norm_spec reduce_norm_ok (by decide +kernel) hin fun _ hZ k =>
    Prog.of_fn (V := laneVal51 k) hZ (reduce_fn_ok ..) (reduce_correct k ..)

/-- `F51x4Unreduced::from(x)`: identity -/
theorem unreduce_spec (hin : EnvIn X IfmaField.pre_unreduce) :
    ∃ out, Dalek.Gen.IfmaField.unreduce.evalC X = some out ∧ Dalek.Gen.IfmaField.unreduce.evalW X = out ∧
      EnvIn out IfmaField.anyU64 ∧
      ∀ k : Lane, vecVal51 k out = vecVal51 k X :=
  Prog.norm_spec unreduce_norm_ok (by decide +kernel) hin fun _ hZ k =>
    Prog.of_fn (V := laneVal51 k) hZ (unreduce_fn_ok ..) (unreduce_correct k ..)

/-- `-x` on `F51x4Reduced` (limbs `< 2^52`) ↦ reduced again (limbs `< 2^51 + 2^10`), element-wise negation -/
theorem neg_spec (hin : EnvIn X IfmaField.pre_neg) :
    ∃ out, Dalek.Gen.IfmaField.neg.evalC X = some out ∧ Dalek.Gen.IfmaField.neg.evalW X = out ∧
      EnvIn out (rep 20 (ub (2 ^ 51 + 2 ^ 10 - 1))) ∧
      ∀ k : Lane, vecVal51 k out = - vecVal51 k X :=
  Prog.norm_spec neg_norm_ok (by decide +kernel) hin fun _ hZ k =>
    Prog.of_fn (V := laneVal51 k) hZ (neg_fn_ok ..) (neg_correct k ..)

/-- `x.split()`: any twenty u64 lanes ↦ four `FieldElement51` with the four lane values -/
theorem split_spec (hin : EnvIn X IfmaField.pre_split) :
    ∃ out, Dalek.Gen.IfmaField.split.evalC X = some out ∧ Dalek.Gen.IfmaField.split.evalW X = out ∧
      EnvIn out IfmaField.anyU64 ∧
      ∀ k : Lane, elemVal k out = vecVal51 k X :=
  Prog.norm_spec split_norm_ok (by decide +kernel) hin fun _ hZ k =>
    Prog.of_fn (V := val51 k) hZ (split_fn_ok ..) (split_correct k ..)

/-- `&x * (s0, s1, s2, s3)` on `F51x4Reduced` (limbs `< 2^52`), any u32 scalars ↦ limbs `< 2^53`,
`(s0 A, s1 B, s2 C, s3 D)` -/
theorem mul_consts_spec (s0 s1 s2 s3 : Nat) (hin : EnvIn (X ++ [s0, s1, s2, s3]) IfmaField.pre_mul_consts) :
    ∃ out, Dalek.Gen.IfmaField.mul_consts.evalC (X ++ [s0, s1, s2, s3]) = some out ∧ Dalek.Gen.IfmaField.mul_consts.evalW (X ++ [s0, s1, s2, s3]) = out ∧
      EnvIn out (rep 20 (ub (2 ^ 53 - 1))) ∧
      ∀ k : Lane, vecVal51 k out = vecVal51 k X * ((k.sel s0 s1 s2 s3 : Nat) : ZMod P) :=
  Prog.norm_spec mul_consts_norm_ok (by decide +kernel) hin fun _ hZ k => by
    have hs : ((k.sel (s0 : Int) s1 s2 s3 : Int) : ZMod P) = ((k.sel s0 s1 s2 s3 : Nat) : ZMod P) := by
      cases k <;> simp [Lane.sel]
    exact hs ▸ Prog.of_fn (V := laneVal51 k) hZ (mul_consts_fn_ok ..) (mul_consts_correct k ..)

/-- `conditional_select(x, y, choice)`: all lanes of `x` if `choice = 0`, all lanes of `y` if `choice = 1` -/
theorem conditional_select_spec (c : Nat) (hin : EnvIn (X ++ Y ++ [c]) IfmaField.pre_conditional_select) :
    ∃ out, Dalek.Gen.IfmaField.conditional_select.evalC (X ++ Y ++ [c]) = some out ∧ Dalek.Gen.IfmaField.conditional_select.evalW (X ++ Y ++ [c]) = out ∧
      out = if c = 0 then X else Y :=
  Prog.norm_val conditional_select_norm_ok hin fun out hZ => toZ_inj <| by
    rw [hZ.symm.trans ((conditional_select_fn_ok ..).trans (conditional_select_correct ..))]
    by_cases hc : c = 0
    · subst hc; rfl
    · rw [if_neg hc, if_neg fun h : Int.ofNat c = 0 => hc (Int.ofNat.inj h)]; rfl

/-- `conditional_assign(x, y, choice)`: all lanes of `x` if `choice = 0`, all lanes of `y` if `choice = 1` -/
theorem conditional_assign_spec (c : Nat) (hin : EnvIn (X ++ Y ++ [c]) IfmaField.pre_conditional_assign) :
    ∃ out, Dalek.Gen.IfmaField.conditional_assign.evalC (X ++ Y ++ [c]) = some out ∧ Dalek.Gen.IfmaField.conditional_assign.evalW (X ++ Y ++ [c]) = out ∧
      out = if c = 0 then X else Y :=
  Prog.norm_val conditional_assign_norm_ok hin fun out hZ => toZ_inj <| by
    rw [hZ.symm.trans ((conditional_assign_fn_ok ..).trans (conditional_assign_correct ..))]
    by_cases hc : c = 0
    · subst hc; rfl
    · rw [if_neg hc, if_neg fun h : Int.ofNat c = 0 => hc (Int.ofNat.inj h)]; rfl

/-! ### shuffles and blends (of `F51x4Unreduced` and, prefixed `reduced_`, of `F51x4Reduced`): pure renamings -/

/-- `x.shuffle(Shuffle::AAAA)`: `(A,B,C,D) ↦ (A,A,A,A)` -/
theorem shuffle_AAAA_spec (hin : EnvIn X IfmaField.pre_shuffle_AAAA) :
    ∃ out, Dalek.Gen.IfmaField.shuffle_AAAA.evalC X = some out ∧ Dalek.Gen.IfmaField.shuffle_AAAA.evalW X = out ∧
      ∀ k : Lane, vecLimbs51 k out = vecLimbs51 (k.sel .A .A .A .A) X :=
  Prog.norm_val shuffle_AAAA_norm_ok hin fun _ hZ k =>
    Prog.of_fn (V := lane51 k) hZ (shuffle_AAAA_fn_ok ..) (by cases k <;> rfl)

/-- `x.shuffle(Shuffle::BBBB)`: `(A,B,C,D) ↦ (B,B,B,B)` -/
theorem shuffle_BBBB_spec (hin : EnvIn X IfmaField.pre_shuffle_BBBB) :
    ∃ out, Dalek.Gen.IfmaField.shuffle_BBBB.evalC X = some out ∧ Dalek.Gen.IfmaField.shuffle_BBBB.evalW X = out ∧
      ∀ k : Lane, vecLimbs51 k out = vecLimbs51 (k.sel .B .B .B .B) X :=
  Prog.norm_val shuffle_BBBB_norm_ok hin fun _ hZ k =>
    Prog.of_fn (V := lane51 k) hZ (shuffle_BBBB_fn_ok ..) (by cases k <;> rfl)

/-- `x.shuffle(Shuffle::BADC)`: `(A,B,C,D) ↦ (B,A,D,C)` -/
theorem shuffle_BADC_spec (hin : EnvIn X IfmaField.pre_shuffle_BADC) :
    ∃ out, Dalek.Gen.IfmaField.shuffle_BADC.evalC X = some out ∧ Dalek.Gen.IfmaField.shuffle_BADC.evalW X = out ∧
      ∀ k : Lane, vecLimbs51 k out = vecLimbs51 (k.sel .B .A .D .C) X :=
  Prog.norm_val shuffle_BADC_norm_ok hin fun _ hZ k =>
    Prog.of_fn (V := lane51 k) hZ (shuffle_BADC_fn_ok ..) (by cases k <;> rfl)

/-- `x.shuffle(Shuffle::BACD)`: `(A,B,C,D) ↦ (B,A,C,D)` -/
theorem shuffle_BACD_spec (hin : EnvIn X IfmaField.pre_shuffle_BACD) :
    ∃ out, Dalek.Gen.IfmaField.shuffle_BACD.evalC X = some out ∧ Dalek.Gen.IfmaField.shuffle_BACD.evalW X = out ∧
      ∀ k : Lane, vecLimbs51 k out = vecLimbs51 (k.sel .B .A .C .D) X :=
  Prog.norm_val shuffle_BACD_norm_ok hin fun _ hZ k =>
    Prog.of_fn (V := lane51 k) hZ (shuffle_BACD_fn_ok ..) (by cases k <;> rfl)

/-- `x.shuffle(Shuffle::ADDA)`: `(A,B,C,D) ↦ (A,D,D,A)` -/
theorem shuffle_ADDA_spec (hin : EnvIn X IfmaField.pre_shuffle_ADDA) :
    ∃ out, Dalek.Gen.IfmaField.shuffle_ADDA.evalC X = some out ∧ Dalek.Gen.IfmaField.shuffle_ADDA.evalW X = out ∧
      ∀ k : Lane, vecLimbs51 k out = vecLimbs51 (k.sel .A .D .D .A) X :=
  Prog.norm_val shuffle_ADDA_norm_ok hin fun _ hZ k =>
    Prog.of_fn (V := lane51 k) hZ (shuffle_ADDA_fn_ok ..) (by cases k <;> rfl)

/-- `x.shuffle(Shuffle::CBCB)`: `(A,B,C,D) ↦ (C,B,C,B)` -/
theorem shuffle_CBCB_spec (hin : EnvIn X IfmaField.pre_shuffle_CBCB) :
    ∃ out, Dalek.Gen.IfmaField.shuffle_CBCB.evalC X = some out ∧ Dalek.Gen.IfmaField.shuffle_CBCB.evalW X = out ∧
      ∀ k : Lane, vecLimbs51 k out = vecLimbs51 (k.sel .C .B .C .B) X :=
  Prog.norm_val shuffle_CBCB_norm_ok hin fun _ hZ k =>
    Prog.of_fn (V := lane51 k) hZ (shuffle_CBCB_fn_ok ..) (by cases k <;> rfl)

/-- `x.shuffle(Shuffle::ABDC)`: `(A,B,C,D) ↦ (A,B,D,C)` -/
theorem shuffle_ABDC_spec (hin : EnvIn X IfmaField.pre_shuffle_ABDC) :
    ∃ out, Dalek.Gen.IfmaField.shuffle_ABDC.evalC X = some out ∧ Dalek.Gen.IfmaField.shuffle_ABDC.evalW X = out ∧
      ∀ k : Lane, vecLimbs51 k out = vecLimbs51 (k.sel .A .B .D .C) X :=
  Prog.norm_val shuffle_ABDC_norm_ok hin fun _ hZ k =>
    Prog.of_fn (V := lane51 k) hZ (shuffle_ABDC_fn_ok ..) (by cases k <;> rfl)

/-- `x.shuffle(Shuffle::ABAB)`: `(A,B,C,D) ↦ (A,B,A,B)` -/
theorem shuffle_ABAB_spec (hin : EnvIn X IfmaField.pre_shuffle_ABAB) :
    ∃ out, Dalek.Gen.IfmaField.shuffle_ABAB.evalC X = some out ∧ Dalek.Gen.IfmaField.shuffle_ABAB.evalW X = out ∧
      ∀ k : Lane, vecLimbs51 k out = vecLimbs51 (k.sel .A .B .A .B) X :=
  Prog.norm_val shuffle_ABAB_norm_ok hin fun _ hZ k =>
    Prog.of_fn (V := lane51 k) hZ (shuffle_ABAB_fn_ok ..) (by cases k <;> rfl)

/-- `x.shuffle(Shuffle::DBBD)`: `(A,B,C,D) ↦ (D,B,B,D)` -/
theorem shuffle_DBBD_spec (hin : EnvIn X IfmaField.pre_shuffle_DBBD) :
    ∃ out, Dalek.Gen.IfmaField.shuffle_DBBD.evalC X = some out ∧ Dalek.Gen.IfmaField.shuffle_DBBD.evalW X = out ∧
      ∀ k : Lane, vecLimbs51 k out = vecLimbs51 (k.sel .D .B .B .D) X :=
  Prog.norm_val shuffle_DBBD_norm_ok hin fun _ hZ k =>
    Prog.of_fn (V := lane51 k) hZ (shuffle_DBBD_fn_ok ..) (by cases k <;> rfl)

/-- `x.shuffle(Shuffle::CACA)`: `(A,B,C,D) ↦ (C,A,C,A)` -/
theorem shuffle_CACA_spec (hin : EnvIn X IfmaField.pre_shuffle_CACA) :
    ∃ out, Dalek.Gen.IfmaField.shuffle_CACA.evalC X = some out ∧ Dalek.Gen.IfmaField.shuffle_CACA.evalW X = out ∧
      ∀ k : Lane, vecLimbs51 k out = vecLimbs51 (k.sel .C .A .C .A) X :=
  Prog.norm_val shuffle_CACA_norm_ok hin fun _ hZ k =>
    Prog.of_fn (V := lane51 k) hZ (shuffle_CACA_fn_ok ..) (by cases k <;> rfl)

/-- `x.blend(y, Lanes::D)`: elements D from `y`, the others from `x` -/
theorem blend_D_spec (hin : EnvIn (X ++ Y) IfmaField.pre_blend_D) :
    ∃ out, Dalek.Gen.IfmaField.blend_D.evalC (X ++ Y) = some out ∧ Dalek.Gen.IfmaField.blend_D.evalW (X ++ Y) = out ∧
      ∀ k : Lane, vecLimbs51 k out = k.sel (vecLimbs51 .A X) (vecLimbs51 .B X) (vecLimbs51 .C X) (vecLimbs51 .D Y) :=
  Prog.norm_val blend_D_norm_ok hin fun _ hZ k =>
    Prog.of_fn (V := lane51 k) hZ (blend_D_fn_ok ..) (by cases k <;> rfl)

/-- `x.blend(y, Lanes::C)`: elements C from `y`, the others from `x` -/
theorem blend_C_spec (hin : EnvIn (X ++ Y) IfmaField.pre_blend_C) :
    ∃ out, Dalek.Gen.IfmaField.blend_C.evalC (X ++ Y) = some out ∧ Dalek.Gen.IfmaField.blend_C.evalW (X ++ Y) = out ∧
      ∀ k : Lane, vecLimbs51 k out = k.sel (vecLimbs51 .A X) (vecLimbs51 .B X) (vecLimbs51 .C Y) (vecLimbs51 .D X) :=
  Prog.norm_val blend_C_norm_ok hin fun _ hZ k =>
    Prog.of_fn (V := lane51 k) hZ (blend_C_fn_ok ..) (by cases k <;> rfl)

/-- `x.blend(y, Lanes::AB)`: elements A,B from `y`, the others from `x` -/
theorem blend_AB_spec (hin : EnvIn (X ++ Y) IfmaField.pre_blend_AB) :
    ∃ out, Dalek.Gen.IfmaField.blend_AB.evalC (X ++ Y) = some out ∧ Dalek.Gen.IfmaField.blend_AB.evalW (X ++ Y) = out ∧
      ∀ k : Lane, vecLimbs51 k out = k.sel (vecLimbs51 .A Y) (vecLimbs51 .B Y) (vecLimbs51 .C X) (vecLimbs51 .D X) :=
  Prog.norm_val blend_AB_norm_ok hin fun _ hZ k =>
    Prog.of_fn (V := lane51 k) hZ (blend_AB_fn_ok ..) (by cases k <;> rfl)

/-- `x.blend(y, Lanes::AC)`: elements A,C from `y`, the others from `x` -/
theorem blend_AC_spec (hin : EnvIn (X ++ Y) IfmaField.pre_blend_AC) :
    ∃ out, Dalek.Gen.IfmaField.blend_AC.evalC (X ++ Y) = some out ∧ Dalek.Gen.IfmaField.blend_AC.evalW (X ++ Y) = out ∧
      ∀ k : Lane, vecLimbs51 k out = k.sel (vecLimbs51 .A Y) (vecLimbs51 .B X) (vecLimbs51 .C Y) (vecLimbs51 .D X) :=
  Prog.norm_val blend_AC_norm_ok hin fun _ hZ k =>
    Prog.of_fn (V := lane51 k) hZ (blend_AC_fn_ok ..) (by cases k <;> rfl)

/-- `x.blend(y, Lanes::AD)`: elements A,D from `y`, the others from `x` -/
theorem blend_AD_spec (hin : EnvIn (X ++ Y) IfmaField.pre_blend_AD) :
    ∃ out, Dalek.Gen.IfmaField.blend_AD.evalC (X ++ Y) = some out ∧ Dalek.Gen.IfmaField.blend_AD.evalW (X ++ Y) = out ∧
      ∀ k : Lane, vecLimbs51 k out = k.sel (vecLimbs51 .A Y) (vecLimbs51 .B X) (vecLimbs51 .C X) (vecLimbs51 .D Y) :=
  Prog.norm_val blend_AD_norm_ok hin fun _ hZ k =>
    Prog.of_fn (V := lane51 k) hZ (blend_AD_fn_ok ..) (by cases k <;> rfl)

/-- `x.blend(y, Lanes::BCD)`: elements B,C,D from `y`, the others from `x` -/
theorem blend_BCD_spec (hin : EnvIn (X ++ Y) IfmaField.pre_blend_BCD) :
    ∃ out, Dalek.Gen.IfmaField.blend_BCD.evalC (X ++ Y) = some out ∧ Dalek.Gen.IfmaField.blend_BCD.evalW (X ++ Y) = out ∧
      ∀ k : Lane, vecLimbs51 k out = k.sel (vecLimbs51 .A X) (vecLimbs51 .B Y) (vecLimbs51 .C Y) (vecLimbs51 .D Y) :=
  Prog.norm_val blend_BCD_norm_ok hin fun _ hZ k =>
    Prog.of_fn (V := lane51 k) hZ (blend_BCD_fn_ok ..) (by cases k <;> rfl)

/-- `x.shuffle(Shuffle::AAAA)`: `(A,B,C,D) ↦ (A,A,A,A)` -/
theorem reduced_shuffle_AAAA_spec (hin : EnvIn X IfmaField.pre_reduced_shuffle_AAAA) :
    ∃ out, Dalek.Gen.IfmaField.reduced_shuffle_AAAA.evalC X = some out ∧ Dalek.Gen.IfmaField.reduced_shuffle_AAAA.evalW X = out ∧
      ∀ k : Lane, vecLimbs51 k out = vecLimbs51 (k.sel .A .A .A .A) X :=
  Prog.norm_val reduced_shuffle_AAAA_norm_ok hin fun _ hZ k =>
    Prog.of_fn (V := lane51 k) hZ (reduced_shuffle_AAAA_fn_ok ..) (by cases k <;> rfl)

/-- `x.shuffle(Shuffle::BBBB)`: `(A,B,C,D) ↦ (B,B,B,B)` -/
theorem reduced_shuffle_BBBB_spec (hin : EnvIn X IfmaField.pre_reduced_shuffle_BBBB) :
    ∃ out, Dalek.Gen.IfmaField.reduced_shuffle_BBBB.evalC X = some out ∧ Dalek.Gen.IfmaField.reduced_shuffle_BBBB.evalW X = out ∧
      ∀ k : Lane, vecLimbs51 k out = vecLimbs51 (k.sel .B .B .B .B) X :=
  Prog.norm_val reduced_shuffle_BBBB_norm_ok hin fun _ hZ k =>
    Prog.of_fn (V := lane51 k) hZ (reduced_shuffle_BBBB_fn_ok ..) (by cases k <;> rfl)

/-- `x.shuffle(Shuffle::BADC)`: `(A,B,C,D) ↦ (B,A,D,C)` -/
theorem reduced_shuffle_BADC_spec (hin : EnvIn X IfmaField.pre_reduced_shuffle_BADC) :
    ∃ out, Dalek.Gen.IfmaField.reduced_shuffle_BADC.evalC X = some out ∧ Dalek.Gen.IfmaField.reduced_shuffle_BADC.evalW X = out ∧
      ∀ k : Lane, vecLimbs51 k out = vecLimbs51 (k.sel .B .A .D .C) X :=
  Prog.norm_val reduced_shuffle_BADC_norm_ok hin fun _ hZ k =>
    Prog.of_fn (V := lane51 k) hZ (reduced_shuffle_BADC_fn_ok ..) (by cases k <;> rfl)

/-- `x.shuffle(Shuffle::BACD)`: `(A,B,C,D) ↦ (B,A,C,D)` -/
theorem reduced_shuffle_BACD_spec (hin : EnvIn X IfmaField.pre_reduced_shuffle_BACD) :
    ∃ out, Dalek.Gen.IfmaField.reduced_shuffle_BACD.evalC X = some out ∧ Dalek.Gen.IfmaField.reduced_shuffle_BACD.evalW X = out ∧
      ∀ k : Lane, vecLimbs51 k out = vecLimbs51 (k.sel .B .A .C .D) X :=
  Prog.norm_val reduced_shuffle_BACD_norm_ok hin fun _ hZ k =>
    Prog.of_fn (V := lane51 k) hZ (reduced_shuffle_BACD_fn_ok ..) (by cases k <;> rfl)

/-- `x.shuffle(Shuffle::ADDA)`: `(A,B,C,D) ↦ (A,D,D,A)` -/
theorem reduced_shuffle_ADDA_spec (hin : EnvIn X IfmaField.pre_reduced_shuffle_ADDA) :
    ∃ out, Dalek.Gen.IfmaField.reduced_shuffle_ADDA.evalC X = some out ∧ Dalek.Gen.IfmaField.reduced_shuffle_ADDA.evalW X = out ∧
      ∀ k : Lane, vecLimbs51 k out = vecLimbs51 (k.sel .A .D .D .A) X :=
  Prog.norm_val reduced_shuffle_ADDA_norm_ok hin fun _ hZ k =>
    Prog.of_fn (V := lane51 k) hZ (reduced_shuffle_ADDA_fn_ok ..) (by cases k <;> rfl)

/-- `x.shuffle(Shuffle::CBCB)`: `(A,B,C,D) ↦ (C,B,C,B)` -/
theorem reduced_shuffle_CBCB_spec (hin : EnvIn X IfmaField.pre_reduced_shuffle_CBCB) :
    ∃ out, Dalek.Gen.IfmaField.reduced_shuffle_CBCB.evalC X = some out ∧ Dalek.Gen.IfmaField.reduced_shuffle_CBCB.evalW X = out ∧
      ∀ k : Lane, vecLimbs51 k out = vecLimbs51 (k.sel .C .B .C .B) X :=
  Prog.norm_val reduced_shuffle_CBCB_norm_ok hin fun _ hZ k =>
    Prog.of_fn (V := lane51 k) hZ (reduced_shuffle_CBCB_fn_ok ..) (by cases k <;> rfl)

/-- `x.shuffle(Shuffle::ABDC)`: `(A,B,C,D) ↦ (A,B,D,C)` -/
theorem reduced_shuffle_ABDC_spec (hin : EnvIn X IfmaField.pre_reduced_shuffle_ABDC) :
    ∃ out, Dalek.Gen.IfmaField.reduced_shuffle_ABDC.evalC X = some out ∧ Dalek.Gen.IfmaField.reduced_shuffle_ABDC.evalW X = out ∧
      ∀ k : Lane, vecLimbs51 k out = vecLimbs51 (k.sel .A .B .D .C) X :=
  Prog.norm_val reduced_shuffle_ABDC_norm_ok hin fun _ hZ k =>
    Prog.of_fn (V := lane51 k) hZ (reduced_shuffle_ABDC_fn_ok ..) (by cases k <;> rfl)

/-- `x.shuffle(Shuffle::ABAB)`: `(A,B,C,D) ↦ (A,B,A,B)` -/
theorem reduced_shuffle_ABAB_spec (hin : EnvIn X IfmaField.pre_reduced_shuffle_ABAB) :
    ∃ out, Dalek.Gen.IfmaField.reduced_shuffle_ABAB.evalC X = some out ∧ Dalek.Gen.IfmaField.reduced_shuffle_ABAB.evalW X = out ∧
      ∀ k : Lane, vecLimbs51 k out = vecLimbs51 (k.sel .A .B .A .B) X :=
  Prog.norm_val reduced_shuffle_ABAB_norm_ok hin fun _ hZ k =>
    Prog.of_fn (V := lane51 k) hZ (reduced_shuffle_ABAB_fn_ok ..) (by cases k <;> rfl)

/-- `x.shuffle(Shuffle::DBBD)`: `(A,B,C,D) ↦ (D,B,B,D)` -/
theorem reduced_shuffle_DBBD_spec (hin : EnvIn X IfmaField.pre_reduced_shuffle_DBBD) :
    ∃ out, Dalek.Gen.IfmaField.reduced_shuffle_DBBD.evalC X = some out ∧ Dalek.Gen.IfmaField.reduced_shuffle_DBBD.evalW X = out ∧
      ∀ k : Lane, vecLimbs51 k out = vecLimbs51 (k.sel .D .B .B .D) X :=
  Prog.norm_val reduced_shuffle_DBBD_norm_ok hin fun _ hZ k =>
    Prog.of_fn (V := lane51 k) hZ (reduced_shuffle_DBBD_fn_ok ..) (by cases k <;> rfl)

/-- `x.shuffle(Shuffle::CACA)`: `(A,B,C,D) ↦ (C,A,C,A)` -/
theorem reduced_shuffle_CACA_spec (hin : EnvIn X IfmaField.pre_reduced_shuffle_CACA) :
    ∃ out, Dalek.Gen.IfmaField.reduced_shuffle_CACA.evalC X = some out ∧ Dalek.Gen.IfmaField.reduced_shuffle_CACA.evalW X = out ∧
      ∀ k : Lane, vecLimbs51 k out = vecLimbs51 (k.sel .C .A .C .A) X :=
  Prog.norm_val reduced_shuffle_CACA_norm_ok hin fun _ hZ k =>
    Prog.of_fn (V := lane51 k) hZ (reduced_shuffle_CACA_fn_ok ..) (by cases k <;> rfl)

/-- `x.blend(y, Lanes::D)`: elements D from `y`, the others from `x` -/
theorem reduced_blend_D_spec (hin : EnvIn (X ++ Y) IfmaField.pre_reduced_blend_D) :
    ∃ out, Dalek.Gen.IfmaField.reduced_blend_D.evalC (X ++ Y) = some out ∧ Dalek.Gen.IfmaField.reduced_blend_D.evalW (X ++ Y) = out ∧
      ∀ k : Lane, vecLimbs51 k out = k.sel (vecLimbs51 .A X) (vecLimbs51 .B X) (vecLimbs51 .C X) (vecLimbs51 .D Y) :=
  Prog.norm_val reduced_blend_D_norm_ok hin fun _ hZ k =>
    Prog.of_fn (V := lane51 k) hZ (reduced_blend_D_fn_ok ..) (by cases k <;> rfl)

/-- `x.blend(y, Lanes::C)`: elements C from `y`, the others from `x` -/
theorem reduced_blend_C_spec (hin : EnvIn (X ++ Y) IfmaField.pre_reduced_blend_C) :
    ∃ out, Dalek.Gen.IfmaField.reduced_blend_C.evalC (X ++ Y) = some out ∧ Dalek.Gen.IfmaField.reduced_blend_C.evalW (X ++ Y) = out ∧
      ∀ k : Lane, vecLimbs51 k out = k.sel (vecLimbs51 .A X) (vecLimbs51 .B X) (vecLimbs51 .C Y) (vecLimbs51 .D X) :=
  Prog.norm_val reduced_blend_C_norm_ok hin fun _ hZ k =>
    Prog.of_fn (V := lane51 k) hZ (reduced_blend_C_fn_ok ..) (by cases k <;> rfl)

/-- `x.blend(y, Lanes::AB)`: elements A,B from `y`, the others from `x` -/
theorem reduced_blend_AB_spec (hin : EnvIn (X ++ Y) IfmaField.pre_reduced_blend_AB) :
    ∃ out, Dalek.Gen.IfmaField.reduced_blend_AB.evalC (X ++ Y) = some out ∧ Dalek.Gen.IfmaField.reduced_blend_AB.evalW (X ++ Y) = out ∧
      ∀ k : Lane, vecLimbs51 k out = k.sel (vecLimbs51 .A Y) (vecLimbs51 .B Y) (vecLimbs51 .C X) (vecLimbs51 .D X) :=
  Prog.norm_val reduced_blend_AB_norm_ok hin fun _ hZ k =>
    Prog.of_fn (V := lane51 k) hZ (reduced_blend_AB_fn_ok ..) (by cases k <;> rfl)

/-- `x.blend(y, Lanes::AC)`: elements A,C from `y`, the others from `x` -/
theorem reduced_blend_AC_spec (hin : EnvIn (X ++ Y) IfmaField.pre_reduced_blend_AC) :
    ∃ out, Dalek.Gen.IfmaField.reduced_blend_AC.evalC (X ++ Y) = some out ∧ Dalek.Gen.IfmaField.reduced_blend_AC.evalW (X ++ Y) = out ∧
      ∀ k : Lane, vecLimbs51 k out = k.sel (vecLimbs51 .A Y) (vecLimbs51 .B X) (vecLimbs51 .C Y) (vecLimbs51 .D X) :=
  Prog.norm_val reduced_blend_AC_norm_ok hin fun _ hZ k =>
    Prog.of_fn (V := lane51 k) hZ (reduced_blend_AC_fn_ok ..) (by cases k <;> rfl)

/-- `x.blend(y, Lanes::AD)`: elements A,D from `y`, the others from `x` -/
theorem reduced_blend_AD_spec (hin : EnvIn (X ++ Y) IfmaField.pre_reduced_blend_AD) :
    ∃ out, Dalek.Gen.IfmaField.reduced_blend_AD.evalC (X ++ Y) = some out ∧ Dalek.Gen.IfmaField.reduced_blend_AD.evalW (X ++ Y) = out ∧
      ∀ k : Lane, vecLimbs51 k out = k.sel (vecLimbs51 .A Y) (vecLimbs51 .B X) (vecLimbs51 .C X) (vecLimbs51 .D Y) :=
  Prog.norm_val reduced_blend_AD_norm_ok hin fun _ hZ k =>
    Prog.of_fn (V := lane51 k) hZ (reduced_blend_AD_fn_ok ..) (by cases k <;> rfl)

/-- `x.blend(y, Lanes::BCD)`: elements B,C,D from `y`, the others from `x` -/
theorem reduced_blend_BCD_spec (hin : EnvIn (X ++ Y) IfmaField.pre_reduced_blend_BCD) :
    ∃ out, Dalek.Gen.IfmaField.reduced_blend_BCD.evalC (X ++ Y) = some out ∧ Dalek.Gen.IfmaField.reduced_blend_BCD.evalW (X ++ Y) = out ∧
      ∀ k : Lane, vecLimbs51 k out = k.sel (vecLimbs51 .A X) (vecLimbs51 .B Y) (vecLimbs51 .C Y) (vecLimbs51 .D Y) :=
  Prog.norm_val reduced_blend_BCD_norm_ok hin fun _ hZ k =>
    Prog.of_fn (V := lane51 k) hZ (reduced_blend_BCD_fn_ok ..) (by cases k <;> rfl)

end

/-- `F51x4Unreduced::new(a, b, c, d)`: element `k` of the result has the value of the `k`-th argument (any limbs) -/
theorem new_spec (a0 a1 a2 a3 a4 b0 b1 b2 b3 b4 c0 c1 c2 c3 c4 d0 d1 d2 d3 d4 : Nat)
    (hin : EnvIn (a0 :: a1 :: a2 :: a3 :: a4 :: b0 :: b1 :: b2 :: b3 :: b4 :: c0 :: c1 :: c2 :: c3 :: c4 :: d0 :: d1 :: d2 :: d3 :: d4 :: []) IfmaField.pre_new) :
    ∃ out, Dalek.Gen.IfmaField.new.evalC (a0 :: a1 :: a2 :: a3 :: a4 :: b0 :: b1 :: b2 :: b3 :: b4 :: c0 :: c1 :: c2 :: c3 :: c4 :: d0 :: d1 :: d2 :: d3 :: d4 :: []) = some out ∧
      Dalek.Gen.IfmaField.new.evalW (a0 :: a1 :: a2 :: a3 :: a4 :: b0 :: b1 :: b2 :: b3 :: b4 :: c0 :: c1 :: c2 :: c3 :: c4 :: d0 :: d1 :: d2 :: d3 :: d4 :: []) = out ∧
      ∀ k : Lane, vecVal51 k out = elemVal k (a0 :: a1 :: a2 :: a3 :: a4 :: b0 :: b1 :: b2 :: b3 :: b4 :: c0 :: c1 :: c2 :: c3 :: c4 :: d0 :: d1 :: d2 :: d3 :: d4 :: []) :=
  Prog.norm_val new_norm_ok hin fun _ hZ k =>
    Prog.of_fn (V := laneVal51 k) hZ (new_fn_ok ..) (by cases k <;> rfl)

/-- the value of an element is a function of its five limbs: the shuffle / blend statements transfer to values -/
theorem vecVal51_congr {k k' : Lane} {v w : List Nat} (h : vecLimbs51 k v = vecLimbs51 k' w) :
    vecVal51 k v = vecVal51 k' w := by
  rw [vecVal51_eq_limbs, vecVal51_eq_limbs, h]

/-! Non-vacuity: the all-lanes-at-the-bound inputs satisfy the contracts. -/
example : EnvIn (IfmaField.pre_new.map (·.hi)) IfmaField.pre_new := by decide +kernel
example : EnvIn (IfmaField.pre_split.map (·.hi)) IfmaField.pre_split := by decide +kernel
example : EnvIn (IfmaField.pre_negate_lazy.map (·.hi)) IfmaField.pre_negate_lazy := by decide +kernel
example : EnvIn (IfmaField.pre_diff_sum.map (·.hi)) IfmaField.pre_diff_sum := by decide +kernel
example : EnvIn (IfmaField.pre_reduce.map (·.hi)) IfmaField.pre_reduce := by decide +kernel
example : EnvIn (IfmaField.pre_unreduce.map (·.hi)) IfmaField.pre_unreduce := by decide +kernel
example : EnvIn (IfmaField.pre_neg.map (·.hi)) IfmaField.pre_neg := by decide +kernel
example : EnvIn (IfmaField.pre_add.map (·.hi)) IfmaField.pre_add := by decide +kernel
example : EnvIn (IfmaField.pre_mul_consts.map (·.hi)) IfmaField.pre_mul_consts := by decide +kernel
example : EnvIn (IfmaField.pre_square.map (·.hi)) IfmaField.pre_square := by decide +kernel
example : EnvIn (IfmaField.pre_mul.map (·.hi)) IfmaField.pre_mul := by decide +kernel
example : EnvIn (IfmaField.pre_conditional_select.map (·.hi)) IfmaField.pre_conditional_select := by decide +kernel
example : EnvIn (IfmaField.pre_conditional_assign.map (·.hi)) IfmaField.pre_conditional_assign := by decide +kernel
example : EnvIn (IfmaField.pre_shuffle_BADC.map (·.hi)) IfmaField.pre_shuffle_BADC := by decide +kernel
example : EnvIn (IfmaField.pre_blend_AB.map (·.hi)) IfmaField.pre_blend_AB := by decide +kernel

end Dalek.Props.C01.Ifma
