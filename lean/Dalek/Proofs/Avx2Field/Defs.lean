import Dalek.Proofs.Field26
import Dalek.Proofs.Field51
import Dalek.IR.NormSpec
/-! Lane-level value semantics of the AVX2 vector field backend (`backend/vector/avx2/field.rs`) and the proof
macro used for the functional-correctness lemmas of `Dalek/Proofs/Avx2Field/*`.

A `FieldElement2625x4 = [u32x8; 5]` is modelled as a list of 40 lanes; lane `8 i + j` is lane `j` of vector `i`.
Lane order inside vector `i` (read off the translated `new` / `split`, see `Dalek.Gen.Avx2Field`):
`(a_{2i}, b_{2i}, a_{2i+1}, b_{2i+1}, c_{2i}, d_{2i}, c_{2i+1}, d_{2i+1})`
where `a_m, b_m, c_m, d_m` is limb `m` (radix 2^25.5: weight `2^⌈25.5 m⌉`) of the field elements A, B, C, D. -/
namespace Dalek.Proofs.Avx2Field
open Dalek Dalek.Proofs.Field26

/-- the four field elements packed in a vector -/
inductive Lane | A | B | C | D
deriving DecidableEq, Repr

/-- position of the even limb of the element inside each `u32x8` (the odd limb sits 2 positions later) -/
def Lane.off : Lane → Nat
  | .A => 0 | .B => 1 | .C => 4 | .D => 5

/-- index of the element among `(A, B, C, D)` (lane order of a `u64x4`, order of the arguments of `new`) -/
def Lane.idx : Lane → Nat
  | .A => 0 | .B => 1 | .C => 2 | .D => 3

/-- `k.sel a b c d` : the component for lane `k` of the 4-tuple `(a, b, c, d)` -/
def Lane.sel {α : Sort _} : Lane → α → α → α → α → α
  | .A, a, _, _, _ => a | .B, _, b, _, _ => b | .C, _, _, c, _ => c | .D, _, _, _, d => d

/-- the ten limbs of element `k` inside the 40 lanes `v` -/
def lane (k : Lane) (v : List Int) : List Int :=
  [v.getD k.off 0, v.getD (k.off + 2) 0, v.getD (k.off + 8) 0, v.getD (k.off + 10) 0, v.getD (k.off + 16) 0,
   v.getD (k.off + 18) 0, v.getD (k.off + 24) 0, v.getD (k.off + 26) 0, v.getD (k.off + 32) 0, v.getD (k.off + 34) 0]

/-- value in `ZMod (2^255-19)` of element `k` of the vector `v` (40 lanes) -/
def laneVal (k : Lane) (v : List Int) : ZMod P := ((rep26 (lane k v) : Int) : ZMod P)

/-- the ten wide coefficients of element `k` inside `[u64x4; 10]` (the argument of `reduce64`): `z[i]` is lanes
`4 i .. 4 i + 3`, in the order `(A, B, C, D)` -/
def lane64 (k : Lane) (z : List Int) : List Int :=
  [z.getD k.idx 0, z.getD (k.idx + 4) 0, z.getD (k.idx + 8) 0, z.getD (k.idx + 12) 0, z.getD (k.idx + 16) 0,
   z.getD (k.idx + 20) 0, z.getD (k.idx + 24) 0, z.getD (k.idx + 28) 0, z.getD (k.idx + 32) 0, z.getD (k.idx + 36) 0]

def laneVal64 (k : Lane) (z : List Int) : ZMod P := ((rep26 (lane64 k z) : Int) : ZMod P)

/-- the five radix-2^51 limbs of the `k`-th of four `FieldElement51` given as 20 limbs -/
def elem51 (k : Lane) (l : List Int) : List Int :=
  [l.getD (5 * k.idx) 0, l.getD (5 * k.idx + 1) 0, l.getD (5 * k.idx + 2) 0, l.getD (5 * k.idx + 3) 0,
   l.getD (5 * k.idx + 4) 0]

/-- value of the `k`-th `FieldElement51` -/
def val51 (k : Lane) (l : List Int) : ZMod P := ((Dalek.Proofs.Field51.rep51 (elem51 k l) : Int) : ZMod P)

/-! ### the documented bounds as interval vectors (`Dalek.Model.Contracts.Avx2Field.lanes num den`: even limbs
`< 2^26 · num/den`, odd limbs `< 2^25 · num/den`) -/
open Dalek.Model.Contracts in
/-- `b < 0.0002` (`2^0.0002 = 1.000138…`): post-condition documented for `new`, `reduce`, `neg` -/
def b0002 : List Dalek.IR.Itv := Avx2Field.lanes 10001 10000
open Dalek.Model.Contracts in
/-- `b < 0.007` (`2^0.007 = 1.004863…`): post-condition documented for `mul`, `square_and_negate_D`, `mul_consts`,
`reduce64` -/
def b007 : List Dalek.IR.Itv := Avx2Field.lanes 10048 10000
open Dalek.Model.Contracts in
/-- `b < 1` : post-condition documented for `negate_lazy` -/
def b1 : List Dalek.IR.Itv := Avx2Field.lanes 2 1
open Dalek.Model.Contracts in
/-- `b < 1.6` (`2^1.6 = 3.0314…`): post-condition documented for `diff_sum` -/
def b16 : List Dalek.IR.Itv := Avx2Field.lanes 3031 1000

/-! ### the same notions on vectors of naturals (the values the programs compute with) -/
/-- the ten limbs of element `k` of a vector of 40 u32 lanes -/
def vecLimbs (k : Lane) (v : List Nat) : List Int := lane k (Dalek.IR.toZ v)
/-- value of element `k` of a vector of 40 u32 lanes -/
def vecVal (k : Lane) (v : List Nat) : ZMod P := laneVal k (Dalek.IR.toZ v)
/-- value of element `k` of ten wide coefficient vectors (40 u64 lanes, argument of `reduce64`) -/
def wideVal (k : Lane) (z : List Nat) : ZMod P := laneVal64 k (Dalek.IR.toZ z)
/-- value of the `k`-th of four `FieldElement51` (20 u64 limbs) -/
def elemVal (k : Lane) (l : List Nat) : ZMod P := val51 k (Dalek.IR.toZ l)

theorem vecVal_eq_limbs (k : Lane) (v : List Nat) : vecVal k v = ((rep26 (vecLimbs k v) : Int) : ZMod P) := rfl

open Lean Elab Tactic Meta in
/-- List literals with more than 32 elements are elaborated with auxiliary `let`s; `lets_to_eqs` turns those into
equations `hL_i : l = a :: b :: … :: l'` between lists.  Substitute them away again. -/
elab "subst_list_eqs" : tactic => withMainContext do
  let lctx ← getLCtx
  let mut names : Array Name := #[]
  for d in lctx do
    if d.isImplementationDetail then continue
    if d.userName.toString.startsWith "hL_" then
      let t ← instantiateMVars d.type
      if let some (ty, _, _) := t.eq? then
        if ty.isAppOf ``List then names := names.push d.userName
  for n in names do
    evalTactic (← `(tactic| subst $(mkIdent n)))

/-- `0 ≤ x_i ≤ b_i` point-wise (the integer image of an interval contract; used by the few kernels whose
normal form is value-preserving only inside the contract, see `zero_quots`) -/
def Bounded : List Int → List Nat → Prop
  | [], [] => True
  | x :: xs, b :: bs => (0 ≤ x ∧ x ≤ (b : Int)) ∧ Bounded xs bs
  | _, _ => False

/-- the forty lanes of `(16p, 16p, 16p, 16p)` (constants regenerated from `avx2/constants.rs`) -/
def p16Lanes : List Nat :=
  Dalek.Gen.Consts.Avx2.P_TIMES_16_LO ++ Dalek.Gen.Consts.Avx2.P_TIMES_16_HI ++ Dalek.Gen.Consts.Avx2.P_TIMES_16_HI
    ++ Dalek.Gen.Consts.Avx2.P_TIMES_16_HI ++ Dalek.Gen.Consts.Avx2.P_TIMES_16_HI

theorem bounded_of_envIn : ∀ {xs : List Nat} {pre : List Dalek.IR.Itv}, Dalek.IR.EnvIn xs pre →
    Bounded (Dalek.IR.toZ xs) (pre.map (·.hi))
  | [], [], _ => trivial
  | x :: xs, t :: ts, h => by
      refine ⟨⟨Int.natCast_nonneg x, ?_⟩, bounded_of_envIn h.2⟩
      exact Int.ofNat_le.mpr h.1.2.1
  | [], _ :: _, h => h.elim
  | _ :: _, [], h => h.elim

open Lean Elab Tactic Meta in
/-- keep only those `hL_i : x = rhs` on which the goal (transitively) depends -/
elab "slice_hyps" : tactic => withMainContext do
  let g ← getMainGoal
  let lctx ← getLCtx
  let mut hyps : Array (FVarId × FVarId × Expr) := #[]
  for d in lctx do
    if d.isImplementationDetail then continue
    if d.userName.toString.startsWith "hL_" then
      let t ← instantiateMVars d.type
      if let some (_, lhs, rhs) := t.eq? then
        if lhs.isFVar then hyps := hyps.push (d.fvarId, lhs.fvarId!, rhs)
  let tgt ← instantiateMVars (← g.getType)
  let mut needed : Std.HashSet FVarId := {}
  for fv in (collectFVars {} tgt).fvarIds do needed := needed.insert fv
  let mut marked : Std.HashSet FVarId := {}
  let mut changed := true
  while changed do
    changed := false
    for (h, x, rhs) in hyps do
      if needed.contains x && !marked.contains h then
        marked := marked.insert h
        changed := true
        for fv in (collectFVars {} rhs).fvarIds do needed := needed.insert fv
  let mut g' := g
  for (h, _, _) in hyps.reverse do
    if !marked.contains h then
      g' ← g'.clear h
  replaceMainGoal [g']

open Lean in
/-- all quotients and all remainders occurring in an expression -/
partial def collectDivMod (e : Expr) : StateM (Array Expr × Array Expr) Unit := do
  match e.getAppFnArgs with
  | (``HDiv.hDiv, #[_, _, _, _, a, b]) =>
      modify (fun (d, m) => (d.push e, m)); collectDivMod a; collectDivMod b
  | (``HMod.hMod, #[_, _, _, _, a, b]) =>
      modify (fun (d, m) => (d, m.push e)); collectDivMod a; collectDivMod b
  | _ => for arg in e.getAppArgs do collectDivMod arg

open Lean Elab Tactic Meta in
/-- The normaliser drops a mask `t & (2^k-1)` when the interval analysis shows `t < 2^k`, but keeps the matching
`t >> k`; it also keeps the high 32 bits of a 64-bit lane product that a 32-bit shuffle moves into a neighbouring
lane.  Such a quotient `t / m`, whose remainder `t % m` is used nowhere, can only occur in a value-preserving
computation if it vanishes.  For each of them: prove `t / m = 0` by `omega` from the input bounds in the context and
rewrite with it (quotients for which this fails are left alone; the final `ring_nf` then fails). -/
elab "zero_quots" : tactic => do
  let mut failed : Array Expr := #[]
  let mut progress := true
  while progress do
    progress := false
    let cands ← withMainContext do
      let lctx ← getLCtx
      let mut st : Array Expr × Array Expr := (#[], #[])
      for d in lctx do
        if d.isImplementationDetail then continue
        if d.userName.toString.startsWith "hL_" then
          let t ← instantiateMVars d.type
          st := ((collectDivMod t).run st).2
      let (divs, mods) := st
      let mut cs : Array Expr := #[]
      for q in divs do
        let a := q.getAppArgs[4]!; let b := q.getAppArgs[5]!
        if !(mods.any fun m => m.getAppArgs[4]! == a && m.getAppArgs[5]! == b) && !cs.contains q then
          cs := cs.push q
      pure cs
    for q in cands do
      if failed.contains q then continue
      let ok ← withMainContext do
        let stx ← Term.exprToSyntax q
        try
          evalTactic (← `(tactic| (have hq : $stx = 0 := by omega)))
          evalTactic (← `(tactic| (simp only [hq, add_zero, zero_add] at *)))
          evalTactic (← `(tactic| (try clear hq)))
          pure true
        catch _ => pure false
      if ok then
        progress := true
        break
      else failed := failed.push q

/-- unfold the lane-value notions in the goal down to the SSA variables -/
macro "avx_goal" : tactic =>
  `(tactic| simp only [laneVal, laneVal64, val51, lane, lane64, elem51, Lane.off, Lane.idx, Lane.sel,
               Nat.reduceAdd, Nat.reduceMul, rep26, Dalek.Proofs.Field51.rep51,
               List.getD_cons_zero, List.getD_cons_succ])

/-- `lane_lets f`: unfold the shallow kernel `f` and turn its SSA lets into equations over `ℤ` -/
macro "lane_lets " f:ident : tactic =>
  `(tactic| (limb_lets $f; subst_list_eqs))

/-- The kernels reduce by hand: they multiply what overflows `2^255` by `19`.  With `19` written as `2^255` a
multiplication, a squaring or a carry chain is an identity of polynomials over `ℤ`. -/
theorem c19 : (19 : ZMod P) = 2 ^ 255 := by reduce_mod_char

/-- Finish a lane-value identity whose goal is unfolded to the SSA variables (`avx_goal`) and whose context is sliced
to the equations of this lane (`slice_hyps`: a quarter of the kernel), after `zero_quots` for the kernels that are
value-preserving only inside their contract: cast the equations to `ZMod P`, substitute (the quotients of the carries
stay opaque atoms) and conclude by `ring`, see `c19`. -/
macro "lane_finish" : tactic =>
  `(tactic| (cast_eqs (ZMod P); limb_push; simp only [*, c19]; ring))

/-- the same for a kernel that adds a multiple of `p` (the negations): the two sides differ by a numeral, which is `0`
modulo `p` -/
macro "lane_finish_mod" : tactic =>
  `(tactic| (cast_eqs (ZMod P); limb_push; simp only [*, c19]; rw [← sub_eq_zero]; ring_nf; reduce_mod_char))

end Dalek.Proofs.Avx2Field
