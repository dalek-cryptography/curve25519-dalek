import Dalek.IR.LimbSound
/-!
# KProg — straight-line compositions of limb kernels (core Lean only)

A `KProg` is a straight-line program whose statements are *calls of LimbIR kernels* (`Prog`) on previously
computed values; a value is a group of machine words (the 40 `u32` lanes of a `FieldElement2625x4`, the 20 `u64`
lanes of an `F51x4*`, the limbs of a field element, a choice byte, …).  It is what the translator emits for the
parallel point formulas of `backend/vector/{avx2,ifma}/edwards.rs`: every vector-field method call becomes a call of
the translated kernel of that method.

* `KProg.evalC` / `KProg.evalW`: run every kernel under the checked / wrapping semantics.
* `KProg.check pre`: propagate the VERIFIED interval analysis (`Prog.norm`) through the calls, starting from the
  interval vectors `pre` of the inputs.  There are no per-kernel contracts here: each call is analysed on the
  intervals its arguments actually have at that point of the formula.
* `KProg.check_sound`: if `check` succeeds then for all inputs inside `pre` no kernel call overflows or trips a
  debug assertion, the checked and wrapping runs agree, and the outputs lie inside the computed post-intervals.
-/
namespace Dalek.IR

/-- argument of a kernel call -/
inductive KArg where
  | var (i : Nat)
  | lit (xs : List Nat)
deriving Repr, Inhabited

structure KStmt where
  k : Prog
  args : List KArg

structure KProg where
  nIn : Nat
  body : List KStmt
  outs : List Nat

def Itv.point (x : Nat) : Itv := ⟨x, x, 0⟩

def KArg.val (env : List (List Nat)) : KArg → Option (List Nat)
  | .var i => env[i]?
  | .lit xs => some xs

def KArg.itv (ienv : List (List Itv)) : KArg → Option (List Itv)
  | .var i => ienv[i]?
  | .lit xs => some (xs.map Itv.point)

def gather (env : List (List Nat)) : List KArg → Option (List Nat)
  | [] => some []
  | a :: as =>
    match a.val env, gather env as with
    | some x, some r => some (x ++ r)
    | _, _ => none

def gatherI (ienv : List (List Itv)) : List KArg → Option (List Itv)
  | [] => some []
  | a :: as =>
    match a.itv ienv, gatherI ienv as with
    | some x, some r => some (x ++ r)
    | _, _ => none

def krunC : List KStmt → List (List Nat) → Option (List (List Nat))
  | [], env => some env
  | s :: ss, env =>
    match gather env s.args with
    | some a =>
      match s.k.evalC a with
      | some o => krunC ss (env ++ [o])
      | none => none
    | none => none

def krunW : List KStmt → List (List Nat) → Option (List (List Nat))
  | [], env => some env
  | s :: ss, env =>
    match gather env s.args with
    | some a => krunW ss (env ++ [s.k.evalW a])
    | none => none

def kcheck : List KStmt → List (List Itv) → Option (List (List Itv))
  | [], ienv => some ienv
  | s :: ss, ienv =>
    match gatherI ienv s.args with
    | some a =>
      match s.k.norm a with
      | some (_, post) => kcheck ss (ienv ++ [post])
      | none => none
    | none => none

def kpick {α : Type} (env : List α) : List Nat → Option (List α)
  | [] => some []
  | i :: is =>
    match env[i]?, kpick env is with
    | some x, some r => some (x :: r)
    | _, _ => none

def KProg.evalC (p : KProg) (ins : List (List Nat)) : Option (List (List Nat)) :=
  if ins.length = p.nIn then
    match krunC p.body ins with
    | some env => kpick env p.outs
    | none => none
  else none

def KProg.evalW (p : KProg) (ins : List (List Nat)) : Option (List (List Nat)) :=
  if ins.length = p.nIn then
    match krunW p.body ins with
    | some env => kpick env p.outs
    | none => none
  else none

def KProg.check (p : KProg) (pre : List (List Itv)) : Option (List (List Itv)) :=
  if pre.length = p.nIn then
    match kcheck p.body pre with
    | some ienv => kpick ienv p.outs
    | none => none
  else none

/-- point-wise membership of a list of values -/
def EnvIn2 : List (List Nat) → List (List Itv) → Prop
  | [], [] => True
  | x :: xs, t :: ts => EnvIn x t ∧ EnvIn2 xs ts
  | _, _ => False

instance EnvIn2.dec : (env : List (List Nat)) → (ienv : List (List Itv)) → Decidable (EnvIn2 env ienv)
  | [], [] => isTrue trivial
  | x :: xs, t :: ts =>
    match (inferInstance : Decidable (EnvIn x t)), EnvIn2.dec xs ts with
    | isTrue h1, isTrue h2 => isTrue ⟨h1, h2⟩
    | isFalse h1, _ => isFalse (fun h => h1 h.1)
    | _, isFalse h2 => isFalse (fun h => h2 h.2)
  | [], _ :: _ => isFalse (fun h => h)
  | _ :: _, [] => isFalse (fun h => h)

/-! ### lemmas -/

theorem EnvIn_append : ∀ {a b : List Nat} {s t : List Itv}, EnvIn a s → EnvIn b t → EnvIn (a ++ b) (s ++ t)
  | [], _, [], _, _, h => by simpa using h
  | x :: a, b, u :: s, t, h1, h2 => by
      simp only [List.cons_append, EnvIn] at h1 ⊢
      exact ⟨h1.1, EnvIn_append h1.2 h2⟩
  | [], _, _ :: _, _, h, _ => by simp [EnvIn] at h
  | _ :: _, _, [], _, h, _ => by simp [EnvIn] at h

theorem EnvIn_point : ∀ (xs : List Nat), EnvIn xs (xs.map Itv.point)
  | [] => by simp [EnvIn]
  | x :: xs => by
      simp only [List.map_cons, EnvIn]
      exact ⟨⟨Nat.le_refl _, Nat.le_refl _, by simp [Itv.point]⟩, EnvIn_point xs⟩

theorem EnvIn2_length : ∀ {env : List (List Nat)} {ienv : List (List Itv)}, EnvIn2 env ienv → env.length = ienv.length
  | [], [], _ => rfl
  | _ :: xs, _ :: ts, h => by simp [EnvIn2_length (env := xs) (ienv := ts) h.2]
  | [], _ :: _, h => by simp [EnvIn2] at h
  | _ :: _, [], h => by simp [EnvIn2] at h

theorem EnvIn2_get : ∀ {env : List (List Nat)} {ienv : List (List Itv)}, EnvIn2 env ienv → ∀ {i : Nat} {t : List Itv},
    ienv[i]? = some t → ∃ x, env[i]? = some x ∧ EnvIn x t
  | [], [], _, i, t, ht => by simp at ht
  | x :: xs, u :: ts, h, 0, t, ht => by
      simp only [List.getElem?_cons_zero, Option.some.injEq] at ht
      subst ht
      exact ⟨x, by simp, h.1⟩
  | x :: xs, u :: ts, h, i + 1, t, ht => by
      simp only [List.getElem?_cons_succ] at ht ⊢
      exact EnvIn2_get h.2 ht
  | [], _ :: _, h, _, _, _ => by simp [EnvIn2] at h
  | _ :: _, [], h, _, _, _ => by simp [EnvIn2] at h

theorem EnvIn2_snoc : ∀ {env : List (List Nat)} {ienv : List (List Itv)} {x : List Nat} {t : List Itv},
    EnvIn2 env ienv → EnvIn x t → EnvIn2 (env ++ [x]) (ienv ++ [t])
  | [], [], x, t, _, hx => by simp [EnvIn2, hx]
  | y :: env, u :: ienv, x, t, h, hx => by
      simp only [List.cons_append, EnvIn2]
      exact ⟨h.1, EnvIn2_snoc h.2 hx⟩
  | [], _ :: _, _, _, h, _ => by simp [EnvIn2] at h
  | _ :: _, [], _, _, h, _ => by simp [EnvIn2] at h

theorem KArg.itv_sound {env : List (List Nat)} {ienv : List (List Itv)} (h : EnvIn2 env ienv) :
    ∀ (a : KArg) (t : List Itv), a.itv ienv = some t → ∃ x, a.val env = some x ∧ EnvIn x t
  | .var i, t, ht => EnvIn2_get h ht
  | .lit xs, t, ht => by
      simp only [KArg.itv, Option.some.injEq] at ht
      subst ht
      exact ⟨xs, rfl, EnvIn_point xs⟩

theorem gather_sound {env : List (List Nat)} {ienv : List (List Itv)} (h : EnvIn2 env ienv) :
    ∀ (as : List KArg) (t : List Itv), gatherI ienv as = some t → ∃ x, gather env as = some x ∧ EnvIn x t
  | [], t, ht => by
      simp only [gatherI, Option.some.injEq] at ht
      subst ht
      exact ⟨[], rfl, by simp [EnvIn]⟩
  | a :: as, t, ht => by
      unfold gatherI at ht
      split at ht
      · rename_i u r hu hr
        simp only [Option.some.injEq] at ht
        subst ht
        obtain ⟨x, hx, hxm⟩ := KArg.itv_sound h a u hu
        obtain ⟨y, hy, hym⟩ := gather_sound h as r hr
        exact ⟨x ++ y, by simp [gather, hx, hy], EnvIn_append hxm hym⟩
      · simp at ht

theorem kcheck_sound : ∀ (ss : List KStmt) (ienv ienv' : List (List Itv)) (env : List (List Nat)),
    EnvIn2 env ienv → kcheck ss ienv = some ienv' →
    ∃ env', krunC ss env = some env' ∧ krunW ss env = some env' ∧ EnvIn2 env' ienv'
  | [], ienv, ienv', env, h, hc => by
      simp only [kcheck, Option.some.injEq] at hc
      subst hc
      exact ⟨env, rfl, rfl, h⟩
  | s :: ss, ienv, ienv', env, h, hc => by
      unfold kcheck at hc
      split at hc
      · rename_i a ha
        split at hc
        · rename_i q post hn
          obtain ⟨x, hx, hxm⟩ := gather_sound h s.args a ha
          obtain ⟨o, ho1, ho2, ho3, _⟩ := Prog.norm_sound s.k a q post hn x hxm
          obtain ⟨env', h1, h2, h3⟩ := kcheck_sound ss (ienv ++ [post]) ienv' (env ++ [o]) (EnvIn2_snoc h ho3) hc
          refine ⟨env', ?_, ?_, h3⟩
          · simp [krunC, hx, ho1, h1]
          · simp [krunW, hx, ho2, h2]
        · simp at hc
      · simp at hc

theorem kpick_sound {env : List (List Nat)} {ienv : List (List Itv)} (h : EnvIn2 env ienv) :
    ∀ (outs : List Nat) (post : List (List Itv)), kpick ienv outs = some post →
      ∃ o, kpick env outs = some o ∧ EnvIn2 o post
  | [], post, hp => by
      simp only [kpick, Option.some.injEq] at hp
      subst hp
      exact ⟨[], rfl, trivial⟩
  | i :: is, post, hp => by
      unfold kpick at hp
      split at hp
      · rename_i t r ht hr
        simp only [Option.some.injEq] at hp
        subst hp
        obtain ⟨x, hx, hxm⟩ := EnvIn2_get h ht
        obtain ⟨o, ho, hom⟩ := kpick_sound h is r hr
        exact ⟨x :: o, by simp [kpick, hx, ho], hxm, hom⟩
      · simp at hp

/-- **Soundness of the composed bound analysis.**  If `p.check pre = some post` then for all inputs inside `pre`:
no kernel call of the formula overflows or fails a debug assertion (`evalC` succeeds), the overflow-checked and the
wrapping runs return the same values, and the outputs lie inside `post`. -/
theorem KProg.check_sound (p : KProg) (pre post : List (List Itv)) (h : p.check pre = some post)
    (ins : List (List Nat)) (hin : EnvIn2 ins pre) :
    ∃ outs, p.evalC ins = some outs ∧ p.evalW ins = some outs ∧ EnvIn2 outs post := by
  unfold KProg.check at h
  split at h
  · rename_i hlen
    split at h
    · rename_i ienv hc
      obtain ⟨env', h1, h2, h3⟩ := kcheck_sound p.body pre ienv ins hin hc
      obtain ⟨o, ho, hom⟩ := kpick_sound h3 p.outs post h
      have hl : ins.length = p.nIn := by rw [EnvIn2_length hin, hlen]
      exact ⟨o, by simp [KProg.evalC, hl, h1, ho], by simp [KProg.evalW, hl, h2, ho], hom⟩
    · simp at h
  · simp at h

/-! ## Hinted analysis: externally proved Hoare triples for individual calls

The interval analysis is not relational; where a call needs a sharper post-condition than intervals can derive
(e.g. the IFMA squaring, whose top limb is bounded only by an argument relating `lo(x₂x₂)` and `hi(x₁x₂)`), a *hint*
`(position, pre, post)` replaces the analysis of that one call by a Hoare triple that has to be PROVED separately
(`HintsValid`). -/

/-- validity of a Hoare triple of a kernel under both semantics -/
def Triple (k : Prog) (pre post : List Itv) : Prop :=
  ∀ ins, EnvIn ins pre → ∃ outs, k.evalC ins = some outs ∧ k.evalW ins = outs ∧ EnvIn outs post

/-- a successful analysis is a triple -/
theorem Triple.of_norm {k : Prog} {pre post : List Itv} {q : NProg} (h : k.norm pre = some (q, post)) :
    Triple k pre post := fun ins hin =>
  let ⟨outs, h1, h2, h3, _⟩ := Prog.norm_sound k pre q post h ins hin
  ⟨outs, h1, h2, h3⟩

abbrev Hint := Nat × List Itv × List Itv

def findHint (hints : List Hint) (pos : Nat) : Option (List Itv × List Itv) :=
  match hints with
  | [] => none
  | (i, pr, po) :: hs => if i = pos then some (pr, po) else findHint hs pos

def kcheckH (hints : List Hint) : Nat → List KStmt → List (List Itv) → Option (List (List Itv))
  | _, [], ienv => some ienv
  | pos, s :: ss, ienv =>
    match gatherI ienv s.args with
    | some a =>
      match findHint hints pos with
      | some (pr, po) => if itvsLe a pr then kcheckH hints (pos + 1) ss (ienv ++ [po]) else none
      | none =>
        match s.k.norm a with
        | some (_, post) => kcheckH hints (pos + 1) ss (ienv ++ [post])
        | none => none
    | none => none

/-- every hint is a proved triple of the kernel called at that position of `body` (positions count from `pos0`) -/
def HintsValid (hints : List Hint) (pos0 : Nat) (body : List KStmt) : Prop :=
  ∀ pos pr po, findHint hints pos = some (pr, po) → ∀ s, body[pos - pos0]? = some s → pos0 ≤ pos → Triple s.k pr po

theorem HintsValid.tail {hints : List Hint} {pos0 : Nat} {s : KStmt} {ss : List KStmt}
    (h : HintsValid hints pos0 (s :: ss)) : HintsValid hints (pos0 + 1) ss := by
  intro pos pr po hf t ht hle
  have : pos - pos0 = (pos - (pos0 + 1)) + 1 := by omega
  apply h pos pr po hf t _ (by omega)
  rw [this, List.getElem?_cons_succ]
  exact ht

theorem kcheckH_sound (hints : List Hint) : ∀ (ss : List KStmt) (pos : Nat) (ienv ienv' : List (List Itv))
    (env : List (List Nat)), HintsValid hints pos ss → EnvIn2 env ienv → kcheckH hints pos ss ienv = some ienv' →
    ∃ env', krunC ss env = some env' ∧ krunW ss env = some env' ∧ EnvIn2 env' ienv'
  | [], pos, ienv, ienv', env, _, h, hc => by
      simp only [kcheckH, Option.some.injEq] at hc
      subst hc
      exact ⟨env, rfl, rfl, h⟩
  | s :: ss, pos, ienv, ienv', env, hv, h, hc => by
      unfold kcheckH at hc
      split at hc
      · rename_i a ha
        obtain ⟨x, hx, hxm⟩ := gather_sound h s.args a ha
        split at hc
        · rename_i pr po hf
          split at hc
          · rename_i hle
            have ht : Triple s.k pr po := hv pos pr po hf s (by simp) (Nat.le_refl _)
            obtain ⟨o, ho1, ho2, ho3⟩ := ht x (EnvIn_of_itvsLe hxm hle)
            obtain ⟨env', h1, h2, h3⟩ :=
              kcheckH_sound hints ss (pos + 1) (ienv ++ [po]) ienv' (env ++ [o]) hv.tail (EnvIn2_snoc h ho3) hc
            refine ⟨env', ?_, ?_, h3⟩
            · simp [krunC, hx, ho1, h1]
            · simp [krunW, hx, ho2, h2]
          · simp at hc
        · split at hc
          · rename_i q post hn
            obtain ⟨o, ho1, ho2, ho3, _⟩ := Prog.norm_sound s.k a q post hn x hxm
            obtain ⟨env', h1, h2, h3⟩ :=
              kcheckH_sound hints ss (pos + 1) (ienv ++ [post]) ienv' (env ++ [o]) hv.tail (EnvIn2_snoc h ho3) hc
            refine ⟨env', ?_, ?_, h3⟩
            · simp [krunC, hx, ho1, h1]
            · simp [krunW, hx, ho2, h2]
          · simp at hc
      · simp at hc

def KProg.checkH (p : KProg) (hints : List Hint) (pre : List (List Itv)) : Option (List (List Itv)) :=
  if pre.length = p.nIn then
    match kcheckH hints 0 p.body pre with
    | some ienv => kpick ienv p.outs
    | none => none
  else none

/-- **Soundness of the hinted analysis**: as `KProg.check_sound`, given that every hint is a proved triple of the
kernel it is attached to. -/
theorem KProg.checkH_sound (p : KProg) (hints : List Hint) (pre post : List (List Itv))
    (hv : HintsValid hints 0 p.body) (h : p.checkH hints pre = some post)
    (ins : List (List Nat)) (hin : EnvIn2 ins pre) :
    ∃ outs, p.evalC ins = some outs ∧ p.evalW ins = some outs ∧ EnvIn2 outs post := by
  unfold KProg.checkH at h
  split at h
  · rename_i hlen
    split at h
    · rename_i ienv hc
      obtain ⟨env', h1, h2, h3⟩ := kcheckH_sound hints p.body 0 pre ienv ins hv hin hc
      obtain ⟨o, ho, hom⟩ := kpick_sound h3 p.outs post h
      have hl : ins.length = p.nIn := by rw [EnvIn2_length hin, hlen]
      exact ⟨o, by simp [KProg.evalC, hl, h1, ho], by simp [KProg.evalW, hl, h2, ho], hom⟩
    · simp at h
  · simp at h

/-- a single hint at position `i` is valid when the kernel called there satisfies the triple -/
theorem HintsValid.single (body : List KStmt) (i : Nat) (pr po : List Itv)
    (h : ∀ s, body[i]? = some s → Triple s.k pr po) : HintsValid [(i, pr, po)] 0 body := by
  intro pos pr' po' hf s hs _
  simp only [findHint] at hf
  split at hf
  · rename_i he
    simp only [Option.some.injEq, Prod.mk.injEq] at hf
    obtain ⟨rfl, rfl⟩ := hf
    subst he
    exact h s (by simpa using hs)
  · simp at hf

theorem HintsValid.nil (pos0 : Nat) (body : List KStmt) : HintsValid [] pos0 body := by
  intro pos pr po hf
  simp [findHint] at hf

/-! ## inclusion of interval-vector lists, and the packaged "checked chain" statement -/

def itvs2Le : List (List Itv) → List (List Itv) → Bool
  | [], [] => true
  | s :: ss, t :: ts => itvsLe s t && itvs2Le ss ts
  | _, _ => false

theorem EnvIn2_of_itvs2Le : ∀ {xs : List (List Nat)} {s t : List (List Itv)}, EnvIn2 xs s → itvs2Le s t = true → EnvIn2 xs t
  | [], [], [], _, _ => trivial
  | x :: xs, a :: s, b :: t, h, hle => by
      simp only [itvs2Le, Bool.and_eq_true] at hle
      exact ⟨EnvIn_of_itvsLe h.1 hle.1, EnvIn2_of_itvs2Le h.2 hle.2⟩
  | [], [], _ :: _, _, hle => by simp [itvs2Le] at hle
  | _, _ :: _, [], _, hle => by simp [itvs2Le] at hle
  | [], _ :: _, _, h, _ => by simp [EnvIn2] at h
  | _ :: _, [], _, h, _ => by simp [EnvIn2] at h

/-- the analysis succeeds on `pre` and its post-intervals are inside `inv` (a decidable statement, evaluated by the kernel) -/
def KProg.chainOk (p : KProg) (hints : List Hint) (pre inv : List (List Itv)) : Bool :=
  match p.checkH hints pre with
  | some post => itvs2Le post inv
  | none => false

/-- what `chainOk` means: for all inputs inside `pre` the formula runs without overflow / assertion failure under the
checked semantics, agrees with the wrapping semantics, and its outputs are inside `inv` -/
def KProg.Safe (p : KProg) (pre inv : List (List Itv)) : Prop :=
  ∀ ins, EnvIn2 ins pre → ∃ outs, p.evalC ins = some outs ∧ p.evalW ins = some outs ∧ EnvIn2 outs inv

theorem KProg.safe_of_chainOk (p : KProg) (hints : List Hint) (pre inv : List (List Itv))
    (hv : HintsValid hints 0 p.body) (h : p.chainOk hints pre inv = true) : p.Safe pre inv := by
  unfold KProg.chainOk at h
  split at h
  · rename_i post hc
    intro ins hin
    obtain ⟨outs, h1, h2, h3⟩ := p.checkH_sound hints pre post hv hc ins hin
    exact ⟨outs, h1, h2, EnvIn2_of_itvs2Le h3 h⟩
  · simp at h

end Dalek.IR
