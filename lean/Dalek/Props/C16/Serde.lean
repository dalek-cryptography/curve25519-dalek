import Dalek.Proofs.Serde

/-!
# C16 — serialised forms are the canonical encodings and deserialisation validates

Statements about the hand model `Dalek.Model.Serde` (`bincodeSer`/`bincodeDe` = `bincode::serialize` /
`bincode::deserialize`, `jsonSer`/`jsonDe` = `serde_json::to_vec` / `from_slice` for the eleven serialisable
types `Ty`), which the correspondence run compares with the real `serde` impls (ops `serde.*`).  A value is
represented by its canonical NATIVE byte string `v` (`Scalar::to_bytes`, `compress()`, `as_bytes()`, …);
`validate ty b` is the native decoder followed by re-encoding, and

  `Valid ty v  :=  validate ty v = some v`        ("`v` is the native encoding of a valid value"),

characterised per type by `valid_scalar_iff`, `valid_edwards_iff`, `valid_vk_iff`, `valid_ristretto_iff`,
`valid_plain_iff` below.

* **`ser_canonical`** — `bincode_ser_tuple`, `bincode_ser_bytes`, `json_ser_canonical`, `natToDec_spec`.
* **`de_ser`** — `bincode_de_ser`, `json_de_ser` (all types, uniformly in `Valid`), their per-type readings
  (`scalar_de_ser`, `edwards_de_ser`, `vk_de_ser`, …), `static_secret_unclamped`.
* **`de_validates`** — `bincode_de_validates` / `json_de_validates`: the EXACT set of accepted inputs
  (`↔`), the slack being exactly the model's (= the real libraries'): bincode ignores bytes after a complete value,
  JSON allows whitespace between tokens (and, for the two `deserialize_bytes` types `vk`/`sk`, a JSON string);
  per-type readings; the rejection theorems (`invalid_native_rejected`, `noncanonical_scalar_rejected`,
  `invalid_edwards_rejected`, `invalid_ristretto_rejected`, `bincode_short_rejected_*`,
  `json_wrong_count_rejected`, `json_token_rejected`, `json_empty_array_rejected`).

For `ristretto` the RFC 9496 round trip `decode b = some p → encode p = b` is proved
(`ristretto_encode_decode_id`), so the valid values are exactly the byte strings DECODE accepts.  What is NOT
proved here (it belongs to C06, not to the serde layer): that `compress()` of an ARBITRARY internal
representative of a Ristretto element (any point of the even subgroup, e.g. the result of arithmetic — not one
that came out of DECODE) is such a byte string.  The model, like the driver, only builds `RistrettoPoint`
values by decoding.
-/

namespace Dalek.Props.C16

open Dalek.Spec Dalek.Model.Serde Dalek.Bridge Dalek.Proofs.Serde

/-! ## Valid values, per type -/

/-- `Scalar`: `from_canonical_bytes` — 32 bytes denoting an integer `< ℓ`. -/
theorem valid_scalar_iff {v : List UInt8} :
    Valid .scalar v ↔ v.length = 32 ∧ leToNat v < L := by
  rw [valid_scalar, isCanonicalScalar_iff]

/-- `EdwardsPoint`: the encodings `compress p` of the (canonical affine) curve points. -/
theorem valid_edwards_iff {v : List UInt8} :
    Valid .edwards v ↔ ∃ p, onCurve p = true ∧ Canon p ∧ v = compress p := valid_edwards

/-- `EdwardsPoint`, intrinsically: 32 bytes that decompress and are a canonical encoding (`y` reduced, not the
"negative zero"). -/
theorem valid_edwards_iff_canonical {v : List UInt8} :
    Valid .edwards v ↔ v.length = 32 ∧ (decompress v).isSome = true ∧ CanonicalEdwardsEncoding v := by
  constructor
  · intro h
    obtain ⟨p, h1, h2, rfl⟩ := valid_edwards.1 h
    exact ⟨compress_length p, by rw [decompress_compress h1 h2]; rfl, h.canonicalEdwards⟩
  · rintro ⟨hl, hs, hc⟩
    obtain ⟨p, hp⟩ := Option.isSome_iff_exists.1 hs
    have hv : validate .edwards v = some (compress p) := validate_edwards.2 ⟨hl, p, hp, rfl⟩
    have := validate_edwards_canonical hv hc
    unfold Valid; rw [hv, this]

/-- `VerifyingKey`: `VerifyingKey::from_bytes` — 32 bytes that decompress (kept as given). -/
theorem valid_vk_iff {v : List UInt8} :
    Valid .vk v ↔ v.length = 32 ∧ decompress v ≠ none := by
  rw [valid_vk]; simp [Option.isSome_iff_ne_none]

/-- **RFC 9496 round trip**: re-encoding the element DECODEd from `b` gives `b` back. -/
theorem ristretto_encode_decode_id {b : List UInt8} {p : Pt} (h : Ristretto.decode b = some p) :
    Ristretto.encode p = b := ristretto_encode_decode h

/-- `RistrettoPoint`: the byte strings RFC 9496 DECODE accepts (32 bytes, `s` canonical and non-negative,
…). -/
theorem valid_ristretto_iff {v : List UInt8} :
    Valid .ristretto v ↔ Ristretto.decode v ≠ none := by
  rw [valid_ristretto]; simp [Option.isSome_iff_ne_none]

/-- `CompressedEdwardsY`, `CompressedRistretto`, `MontgomeryPoint`, `SigningKey` (seed), `Signature`,
`x25519::PublicKey`, `x25519::StaticSecret`: any 32 (64 for `sig`) bytes. -/
theorem valid_plain_iff {ty : Ty} (hty : Plain ty = true) {v : List UInt8} :
    Valid ty v ↔ v.length = ty.len := valid_plain hty

/-- The seven types of `valid_plain_iff`. -/
theorem plain_types : ∀ ty, Plain ty = true ↔
    ty = .cedwards ∨ ty = .cristretto ∨ ty = .montgomery ∨ ty = .sk ∨ ty = .sig ∨ ty = .xpub ∨
      ty = .xstatic := by
  intro ty; cases ty <;> simp [Plain]

/-- The hypotheses are satisfiable: the basepoint encoding is a valid `edwards`, `vk` and its 32 bytes a valid
value of every 32-byte plain type; `1` is a valid scalar. -/
example : Valid .edwards (compress B) ∧ Valid .vk (compress B) ∧ Valid .montgomery (compress B) ∧
    Valid .scalar (scToBytes 1) := by
  refine ⟨valid_edwards.2 ⟨B, onCurve_B, canon_B, rfl⟩, valid_vk.2 ⟨compress_length B, ?_⟩,
    (valid_plain (ty := .montgomery) rfl).2 (compress_length B),
    valid_scalar.2 (isCanonicalScalar_scToBytes 1)⟩
  rw [decompress_compress onCurve_B canon_B]; rfl

/-! ## `ser_canonical` -/

/-- bincode, tuple types (everything but `vk`, `sk`): the serialisation is exactly the native bytes. -/
theorem bincode_ser_tuple {ty : Ty} (hty : ty.bytesStyle = false) (v : List UInt8) :
    bincodeSer ty v = v := bincodeSer_plain hty v

/-- bincode, `serialize_bytes` types (`vk`, `sk`): the `u64` little-endian length, then the native bytes. -/
theorem bincode_ser_bytes {ty : Ty} (hty : ty.bytesStyle = true) {v : List UInt8} (hv : v.length = 32) :
    bincodeSer ty v = [32, 0, 0, 0, 0, 0, 0, 0] ++ v := by
  rw [bincodeSer_bytes hty, hv]; rfl

/-- which types are `serialize_bytes` types -/
theorem bytesStyle_iff (ty : Ty) : ty.bytesStyle = true ↔ ty = .vk ∨ ty = .sk := by
  cases ty <;> simp [Ty.bytesStyle]

/-- JSON (all types): `[n₀,n₁,…]`, the compact array of the byte values … -/
theorem json_ser_canonical (ty : Ty) (v : List UInt8) :
    jsonSer ty v = [0x5b] ++ intercalateBytes 0x2c (v.map fun b => natToDec b.toNat) ++ [0x5d] := rfl

/-- … each printed in decimal without leading zeros (`'0' = 48`). -/
theorem natToDec_spec (b : UInt8) :
    natToDec b.toNat =
      if b.toNat < 10 then [UInt8.ofNat (48 + b.toNat)]
      else if b.toNat < 100 then [UInt8.ofNat (48 + b.toNat / 10), UInt8.ofNat (48 + b.toNat % 10)]
      else [UInt8.ofNat (48 + b.toNat / 100), UInt8.ofNat (48 + b.toNat / 10 % 10),
        UInt8.ofNat (48 + b.toNat % 10)] :=
  natToDec_eq_refDec b.toNat (UInt8.toNat_lt b)

/-- The compact serialisation is a JSON array of `v` in the sense of `IsJsonArrayOf` (no whitespace). -/
theorem json_ser_isJsonArrayOf (ty : Ty) {v : List UInt8} (hv : v ≠ []) :
    IsJsonArrayOf v (jsonSer ty v) := jsonSer_isJsonArrayOf ty hv

/-! ## `de_ser` -/

/-- **bincode round trip**, every type, every valid value; bytes after the value are ignored
(`bincode::deserialize` does not require the input to be consumed). -/
theorem bincode_de_ser {ty : Ty} {v : List UInt8} (hv : Valid ty v) (trailing : List UInt8 := []) :
    bincodeDe ty (bincodeSer ty v ++ trailing) = .ok v := by
  rw [bincodeDe_ser_append ty hv.length, hv]; rfl

/-- **JSON round trip**, every type, every valid value. -/
theorem json_de_ser {ty : Ty} {v : List UInt8} (hv : Valid ty v) :
    jsonDe ty (jsonSer ty v) = .ok v := by
  rw [jsonDe_ser, if_pos hv.length, hv]; rfl

/-- JSON round trip through any re-formatting of the array with whitespace. -/
theorem json_de_ser_ws {ty : Ty} {v x : List UInt8} (hv : Valid ty v) (hx : IsJsonArrayOf v x) :
    jsonDe ty x = .ok v := by
  rw [jsonDe_of_isJsonArrayOf ty hx, if_pos hv.length, hv]; rfl

/-- both round trips of a valid value; the per-type readings below supply `Valid` -/
theorem de_ser {ty : Ty} {v : List UInt8} (hv : Valid ty v) :
    bincodeDe ty (bincodeSer ty v) = .ok v ∧ jsonDe ty (jsonSer ty v) = .ok v :=
  ⟨by simpa using bincode_de_ser hv, json_de_ser hv⟩

/-- `Scalar`: every scalar (as `n mod ℓ`) round-trips in both formats. -/
theorem scalar_de_ser (n : Nat) :
    bincodeDe .scalar (bincodeSer .scalar (scToBytes n)) = .ok (scToBytes n) ∧
    jsonDe .scalar (jsonSer .scalar (scToBytes n)) = .ok (scToBytes n) :=
  de_ser (valid_scalar.2 (isCanonicalScalar_scToBytes n))

/-- `EdwardsPoint`: every curve point round-trips in both formats. -/
theorem edwards_de_ser {p : Pt} (hp : onCurve p = true) (cp : Canon p) :
    bincodeDe .edwards (bincodeSer .edwards (compress p)) = .ok (compress p) ∧
    jsonDe .edwards (jsonSer .edwards (compress p)) = .ok (compress p) :=
  de_ser (valid_edwards.2 ⟨p, hp, cp, rfl⟩)

/-- `VerifyingKey`: every key `VerifyingKey::from_bytes` accepts round-trips (bytes kept verbatim, also a
non-canonical encoding). -/
theorem vk_de_ser {b : List UInt8} (hl : b.length = 32) (hd : decompress b ≠ none) :
    bincodeDe .vk (bincodeSer .vk b) = .ok b ∧ jsonDe .vk (jsonSer .vk b) = .ok b :=
  de_ser (valid_vk_iff.2 ⟨hl, hd⟩)

/-- The seven unchecked types: every byte string of the right length round-trips. -/
theorem plain_de_ser {ty : Ty} (hty : Plain ty = true) {b : List UInt8} (hl : b.length = ty.len) :
    bincodeDe ty (bincodeSer ty b) = .ok b ∧ jsonDe ty (jsonSer ty b) = .ok b :=
  de_ser ((valid_plain hty).2 hl)

/-- **X25519 static secrets round-trip unclamped**: the 32 secret bytes come back verbatim — not
`clampInteger b` — in both formats. -/
theorem static_secret_unclamped {b : List UInt8} (hl : b.length = 32) :
    bincodeDe .xstatic (bincodeSer .xstatic b) = .ok b ∧ jsonDe .xstatic (jsonSer .xstatic b) = .ok b :=
  plain_de_ser (ty := .xstatic) rfl hl

/-- … and this differs from the clamped bytes (e.g. for the all-`0xff` secret). -/
example : clampInteger (List.replicate 32 0xff) ≠ List.replicate 32 0xff := by decide

/-- `RistrettoPoint`: every encoding DECODE accepts round-trips in both formats. -/
theorem ristretto_de_ser {v : List UInt8} (hd : Ristretto.decode v ≠ none) :
    bincodeDe .ristretto (bincodeSer .ristretto v) = .ok v ∧
    jsonDe .ristretto (jsonSer .ristretto v) = .ok v :=
  de_ser (valid_ristretto_iff.2 hd)

/-- the hypothesis of `ristretto_de_ser` is satisfiable (identity element = the all-zero string; and the
canonical generator encoding of RFC 9496 appendix A.1) -/
example : Ristretto.decode (List.replicate 32 0) ≠ none ∧
    Ristretto.decode (Ristretto.encode B) ≠ none := by
  constructor <;> decide +kernel

/-! ## `de_validates` -/

/-- **bincode accepts exactly** the serialisations of byte strings `b` that pass the native rule, followed by
arbitrary bytes; the result is the native re-encoding `v` of the decoded value.  Moreover
(`native_rule_validates`) `v` is a valid value, and `b = v` (the input was the canonical serialisation of the
result) for every type except `edwards`, whose native decoder also accepts non-canonical encodings `b` of `v`
(see `edwards_bincode_de_validates`, `edwards_result_canonical`). -/
theorem bincode_de_validates {ty : Ty} {x v : List UInt8} :
    bincodeDe ty x = .ok v ↔ ∃ b trailing, x = bincodeSer ty b ++ trailing ∧ validate ty b = some v :=
  bincodeDe_ok_iff

/-- the consequences of `validate ty b = some v` used in `bincode_de_validates` / `json_de_validates` -/
theorem native_rule_validates {ty : Ty} {b v : List UInt8} (h : validate ty b = some v) :
    b.length = ty.len ∧ Valid ty v ∧ (ty ≠ .edwards → b = v) ∧
    (ty = .edwards → CanonicalEdwardsEncoding b → b = v) :=
  ⟨validate_length h, validate_valid h, fun h1 => (validate_eq_input h1 h).symm,
    fun h1 hc => by subst h1; exact (validate_edwards_canonical h hc).symm⟩

/-- `bincodeDe` never answers `skip` (the model covers all of bincode's behaviour on these types). -/
theorem bincode_total (ty : Ty) (x : List UInt8) : bincodeDe ty x ≠ .skip := bincodeDe_ne_skip ty x

/-- **JSON accepts exactly** (a) the arrays — with optional whitespace around the tokens — of the canonical
decimal forms of bytes `b` passing the native rule, and (b) for the `deserialize_bytes` types `vk`, `sk`
only, a JSON string whose unescaped raw bytes `b` pass the native rule (`IsJsonStringOf`: serde_json hands
the bytes of a string to `visit_bytes`). -/
theorem json_de_validates {ty : Ty} {x v : List UInt8} :
    jsonDe ty x = .ok v ↔
      (∃ b, IsJsonArrayOf b x ∧ validate ty b = some v) ∨
      (ty.bytesStyle = true ∧ ∃ b, IsJsonStringOf b x ∧ validate ty b = some v) :=
  jsonDe_ok_iff

/-- `jsonDe` answers `skip` ("outside the modelled fragment") only for `vk`/`sk` on a JSON STRING containing
a `\u` escape; on every array input and for every other type the model is total. -/
theorem json_skip_only_string_escape {ty : Ty} {x : List UInt8} (h : jsonDe ty x = .skip) :
    ty.bytesStyle = true ∧ ∃ w0 body, AllWs w0 ∧ x = w0 ++ 0x22 :: body ∧
      readRawString body [] = some none := jsonDe_skip_inv h

/-! ### Per-type readings -/

/-- `Scalar`, bincode: accepted iff the first 32 bytes are a canonical scalar; they are returned. -/
theorem scalar_bincode_de_validates {x v : List UInt8} :
    bincodeDe .scalar x = .ok v ↔ (v.length = 32 ∧ leToNat v < L) ∧ ∃ trailing, x = v ++ trailing := by
  rw [(de_ok_iff (ty := .scalar) nofun).1, valid_scalar_iff]; rfl

/-- `Scalar`, JSON: accepted iff the input is a JSON array of the 32 bytes of a canonical scalar. -/
theorem scalar_json_de_validates {x v : List UInt8} :
    jsonDe .scalar x = .ok v ↔ (v.length = 32 ∧ leToNat v < L) ∧ IsJsonArrayOf v x := by
  rw [(de_ok_iff (ty := .scalar) nofun).2, valid_scalar_iff]; simp [Ty.bytesStyle]

/-- `EdwardsPoint`, bincode: accepted iff the first 32 bytes `b` decompress (dalek's rule, which also takes
non-canonical `b`); the result is the canonical encoding of that point, and it equals `b` whenever `b` is a
canonical encoding. -/
theorem edwards_bincode_de_validates {x v : List UInt8} :
    bincodeDe .edwards x = .ok v ↔
      ∃ b trailing p, x = b ++ trailing ∧ b.length = 32 ∧ decompress b = some p ∧ v = compress p := by
  rw [bincode_de_validates]
  constructor
  · rintro ⟨b, t, rfl, hv⟩
    obtain ⟨hl, p, hp, rfl⟩ := validate_edwards.1 hv
    exact ⟨b, t, p, by rw [bincodeSer_plain rfl], hl, hp, rfl⟩
  · rintro ⟨b, t, p, rfl, hl, hp, rfl⟩
    exact ⟨b, t, by rw [bincodeSer_plain rfl], validate_edwards.2 ⟨hl, p, hp, rfl⟩⟩

/-- `EdwardsPoint`, JSON. -/
theorem edwards_json_de_validates {x v : List UInt8} :
    jsonDe .edwards x = .ok v ↔
      ∃ b p, IsJsonArrayOf b x ∧ b.length = 32 ∧ decompress b = some p ∧ v = compress p := by
  rw [json_de_validates]
  constructor
  · rintro (⟨b, hb, hv⟩ | ⟨h, -⟩)
    · obtain ⟨hl, p, hp, rfl⟩ := validate_edwards.1 hv
      exact ⟨b, p, hb, hl, hp, rfl⟩
    · cases h
  · rintro ⟨b, p, hb, hl, hp, rfl⟩
    exact Or.inl ⟨b, hb, validate_edwards.2 ⟨hl, p, hp, rfl⟩⟩

/-- `EdwardsPoint`: the accepted `b` IS the canonical serialisation of the result when it is a canonical
encoding; in every case the result is a valid value (the canonical encoding of a curve point). -/
theorem edwards_result_canonical {b v : List UInt8} {p : Pt} (hl : b.length = 32)
    (hp : decompress b = some p) (hv : v = compress p) :
    Valid .edwards v ∧ (CanonicalEdwardsEncoding b → b = v) := by
  have h : validate .edwards b = some v := validate_edwards.2 ⟨hl, p, hp, hv⟩
  exact ⟨validate_valid h, fun hc => (validate_edwards_canonical h hc).symm⟩

/-- The slack of `edwards_result_canonical` is real (and is dalek's): the 32 bytes of `2^255 - 18 = p + 1`
(the identity `y = 1` written with a non-reduced `y`) are accepted and re-serialise as the canonical
`01 00 … 00`. -/
example : bincodeDe .edwards (natToLe (2 ^ 255 - 18) 32) = .ok (natToLe 1 32) := by decide +kernel

/-- `VerifyingKey`, bincode: accepted iff the input is `32u64` (LE), then 32 bytes that decompress, then
anything; the 32 bytes are returned. -/
theorem vk_bincode_de_validates {x v : List UInt8} :
    bincodeDe .vk x = .ok v ↔
      (v.length = 32 ∧ decompress v ≠ none) ∧ ∃ trailing, x = [32, 0, 0, 0, 0, 0, 0, 0] ++ v ++ trailing := by
  rw [(de_ok_iff (ty := .vk) nofun).1, valid_vk_iff]
  exact and_congr_right fun h => by rw [bincode_ser_bytes rfl h.1]

/-- `VerifyingKey`, JSON: a JSON array of — or a JSON string whose raw bytes are — 32 bytes that
decompress. -/
theorem vk_json_de_validates {x v : List UInt8} :
    jsonDe .vk x = .ok v ↔
      (v.length = 32 ∧ decompress v ≠ none) ∧ (IsJsonArrayOf v x ∨ IsJsonStringOf v x) := by
  rw [(de_ok_iff (ty := .vk) nofun).2, valid_vk_iff]; simp [Ty.bytesStyle]

/-- `RistrettoPoint`, both formats: accepted iff the 32 bytes DECODE (RFC 9496 rule: canonical non-negative
`s`, square, non-negative `t`, `y ≠ 0`); they are returned (they ARE the canonical encoding of the element). -/
theorem ristretto_de_validates {x v : List UInt8} :
    (bincodeDe .ristretto x = .ok v ↔ Ristretto.decode v ≠ none ∧ ∃ trailing, x = v ++ trailing) ∧
    (jsonDe .ristretto x = .ok v ↔ Ristretto.decode v ≠ none ∧ IsJsonArrayOf v x) := by
  rw [(de_ok_iff (ty := .ristretto) nofun).1, (de_ok_iff (ty := .ristretto) nofun).2, valid_ristretto_iff]
  exact ⟨Iff.rfl, by simp [Ty.bytesStyle]⟩

/-- The seven unchecked types, both formats: accepted iff `len` bytes are present (bincode: `sk` with its
length prefix; JSON: `sk` also as a string); they are returned verbatim.  In particular `Signature`'s
`Deserialize` checks neither `R` nor `S`, and `StaticSecret` is not clamped. -/
theorem plain_de_validates {ty : Ty} (hty : Plain ty = true) {x v : List UInt8} :
    (bincodeDe ty x = .ok v ↔ v.length = ty.len ∧ ∃ trailing, x = bincodeSer ty v ++ trailing) ∧
    (jsonDe ty x = .ok v ↔
      v.length = ty.len ∧ (IsJsonArrayOf v x ∨ (ty.bytesStyle = true ∧ IsJsonStringOf v x))) := by
  have h1 : ty ≠ .edwards := by rintro rfl; cases hty
  rw [(de_ok_iff h1).1, (de_ok_iff h1).2, valid_plain hty]
  exact ⟨Iff.rfl, Iff.rfl⟩

/-! ### Rejection -/

/-- **Whatever the native decoder rejects, both deserialisers reject**, in the canonical serialisation, with
trailing bytes (bincode) and in every whitespace variant of the array (JSON). -/
theorem invalid_native_rejected {ty : Ty} {b : List UInt8} (h : validate ty b = none) :
    (b.length = ty.len → ∀ trailing, bincodeDe ty (bincodeSer ty b ++ trailing) = .err) ∧
    (∀ x, IsJsonArrayOf b x → jsonDe ty x = .err) ∧ jsonDe ty (jsonSer ty b) = .err := by
  refine ⟨fun hl t => by rw [bincodeDe_ser_append ty hl, h]; rfl, fun x hx => ?_, ?_⟩
  · rw [jsonDe_of_isJsonArrayOf ty hx, h]; simp [ofOption]
  · rw [jsonDe_ser, h]; simp [ofOption]

/-- Non-canonical scalars (32 bytes denoting an integer `≥ ℓ`) are rejected. -/
theorem noncanonical_scalar_rejected {b : List UInt8} (hl : b.length = 32) (hb : L ≤ leToNat b) :
    (∀ trailing, bincodeDe .scalar (b ++ trailing) = .err) ∧ jsonDe .scalar (jsonSer .scalar b) = .err := by
  have h : validate .scalar b = none := by
    cases hv : validate .scalar b with
    | none => rfl
    | some v =>
      have := ((isCanonicalScalar_iff b).1 (validate_scalar.1 hv).1).2
      omega
  obtain ⟨h1, -, h3⟩ := invalid_native_rejected h
  exact ⟨fun t => by have := h1 hl t; rwa [bincodeSer_plain (ty := .scalar) rfl] at this, h3⟩

/-- Edwards encodings that do not decompress (no curve point has that `y`) are rejected — as `EdwardsPoint`
and as `VerifyingKey`. -/
theorem invalid_edwards_rejected {b : List UInt8} (hl : b.length = 32) (hb : decompress b = none) :
    (∀ trailing, bincodeDe .edwards (b ++ trailing) = .err) ∧
    jsonDe .edwards (jsonSer .edwards b) = .err ∧
    (∀ trailing, bincodeDe .vk ([32, 0, 0, 0, 0, 0, 0, 0] ++ b ++ trailing) = .err) ∧
    jsonDe .vk (jsonSer .vk b) = .err := by
  have h : validate .edwards b = none := by
    rw [validate_of_length (ty := .edwards) hl]; simp [rule, hb]
  have h' : validate .vk b = none := by
    rw [validate_of_length (ty := .vk) hl]; simp [rule, hb]
  obtain ⟨h1, -, h3⟩ := invalid_native_rejected h
  obtain ⟨h1', -, h3'⟩ := invalid_native_rejected h'
  refine ⟨fun t => by have := h1 hl t; rwa [bincodeSer_plain (ty := .edwards) rfl] at this, h3,
    fun t => ?_, h3'⟩
  have := h1' hl t
  rwa [bincode_ser_bytes rfl hl] at this

/-- Invalid Ristretto encodings (non-canonical `s`, negative `s`, non-square, …: whatever RFC 9496 DECODE
rejects) are rejected. -/
theorem invalid_ristretto_rejected {b : List UInt8} (hl : b.length = 32)
    (hb : Ristretto.decode b = none) :
    (∀ trailing, bincodeDe .ristretto (b ++ trailing) = .err) ∧
    jsonDe .ristretto (jsonSer .ristretto b) = .err := by
  have h : validate .ristretto b = none := by
    rw [validate_of_length (ty := .ristretto) hl]; simp [rule, hb]
  obtain ⟨h1, -, h3⟩ := invalid_native_rejected h
  exact ⟨fun t => by have := h1 hl t; rwa [bincodeSer_plain (ty := .ristretto) rfl] at this, h3⟩

/-- bincode, tuple types: fewer than `len` bytes are rejected. -/
theorem bincode_short_rejected_tuple {ty : Ty} (hty : ty.bytesStyle = false) {x : List UInt8}
    (h : x.length < ty.len) : bincodeDe ty x = .err := bincodeDe_short_plain hty h

/-- bincode, `vk`/`sk`: fewer than `8 + 32` bytes are rejected. -/
theorem bincode_short_rejected_bytes {ty : Ty} (hty : ty.bytesStyle = true) {x : List UInt8}
    (h : x.length < 40) : bincodeDe ty x = .err := bincodeDe_short_bytes hty h

/-- bincode, `vk`/`sk`: a length prefix other than `32` is rejected (whatever follows). -/
theorem bincode_bad_length_prefix_rejected {ty : Ty} (hty : ty.bytesStyle = true)
    {pre rest : List UInt8} (hpre : pre.length = 8) (h : leToNat pre ≠ 32) :
    bincodeDe ty (pre ++ rest) = .err := by
  cases hd : bincodeDe ty (pre ++ rest) with
  | err => rfl
  | skip => exact absurd hd (bincodeDe_ne_skip ty _)
  | ok v =>
    exfalso
    obtain ⟨b, t, hx, hv⟩ := bincodeDe_ok_iff.1 hd
    have hl := validate_length hv
    rw [bytesStyle_len hty] at hl
    rw [bincodeSer_bytes hty, hl, List.append_assoc] at hx
    have h8 : (natToLe 32 8).length = 8 := natToLe_length _ _
    have := (List.append_inj hx (by rw [hpre, h8])).1
    apply h
    rw [this, leToNat_natToLe]; norm_num

/-- JSON: an array with a number of elements other than `len` (31, 33, …, also with whitespace) is
rejected, for every type. -/
theorem json_wrong_count_rejected (ty : Ty) {b x : List UInt8} (hx : IsJsonArrayOf b x)
    (hl : b.length ≠ ty.len) : jsonDe ty x = .err := by
  rw [jsonDe_of_isJsonArrayOf ty hx, if_neg hl]

/-- … in particular in the compact form, and for the empty array. -/
theorem json_wrong_count_rejected_compact (ty : Ty) {b : List UInt8} (hl : b.length ≠ ty.len) :
    jsonDe ty (jsonSer ty b) = .err := by
  rw [jsonDe_ser, if_neg hl]

/-- JSON: on ANY array of digit-string tokens (`arrayText`: whitespace `w…`, pads around the commas) the
answer is `ok` only if there are exactly `len` tokens and every token is an accepted `u8` token (`TokOK`: no
leading zero, value ≤ 255); so **an element > 255 — or written with a leading zero — is rejected**, wherever
it stands (even beyond position `len`). -/
theorem json_token_rejected (ty : Ty) {w0 w1 t0 : List UInt8} {pads : List (List UInt8 × List UInt8)}
    {toks : List (List UInt8)} {w2 w3 : List UInt8}
    (h0 : AllWs w0) (h1 : AllWs w1) (h2 : AllWs w2) (h3 : AllWs w3) (hp : PadsWs pads)
    (hlen : pads.length = toks.length) (hd : ∀ t ∈ t0 :: toks, IsDigits t)
    (hbad : toks.length + 1 ≠ ty.len ∨ ∃ t ∈ t0 :: toks, 255 < tokVal t ∨ (t ≠ [0x30] ∧ t.head? = some 0x30)) :
    jsonDe ty (arrayText w0 w1 t0 pads toks w2 w3) = .err := by
  rw [jsonDe_arrayText ty h0 h1 h2 h3 hp hlen (hd t0 (by simp))
    (fun t ht => hd t (List.mem_cons_of_mem _ ht))]
  apply if_neg
  rintro ⟨hl, hall⟩
  rcases hbad with hbad | ⟨t, ht, hbad⟩
  · exact hbad hl
  · obtain ⟨hh, hv⟩ := hall t ht
    rcases hbad with hbad | ⟨hb1, hb2⟩
    · omega
    · rcases hh with hh | hh
      · exact hb1 hh
      · exact hh hb2

/-- the empty array is rejected -/
theorem json_empty_array_rejected (ty : Ty) : jsonDe ty [0x5b, 0x5d] = .err :=
  jsonDe_empty_array ty (w0 := []) (w1 := []) allWs_nil allWs_nil []

/-- Concrete instances (kernel-evaluated): 31 and 33 elements, an element `256`, a leading zero, a trailing
comma, a negative number, a fraction are all rejected; whitespace is accepted. -/
example :
    let z31 := (List.replicate 31 [0x30, 0x2c]).flatten   -- "0," × 31
    jsonDe .cedwards ([0x5b] ++ z31 ++ [0x30, 0x5d]) = .ok (List.replicate 32 0) ∧            -- 32 × 0
    jsonDe .cedwards ([0x20, 0x5b, 0x0a] ++ z31 ++ [0x20, 0x30, 0x09, 0x5d, 0x0d]) = .ok (List.replicate 32 0) ∧
    jsonDe .cedwards ([0x5b] ++ z31.drop 2 ++ [0x30, 0x5d]) = .err ∧                          -- 31 elements
    jsonDe .cedwards ([0x5b] ++ z31 ++ [0x30, 0x2c, 0x30, 0x5d]) = .err ∧                     -- 33 elements
    jsonDe .cedwards ([0x5b] ++ z31 ++ [0x32, 0x35, 0x36, 0x5d]) = .err ∧                     -- …,256]
    jsonDe .cedwards ([0x5b] ++ z31 ++ [0x32, 0x35, 0x35, 0x5d]) = .ok (List.replicate 31 0 ++ [255]) ∧
    jsonDe .cedwards ([0x5b] ++ z31 ++ [0x30, 0x31, 0x5d]) = .err ∧                           -- …,01]
    jsonDe .cedwards ([0x5b] ++ z31 ++ [0x30, 0x2c, 0x5d]) = .err ∧                           -- …,0,]
    jsonDe .cedwards ([0x5b] ++ z31 ++ [0x2d, 0x31, 0x5d]) = .err ∧                           -- …,-1]
    jsonDe .cedwards ([0x5b] ++ z31 ++ [0x31, 0x2e, 0x30, 0x5d]) = .err ∧                     -- …,1.0]
    jsonDe .cedwards ([0x5b] ++ z31 ++ [0x30, 0x5d, 0x30]) = .err := by                       -- …,0]0
  decide +kernel

/-! ## Axiom audit -/

/-- info: 'Dalek.Props.C16.bincode_de_ser' depends on axioms: [propext, Classical.choice, Quot.sound] -/
#guard_msgs in #print axioms bincode_de_ser
/-- info: 'Dalek.Props.C16.json_de_ser' depends on axioms: [propext, Classical.choice, Quot.sound] -/
#guard_msgs in #print axioms json_de_ser
/-- info: 'Dalek.Props.C16.json_de_ser_ws' depends on axioms: [propext, Classical.choice, Quot.sound] -/
#guard_msgs in #print axioms json_de_ser_ws
/-- info: 'Dalek.Props.C16.bincode_de_validates' depends on axioms: [propext, Classical.choice, Quot.sound] -/
#guard_msgs in #print axioms bincode_de_validates
/-- info: 'Dalek.Props.C16.json_de_validates' depends on axioms: [propext, Classical.choice, Quot.sound] -/
#guard_msgs in #print axioms json_de_validates
/-- info: 'Dalek.Props.C16.native_rule_validates' depends on axioms: [propext, Classical.choice, Quot.sound] -/
#guard_msgs in #print axioms native_rule_validates
/-- info: 'Dalek.Props.C16.valid_edwards_iff_canonical' depends on axioms: [propext, Classical.choice, Quot.sound] -/
#guard_msgs in #print axioms valid_edwards_iff_canonical
/-- info: 'Dalek.Props.C16.edwards_bincode_de_validates' depends on axioms: [propext, Classical.choice, Quot.sound] -/
#guard_msgs in #print axioms edwards_bincode_de_validates
/-- info: 'Dalek.Props.C16.vk_json_de_validates' depends on axioms: [propext, Classical.choice, Quot.sound] -/
#guard_msgs in #print axioms vk_json_de_validates
/-- info: 'Dalek.Props.C16.invalid_native_rejected' depends on axioms: [propext, Classical.choice, Quot.sound] -/
#guard_msgs in #print axioms invalid_native_rejected
/-- info: 'Dalek.Props.C16.json_token_rejected' depends on axioms: [propext, Classical.choice, Quot.sound] -/
#guard_msgs in #print axioms json_token_rejected
/-- info: 'Dalek.Props.C16.ristretto_encode_decode_id' depends on axioms: [propext, Classical.choice, Quot.sound] -/
#guard_msgs in #print axioms ristretto_encode_decode_id
/-- info: 'Dalek.Props.C16.ristretto_de_validates' depends on axioms: [propext, Classical.choice, Quot.sound] -/
#guard_msgs in #print axioms ristretto_de_validates
/-- info: 'Dalek.Props.C16.ristretto_de_ser' depends on axioms: [propext, Classical.choice, Quot.sound] -/
#guard_msgs in #print axioms ristretto_de_ser
/-- info: 'Dalek.Props.C16.static_secret_unclamped' depends on axioms: [propext, Classical.choice, Quot.sound] -/
#guard_msgs in #print axioms static_secret_unclamped

end Dalek.Props.C16
