import Dalek.Proofs.Bytes51
import Dalek.Gen.Norm.FiatField51
/-!
# Byte codecs of the fiat u64 field backend: integer-level correctness of the normalised kernels

Helper lemmas for `Dalek/Props/C01/FiatBytes51.lean`.  The kernels are `Dalek.Gen.FiatField51.from_bytes` / `as_bytes`
(the wrapper methods of `backend/serial/fiat_u64/field.rs` with `fiat_25519_from_bytes` / `fiat_25519_to_bytes` inlined);
the objects here are their verified normal forms `Dalek.Gen.Norm.FiatField51.{from_bytes_fn, as_bytes_fn}`.

* `from_bytes_fn_eq`: on bytes in `[0,255]` the five limbs are `digits ws51 (N % 2^255)`, `N` the little-endian value
  of the 32 bytes (the code is one carry chain over groups of shifted bytes);
* `as_bytes_fn_eq_model`: the generated normal form equals the hand model `asBytesFiat51` (both written out, up to
  `x - 0`, `0 + x` and the spelling of constants);
* `asBytesFiat51_eq`, `as_bytes_fn_eq`: for limbs in fiat's TIGHT bounds `[0, 2^51]` (inclusive) the 32 output bytes are
  the base-256 digits of `(Σ a_i 2^(51 i)) % p`: the subtract-with-borrow chain computing `A - p` and the add-with-carry
  chain adding `p` back are carry chains (`borrow_step`, `Chain.spec`), `fiat_canon` is the case analysis on the final
  borrow, and the packing is a carry chain in radix `2^8` (`chainOut_bytes`).

No script refers to SSA numbers or to the order of the generated `let`s.
-/
namespace Dalek.Proofs.FiatBytes51
open Dalek Dalek.IR Dalek.Model.FieldBytes Dalek.Proofs.Field51 Dalek.Proofs.Bytes51 Dalek.Proofs.Radix
open Dalek.Gen.Norm.FiatField51

/-! ### `from_bytes` -/

/-- the five limbs are the 51-bit digits of the little-endian value with bit 255 cleared.  `fiat_25519_from_bytes` is a
carry chain over the five groups of shifted bytes that start inside one limb; their mixed-radix value is the
little-endian value (the top byte enters masked), and the last limb, which the code does not reduce, is below `2^51`
because the carry out of it is `0`. -/
theorem from_bytes_fn_eq {x0 x1 x2 x3 x4 x5 x6 x7 x8 x9 x10 x11 x12 x13 x14 x15 x16 x17 x18 x19 x20 x21 x22 x23 x24 x25 x26 x27 x28 x29 x30 x31 : Int} (hb : ∀ b ∈ [x0, x1, x2, x3, x4, x5, x6, x7, x8, x9, x10, x11, x12, x13, x14, x15, x16, x17, x18, x19, x20, x21, x22, x23, x24, x25, x26, x27, x28, x29, x30, x31], 0 ≤ b ∧ b ≤ 255) :
    from_bytes_fn x0 x1 x2 x3 x4 x5 x6 x7 x8 x9 x10 x11 x12 x13 x14 x15 x16 x17 x18 x19 x20 x21 x22 x23 x24 x25 x26 x27 x28 x29 x30 x31 = digits ws51 (leValZ [x0, x1, x2, x3, x4, x5, x6, x7, x8, x9, x10, x11, x12, x13, x14, x15, x16, x17, x18, x19, x20, x21, x22, x23, x24, x25, x26, x27, x28, x29, x30, x31] % 2 ^ 255) := by
  obtain ⟨hd, hc⟩ := Chain.spec (show Chain ws51 0
    [x6 * 2 ^ 48 + x5 * 2 ^ 40 + x4 * 2 ^ 32 + x3 * 2 ^ 24 + x2 * 2 ^ 16 + x1 * 2 ^ 8 + x0,
     x12 * 2 ^ 45 + x11 * 2 ^ 37 + x10 * 2 ^ 29 + x9 * 2 ^ 21 + x8 * 2 ^ 13 + x7 * 2 ^ 5,
     x19 * 2 ^ 50 + x18 * 2 ^ 42 + x17 * 2 ^ 34 + x16 * 2 ^ 26 + x15 * 2 ^ 18 + x14 * 2 ^ 10 + x13 * 2 ^ 2,
     x25 * 2 ^ 47 + x24 * 2 ^ 39 + x23 * 2 ^ 31 + x22 * 2 ^ 23 + x21 * 2 ^ 15 + x20 * 2 ^ 7,
     x31 % 2 ^ 7 * 2 ^ 44 + x30 * 2 ^ 36 + x29 * 2 ^ 28 + x28 * 2 ^ 20 + x27 * 2 ^ 12 + x26 * 2 ^ 4] _ _ from
    .cons rfl (.cons rfl (.cons rfl (.cons rfl (.cons rfl .nil)))))
  have hV : radVal ws51
    [x6 * 2 ^ 48 + x5 * 2 ^ 40 + x4 * 2 ^ 32 + x3 * 2 ^ 24 + x2 * 2 ^ 16 + x1 * 2 ^ 8 + x0,
     x12 * 2 ^ 45 + x11 * 2 ^ 37 + x10 * 2 ^ 29 + x9 * 2 ^ 21 + x8 * 2 ^ 13 + x7 * 2 ^ 5,
     x19 * 2 ^ 50 + x18 * 2 ^ 42 + x17 * 2 ^ 34 + x16 * 2 ^ 26 + x15 * 2 ^ 18 + x14 * 2 ^ 10 + x13 * 2 ^ 2,
     x25 * 2 ^ 47 + x24 * 2 ^ 39 + x23 * 2 ^ 31 + x22 * 2 ^ 23 + x21 * 2 ^ 15 + x20 * 2 ^ 7,
     x31 % 2 ^ 7 * 2 ^ 44 + x30 * 2 ^ 36 + x29 * 2 ^ 28 + x28 * 2 ^ 20 + x27 * 2 ^ 12 + x26 * 2 ^ 4]
      = leValZ [x0, x1, x2, x3, x4, x5, x6, x7, x8, x9, x10, x11, x12, x13, x14, x15, x16, x17, x18, x19, x20, x21, x22, x23, x24, x25, x26, x27, x28, x29, x30, x31] % 2 ^ 255 := by
    simp only [List.mem_cons, List.not_mem_nil, or_false, forall_eq_or_imp, forall_eq] at hb
    simp only [radVal, leValZ]
    omega
  rw [zero_add, hV] at hd hc
  have hz := hc.trans (Int.ediv_eq_zero_of_lt (Int.emod_nonneg _ (by norm_num)) (Int.emod_lt_of_pos _ (by norm_num)))
  rw [← hd]
  simp only [from_bytes_fn, ← Int.add_assoc, Int.add_zero, Int.reducePow, List.cons.injEq, true_and, and_true] at hz ⊢
  exact (emod_eq_of_ediv_eq_zero hz).symm

/-- hence the integer value of the limbs is `N % 2^255` (bit 255 of the input is ignored) -/
theorem from_bytes_fn_val (x0 x1 x2 x3 x4 x5 x6 x7 x8 x9 x10 x11 x12 x13 x14 x15 x16 x17 x18 x19 x20 x21 x22 x23 x24 x25 x26 x27 x28 x29 x30 x31 : Int)
    (h0 : 0 ≤ x0 ∧ x0 ≤ 255) (h1 : 0 ≤ x1 ∧ x1 ≤ 255) (h2 : 0 ≤ x2 ∧ x2 ≤ 255) (h3 : 0 ≤ x3 ∧ x3 ≤ 255) (h4 : 0 ≤ x4 ∧ x4 ≤ 255) (h5 : 0 ≤ x5 ∧ x5 ≤ 255) (h6 : 0 ≤ x6 ∧ x6 ≤ 255) (h7 : 0 ≤ x7 ∧ x7 ≤ 255) (h8 : 0 ≤ x8 ∧ x8 ≤ 255) (h9 : 0 ≤ x9 ∧ x9 ≤ 255) (h10 : 0 ≤ x10 ∧ x10 ≤ 255) (h11 : 0 ≤ x11 ∧ x11 ≤ 255) (h12 : 0 ≤ x12 ∧ x12 ≤ 255) (h13 : 0 ≤ x13 ∧ x13 ≤ 255) (h14 : 0 ≤ x14 ∧ x14 ≤ 255) (h15 : 0 ≤ x15 ∧ x15 ≤ 255) (h16 : 0 ≤ x16 ∧ x16 ≤ 255) (h17 : 0 ≤ x17 ∧ x17 ≤ 255) (h18 : 0 ≤ x18 ∧ x18 ≤ 255) (h19 : 0 ≤ x19 ∧ x19 ≤ 255) (h20 : 0 ≤ x20 ∧ x20 ≤ 255) (h21 : 0 ≤ x21 ∧ x21 ≤ 255) (h22 : 0 ≤ x22 ∧ x22 ≤ 255) (h23 : 0 ≤ x23 ∧ x23 ≤ 255) (h24 : 0 ≤ x24 ∧ x24 ≤ 255) (h25 : 0 ≤ x25 ∧ x25 ≤ 255) (h26 : 0 ≤ x26 ∧ x26 ≤ 255) (h27 : 0 ≤ x27 ∧ x27 ≤ 255) (h28 : 0 ≤ x28 ∧ x28 ≤ 255) (h29 : 0 ≤ x29 ∧ x29 ≤ 255) (h30 : 0 ≤ x30 ∧ x30 ≤ 255) (h31 : 0 ≤ x31 ∧ x31 ≤ 255) :
    rep51 (from_bytes_fn x0 x1 x2 x3 x4 x5 x6 x7 x8 x9 x10 x11 x12 x13 x14 x15 x16 x17 x18 x19 x20 x21 x22 x23 x24 x25 x26 x27 x28 x29 x30 x31) = leValZ [x0, x1, x2, x3, x4, x5, x6, x7, x8, x9, x10, x11, x12, x13, x14, x15, x16, x17, x18, x19, x20, x21, x22, x23, x24, x25, x26, x27, x28, x29, x30, x31] % 2 ^ 255 := by
  have hb : ∀ b ∈ [x0, x1, x2, x3, x4, x5, x6, x7, x8, x9, x10, x11, x12, x13, x14, x15, x16, x17, x18, x19, x20, x21, x22, x23, x24, x25, x26, x27, x28, x29, x30, x31], 0 ≤ b ∧ b ≤ 255 := by
    simp only [List.mem_cons, List.not_mem_nil, or_false, forall_eq_or_imp, forall_eq]
    exact ⟨h0, h1, h2, h3, h4, h5, h6, h7, h8, h9, h10, h11, h12, h13, h14, h15, h16, h17, h18, h19, h20, h21, h22, h23, h24, h25, h26, h27, h28, h29, h30, h31⟩
  rw [from_bytes_fn_eq hb, rep51_digits, Int.emod_emod_of_dvd _ (dvd_refl _)]

/-! ### `as_bytes` -/

/-- the final bit arrangement of `fiat_25519_to_bytes`: 32 bytes from five 51-bit limbs, each byte taken off the
running value by `% 2^8` / `/ 2^8`; limb `i` is shifted in at the byte that holds its first bit (bit `51 i`), by the
position of that bit inside the byte -/
def packFiat51 (f0 f1 f2 f3 f4 : Int) : List Int :=
  chainOut (List.replicate 31 8) 0
    [f0, 0, 0, 0, 0, 0, f1 * 8, 0, 0, 0, 0, 0, f2 * 64, 0, 0, 0, 0, 0, 0, f3 * 2, 0, 0, 0, 0, 0, f4 * 16, 0, 0, 0, 0, 0]

/-- hand model of the fiat `FieldElement51::as_bytes` (= `fiat_25519_to_bytes`) over ideal integers -/
def asBytesFiat51 (a0 a1 a2 a3 a4 : Int) : List Int :=
  -- `A - p` limb-wise: subtract-with-borrow chain in wrapping 64-bit arithmetic; `c_i` = sign bit = borrow
  let d0 := (a0 - (2 ^ (51 : Nat) - 19)) % 2 ^ (64 : Nat)
  let l0 := d0 % 2 ^ (51 : Nat)
  let c0 := d0 / 2 ^ (63 : Nat)
  let d1 := ((a1 - c0) % 2 ^ (64 : Nat) - (2 ^ (51 : Nat) - 1)) % 2 ^ (64 : Nat)
  let l1 := d1 % 2 ^ (51 : Nat)
  let c1 := d1 / 2 ^ (63 : Nat)
  let d2 := ((a2 - c1) % 2 ^ (64 : Nat) - (2 ^ (51 : Nat) - 1)) % 2 ^ (64 : Nat)
  let l2 := d2 % 2 ^ (51 : Nat)
  let c2 := d2 / 2 ^ (63 : Nat)
  let d3 := ((a3 - c2) % 2 ^ (64 : Nat) - (2 ^ (51 : Nat) - 1)) % 2 ^ (64 : Nat)
  let l3 := d3 % 2 ^ (51 : Nat)
  let c3 := d3 / 2 ^ (63 : Nat)
  let d4 := ((a4 - c3) % 2 ^ (64 : Nat) - (2 ^ (51 : Nat) - 1)) % 2 ^ (64 : Nat)
  let l4 := d4 % 2 ^ (51 : Nat)
  let c := d4 / 2 ^ (63 : Nat)
  -- add `p` back iff the final borrow is set (the mask `cmovznz`), add-with-carry chain, top carry dropped
  let m0 : Int := if c = 0 then 0 else 2 ^ (51 : Nat) - 19
  let m : Int := if c = 0 then 0 else 2 ^ (51 : Nat) - 1
  let t0 := l0 + m0
  let t1 := t0 / 2 ^ (51 : Nat) + l1 + m
  let t2 := t1 / 2 ^ (51 : Nat) + l2 + m
  let t3 := t2 / 2 ^ (51 : Nat) + l3 + m
  let t4 := t3 / 2 ^ (51 : Nat) + l4 + m
  let f0 := t0 % 2 ^ (51 : Nat)
  let f1 := t1 % 2 ^ (51 : Nat)
  let f2 := t2 % 2 ^ (51 : Nat)
  let f3 := t3 % 2 ^ (51 : Nat)
  let f4 := t4 % 2 ^ (51 : Nat)
  packFiat51 f0 f1 f2 f3 f4

/-- the generated normal form and the hand model are the same integer function: written out, they differ in `x - 0`,
`0 + x` and in how the constants are spelt -/
theorem as_bytes_fn_eq_model (a0 a1 a2 a3 a4 : Int) :
    as_bytes_fn a0 a1 a2 a3 a4 = asBytesFiat51 a0 a1 a2 a3 a4 := by
  unfold as_bytes_fn asBytesFiat51 packFiat51
  simp only [chainOut, List.replicate, sub_zero, zero_add, add_zero, Int.reducePow, Int.reduceSub]

/-- one step of the subtract-with-borrow chain (`fiat_25519_subborrowx_u51` in wrapping 64-bit arithmetic) is a step of
a carry chain on the limb `a - m` with the carries `-cin`, `-cout` -/
theorem borrow_step (a cin m d l cout : Int) (ba : 0 ≤ a ∧ a ≤ 2 ^ 51) (bc : 0 ≤ cin ∧ cin ≤ 1)
    (bm : 2 ^ 51 - 19 ≤ m ∧ m ≤ 2 ^ 51 - 1)
    (ed : d = ((a - cin) % 2 ^ 64 - m) % 2 ^ 64) (el : l = d % 2 ^ 51) (ec : cout = d / 2 ^ 63) :
    (0 ≤ cout ∧ cout ≤ 1) ∧ (0 ≤ l ∧ l < 2 ^ 51) ∧ a - m + -cin = l + 2 ^ 51 * -cout := by
  omega

/-- tight limbs represent an integer below `2p` -/
theorem tight_lt_2p (a0 a1 a2 a3 a4 : Int)
    (b0 : 0 ≤ a0 ∧ a0 ≤ 2 ^ 51) (b1 : 0 ≤ a1 ∧ a1 ≤ 2 ^ 51) (b2 : 0 ≤ a2 ∧ a2 ≤ 2 ^ 51) (b3 : 0 ≤ a3 ∧ a3 ≤ 2 ^ 51)
    (b4 : 0 ≤ a4 ∧ a4 ≤ 2 ^ 51) :
    0 ≤ rep51 [a0, a1, a2, a3, a4] ∧ rep51 [a0, a1, a2, a3, a4] < 2 * (2 ^ 255 - 19) := by
  simp only [rep51, List.getD_cons_zero, List.getD_cons_succ]
  omega

/-- packing: the 32 bytes are the base-256 digits of the value of the five limbs -/
theorem packFiat51_eq (f0 f1 f2 f3 f4 : Int)
    (h : 0 ≤ radVal ws51 [f0, f1, f2, f3, f4] ∧ radVal ws51 [f0, f1, f2, f3, f4] < 2 ^ 256) :
    packFiat51 f0 f1 f2 f3 f4 = digits (List.replicate 32 8) (radVal ws51 [f0, f1, f2, f3, f4]) :=
  chainOut_bytes 31 _ _ rfl (by simp only [radVal, List.replicate]; ring) h

/-- **the hand model computes the canonical encoding**: for limbs in the tight bounds `[0, 2^51]` the output is the 32
base-256 digits of `(Σ a_i 2^(51 i)) mod p`.  The borrow chain leaves the digits of `A - p` and minus its carry out as
the borrow `c`; the add-back chain leaves the digits of that plus `c p`. -/
theorem asBytesFiat51_eq (a0 a1 a2 a3 a4 : Int)
    (b0 : 0 ≤ a0 ∧ a0 ≤ 2 ^ 51) (b1 : 0 ≤ a1 ∧ a1 ≤ 2 ^ 51) (b2 : 0 ≤ a2 ∧ a2 ≤ 2 ^ 51) (b3 : 0 ≤ a3 ∧ a3 ≤ 2 ^ 51)
    (b4 : 0 ≤ a4 ∧ a4 ≤ 2 ^ 51) :
    asBytesFiat51 a0 a1 a2 a3 a4 = digits (List.replicate 32 8) (rep51 [a0, a1, a2, a3, a4] % (2 ^ 255 - 19)) := by
  unfold asBytesFiat51
  extract_lets d0 l0 c0 d1 l1 c1 d2 l2 c2 d3 l3 c3 d4 l4 c m0 m t0 t1 t2 t3 t4 f0 f1 f2 f3 f4
  have s0 := borrow_step a0 0 (2 ^ 51 - 19) d0 l0 c0 b0 ⟨le_rfl, zero_le_one⟩ (by norm_num)
    (show (a0 - (2 ^ 51 - 19)) % 2 ^ 64 = _ by omega) rfl rfl
  have s1 := borrow_step a1 c0 (2 ^ 51 - 1) d1 l1 c1 b1 s0.1 (by norm_num) rfl rfl rfl
  have s2 := borrow_step a2 c1 (2 ^ 51 - 1) d2 l2 c2 b2 s1.1 (by norm_num) rfl rfl rfl
  have s3 := borrow_step a3 c2 (2 ^ 51 - 1) d3 l3 c3 b3 s2.1 (by norm_num) rfl rfl rfl
  have s4 := borrow_step a4 c3 (2 ^ 51 - 1) d4 l4 c b4 s3.1 (by norm_num) rfl rfl rfl
  obtain ⟨hl, hc⟩ := Chain.spec (show Chain ws51 (-0)
      [a0 - (2 ^ 51 - 19), a1 - (2 ^ 51 - 1), a2 - (2 ^ 51 - 1), a3 - (2 ^ 51 - 1), a4 - (2 ^ 51 - 1)]
      [l0, l1, l2, l3, l4] (-c) from
    .step s0.2.1 s0.2.2 (.step s1.2.1 s1.2.2 (.step s2.2.1 s2.2.2 (.step s3.2.1 s3.2.2 (.step s4.2.1 s4.2.2 .nil)))))
  rw [show -0 + radVal ws51 [a0 - (2 ^ 51 - 19), a1 - (2 ^ 51 - 1), a2 - (2 ^ 51 - 1), a3 - (2 ^ 51 - 1),
      a4 - (2 ^ 51 - 1)] = rep51 [a0, a1, a2, a3, a4] - (2 ^ 255 - 19) by
    simp only [radVal, rep51, List.getD_cons_zero, List.getD_cons_succ]; ring] at hl hc
  obtain ⟨hf, -⟩ := Chain.spec (show Chain ws51 0 [l0 + m0, l1 + m, l2 + m, l3 + m, l4 + m] [f0, f1, f2, f3, f4]
      (t4 / 2 ^ 51) from
    .cons (add_zero _) (.cons (add_rotate ..).symm (.cons (add_rotate ..).symm (.cons (add_rotate ..).symm
      (.cons (add_rotate ..).symm .nil)))))
  have hA := tight_lt_2p a0 a1 a2 a3 a4 b0 b1 b2 b3 b4
  rw [show 0 + radVal ws51 [l0 + m0, l1 + m, l2 + m, l3 + m, l4 + m]
        = radVal ws51 [l0, l1, l2, l3, l4] + (2 ^ 255 - 19) * c by
      rw [show m0 = _ from ite_mask c _ s4.1, show m = _ from ite_mask c _ s4.1]; simp only [radVal]; ring,
    hl, radVal_digits, ← digits_emod, show (2 : Int) ^ ws51.sum = 2 ^ 255 from rfl, fiat_canon _ c hA hc] at hf
  have hV : radVal ws51 [f0, f1, f2, f3, f4] = rep51 [a0, a1, a2, a3, a4] % (2 ^ 255 - 19) := by
    rw [hf, radVal_digits]; exact Int.emod_eq_of_lt (emod_p_bounds _).1 (emod_p_bounds _).2
  rw [packFiat51_eq f0 f1 f2 f3 f4 (hV ▸ ⟨(emod_p_bounds _).1, (emod_p_bounds _).2.trans (by norm_num)⟩), hV]

/-- the same for the generated normal form -/
theorem as_bytes_fn_eq (a0 a1 a2 a3 a4 : Int)
    (b0 : 0 ≤ a0 ∧ a0 ≤ 2 ^ 51) (b1 : 0 ≤ a1 ∧ a1 ≤ 2 ^ 51) (b2 : 0 ≤ a2 ∧ a2 ≤ 2 ^ 51) (b3 : 0 ≤ a3 ∧ a3 ≤ 2 ^ 51)
    (b4 : 0 ≤ a4 ∧ a4 ≤ 2 ^ 51) :
    as_bytes_fn a0 a1 a2 a3 a4 = digits (List.replicate 32 8) (rep51 [a0, a1, a2, a3, a4] % (2 ^ 255 - 19)) :=
  (as_bytes_fn_eq_model ..).trans (asBytesFiat51_eq a0 a1 a2 a3 a4 b0 b1 b2 b3 b4)

/-- every output is a byte -/
theorem as_bytes_fn_bytes (a0 a1 a2 a3 a4 : Int)
    (b0 : 0 ≤ a0 ∧ a0 ≤ 2 ^ 51) (b1 : 0 ≤ a1 ∧ a1 ≤ 2 ^ 51) (b2 : 0 ≤ a2 ∧ a2 ≤ 2 ^ 51) (b3 : 0 ≤ a3 ∧ a3 ≤ 2 ^ 51)
    (b4 : 0 ≤ a4 ∧ a4 ≤ 2 ^ 51) :
    ∀ b ∈ as_bytes_fn a0 a1 a2 a3 a4, 0 ≤ b ∧ b ≤ 255 := by
  rw [as_bytes_fn_eq a0 a1 a2 a3 a4 b0 b1 b2 b3 b4]
  exact mem_digits8 32 _

/-- ... and their little-endian value is the value of the limbs reduced mod `p` -/
theorem as_bytes_fn_val (a0 a1 a2 a3 a4 : Int)
    (b0 : 0 ≤ a0 ∧ a0 ≤ 2 ^ 51) (b1 : 0 ≤ a1 ∧ a1 ≤ 2 ^ 51) (b2 : 0 ≤ a2 ∧ a2 ≤ 2 ^ 51) (b3 : 0 ≤ a3 ∧ a3 ≤ 2 ^ 51)
    (b4 : 0 ≤ a4 ∧ a4 ≤ 2 ^ 51) :
    leValZ (as_bytes_fn a0 a1 a2 a3 a4) = rep51 [a0, a1, a2, a3, a4] % (2 ^ 255 - 19) := by
  rw [as_bytes_fn_eq a0 a1 a2 a3 a4 b0 b1 b2 b3 b4, leValZ_digits8]
  omega

end Dalek.Proofs.FiatBytes51
