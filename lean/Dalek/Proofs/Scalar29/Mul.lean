import Dalek.Proofs.Scalar29.Basic
import Dalek.Proofs.Scalar52.Mul
import Mathlib.Data.ZMod.Basic
/-! # Scalar29: `mul_internal` (one-level Karatsuba with `wrapping_sub`) and `square_internal` compute the nine-by-nine
schoolbook coefficients, each within the `montgomery_reduce` input contract.

The normal form of `mul_internal` keeps `% 2^64` around the eight middle coefficients (the interval analyser cannot see
that the Karatsuba differences do not wrap).  Each of them is shown to be the true coefficient: equal in `ZMod (2^64)`
by `ring` after erasing every `% 2^64`, and the coefficient is in `[0, 2^64)`. -/
set_option exponentiation.threshold 600

namespace Dalek.Proofs.Scalar29
open Dalek.IR Dalek.Gen.Norm.Scalar29 Dalek.Gen.Consts
open Dalek.Proofs.Scalar52 (Lim ell ell_eq ell_eqZ add_bd lt_of_bd)

theorem mul_bd {x y : Int} (hx : 0 ≤ x ∧ x < 2 ^ 29) (hy : 0 ≤ y ∧ y < 2 ^ 29) :
    0 ≤ x * y ∧ x * y ≤ 288230375077969921 := by
  refine ⟨Int.mul_nonneg hx.1 hy.1, ?_⟩
  have h1 : x ≤ 536870911 := by omega
  have h2 : y ≤ 536870911 := by omega
  calc x * y ≤ 536870911 * 536870911 := Int.mul_le_mul h1 h2 hy.1 (by norm_num)
    _ = 288230375077969921 := by norm_num

theorem emod_cast64 (x : Int) : ((x % 2 ^ 64 : Int) : ZMod (2 ^ 64)) = (x : ZMod (2 ^ 64)) := by
  have h := ZMod.intCast_mod x (2 ^ 64)
  rw [Nat.cast_pow, Nat.cast_ofNat] at h
  exact h

/-- a `u64`-wrapped expression equals the true value `c` if they agree modulo `2^64` and `c` is a `u64` -/
theorem wrap_eq {E c : Int} (h0 : 0 ≤ c) (h1 : c < 2 ^ 64)
    (hz : ((E : Int) : ZMod (2 ^ 64)) = ((c : Int) : ZMod (2 ^ 64))) : E % 2 ^ 64 = c := by
  have h := (ZMod.intCast_eq_intCast_iff' E c (2 ^ 64)).1 hz
  rw [Nat.cast_pow, Nat.cast_ofNat] at h
  rw [h]
  exact Int.emod_eq_of_lt h0 h1

/-- the seventeen schoolbook coefficients -/
def school (a0 a1 a2 a3 a4 a5 a6 a7 a8 b0 b1 b2 b3 b4 b5 b6 b7 b8 : Int) : List Int :=
  [a0 * b0,
   a0 * b1 + a1 * b0,
   a0 * b2 + a1 * b1 + a2 * b0,
   a0 * b3 + a1 * b2 + a2 * b1 + a3 * b0,
   a0 * b4 + a1 * b3 + a2 * b2 + a3 * b1 + a4 * b0,
   a0 * b5 + a1 * b4 + a2 * b3 + a3 * b2 + a4 * b1 + a5 * b0,
   a0 * b6 + a1 * b5 + a2 * b4 + a3 * b3 + a4 * b2 + a5 * b1 + a6 * b0,
   a0 * b7 + a1 * b6 + a2 * b5 + a3 * b4 + a4 * b3 + a5 * b2 + a6 * b1 + a7 * b0,
   a0 * b8 + a1 * b7 + a2 * b6 + a3 * b5 + a4 * b4 + a5 * b3 + a6 * b2 + a7 * b1 + a8 * b0,
   a1 * b8 + a2 * b7 + a3 * b6 + a4 * b5 + a5 * b4 + a6 * b3 + a7 * b2 + a8 * b1,
   a2 * b8 + a3 * b7 + a4 * b6 + a5 * b5 + a6 * b4 + a7 * b3 + a8 * b2,
   a3 * b8 + a4 * b7 + a5 * b6 + a6 * b5 + a7 * b4 + a8 * b3,
   a4 * b8 + a5 * b7 + a6 * b6 + a7 * b5 + a8 * b4,
   a5 * b8 + a6 * b7 + a7 * b6 + a8 * b5,
   a6 * b8 + a7 * b7 + a8 * b6,
   a7 * b8 + a8 * b7,
   a8 * b8]

/-- erase the wrapping: push the cast to `ZMod (2^64)` through and finish by `ring` -/
macro "wrap_ring" : tactic =>
  `(tactic| (simp only [Int.cast_add, Int.cast_sub, Int.cast_mul, emod_cast64]; ring))

/-- a coefficient is a sum of at most nine products of limbs below `2^29`, and `W1 = 9 (2^29 - 1)^2 + 1` -/
theorem school_lim (a0 a1 a2 a3 a4 a5 a6 a7 a8 b0 b1 b2 b3 b4 b5 b6 b7 b8 : Int)
    (ha : Lim (2 ^ 29) [a0, a1, a2, a3, a4, a5, a6, a7, a8]) (hb : Lim (2 ^ 29) [b0, b1, b2, b3, b4, b5, b6, b7, b8]) :
    Lim W1 (school a0 a1 a2 a3 a4 a5 a6 a7 a8 b0 b1 b2 b3 b4 b5 b6 b7 b8) := by
  simp only [Lim, and_true] at ha hb
  obtain ⟨ha0, ha1, ha2, ha3, ha4, ha5, ha6, ha7, ha8⟩ := ha
  obtain ⟨hb0, hb1, hb2, hb3, hb4, hb5, hb6, hb7, hb8⟩ := hb
  simp only [school, Lim]
  exact ⟨lt_of_bd (mul_bd ha0 hb0) (by decide),
    lt_of_bd (add_bd (mul_bd ha0 hb1) (mul_bd ha1 hb0)) (by decide),
    lt_of_bd (add_bd (add_bd (mul_bd ha0 hb2) (mul_bd ha1 hb1)) (mul_bd ha2 hb0)) (by decide),
    lt_of_bd (add_bd (add_bd (add_bd (mul_bd ha0 hb3) (mul_bd ha1 hb2)) (mul_bd ha2 hb1)) (mul_bd ha3 hb0)) (by decide),
    lt_of_bd (add_bd (add_bd (add_bd (add_bd (mul_bd ha0 hb4) (mul_bd ha1 hb3)) (mul_bd ha2 hb2)) (mul_bd ha3 hb1)) (mul_bd ha4 hb0)) (by decide),
    lt_of_bd (add_bd (add_bd (add_bd (add_bd (add_bd (mul_bd ha0 hb5) (mul_bd ha1 hb4)) (mul_bd ha2 hb3)) (mul_bd ha3 hb2)) (mul_bd ha4 hb1)) (mul_bd ha5 hb0)) (by decide),
    lt_of_bd (add_bd (add_bd (add_bd (add_bd (add_bd (add_bd (mul_bd ha0 hb6) (mul_bd ha1 hb5)) (mul_bd ha2 hb4)) (mul_bd ha3 hb3)) (mul_bd ha4 hb2)) (mul_bd ha5 hb1)) (mul_bd ha6 hb0)) (by decide),
    lt_of_bd (add_bd (add_bd (add_bd (add_bd (add_bd (add_bd (add_bd (mul_bd ha0 hb7) (mul_bd ha1 hb6)) (mul_bd ha2 hb5)) (mul_bd ha3 hb4)) (mul_bd ha4 hb3)) (mul_bd ha5 hb2)) (mul_bd ha6 hb1)) (mul_bd ha7 hb0)) (by decide),
    lt_of_bd (add_bd (add_bd (add_bd (add_bd (add_bd (add_bd (add_bd (add_bd (mul_bd ha0 hb8) (mul_bd ha1 hb7)) (mul_bd ha2 hb6)) (mul_bd ha3 hb5)) (mul_bd ha4 hb4)) (mul_bd ha5 hb3)) (mul_bd ha6 hb2)) (mul_bd ha7 hb1)) (mul_bd ha8 hb0)) (by decide),
    lt_of_bd (add_bd (add_bd (add_bd (add_bd (add_bd (add_bd (add_bd (mul_bd ha1 hb8) (mul_bd ha2 hb7)) (mul_bd ha3 hb6)) (mul_bd ha4 hb5)) (mul_bd ha5 hb4)) (mul_bd ha6 hb3)) (mul_bd ha7 hb2)) (mul_bd ha8 hb1)) (by decide),
    lt_of_bd (add_bd (add_bd (add_bd (add_bd (add_bd (add_bd (mul_bd ha2 hb8) (mul_bd ha3 hb7)) (mul_bd ha4 hb6)) (mul_bd ha5 hb5)) (mul_bd ha6 hb4)) (mul_bd ha7 hb3)) (mul_bd ha8 hb2)) (by decide),
    lt_of_bd (add_bd (add_bd (add_bd (add_bd (add_bd (mul_bd ha3 hb8) (mul_bd ha4 hb7)) (mul_bd ha5 hb6)) (mul_bd ha6 hb5)) (mul_bd ha7 hb4)) (mul_bd ha8 hb3)) (by decide),
    lt_of_bd (add_bd (add_bd (add_bd (add_bd (mul_bd ha4 hb8) (mul_bd ha5 hb7)) (mul_bd ha6 hb6)) (mul_bd ha7 hb5)) (mul_bd ha8 hb4)) (by decide),
    lt_of_bd (add_bd (add_bd (add_bd (mul_bd ha5 hb8) (mul_bd ha6 hb7)) (mul_bd ha7 hb6)) (mul_bd ha8 hb5)) (by decide),
    lt_of_bd (add_bd (add_bd (mul_bd ha6 hb8) (mul_bd ha7 hb7)) (mul_bd ha8 hb6)) (by decide),
    lt_of_bd (add_bd (mul_bd ha7 hb8) (mul_bd ha8 hb7)) (by decide),
    lt_of_bd (mul_bd ha8 hb8) (by decide), trivial⟩

theorem mul_internal_fn_eq_school (a0 a1 a2 a3 a4 a5 a6 a7 a8 b0 b1 b2 b3 b4 b5 b6 b7 b8 : Int)
    (ha : Lim (2 ^ 29) [a0, a1, a2, a3, a4, a5, a6, a7, a8]) (hb : Lim (2 ^ 29) [b0, b1, b2, b3, b4, b5, b6, b7, b8]) :
    mul_internal_fn a0 a1 a2 a3 a4 a5 a6 a7 a8 b0 b1 b2 b3 b4 b5 b6 b7 b8 = school a0 a1 a2 a3 a4 a5 a6 a7 a8 b0 b1 b2 b3 b4 b5 b6 b7 b8 := by
  have hs := school_lim a0 a1 a2 a3 a4 a5 a6 a7 a8 b0 b1 b2 b3 b4 b5 b6 b7 b8 ha hb
  simp only [school, Lim] at hs
  obtain ⟨-, -, -, -, -, h5, h6, h7, h8, h9, h10, h11, h12, -⟩ := hs
  have hW : W1 < 2 ^ 64 := by decide
  simp only [mul_internal_fn, school, List.cons.injEq, and_true, true_and]
  exact ⟨wrap_eq h5.1 (h5.2.trans hW) (by wrap_ring), wrap_eq h6.1 (h6.2.trans hW) (by wrap_ring),
    wrap_eq h7.1 (h7.2.trans hW) (by wrap_ring), wrap_eq h8.1 (h8.2.trans hW) (by wrap_ring),
    wrap_eq h9.1 (h9.2.trans hW) (by wrap_ring), wrap_eq h10.1 (h10.2.trans hW) (by wrap_ring),
    wrap_eq h11.1 (h11.2.trans hW) (by wrap_ring), wrap_eq h12.1 (h12.2.trans hW) (by wrap_ring)⟩

theorem school_spec (a0 a1 a2 a3 a4 a5 a6 a7 a8 b0 b1 b2 b3 b4 b5 b6 b7 b8 : Int)
    (ha : Lim (2 ^ 29) [a0, a1, a2, a3, a4, a5, a6, a7, a8]) (hb : Lim (2 ^ 29) [b0, b1, b2, b3, b4, b5, b6, b7, b8]) :
    ∃ z0 z1 z2 z3 z4 z5 z6 z7 z8 z9 z10 z11 z12 z13 z14 z15 z16, school a0 a1 a2 a3 a4 a5 a6 a7 a8 b0 b1 b2 b3 b4 b5 b6 b7 b8 = [z0, z1, z2, z3, z4, z5, z6, z7, z8, z9, z10, z11, z12, z13, z14, z15, z16] ∧
      Lim W1 [z0, z1, z2, z3, z4, z5, z6, z7, z8, z9, z10, z11, z12, z13, z14, z15, z16] ∧
      repZ [z0, z1, z2, z3, z4, z5, z6, z7, z8, z9, z10, z11, z12, z13, z14, z15, z16] = repZ [a0, a1, a2, a3, a4, a5, a6, a7, a8] * repZ [b0, b1, b2, b3, b4, b5, b6, b7, b8] := by
  refine ⟨_, _, _, _, _, _, _, _, _, _, _, _, _, _, _, _, _, rfl, school_lim _ _ _ _ _ _ _ _ _ _ _ _ _ _ _ _ _ _ ha hb, ?_⟩
  simp only [repZ]; ring

theorem mul_internal_fn_spec (a0 a1 a2 a3 a4 a5 a6 a7 a8 b0 b1 b2 b3 b4 b5 b6 b7 b8 : Int)
    (ha : Lim (2 ^ 29) [a0, a1, a2, a3, a4, a5, a6, a7, a8]) (hb : Lim (2 ^ 29) [b0, b1, b2, b3, b4, b5, b6, b7, b8]) :
    ∃ z0 z1 z2 z3 z4 z5 z6 z7 z8 z9 z10 z11 z12 z13 z14 z15 z16, mul_internal_fn a0 a1 a2 a3 a4 a5 a6 a7 a8 b0 b1 b2 b3 b4 b5 b6 b7 b8 = [z0, z1, z2, z3, z4, z5, z6, z7, z8, z9, z10, z11, z12, z13, z14, z15, z16] ∧
      Lim W1 [z0, z1, z2, z3, z4, z5, z6, z7, z8, z9, z10, z11, z12, z13, z14, z15, z16] ∧
      repZ [z0, z1, z2, z3, z4, z5, z6, z7, z8, z9, z10, z11, z12, z13, z14, z15, z16] = repZ [a0, a1, a2, a3, a4, a5, a6, a7, a8] * repZ [b0, b1, b2, b3, b4, b5, b6, b7, b8] := by
  rw [mul_internal_fn_eq_school _ _ _ _ _ _ _ _ _ _ _ _ _ _ _ _ _ _ ha hb]
  exact school_spec _ _ _ _ _ _ _ _ _ _ _ _ _ _ _ _ _ _ ha hb

/-- `square_internal(a)` computes the schoolbook coefficients of `a·a` (no wrapping terms here) -/
theorem square_internal_fn_eq (a0 a1 a2 a3 a4 a5 a6 a7 a8 : Int) :
    square_internal_fn a0 a1 a2 a3 a4 a5 a6 a7 a8 = school a0 a1 a2 a3 a4 a5 a6 a7 a8 a0 a1 a2 a3 a4 a5 a6 a7 a8 := by
  simp only [square_internal_fn, school]
  ring_nf

end Dalek.Proofs.Scalar29
