import Dalek.IR.LimbSound
import Dalek.Proofs.Scalar29
/-!
# C02 — scalar arithmetic is exact arithmetic modulo `l` (serial u32 backend, 29-bit limbs; property theorems)

Statements are about `Dalek.Gen.Scalar29.*`: the LimbIR programs REGENERATED from
`curve25519-dalek/src/backend/serial/u32/scalar.rs` (constants `L`, `R`, `RR`, `LFACTOR` from `u32/constants.rs`).
Same shape as `Dalek/Props/C02/Scalar52.lean`: for inputs inside the bound contract (`Dalek.Model.Contracts.Scalar29`:
limbs `< 2^29`; `montgomery_reduce` words `≤ 9·(2^29-1)^2`) and satisfying the value hypothesis, the debug build
(`evalC`) does not panic, the release build (`evalW`) returns the same limbs, the output limbs are `< 2^29`, and
`val29 out` is the stated function of the input values.  The Montgomery radix is `2^261`.

`mul_internal` is the one-level Karatsuba with `wrapping_sub`; `mul_internal_spec` states that its 17 outputs are
nevertheless the schoolbook coefficients and lie inside the `montgomery_reduce` contract (this bound is NOT an
interval fact; it is proved from the value statement).

The composed items `montgomery_mul, mul, square, as_montgomery, from_bytes_wide` are not registered kernels (that the
inlined Karatsuba output stays inside the `montgomery_reduce` contract is not an interval fact).  Their theorems — about
the translated composed PROGRAMS, with the same statement shape — are in `Dalek/Props/C02/Scalar29Composed.lean`.
-/
set_option exponentiation.threshold 600

namespace Dalek.Props.C02.Scalar29
open Dalek.IR Dalek.Proofs.Scalar29 Dalek.Gen.Norm.Scalar29 Dalek.Model.Contracts Dalek.Gen.Consts
open Dalek.Proofs.Scalar52 (ell_eq Lim_split8 nat_emod_of_int leVal_of_toZ limBytes_of_envIn nat_of_leValZ)
open Dalek.Model.FieldBytes (leVal)

/-- the group order -/
abbrev l : Nat := 2 ^ 252 + 27742317777372353535851937790883648493

/-- output contract: nine limbs `< 2^29` -/
abbrev limbs29 : List Itv := rep 9 (ub (2 ^ 29 - 1))

/-! ## the constants -/

theorem L_value : val29 U32.L = l := val29_L
theorem R_value : val29 U32.R = 2 ^ 261 % l := val29_R
theorem RR_value : val29 U32.RR = (2 ^ 261) ^ 2 % l := val29_RR
theorem LFACTOR_value : U32.LFACTOR * U32.L.getD 0 0 % 2 ^ 29 = 2 ^ 29 - 1 := lfactor_spec

section
variable (a0 a1 a2 a3 a4 a5 a6 a7 a8 b0 b1 b2 b3 b4 b5 b6 b7 b8 : Nat)

/-- `Scalar29::sub(a, b)` on canonical inputs: `(a - b) mod l`, canonical -/
theorem sub_spec (hin : EnvIn [a0, a1, a2, a3, a4, a5, a6, a7, a8, b0, b1, b2, b3, b4, b5, b6, b7, b8] Scalar29.pre_sub)
    (ha : val29 [a0, a1, a2, a3, a4, a5, a6, a7, a8] < l) (hb : val29 [b0, b1, b2, b3, b4, b5, b6, b7, b8] < l) :
    ∃ out, Dalek.Gen.Scalar29.sub.evalC [a0, a1, a2, a3, a4, a5, a6, a7, a8, b0, b1, b2, b3, b4, b5, b6, b7, b8] = some out ∧
      Dalek.Gen.Scalar29.sub.evalW [a0, a1, a2, a3, a4, a5, a6, a7, a8, b0, b1, b2, b3, b4, b5, b6, b7, b8] = out ∧
      EnvIn out limbs29 ∧ val29 out < l ∧
      val29 out = (val29 [a0, a1, a2, a3, a4, a5, a6, a7, a8] + l - val29 [b0, b1, b2, b3, b4, b5, b6, b7, b8]) % l := by
  have hl := lim29_of_envIn hin
  simp only [toZ_cons, toZ_nil] at hl
  obtain ⟨hla, hlb⟩ := Lim_split9 hl
  obtain ⟨o0, o1, o2, o3, o4, o5, o6, o7, o8, he, -, hv⟩ := sub_fn_canon _ _ _ _ _ _ _ _ _ _ _ _ _ _ _ _ _ _ hla hlb (repZ_lt ha rfl) (repZ_lt hb rfl)
  refine Prog.norm_spec sub_norm_ok (by decide +kernel) hin fun out hZ => ?_
  have h := val_glue hZ (sub_fn_ok ..) he hv
  rw [repZ_cast9, repZ_cast9] at h
  simp only [l, ell_eq] at *
  omega

/-- `Scalar29::sub(a, L)` for `a < 2l`: the canonical representative `a mod l` -/
theorem sub_L_spec (hin : EnvIn ([a0, a1, a2, a3, a4, a5, a6, a7, a8] ++ U32.L) Scalar29.pre_sub)
    (ha : val29 [a0, a1, a2, a3, a4, a5, a6, a7, a8] < 2 * l) :
    ∃ out, Dalek.Gen.Scalar29.sub.evalC ([a0, a1, a2, a3, a4, a5, a6, a7, a8] ++ U32.L) = some out ∧
      Dalek.Gen.Scalar29.sub.evalW ([a0, a1, a2, a3, a4, a5, a6, a7, a8] ++ U32.L) = out ∧
      EnvIn out limbs29 ∧ val29 out = val29 [a0, a1, a2, a3, a4, a5, a6, a7, a8] % l := by
  have hl := lim29_of_envIn hin
  simp only [U32.L, List.cons_append, List.nil_append, toZ_cons, toZ_nil] at hl
  obtain ⟨o0, o1, o2, o3, o4, o5, o6, o7, o8, he, -, hv⟩ := sub_fn_L_spec _ _ _ _ _ _ _ _ _ (Lim_split9 hl).1
    (by rw [repZ_cast9]; exact_mod_cast ha)
  refine Prog.norm_spec sub_norm_ok (by decide +kernel) hin fun out hZ => ?_
  have h := val_glue hZ (sub_fn_ok ..) he hv
  rw [repZ_cast9] at h
  exact nat_emod_of_int h

/-- `Scalar29::add(a, b)` on canonical inputs: `(a + b) mod l`, canonical -/
theorem add_spec (hin : EnvIn [a0, a1, a2, a3, a4, a5, a6, a7, a8, b0, b1, b2, b3, b4, b5, b6, b7, b8] Scalar29.pre_add)
    (ha : val29 [a0, a1, a2, a3, a4, a5, a6, a7, a8] < l) (hb : val29 [b0, b1, b2, b3, b4, b5, b6, b7, b8] < l) :
    ∃ out, Dalek.Gen.Scalar29.add.evalC [a0, a1, a2, a3, a4, a5, a6, a7, a8, b0, b1, b2, b3, b4, b5, b6, b7, b8] = some out ∧
      Dalek.Gen.Scalar29.add.evalW [a0, a1, a2, a3, a4, a5, a6, a7, a8, b0, b1, b2, b3, b4, b5, b6, b7, b8] = out ∧
      EnvIn out limbs29 ∧
      val29 out = (val29 [a0, a1, a2, a3, a4, a5, a6, a7, a8] + val29 [b0, b1, b2, b3, b4, b5, b6, b7, b8]) % l := by
  have hl := lim29_of_envIn hin
  simp only [toZ_cons, toZ_nil] at hl
  obtain ⟨hla, hlb⟩ := Lim_split9 hl
  obtain ⟨o0, o1, o2, o3, o4, o5, o6, o7, o8, he, -, hv⟩ := add_fn_spec _ _ _ _ _ _ _ _ _ _ _ _ _ _ _ _ _ _ hla hlb (repZ_lt ha rfl) (repZ_lt hb rfl)
  refine Prog.norm_spec add_norm_ok (by decide +kernel) hin fun out hZ => ?_
  have h := val_glue hZ (add_fn_ok ..) he hv
  rw [repZ_cast9, repZ_cast9] at h
  exact nat_emod_of_int (by exact_mod_cast h)

/-- `Scalar29::mul_internal(a, b)` (Karatsuba with wrapping subtractions): the seventeen outputs are the schoolbook
coefficients — their radix-2^29 value is the integer product — and each is within the `montgomery_reduce` contract -/
theorem mul_internal_spec (hin : EnvIn [a0, a1, a2, a3, a4, a5, a6, a7, a8, b0, b1, b2, b3, b4, b5, b6, b7, b8] Scalar29.pre_mul_internal) :
    ∃ out, Dalek.Gen.Scalar29.mul_internal.evalC [a0, a1, a2, a3, a4, a5, a6, a7, a8, b0, b1, b2, b3, b4, b5, b6, b7, b8] = some out ∧
      Dalek.Gen.Scalar29.mul_internal.evalW [a0, a1, a2, a3, a4, a5, a6, a7, a8, b0, b1, b2, b3, b4, b5, b6, b7, b8] = out ∧
      EnvIn out Scalar29.pre_montgomery_reduce ∧
      val29 out = val29 [a0, a1, a2, a3, a4, a5, a6, a7, a8] * val29 [b0, b1, b2, b3, b4, b5, b6, b7, b8] := by
  obtain ⟨out, hC, hW, hpost, hZ⟩ := Prog.norm_sound _ _ _ _ mul_internal_norm_ok _ hin
  have hl := lim29_of_envIn hin
  simp only [toZ_cons, toZ_nil] at hZ hl
  rw [mul_internal_fn_ok] at hZ
  obtain ⟨hla, hlb⟩ := Lim_split9 hl
  obtain ⟨z0, z1, z2, z3, z4, z5, z6, z7, z8, z9, z10, z11, z12, z13, z14, z15, z16, he, hzl, hv⟩ := mul_internal_fn_spec _ _ _ _ _ _ _ _ _ _ _ _ _ _ _ _ _ _ hla hlb
  rw [he] at hZ
  refine ⟨out, hC, hW, envIn_wide_of_lim (length_of_toZ hZ.symm) (by rw [← hZ]; exact hzl), ?_⟩
  have h := val_of_toZ hZ.symm
  rw [hv, repZ_cast9, repZ_cast9] at h
  exact_mod_cast h

/-- `Scalar29::square_internal(a)`: the seventeen coefficients of the integer square -/
theorem square_internal_spec (hin : EnvIn [a0, a1, a2, a3, a4, a5, a6, a7, a8] Scalar29.pre_square_internal) :
    ∃ out, Dalek.Gen.Scalar29.square_internal.evalC [a0, a1, a2, a3, a4, a5, a6, a7, a8] = some out ∧
      Dalek.Gen.Scalar29.square_internal.evalW [a0, a1, a2, a3, a4, a5, a6, a7, a8] = out ∧
      EnvIn out Scalar29.pre_montgomery_reduce ∧
      val29 out = val29 [a0, a1, a2, a3, a4, a5, a6, a7, a8] * val29 [a0, a1, a2, a3, a4, a5, a6, a7, a8] := by
  obtain ⟨out, hC, hW, hpost, hZ⟩ := Prog.norm_sound _ _ _ _ square_internal_norm_ok _ hin
  have hl := lim29_of_envIn hin
  simp only [toZ_cons, toZ_nil] at hZ hl
  rw [square_internal_fn_ok] at hZ
  rw [square_internal_fn_eq] at hZ
  obtain ⟨z0, z1, z2, z3, z4, z5, z6, z7, z8, z9, z10, z11, z12, z13, z14, z15, z16, he, hzl, hv⟩ := school_spec _ _ _ _ _ _ _ _ _ _ _ _ _ _ _ _ _ _ hl hl
  rw [he] at hZ
  refine ⟨out, hC, hW, envIn_wide_of_lim (length_of_toZ hZ.symm) (by rw [← hZ]; exact hzl), ?_⟩
  have h := val_of_toZ hZ.symm
  rw [hv, repZ_cast9] at h
  exact_mod_cast h

/-- `Scalar29::montgomery_square(a)` for `a² < 2^261·l`: canonical `out` with `out·2^261 ≡ a² (mod l)` -/
theorem montgomery_square_spec (hin : EnvIn [a0, a1, a2, a3, a4, a5, a6, a7, a8] Scalar29.pre_montgomery_square)
    (haa : val29 [a0, a1, a2, a3, a4, a5, a6, a7, a8] * val29 [a0, a1, a2, a3, a4, a5, a6, a7, a8] < 2 ^ 261 * l) :
    ∃ out, Dalek.Gen.Scalar29.montgomery_square.evalC [a0, a1, a2, a3, a4, a5, a6, a7, a8] = some out ∧
      Dalek.Gen.Scalar29.montgomery_square.evalW [a0, a1, a2, a3, a4, a5, a6, a7, a8] = out ∧
      EnvIn out limbs29 ∧ val29 out < l ∧
      val29 out * 2 ^ 261 % l = val29 [a0, a1, a2, a3, a4, a5, a6, a7, a8] * val29 [a0, a1, a2, a3, a4, a5, a6, a7, a8] % l := by
  have hl := lim29_of_envIn hin
  simp only [toZ_cons, toZ_nil] at hl
  obtain ⟨o0, o1, o2, o3, o4, o5, o6, o7, o8, he, -, hcan, hv⟩ := montgomery_square_fn_spec _ _ _ _ _ _ _ _ _ hl
    (by rw [repZ_cast9]; exact_mod_cast haa)
  refine Prog.norm_spec montgomery_square_norm_ok (by decide +kernel) hin fun out hZ => ?_
  have h := val_glue hZ (montgomery_square_fn_ok ..) he rfl
  rw [← h, repZ_cast9] at hv
  rw [← h] at hcan
  exact ⟨by exact_mod_cast hcan.2, nat_mont_mul_of_zmod hv⟩

/-- `Scalar29::from_montgomery(a)` for ANY nine 29-bit limbs: canonical `out` with `out·2^261 ≡ a (mod l)` -/
theorem from_montgomery_spec (hin : EnvIn [a0, a1, a2, a3, a4, a5, a6, a7, a8] Scalar29.pre_from_montgomery) :
    ∃ out, Dalek.Gen.Scalar29.from_montgomery.evalC [a0, a1, a2, a3, a4, a5, a6, a7, a8] = some out ∧
      Dalek.Gen.Scalar29.from_montgomery.evalW [a0, a1, a2, a3, a4, a5, a6, a7, a8] = out ∧
      EnvIn out limbs29 ∧ val29 out < l ∧
      val29 out * 2 ^ 261 % l = val29 [a0, a1, a2, a3, a4, a5, a6, a7, a8] % l := by
  have hl := lim29_of_envIn hin
  simp only [toZ_cons, toZ_nil] at hl
  obtain ⟨o0, o1, o2, o3, o4, o5, o6, o7, o8, he, -, hcan, hv⟩ := from_montgomery_fn_spec _ _ _ _ _ _ _ _ _ hl
  refine Prog.norm_spec from_montgomery_norm_ok (by decide +kernel) hin fun out hZ => ?_
  have h := val_glue hZ (from_montgomery_fn_ok ..) he rfl
  rw [← h, repZ_cast9] at hv
  rw [← h] at hcan
  exact ⟨by exact_mod_cast hcan.2, nat_mont_of_zmod hv⟩

/-- `Scalar29::as_bytes`: for limbs `< 2^29` with value `< 2^256` the 32 output bytes are the little-endian
encoding of the value -/
theorem as_bytes_spec (hin : EnvIn [a0, a1, a2, a3, a4, a5, a6, a7, a8] Scalar29.pre_as_bytes)
    (hv : val29 [a0, a1, a2, a3, a4, a5, a6, a7, a8] < 2 ^ 256) :
    ∃ out, Dalek.Gen.Scalar29.as_bytes.evalC [a0, a1, a2, a3, a4, a5, a6, a7, a8] = some out ∧
      Dalek.Gen.Scalar29.as_bytes.evalW [a0, a1, a2, a3, a4, a5, a6, a7, a8] = out ∧
      EnvIn out (bytes 32) ∧ leVal out = val29 [a0, a1, a2, a3, a4, a5, a6, a7, a8] := by
  obtain ⟨out, hC, hW, hpost, hZ⟩ := Prog.norm_sound _ _ _ _ as_bytes_norm_ok _ hin
  have hl := lim29_of_envIn hin
  simp only [toZ_cons, toZ_nil] at hZ hl
  rw [as_bytes_fn_ok] at hZ
  refine ⟨out, hC, hW, EnvIn_of_itvsLe hpost (by decide +kernel), ?_⟩
  obtain ⟨hl8, hl1⟩ := Lim_split8 hl
  have h8 : (a8 : Int) < 2 ^ 24 := top_limb_lt_of_lt _ _ _ _ _ _ _ _ _ hl8 (by rw [repZ_cast9]; exact_mod_cast hv)
  have h := leVal_of_toZ hZ.symm
  have hs := as_bytes_fn_spec (a0 : Int) (a1 : Int) (a2 : Int) (a3 : Int) (a4 : Int) (a5 : Int) (a6 : Int) (a7 : Int) (a8 : Int) hl8 ⟨Int.natCast_nonneg a8, h8⟩
  rw [hs, repZ_cast9] at h
  exact_mod_cast h

end

section
variable (z0 z1 z2 z3 z4 z5 z6 z7 z8 z9 z10 z11 z12 z13 z14 z15 z16 : Nat)

/-- `Scalar29::montgomery_reduce(z)` for seventeen words within the contract whose radix-2^29 value `N` is
`< 2^261·l`: canonical `out` with `out·2^261 ≡ N (mod l)` -/
theorem montgomery_reduce_spec (hin : EnvIn [z0, z1, z2, z3, z4, z5, z6, z7, z8, z9, z10, z11, z12, z13, z14, z15, z16] Scalar29.pre_montgomery_reduce)
    (hN : val29 [z0, z1, z2, z3, z4, z5, z6, z7, z8, z9, z10, z11, z12, z13, z14, z15, z16] < 2 ^ 261 * l) :
    ∃ out, Dalek.Gen.Scalar29.montgomery_reduce.evalC [z0, z1, z2, z3, z4, z5, z6, z7, z8, z9, z10, z11, z12, z13, z14, z15, z16] = some out ∧
      Dalek.Gen.Scalar29.montgomery_reduce.evalW [z0, z1, z2, z3, z4, z5, z6, z7, z8, z9, z10, z11, z12, z13, z14, z15, z16] = out ∧
      EnvIn out limbs29 ∧ val29 out < l ∧
      val29 out * 2 ^ 261 % l = val29 [z0, z1, z2, z3, z4, z5, z6, z7, z8, z9, z10, z11, z12, z13, z14, z15, z16] % l := by
  have hl := limW_of_envIn hin
  simp only [toZ_cons, toZ_nil] at hl
  obtain ⟨o0, o1, o2, o3, o4, o5, o6, o7, o8, he, -, hcan, hd⟩ := montgomery_reduce_fn_spec _ _ _ _ _ _ _ _ _ _ _ _ _ _ _ _ _ hl
    (by rw [repZ_cast17]; exact_mod_cast hN)
  refine Prog.norm_spec montgomery_reduce_norm_ok (by decide +kernel) hin fun out hZ => ?_
  have h := val_glue hZ (montgomery_reduce_fn_ok ..) he rfl
  rw [← h, repZ_cast17] at hd
  rw [← h] at hcan
  exact ⟨by exact_mod_cast hcan.2, nat_mont_of_zmod (zmod_of_dvd hd)⟩

end

section
variable (x0 x1 x2 x3 x4 x5 x6 x7 x8 x9 x10 x11 x12 x13 x14 x15 x16 x17 x18 x19 x20 x21 x22 x23 x24 x25 x26 x27 x28 x29 x30 x31 : Nat)

/-- `Scalar29::from_bytes`: the nine limbs (`< 2^29`, top limb `< 2^24`) of the little-endian value of the 32 bytes -/
theorem from_bytes_spec (hin : EnvIn [x0, x1, x2, x3, x4, x5, x6, x7, x8, x9, x10, x11, x12, x13, x14, x15, x16, x17, x18, x19, x20, x21, x22, x23, x24, x25, x26, x27, x28, x29, x30, x31] Scalar29.pre_from_bytes) :
    ∃ out, Dalek.Gen.Scalar29.from_bytes.evalC [x0, x1, x2, x3, x4, x5, x6, x7, x8, x9, x10, x11, x12, x13, x14, x15, x16, x17, x18, x19, x20, x21, x22, x23, x24, x25, x26, x27, x28, x29, x30, x31] = some out ∧
      Dalek.Gen.Scalar29.from_bytes.evalW [x0, x1, x2, x3, x4, x5, x6, x7, x8, x9, x10, x11, x12, x13, x14, x15, x16, x17, x18, x19, x20, x21, x22, x23, x24, x25, x26, x27, x28, x29, x30, x31] = out ∧
      EnvIn out (rep 8 (ub (2 ^ 29 - 1)) ++ [ub (2 ^ 24 - 1)]) ∧
      val29 out = leVal [x0, x1, x2, x3, x4, x5, x6, x7, x8, x9, x10, x11, x12, x13, x14, x15, x16, x17, x18, x19, x20, x21, x22, x23, x24, x25, x26, x27, x28, x29, x30, x31] := by
  have hl := limBytes_of_envIn hin
  simp only [toZ_cons, toZ_nil] at hl
  obtain ⟨o0, o1, o2, o3, o4, o5, o6, o7, o8, he, -, -, hv⟩ := from_bytes_fn_spec (h := hl) ..
  refine Prog.norm_spec from_bytes_norm_ok (by decide +kernel) hin fun out hZ => ?_
  exact nat_of_leValZ (val_glue hZ (from_bytes_fn_ok ..) he hv) rfl

end

/-! ## non-vacuity of the hypotheses -/

example : EnvIn (List.replicate 18 (2 ^ 29 - 1)) Scalar29.pre_mul_internal := by decide +kernel
/-- `l - 1` is a canonical input inside the limb contract -/
example : EnvIn [485872620, 9640146, 501691798, 502512965, 333, 0, 0, 0, 1048576] (rep 9 Scalar29.lim) ∧
    val29 [485872620, 9640146, 501691798, 502512965, 333, 0, 0, 0, 1048576] < l := by decide +kernel
example : EnvIn (List.replicate 17 (9 * (2 ^ 29 - 1) * (2 ^ 29 - 1))) Scalar29.pre_montgomery_reduce := by decide +kernel
example : EnvIn [1, 2, 3, 4, 5, 6, 7, 8, 9, 10, 11, 12, 13, 14, 15, 16, 17] Scalar29.pre_montgomery_reduce ∧
    val29 [1, 2, 3, 4, 5, 6, 7, 8, 9, 10, 11, 12, 13, 14, 15, 16, 17] < 2 ^ 261 * l := by decide +kernel

end Dalek.Props.C02.Scalar29
