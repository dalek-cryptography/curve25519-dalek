/-
Bridge between the executable affine Edwards specification (`Dalek/Spec/Edwards.lean`, points `Pt`
with `Nat` coordinates) and the group `EdPoint edParams` over `Fp = ZMod (2^255 - 19)`.

Main user-facing statements (marked **bold** in the doc comments):
`onCurve_iff`, `toEd`, `toEd_zero/neg/add/sub/double/smul/msm/sum`, `onCurve_B`,
`smul_eq_zero_iff`, `decompress_some`, `decompress_none_iff`, `decompress_complete`,
`decompress_compress`, `compress_injective`, `compress_decompress`.
-/
import Dalek.Spec.Edwards
import Dalek.Proofs.Bridge.Sqrt
import Dalek.Proofs.Bridge.Bytes
import Dalek.Proofs.EdwardsGroup

namespace Dalek.Bridge

open Dalek.Spec Dalek.FieldFacts
open Dalek.Edwards (EdParams EdPoint)

/-! ## Curve parameters -/

/-- The specification constant `D` is the literal used in `FieldFacts`. -/
theorem D_eq_dNat : Dalek.Spec.D = Dalek.FieldFacts.dNat := rfl

theorem cast_D : ((D : Nat) : Fp) = Dalek.FieldFacts.d := by
  simp only [D, Dalek.FieldFacts.d, Nat.cast_ofNat]

theorem D_lt : D < P := by decide +kernel

/-- The Ed25519 curve `-x² + y² = 1 + d x² y²` over `GF(2^255-19)`: `d` is a non-square, `-1` is a
square, `2 ≠ 0`; hence `EdPoint edParams` is a commutative group (complete addition law). -/
def edParams : EdParams Fp where
  d := Dalek.FieldFacts.d
  d_nonsquare := d_not_isSquare
  neg_one_square := isSquare_neg_one
  two_ne_zero := two_ne_zero_p

@[simp] theorem edParams_d : edParams.d = Dalek.FieldFacts.d := rfl

/-- The group of points of the Ed25519 curve. -/
abbrev Ed := EdPoint edParams

/-! ## Points -/

/-- **`Spec.onCurve` is the curve equation in the field.** -/
theorem onCurve_iff (p : Pt) :
    onCurve p = true ↔ Dalek.Edwards.onCurve edParams.d (p.x : Fp) (p.y : Fp) := by
  unfold Dalek.Spec.onCurve Dalek.Edwards.onCurve
  dsimp only
  rw [beq_iff_cast (fsub_lt _ _) (fadd_lt _ _)]
  simp only [cast_fsub, cast_fadd, cast_fmul, cast_fsq, cast_D, Nat.cast_one, edParams_d]
  constructor <;> intro h <;> linear_combination h

/-- Both coordinates are canonical representatives. -/
def Canon (p : Pt) : Prop := p.x < P ∧ p.y < P

instance (p : Pt) : Decidable (Canon p) := by unfold Canon; infer_instance

/-- **The mathematical point denoted by a specification point on the curve.** -/
def toEd (p : Pt) (h : onCurve p = true) : Ed := ⟨(p.x : Fp), (p.y : Fp), (onCurve_iff p).1 h⟩

@[simp] theorem toEd_x (p : Pt) (h : onCurve p = true) : (toEd p h).x = (p.x : Fp) := rfl
@[simp] theorem toEd_y (p : Pt) (h : onCurve p = true) : (toEd p h).y = (p.y : Fp) := rfl

/-- `p` denotes the curve point `Q` (non-dependent form of `toEd p _ = Q`). -/
def Rep (p : Pt) (Q : Ed) : Prop := (p.x : Fp) = Q.x ∧ (p.y : Fp) = Q.y

theorem rep_toEd (p : Pt) (h : onCurve p = true) : Rep p (toEd p h) := ⟨rfl, rfl⟩

theorem Rep.on {p : Pt} {Q : Ed} (h : Rep p Q) : onCurve p = true := by
  rw [onCurve_iff, h.1, h.2]; exact Q.on

theorem Rep.toEd_eq {p : Pt} {Q : Ed} (h : Rep p Q) (hp : onCurve p = true) : toEd p hp = Q :=
  EdPoint.ext h.1 h.2

theorem rep_iff {p : Pt} {Q : Ed} : Rep p Q ↔ ∃ h, toEd p h = Q :=
  ⟨fun h => ⟨h.on, h.toEd_eq _⟩, fun ⟨h, e⟩ => e ▸ rep_toEd p h⟩

/-- Canonical specification points denoting the same curve point are equal. -/
theorem Rep.unique {p q : Pt} {Q : Ed} (hp : Rep p Q) (hq : Rep q Q) (cp : Canon p) (cq : Canon q) :
    p = q := by
  obtain ⟨px, py⟩ := p
  obtain ⟨qx, qy⟩ := q
  have hx : px = qx := eq_of_cast_eq cp.1 cq.1 (hp.1.trans hq.1.symm)
  have hy : py = qy := eq_of_cast_eq cp.2 cq.2 (hp.2.trans hq.2.symm)
  subst hx; subst hy; rfl

/-- **`toEd` is injective on canonical points.** -/
theorem toEd_injective {p q : Pt} (hp : onCurve p = true) (hq : onCurve q = true) (cp : Canon p)
    (cq : Canon q) (h : toEd p hp = toEd q hq) : p = q :=
  Rep.unique (rep_toEd p hp) (h ▸ rep_toEd q hq) cp cq

/-- Every curve point is denoted by a (unique) canonical specification point. -/
def ofEd (Q : Ed) : Pt := ⟨Q.x.val, Q.y.val⟩

theorem rep_ofEd (Q : Ed) : Rep (ofEd Q) Q :=
  ⟨ZMod.natCast_zmod_val Q.x, ZMod.natCast_zmod_val Q.y⟩

theorem canon_ofEd (Q : Ed) : Canon (ofEd Q) := ⟨ZMod.val_lt Q.x, ZMod.val_lt Q.y⟩

/-! ## Group operations -/

theorem canon_zero : Canon Pt.zero := by decide +kernel

theorem rep_zero : Rep Pt.zero 0 := by
  constructor
  · show ((0 : Nat) : Fp) = 0; exact Nat.cast_zero
  · show ((1 : Nat) : Fp) = 1; exact Nat.cast_one

theorem onCurve_zero : onCurve Pt.zero = true := rep_zero.on

/-- **Neutral element.** -/
theorem toEd_zero : toEd Pt.zero onCurve_zero = 0 := rep_zero.toEd_eq _

theorem canon_neg (p : Pt) : Canon p.neg := ⟨fneg_lt _, Nat.mod_lt _ P_pos⟩

theorem rep_neg {p : Pt} {Q : Ed} (h : Rep p Q) : Rep p.neg (-Q) := by
  constructor
  · show ((fneg p.x : Nat) : Fp) = (-Q).x
    rw [cast_fneg, h.1, EdPoint.neg_x]
  · show ((p.y % P : Nat) : Fp) = (-Q).y
    rw [cast_mod_P, h.2, EdPoint.neg_y]

theorem onCurve_neg {p : Pt} (h : onCurve p = true) : onCurve p.neg = true :=
  (rep_neg (rep_toEd p h)).on

/-- **Negation.** -/
theorem toEd_neg {p : Pt} (h : onCurve p = true) : toEd p.neg (onCurve_neg h) = -toEd p h :=
  (rep_neg (rep_toEd p h)).toEd_eq _

/-- The result of `Pt.add` is always canonical. -/
theorem canon_add (p q : Pt) : Canon (p.add q) := ⟨fmul_lt _ _, fmul_lt _ _⟩

theorem rep_add {p q : Pt} {Q R : Ed} (hp : Rep p Q) (hq : Rep q R) : Rep (p.add q) (Q + R) := by
  obtain ⟨hpx, hpy⟩ := hp
  obtain ⟨hqx, hqy⟩ := hq
  constructor
  · show ((fmul _ _ : Nat) : Fp) = (Q + R).x
    rw [EdPoint.add_x]
    simp only [cast_fmul, cast_fadd, cast_finv, cast_D, Nat.cast_one, hpx, hpy, hqx, hqy,
      edParams_d]
    rw [div_eq_mul_inv]
    congr 2; ring
  · show ((fmul _ _ : Nat) : Fp) = (Q + R).y
    rw [EdPoint.add_y]
    simp only [cast_fmul, cast_fadd, cast_fsub, cast_finv, cast_D, Nat.cast_one, hpx, hpy, hqx, hqy,
      edParams_d]
    rw [div_eq_mul_inv]
    congr 2; ring

/-- **Closure**: the specification sum of curve points is on the curve. -/
theorem onCurve_add {p q : Pt} (hp : onCurve p = true) (hq : onCurve q = true) :
    onCurve (p.add q) = true :=
  (rep_add (rep_toEd p hp) (rep_toEd q hq)).on

/-- **Addition**: `Pt.add` is the group law. -/
theorem toEd_add {p q : Pt} (hp : onCurve p = true) (hq : onCurve q = true) :
    toEd (p.add q) (onCurve_add hp hq) = toEd p hp + toEd q hq :=
  (rep_add (rep_toEd p hp) (rep_toEd q hq)).toEd_eq _

theorem canon_sub (p q : Pt) : Canon (p.sub q) := canon_add _ _

theorem rep_sub {p q : Pt} {Q R : Ed} (hp : Rep p Q) (hq : Rep q R) : Rep (p.sub q) (Q - R) := by
  rw [sub_eq_add_neg]; exact rep_add hp (rep_neg hq)

theorem onCurve_sub {p q : Pt} (hp : onCurve p = true) (hq : onCurve q = true) :
    onCurve (p.sub q) = true :=
  (rep_sub (rep_toEd p hp) (rep_toEd q hq)).on

/-- **Subtraction.** -/
theorem toEd_sub {p q : Pt} (hp : onCurve p = true) (hq : onCurve q = true) :
    toEd (p.sub q) (onCurve_sub hp hq) = toEd p hp - toEd q hq :=
  (rep_sub (rep_toEd p hp) (rep_toEd q hq)).toEd_eq _

theorem canon_double (p : Pt) : Canon p.double := canon_add _ _

theorem rep_double {p : Pt} {Q : Ed} (hp : Rep p Q) : Rep p.double (2 • Q) := by
  rw [two_nsmul]; exact rep_add hp hp

theorem onCurve_double {p : Pt} (hp : onCurve p = true) : onCurve p.double = true :=
  (rep_double (rep_toEd p hp)).on

/-- **Doubling.** -/
theorem toEd_double {p : Pt} (hp : onCurve p = true) :
    toEd p.double (onCurve_double hp) = 2 • toEd p hp :=
  (rep_double (rep_toEd p hp)).toEd_eq _

/-! ## Double-and-add and sums under a representation relation

`R a Q` reads "`a` denotes the curve point `Q`".  What follows needs only that `zero` denotes `0` and
that `add` denotes `+`, so it serves the affine `Rep` and the extended `ERep` alike. -/

/-- `Σ nᵢ • Qᵢ` over the shorter of the two lists. -/
def msmEd : List Nat → List Ed → Ed
  | n :: ns, Q :: Qs => n • Q + msmEd ns Qs
  | _, _ => 0

section Denotes

variable {α : Type} {R : α → Ed → Prop} {zero : α} {add : α → α → α} (h0 : R zero 0)
  (hadd : ∀ {a b : α} {P Q : Ed}, R a P → R b Q → R (add a b) (P + Q))
include hadd

theorem denotes_foldl_add {as : List α} {Qs : List Ed} (h : List.Forall₂ R as Qs) :
    ∀ {a : α} {A : Ed}, R a A → R (as.foldl add a) (A + Qs.sum) := by
  induction h with
  | nil => intro a A ha; rwa [List.foldl_nil, List.sum_nil, add_zero]
  | cons h1 _ ih =>
    intro a A ha
    rw [List.foldl_cons, List.sum_cons, ← add_assoc]
    exact ih (hadd ha h1)

include h0

/-- Double-and-add computes `n • Q`; `f fuel n` is the fuelled recursion at a fixed point `p`, given
by its two equations. -/
theorem denotes_smulFuel {dbl : α → α} (hdbl : ∀ {a : α} {P : Ed}, R a P → R (dbl a) (P + P))
    {p : α} {Q : Ed} (hp : R p Q) {f : Nat → Nat → α} (f_zero : ∀ n, f 0 n = zero)
    (f_succ : ∀ fuel n, f (fuel + 1) n =
      if n = 0 then zero else if n % 2 = 1 then add (dbl (f fuel (n / 2))) p else dbl (f fuel (n / 2))) :
    ∀ (fuel n : Nat), n < 2 ^ fuel → R (f fuel n) (n • Q) := by
  intro fuel
  induction fuel with
  | zero =>
    intro n hn
    rw [f_zero, show n = 0 by simpa using hn, zero_nsmul]; exact h0
  | succ fuel ih =>
    intro n hn
    rw [f_succ]
    by_cases hn0 : n = 0
    · rw [if_pos hn0, hn0, zero_nsmul]; exact h0
    · have hd := hdbl (ih (n / 2) (by omega))
      rw [← add_nsmul] at hd
      rw [if_neg hn0]
      by_cases hodd : n % 2 = 1
      · rw [if_pos hodd, show n • Q = (n / 2 + n / 2) • Q + Q by rw [← succ_nsmul]; congr 1; omega]
        exact hadd hd hp
      · rw [if_neg hodd, show n • Q = (n / 2 + n / 2) • Q by congr 1; omega]
        exact hd

/-- `msm` is a multiscalar sum over `smul`, given by its three equations. -/
theorem denotes_msm {smul : Nat → α → α} (hsmul : ∀ {a : α} {P : Ed}, R a P → ∀ n, R (smul n a) (n • P))
    {msm : List Nat → List α → α} (msm_nil : ∀ as, msm [] as = zero)
    (msm_cons_nil : ∀ n ns, msm (n :: ns) [] = zero)
    (msm_cons : ∀ n ns a as, msm (n :: ns) (a :: as) = add (smul n a) (msm ns as)) :
    ∀ (ns : List Nat) (as : List α) (Qs : List Ed), List.Forall₂ R as Qs → R (msm ns as) (msmEd ns Qs)
  | [], _, _, _ => by rw [msm_nil]; exact h0
  | _ :: _, _, _, .nil => by rw [msm_cons_nil]; exact h0
  | n :: ns, _, _, .cons h1 h2 => by
    rw [msm_cons]
    exact hadd (hsmul h1 n) (denotes_msm hsmul msm_nil msm_cons_nil msm_cons ns _ _ h2)

theorem denotes_sum {as : List α} {Qs : List Ed} (h : List.Forall₂ R as Qs) :
    R (as.foldl add zero) Qs.sum := by
  have := denotes_foldl_add hadd h h0
  rwa [zero_add] at this

end Denotes

/-! ## Scalar multiplication -/

theorem canon_smulFuel (fuel n : Nat) (p : Pt) : Canon (Pt.smulFuel fuel n p) := by
  cases fuel with
  | zero => exact canon_zero
  | succ fuel =>
    unfold Pt.smulFuel
    split
    · exact canon_zero
    · dsimp only; split <;> exact canon_add _ _

theorem rep_smulFuel {p : Pt} {Q : Ed} (hp : Rep p Q) :
    ∀ (fuel n : Nat), n < 2 ^ fuel → Rep (Pt.smulFuel fuel n p) (n • Q) :=
  denotes_smulFuel rep_zero rep_add (fun h => rep_add h h) hp (fun _ => rfl) (fun _ _ => rfl)

theorem canon_smul (n : Nat) (p : Pt) : Canon (Pt.smul n p) := canon_smulFuel _ _ _

theorem rep_smul {p : Pt} {Q : Ed} (hp : Rep p Q) (n : Nat) : Rep (Pt.smul n p) (n • Q) :=
  rep_smulFuel hp _ n Nat.lt_log2_self

theorem onCurve_smul {p : Pt} (hp : onCurve p = true) (n : Nat) : onCurve (Pt.smul n p) = true :=
  (rep_smul (rep_toEd p hp) n).on

/-- **Scalar multiplication**: `Pt.smul n p` is `n • p` in the group. -/
theorem toEd_smul {p : Pt} (hp : onCurve p = true) (n : Nat) :
    toEd (Pt.smul n p) (onCurve_smul hp n) = n • toEd p hp :=
  (rep_smul (rep_toEd p hp) n).toEd_eq _

/-- **Identity test**: a specification scalar multiple is `Pt.zero` iff it is `0` in the group
(this is what `isSmallOrder` (`n = 8`) and `isTorsionFree` (`n = L`) evaluate). -/
theorem smul_eq_zero_iff {p : Pt} (hp : onCurve p = true) (n : Nat) :
    (Pt.smul n p == Pt.zero) = true ↔ n • toEd p hp = 0 := by
  rw [beq_iff_eq]
  constructor
  · intro h
    rw [← toEd_smul hp n]
    exact (h ▸ rep_zero : Rep (Pt.smul n p) 0).toEd_eq _
  · intro h
    have := rep_smul (rep_toEd p hp) n
    rw [h] at this
    exact Rep.unique this rep_zero (canon_smul n p) canon_zero

theorem isIdentity_iff {p : Pt} (hp : onCurve p = true) (cp : Canon p) :
    isIdentity p = true ↔ toEd p hp = 0 := by
  unfold isIdentity
  rw [beq_iff_eq]
  constructor
  · intro h; exact (h ▸ rep_zero : Rep p 0).toEd_eq _
  · intro h
    exact Rep.unique (h ▸ rep_toEd p hp) rep_zero cp canon_zero

theorem isSmallOrder_iff {p : Pt} (hp : onCurve p = true) :
    isSmallOrder p = true ↔ 8 • toEd p hp = 0 := smul_eq_zero_iff hp 8

theorem isTorsionFree_iff {p : Pt} (hp : onCurve p = true) :
    isTorsionFree p = true ↔ L • toEd p hp = 0 := smul_eq_zero_iff hp L

/-! ## Multiscalar multiplication, sums -/

theorem canon_msm : ∀ (ns : List Nat) (ps : List Pt), Canon (Pt.msm ns ps)
  | [], _ => canon_zero
  | _ :: _, [] => canon_zero
  | _ :: _, _ :: _ => canon_add _ _

/-- **Multiscalar multiplication** (pointwise `Rep` on the two point lists). -/
theorem rep_msm : ∀ (ns : List Nat) (ps : List Pt) (Qs : List Ed),
    List.Forall₂ Rep ps Qs → Rep (Pt.msm ns ps) (msmEd ns Qs) :=
  denotes_msm rep_zero rep_add rep_smul (fun _ => rfl) (fun _ _ => rfl) (fun _ _ _ _ => rfl)

/-- **Sum of a list of points.** -/
theorem rep_sum (ps : List Pt) (Qs : List Ed) (h : List.Forall₂ Rep ps Qs) :
    Rep (Pt.sum ps) Qs.sum :=
  denotes_sum rep_zero rep_add h

/-! ## The basepoint -/

/-- **The Ed25519 basepoint is on the curve** (kernel evaluation of the specification). -/
theorem onCurve_B : onCurve B = true := by decide +kernel

theorem canon_B : Canon B := by decide +kernel

/-- The basepoint as a group element. -/
def Bpt : Ed := toEd B onCurve_B

theorem rep_B : Rep B Bpt := rep_toEd _ _

/-! ## Decompression -/

/-- The denominator `d y² + 1` never vanishes (`d` is a non-square). -/
theorem dyy_add_one_ne_zero (y : Fp) : Dalek.FieldFacts.d * y ^ 2 + 1 ≠ 0 := by
  intro h
  by_cases hy : y = 0
  · rw [hy] at h
    exact one_ne_zero (α := Fp) (by linear_combination h)
  · apply d_not_isSquare
    refine ⟨sqrtM1 / y, ?_⟩
    have hi := sqrtM1_mul_self
    field_simp
    linear_combination h - hi

/-- The curve equation solved for `x²`. -/
theorem onCurve_iff_ratio (x y : Fp) :
    Dalek.Edwards.onCurve Dalek.FieldFacts.d x y ↔
      x ^ 2 * (Dalek.FieldFacts.d * y ^ 2 + 1) = y ^ 2 - 1 := by
  unfold Dalek.Edwards.onCurve
  constructor <;> intro h <;> linear_combination -h

/-- `u = y² - 1` of `decompress`. -/
def decU (b : List UInt8) : Nat := fsub (fsq (feFromBytes b)) 1
/-- `v = d y² + 1` of `decompress`. -/
def decV (b : List UInt8) : Nat := fadd (fmul D (fsq (feFromBytes b))) 1

theorem decompress_unfold (b : List UInt8) :
    decompress b =
      if (sqrtRatioM1 (decU b) (decV b)).1 = true then
        some ⟨if signBit b = true then fneg (sqrtRatioM1 (decU b) (decV b)).2
              else (sqrtRatioM1 (decU b) (decV b)).2, feFromBytes b⟩
      else none := by
  unfold decompress decU decV
  dsimp only

theorem cast_decU (b : List UInt8) : ((decU b : Nat) : Fp) = ((feFromBytes b : Nat) : Fp) ^ 2 - 1 := by
  simp only [decU, cast_fsub, cast_fsq, Nat.cast_one]

theorem cast_decV (b : List UInt8) :
    ((decV b : Nat) : Fp) = Dalek.FieldFacts.d * ((feFromBytes b : Nat) : Fp) ^ 2 + 1 := by
  simp only [decV, cast_fadd, cast_fmul, cast_fsq, cast_D, Nat.cast_one]

theorem decV_ne_zero (b : List UInt8) : ((decV b : Nat) : Fp) ≠ 0 := by
  rw [cast_decV]; exact dyy_add_one_ne_zero _

theorem fneg_fneg (a : Nat) : fneg (fneg a) = a % P := by
  apply eq_of_cast_eq (fneg_lt _) (Nat.mod_lt _ P_pos)
  rw [cast_fneg, cast_fneg, cast_mod_P, neg_neg]

theorem fneg_zero : fneg 0 = 0 := by decide +kernel

theorem fneg_eq_zero_iff {a : Nat} (ha : a < P) : fneg a = 0 ↔ a = 0 := by
  rw [← cast_eq_zero_of_lt (fneg_lt a), cast_fneg, neg_eq_zero, cast_eq_zero_of_lt ha]

/-- A point with `y = feFromBytes b` is on the curve iff `x² v = u`. -/
theorem onCurve_iff_dec (x : Nat) (b : List UInt8) :
    onCurve ⟨x, feFromBytes b⟩ = true ↔
      (x : Fp) ^ 2 * ((decV b : Nat) : Fp) = ((decU b : Nat) : Fp) := by
  rw [onCurve_iff, edParams_d, onCurve_iff_ratio, cast_decU, cast_decV]

/-- **Soundness of `decompress`**: the result is a canonical point on the curve, its `y` is the
low 255 bits of the input reduced mod `p`, and (unless `x = 0`) the sign of `x` is bit 255. -/
theorem decompress_some {b : List UInt8} {p : Pt} (h : decompress b = some p) :
    onCurve p = true ∧ Canon p ∧ p.y = (leToNat b % 2 ^ 255) % P ∧
      (p.x ≠ 0 → isNeg p.x = signBit b) ∧ (p.x ≠ 0 → (p.x % 2 = 1 ↔ signBit b = true)) := by
  rw [decompress_unfold] at h
  by_cases hok : (sqrtRatioM1 (decU b) (decV b)).1 = true
  · rw [if_pos hok] at h
    have hp := (Option.some.inj h).symm
    have hr := sqrtRatioM1_ok hok
    have hlt := sqrtRatioM1_lt (decU b) (decV b)
    have hev := sqrtRatioM1_even (decU b) (decV b)
    generalize (sqrtRatioM1 (decU b) (decV b)).2 = r at hp hr hlt hev
    have hPodd := P_odd
    -- facts on x
    have hx : p.x = if signBit b = true then fneg r else r := by rw [hp]
    have hy : p.y = feFromBytes b := by rw [hp]
    have hxlt : p.x < P := by rw [hx]; split; exact fneg_lt _; exact hlt
    have hxsq : (p.x : Fp) ^ 2 = (r : Fp) ^ 2 := by
      rw [hx]; split
      · rw [cast_fneg]; ring
      · rfl
    have hpar : p.x ≠ 0 → (p.x % 2 = 1 ↔ signBit b = true) := by
      intro hx0
      rw [hx] at hx0 ⊢
      by_cases hs : signBit b = true
      · rw [if_pos hs] at hx0 ⊢
        have hr0 : r ≠ 0 := fun h0 => hx0 (by rw [h0]; exact fneg_zero)
        have : fneg r = P - r := by
          unfold fneg; rw [Nat.mod_eq_of_lt hlt]; exact Nat.mod_eq_of_lt (by omega)
        rw [this]; constructor
        · intro _; exact hs
        · intro _; omega
      · rw [if_neg hs]; constructor
        · intro h1; omega
        · intro h1; exact absurd h1 hs
    refine ⟨?_, ⟨hxlt, by rw [hy]; exact feFromBytes_lt b⟩, hy, ?_, hpar⟩
    · have : p = ⟨p.x, feFromBytes b⟩ := by rw [← hy]
      rw [this, onCurve_iff_dec, hxsq]; exact hr
    · intro hx0
      have := hpar hx0
      by_cases hs : signBit b = true
      · rw [hs, isNeg_iff, Nat.mod_eq_of_lt hxlt]; exact this.2 hs
      · rw [Bool.not_eq_true] at hs
        rw [hs, isNeg_eq_false_iff, Nat.mod_eq_of_lt hxlt]
        have : ¬ p.x % 2 = 1 := fun h1 => by rw [this.1 h1] at hs; cases hs
        omega
  · rw [if_neg hok] at h; cases h

/-- **Completeness of `decompress`** (1): it fails exactly when no point of the curve has the
`y`-coordinate encoded by the input. -/
theorem decompress_none_iff (b : List UInt8) :
    decompress b = none ↔ ¬ ∃ x : Nat, onCurve ⟨x, feFromBytes b⟩ = true := by
  constructor
  · intro h ⟨x, hx⟩
    rw [decompress_unfold] at h
    by_cases hok : (sqrtRatioM1 (decU b) (decV b)).1 = true
    · rw [if_pos hok] at h; cases h
    · apply hok
      rw [sqrtRatioM1_ok_iff]
      right
      refine ⟨decV_ne_zero b, (x : Fp), ?_⟩
      rw [div_eq_iff (decV_ne_zero b), ← (onCurve_iff_dec x b).1 hx]; ring
  · intro h
    cases hd : decompress b with
    | none => rfl
    | some p =>
      exfalso; apply h
      obtain ⟨h1, -, h2, -⟩ := decompress_some hd
      refine ⟨p.x, ?_⟩
      have : (⟨p.x, feFromBytes b⟩ : Pt) = p := by
        cases p; simp only [feFromBytes] at h2 ⊢; simp only [h2]
      rw [this]; exact h1

/-- **Completeness of `decompress`** (2): every canonical curve point whose `y` is encoded by `b`
and whose sign matches bit 255 (or whose `x` is `0`, whatever bit 255) is returned. -/
theorem decompress_complete {b : List UInt8} {p : Pt} (hp : onCurve p = true) (cp : Canon p)
    (hy : p.y = feFromBytes b) (hs : p.x = 0 ∨ isNeg p.x = signBit b) :
    decompress b = some p := by
  obtain ⟨x, y⟩ := p
  simp only at hy hs
  subst hy
  have hxlt : x < P := cp.1
  have hcurve := (onCurve_iff_dec x b).1 hp
  -- the non-negative root is `fabs x`
  have hroot : sqrtRatioM1 (decU b) (decV b) = (true, fabs x) := by
    apply sqrtRatioM1_unique (decV_ne_zero b) (fabs_lt x) (fabs_even x)
    rw [cast_fabs_sq]; exact hcurve
  rw [decompress_unfold, hroot]
  simp only [if_true]
  congr 2
  rcases hs with h0 | hs
  · subst h0
    have : fabs 0 = 0 := by decide +kernel
    rw [this, fneg_zero]; simp
  · unfold fabs
    rw [← hs]
    cases hn : isNeg x
    · simp [Nat.mod_eq_of_lt hxlt]
    · simp only [if_true]
      rw [fneg_fneg, Nat.mod_eq_of_lt hxlt]

/-! ## Compression -/

@[simp] theorem compress_length (p : Pt) : (compress p).length = 32 := by
  unfold compress; simp

theorem leToNat_feToBytes_lt_255 (a : Nat) : leToNat (feToBytes a) < 2 ^ 255 :=
  Nat.lt_trans (leToNat_feToBytes_lt a) P_lt_255

theorem signBit_compress (p : Pt) : signBit (compress p) = isNeg p.x :=
  signBit_setSignBit (feToBytes_length _) (leToNat_feToBytes_lt_255 _) _

theorem feFromBytes_compress (p : Pt) : feFromBytes (compress p) = p.y % P := by
  unfold compress
  rw [feFromBytes_setSignBit (feToBytes_length _) (leToNat_feToBytes_lt_255 _),
    feFromBytes_feToBytes]

/-- **Round trip**: decompressing the encoding of a canonical curve point returns the point. -/
theorem decompress_compress {p : Pt} (hp : onCurve p = true) (cp : Canon p) :
    decompress (compress p) = some p :=
  decompress_complete hp cp (by rw [feFromBytes_compress, Nat.mod_eq_of_lt cp.2])
    (Or.inr (signBit_compress p).symm)

/-- **`compress` is injective on canonical curve points.** -/
theorem compress_injective {p q : Pt} (hp : onCurve p = true) (cp : Canon p)
    (hq : onCurve q = true) (cq : Canon q) (h : compress p = compress q) : p = q := by
  have h1 := decompress_compress hp cp
  rw [h, decompress_compress hq cq] at h1
  exact (Option.some.inj h1).symm

/-- **Round trip on canonical encodings**: if a 32-byte string whose low 255 bits are `< p`
decompresses to `p`, and it is not the non-canonical "negative zero" (`x = 0` with bit 255 set),
then `compress p` gives the string back. -/
theorem compress_decompress {b : List UInt8} {p : Pt} (hlen : b.length = 32)
    (hcanon : leToNat b % 2 ^ 255 < P) (h : decompress b = some p)
    (hnz : ¬ (p.x = 0 ∧ signBit b = true)) : compress p = b := by
  obtain ⟨-, -, hy, hsign, -⟩ := decompress_some h
  have hs : isNeg p.x = signBit b := by
    by_cases hx0 : p.x = 0
    · rw [hx0, isNeg_zero]
      cases hsb : signBit b
      · rfl
      · exact absurd ⟨hx0, hsb⟩ hnz
    · exact hsign hx0
  have h255 : leToNat b % 2 ^ 255 < 2 ^ 255 := Nat.mod_lt _ (by norm_num)
  apply leToNat_inj (by rw [compress_length, hlen])
  unfold compress
  rw [leToNat_setSignBit (feToBytes_length _) (leToNat_feToBytes_lt_255 _), leToNat_feToBytes, hy,
    Nat.mod_mod, Nat.mod_eq_of_lt hcanon, hs, signBit_eq hlen]
  have hlt := leToNat_lt b
  rw [hlen] at hlt
  have e : (256 : Nat) ^ 32 = 2 ^ 255 * 2 := by norm_num
  rw [e] at hlt
  have hq : leToNat b / 2 ^ 255 < 2 := by
    rw [Nat.div_lt_iff_lt_mul (by norm_num)]; exact hlt
  have hdm := Nat.div_add_mod (leToNat b) (2 ^ 255)
  by_cases hb : leToNat b / 2 ^ 255 % 2 = 1
  · simp only [hb, decide_true, if_true]
    have : leToNat b / 2 ^ 255 = 1 := by omega
    rw [this] at hdm; omega
  · simp only [hb, decide_false, Bool.false_eq_true, if_false]
    have : leToNat b / 2 ^ 255 = 0 := by omega
    rw [this] at hdm; omega

end Dalek.Bridge
