/-
The Ed25519 basepoint has prime order `ℓ` in the group `Ed` (kernel evaluation of `[ℓ]B = 0` in
extended coordinates, which need no inversion, transported by `Bridge/FastEdwards.lean`; `B ≠ 0`).
-/
import Dalek.Proofs.Bridge.FastEdwards
import Dalek.Proofs.Bridge.Scalar
import Mathlib.GroupTheory.OrderOfElement

namespace Dalek.Bridge

open Dalek.Spec

/-- **`[ℓ]B = 0`** in the group of the curve. -/
theorem L_nsmul_Bpt : L • Bpt = 0 :=
  (isTorsionFree_iff_E erep_basepoint).1 (by decide +kernel)

theorem Bpt_ne_zero : Bpt ≠ 0 := by
  intro h
  have := (isIdentity_iff onCurve_B canon_B).2 h
  revert this
  decide +kernel

/-- **The basepoint has order exactly `ℓ`** (`ℓ` is prime). -/
theorem addOrderOf_Bpt : addOrderOf Bpt = L :=
  addOrderOf_eq_prime L_nsmul_Bpt Bpt_ne_zero

/-- Scalar multiples of the basepoint only depend on the scalar mod `ℓ`. -/
theorem mod_L_nsmul_Bpt (n : Nat) : (n % L) • Bpt = n • Bpt := by
  rw [← addOrderOf_Bpt]; exact mod_addOrderOf_nsmul Bpt n

/-- `[n]B = [m]B` iff `n ≡ m (mod ℓ)`. -/
theorem nsmul_Bpt_eq_iff (n m : Nat) : n • Bpt = m • Bpt ↔ (n : Fl) = (m : Fl) := by
  rw [castL_eq_iff, ← Nat.ModEq, ← addOrderOf_Bpt]
  exact nsmul_eq_nsmul_iff_modEq

end Dalek.Bridge
