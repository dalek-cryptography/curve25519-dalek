import Dalek.Proofs.Bytes26
import Dalek.Gen.Norm.FiatField26
/-!
# Byte codecs of the fiat-u32 field backend: integer-level correctness of the normalised kernels

Helper lemmas for `Dalek/Props/C01/FiatBytes26.lean`; same plan as `Dalek/Proofs/FiatBytes51.lean`, limb widths `ws26`.
The objects are `Dalek.Gen.Norm.FiatField26.from_bytes_fn` / `as_bytes_fn`: the shallow integer forms of the LimbIR
programs generated from `backend/serial/fiat_u32/field.rs` with `fiat_25519_from_bytes` / `fiat_25519_to_bytes` inlined.

* `from_bytes_fn_eq`: on bytes in `[0,255]` the ten limbs are `digits ws26 (N % 2^255)` (`N` the little-endian value of
  the 32 bytes; the wrapper clears bit 255 first); two carry chains, over the bytes 0…15 and 16…31.
* `asBytesFiat26` / `packFiat26`: readable hand model of `fiat_25519_to_bytes` (subtract `p` limb-wise with a borrow
  chain, add `p` back under the mask of the final borrow with a carry chain whose last carry is dropped, pack);
  `as_bytes_fn_eq_model`: the generated normal form IS the hand model (written out, up to `x - 0` and `0 + x`).
* `asBytesFiat26_eq` / `as_bytes_fn_val`: for limbs inside fiat's TIGHT bounds (even limbs `≤ 2^26`, odd limbs `≤ 2^25`,
  inclusive) the output is the 32 base-256 digits of `(Σ a_i 2^⌈25.5 i⌉) % p`.

No script refers to SSA numbers or to the order of the generated `let`s.
-/
namespace Dalek.Proofs.FiatBytes26
open Dalek Dalek.IR Dalek.Model.FieldBytes Dalek.Proofs.Bytes51 Dalek.Proofs.Radix
open Dalek.Proofs.Bytes26 (val26Z_toZ val26Z_digits ws26 list_eq_of_length_10)
open Dalek.Gen.Norm.FiatField26

/-! ### `from_bytes` -/

/-- the ten limbs are the 26/25-bit digits of the little-endian value with bit 255 cleared.  `fiat_25519_from_bytes` runs
two carry chains over groups of shifted bytes, one over the bytes 0…15 (limbs 0…4, 128 bits) and one over the bytes
16…31 (limbs 5…9, the top byte masked); in each the last limb is not reduced by the code, and equals its digit because
the carry out of it is `0`. -/
theorem from_bytes_fn_eq {x0 x1 x2 x3 x4 x5 x6 x7 x8 x9 x10 x11 x12 x13 x14 x15 x16 x17 x18 x19 x20 x21 x22 x23 x24 x25 x26 x27 x28 x29 x30 x31 : Int} (hb : ∀ b ∈ [x0, x1, x2, x3, x4, x5, x6, x7, x8, x9, x10, x11, x12, x13, x14, x15, x16, x17, x18, x19, x20, x21, x22, x23, x24, x25, x26, x27, x28, x29, x30, x31], 0 ≤ b ∧ b ≤ 255) :
    from_bytes_fn x0 x1 x2 x3 x4 x5 x6 x7 x8 x9 x10 x11 x12 x13 x14 x15 x16 x17 x18 x19 x20 x21 x22 x23 x24 x25 x26 x27 x28 x29 x30 x31 = digits ws26 (leValZ [x0, x1, x2, x3, x4, x5, x6, x7, x8, x9, x10, x11, x12, x13, x14, x15, x16, x17, x18, x19, x20, x21, x22, x23, x24, x25, x26, x27, x28, x29, x30, x31] % 2 ^ 255) := by
  obtain ⟨hdA, hcA⟩ := Chain.spec (show Chain [26, 25, 26, 25, 26] 0
    [x3 * 2 ^ 24 + x2 * 2 ^ 16 + x1 * 2 ^ 8 + x0, x6 * 2 ^ 22 + x5 * 2 ^ 14 + x4 * 2 ^ 6,
     x9 * 2 ^ 21 + x8 * 2 ^ 13 + x7 * 2 ^ 5, x12 * 2 ^ 19 + x11 * 2 ^ 11 + x10 * 2 ^ 3,
     x15 * 2 ^ 18 + x14 * 2 ^ 10 + x13 * 2 ^ 2] _ _ from
    .cons rfl (.cons rfl (.cons rfl (.cons rfl (.cons rfl .nil)))))
  obtain ⟨hdB, hcB⟩ := Chain.spec (show Chain [25, 26, 25, 26, 25] 0
    [x19 * 2 ^ 24 + x18 * 2 ^ 16 + x17 * 2 ^ 8 + x16, x22 * 2 ^ 23 + x21 * 2 ^ 15 + x20 * 2 ^ 7,
     x25 * 2 ^ 21 + x24 * 2 ^ 13 + x23 * 2 ^ 5, x28 * 2 ^ 20 + x27 * 2 ^ 12 + x26 * 2 ^ 4,
     x31 % 2 ^ 7 * 2 ^ 18 + x30 * 2 ^ 10 + x29 * 2 ^ 2] _ _ from
    .cons rfl (.cons rfl (.cons rfl (.cons rfl (.cons rfl .nil)))))
  have hV : radVal [26, 25, 26, 25, 26]
    [x3 * 2 ^ 24 + x2 * 2 ^ 16 + x1 * 2 ^ 8 + x0, x6 * 2 ^ 22 + x5 * 2 ^ 14 + x4 * 2 ^ 6,
     x9 * 2 ^ 21 + x8 * 2 ^ 13 + x7 * 2 ^ 5, x12 * 2 ^ 19 + x11 * 2 ^ 11 + x10 * 2 ^ 3,
     x15 * 2 ^ 18 + x14 * 2 ^ 10 + x13 * 2 ^ 2]
      = leValZ [x0, x1, x2, x3, x4, x5, x6, x7, x8, x9, x10, x11, x12, x13, x14, x15, x16, x17, x18, x19, x20, x21, x22, x23, x24, x25, x26, x27, x28, x29, x30, x31] % 2 ^ 255 % 2 ^ 128 ∧
    radVal [25, 26, 25, 26, 25]
    [x19 * 2 ^ 24 + x18 * 2 ^ 16 + x17 * 2 ^ 8 + x16, x22 * 2 ^ 23 + x21 * 2 ^ 15 + x20 * 2 ^ 7,
     x25 * 2 ^ 21 + x24 * 2 ^ 13 + x23 * 2 ^ 5, x28 * 2 ^ 20 + x27 * 2 ^ 12 + x26 * 2 ^ 4,
     x31 % 2 ^ 7 * 2 ^ 18 + x30 * 2 ^ 10 + x29 * 2 ^ 2]
      = leValZ [x0, x1, x2, x3, x4, x5, x6, x7, x8, x9, x10, x11, x12, x13, x14, x15, x16, x17, x18, x19, x20, x21, x22, x23, x24, x25, x26, x27, x28, x29, x30, x31] % 2 ^ 255 / 2 ^ 128 := by
    simp only [List.mem_cons, List.not_mem_nil, or_false, forall_eq_or_imp, forall_eq] at hb
    simp only [radVal, leValZ]
    omega
  rw [zero_add, hV.1] at hdA hcA
  rw [zero_add, hV.2] at hdB hcB
  have hM := And.intro (Int.emod_nonneg (leValZ [x0, x1, x2, x3, x4, x5, x6, x7, x8, x9, x10, x11, x12, x13, x14, x15, x16, x17, x18, x19, x20, x21, x22, x23, x24, x25, x26, x27, x28, x29, x30, x31]) (by norm_num : (2 : Int) ^ 255 ≠ 0))
    (Int.emod_lt_of_pos (leValZ [x0, x1, x2, x3, x4, x5, x6, x7, x8, x9, x10, x11, x12, x13, x14, x15, x16, x17, x18, x19, x20, x21, x22, x23, x24, x25, x26, x27, x28, x29, x30, x31]) (by norm_num : (0 : Int) < 2 ^ 255))
  generalize leValZ [x0, x1, x2, x3, x4, x5, x6, x7, x8, x9, x10, x11, x12, x13, x14, x15, x16, x17, x18, x19, x20, x21, x22, x23, x24, x25, x26, x27, x28, x29, x30, x31] % 2 ^ 255 = M at *
  have hzA := hcA.trans (Int.ediv_eq_zero_of_lt (Int.emod_nonneg _ (by norm_num)) (Int.emod_lt_of_pos _ (by norm_num)))
  have hzB := hcB.trans ((ediv_pow_ediv_pow M 128 127).trans (Int.ediv_eq_zero_of_lt hM.1 hM.2))
  rw [show ws26 = [26, 25, 26, 25, 26] ++ [25, 26, 25, 26, 25] from rfl, digits_append,
    show digits [26, 25, 26, 25, 26] M = digits [26, 25, 26, 25, 26] (M % 2 ^ 128) from (digits_emod _ M).symm,
    show M / 2 ^ [26, 25, 26, 25, 26].sum = M / 2 ^ 128 from rfl, ← hdA, ← hdB]
  simp only [from_bytes_fn, ← Int.add_assoc, Int.add_zero, Int.reducePow, List.cons_append, List.nil_append,
    List.cons.injEq, true_and, and_true] at hzA hzB ⊢
  exact ⟨(emod_eq_of_ediv_eq_zero hzA).symm, (emod_eq_of_ediv_eq_zero hzB).symm⟩

theorem from_bytes_fn_val (x0 x1 x2 x3 x4 x5 x6 x7 x8 x9 x10 x11 x12 x13 x14 x15 x16 x17 x18 x19 x20 x21 x22 x23 x24 x25 x26 x27 x28 x29 x30 x31 : Int)
    (h0 : 0 ≤ x0 ∧ x0 ≤ 255) (h1 : 0 ≤ x1 ∧ x1 ≤ 255) (h2 : 0 ≤ x2 ∧ x2 ≤ 255) (h3 : 0 ≤ x3 ∧ x3 ≤ 255) (h4 : 0 ≤ x4 ∧ x4 ≤ 255) (h5 : 0 ≤ x5 ∧ x5 ≤ 255) (h6 : 0 ≤ x6 ∧ x6 ≤ 255) (h7 : 0 ≤ x7 ∧ x7 ≤ 255) (h8 : 0 ≤ x8 ∧ x8 ≤ 255) (h9 : 0 ≤ x9 ∧ x9 ≤ 255) (h10 : 0 ≤ x10 ∧ x10 ≤ 255) (h11 : 0 ≤ x11 ∧ x11 ≤ 255) (h12 : 0 ≤ x12 ∧ x12 ≤ 255) (h13 : 0 ≤ x13 ∧ x13 ≤ 255) (h14 : 0 ≤ x14 ∧ x14 ≤ 255) (h15 : 0 ≤ x15 ∧ x15 ≤ 255) (h16 : 0 ≤ x16 ∧ x16 ≤ 255) (h17 : 0 ≤ x17 ∧ x17 ≤ 255) (h18 : 0 ≤ x18 ∧ x18 ≤ 255) (h19 : 0 ≤ x19 ∧ x19 ≤ 255) (h20 : 0 ≤ x20 ∧ x20 ≤ 255) (h21 : 0 ≤ x21 ∧ x21 ≤ 255) (h22 : 0 ≤ x22 ∧ x22 ≤ 255) (h23 : 0 ≤ x23 ∧ x23 ≤ 255) (h24 : 0 ≤ x24 ∧ x24 ≤ 255) (h25 : 0 ≤ x25 ∧ x25 ≤ 255) (h26 : 0 ≤ x26 ∧ x26 ≤ 255) (h27 : 0 ≤ x27 ∧ x27 ≤ 255) (h28 : 0 ≤ x28 ∧ x28 ≤ 255) (h29 : 0 ≤ x29 ∧ x29 ≤ 255) (h30 : 0 ≤ x30 ∧ x30 ≤ 255) (h31 : 0 ≤ x31 ∧ x31 ≤ 255) :
    val26Z (from_bytes_fn x0 x1 x2 x3 x4 x5 x6 x7 x8 x9 x10 x11 x12 x13 x14 x15 x16 x17 x18 x19 x20 x21 x22 x23 x24 x25 x26 x27 x28 x29 x30 x31) = leValZ [x0, x1, x2, x3, x4, x5, x6, x7, x8, x9, x10, x11, x12, x13, x14, x15, x16, x17, x18, x19, x20, x21, x22, x23, x24, x25, x26, x27, x28, x29, x30, x31] % 2 ^ 255 := by
  have hb : ∀ b ∈ [x0, x1, x2, x3, x4, x5, x6, x7, x8, x9, x10, x11, x12, x13, x14, x15, x16, x17, x18, x19, x20, x21, x22, x23, x24, x25, x26, x27, x28, x29, x30, x31], 0 ≤ b ∧ b ≤ 255 := by
    simp only [List.mem_cons, List.not_mem_nil, or_false, forall_eq_or_imp, forall_eq]
    exact ⟨h0, h1, h2, h3, h4, h5, h6, h7, h8, h9, h10, h11, h12, h13, h14, h15, h16, h17, h18, h19, h20, h21, h22, h23, h24, h25, h26, h27, h28, h29, h30, h31⟩
  rw [from_bytes_fn_eq hb, val26Z_digits, Int.emod_emod_of_dvd _ (dvd_refl _)]

/-- the limbs returned by `from_bytes_fn` are reduced: even limbs `< 2^26`, odd limbs `< 2^25` -/
theorem from_bytes_fn_bounds (x0 x1 x2 x3 x4 x5 x6 x7 x8 x9 x10 x11 x12 x13 x14 x15 x16 x17 x18 x19 x20 x21 x22 x23 x24 x25 x26 x27 x28 x29 x30 x31 : Int)
    (h0 : 0 ≤ x0 ∧ x0 ≤ 255) (h1 : 0 ≤ x1 ∧ x1 ≤ 255) (h2 : 0 ≤ x2 ∧ x2 ≤ 255) (h3 : 0 ≤ x3 ∧ x3 ≤ 255) (h4 : 0 ≤ x4 ∧ x4 ≤ 255) (h5 : 0 ≤ x5 ∧ x5 ≤ 255) (h6 : 0 ≤ x6 ∧ x6 ≤ 255) (h7 : 0 ≤ x7 ∧ x7 ≤ 255) (h8 : 0 ≤ x8 ∧ x8 ≤ 255) (h9 : 0 ≤ x9 ∧ x9 ≤ 255) (h10 : 0 ≤ x10 ∧ x10 ≤ 255) (h11 : 0 ≤ x11 ∧ x11 ≤ 255) (h12 : 0 ≤ x12 ∧ x12 ≤ 255) (h13 : 0 ≤ x13 ∧ x13 ≤ 255) (h14 : 0 ≤ x14 ∧ x14 ≤ 255) (h15 : 0 ≤ x15 ∧ x15 ≤ 255) (h16 : 0 ≤ x16 ∧ x16 ≤ 255) (h17 : 0 ≤ x17 ∧ x17 ≤ 255) (h18 : 0 ≤ x18 ∧ x18 ≤ 255) (h19 : 0 ≤ x19 ∧ x19 ≤ 255) (h20 : 0 ≤ x20 ∧ x20 ≤ 255) (h21 : 0 ≤ x21 ∧ x21 ≤ 255) (h22 : 0 ≤ x22 ∧ x22 ≤ 255) (h23 : 0 ≤ x23 ∧ x23 ≤ 255) (h24 : 0 ≤ x24 ∧ x24 ≤ 255) (h25 : 0 ≤ x25 ∧ x25 ≤ 255) (h26 : 0 ≤ x26 ∧ x26 ≤ 255) (h27 : 0 ≤ x27 ∧ x27 ≤ 255) (h28 : 0 ≤ x28 ∧ x28 ≤ 255) (h29 : 0 ≤ x29 ∧ x29 ≤ 255) (h30 : 0 ≤ x30 ∧ x30 ≤ 255) (h31 : 0 ≤ x31 ∧ x31 ≤ 255) :
    ∀ l ∈ (from_bytes_fn x0 x1 x2 x3 x4 x5 x6 x7 x8 x9 x10 x11 x12 x13 x14 x15 x16 x17 x18 x19 x20 x21 x22 x23 x24 x25 x26 x27 x28 x29 x30 x31).zip [(2 : Int) ^ 26, 2 ^ 25, 2 ^ 26, 2 ^ 25, 2 ^ 26, 2 ^ 25, 2 ^ 26, 2 ^ 25, 2 ^ 26, 2 ^ 25], 0 ≤ l.1 ∧ l.1 < l.2 := by
  have hb : ∀ b ∈ [x0, x1, x2, x3, x4, x5, x6, x7, x8, x9, x10, x11, x12, x13, x14, x15, x16, x17, x18, x19, x20, x21, x22, x23, x24, x25, x26, x27, x28, x29, x30, x31], 0 ≤ b ∧ b ≤ 255 := by
    simp only [List.mem_cons, List.not_mem_nil, or_false, forall_eq_or_imp, forall_eq]
    exact ⟨h0, h1, h2, h3, h4, h5, h6, h7, h8, h9, h10, h11, h12, h13, h14, h15, h16, h17, h18, h19, h20, h21, h22, h23, h24, h25, h26, h27, h28, h29, h30, h31⟩
  rw [from_bytes_fn_eq hb]
  intro l hl
  simp only [digits, List.zip_cons_cons, List.zip_nil_right, List.mem_cons, List.not_mem_nil, or_false] at hl
  rcases hl with rfl|rfl|rfl|rfl|rfl|rfl|rfl|rfl|rfl|rfl <;> exact ⟨Int.emod_nonneg _ (by norm_num), Int.emod_lt_of_pos _ (by norm_num)⟩

/-! ### `as_bytes`: hand model -/

/-- the final bit arrangement of `fiat_25519_to_bytes`: limbs 0..4 (bits 0..127) go to bytes 0..15, limbs 5..9 (bits
128..254) to bytes 16..31; each byte is taken off a running value by `% 2^8`, `/ 2^8`, and a limb is shifted in at the
byte that holds its first bit, by the position of that bit inside the byte. -/
def packFiat26 (f0 f1 f2 f3 f4 f5 f6 f7 f8 f9 : Int) : List Int :=
  chainOut (List.replicate 15 8) 0 [f0, 0, 0, f1 * 4, 0, 0, f2 * 8, 0, 0, f3 * 32, 0, 0, f4 * 64, 0, 0] ++
  chainOut (List.replicate 15 8) 0 [f5, 0, 0, f6 * 2, 0, 0, f7 * 8, 0, 0, f8 * 16, 0, 0, f9 * 64, 0, 0]

/-- hand model of `FieldElement2625::as_bytes` of the fiat-u32 backend (= `fiat_25519_to_bytes`) over ideal integers.
`p = 2^255 - 19` has the limbs `2^26 - 19, 2^25 - 1, 2^26 - 1, 2^25 - 1, …`. -/
def asBytesFiat26 (a0 a1 a2 a3 a4 a5 a6 a7 a8 a9 : Int) : List Int :=
  -- `D = A - p` limb-wise in wrapping u32 arithmetic; `w_i` = the borrow = the sign bit (bit 31) of the difference
  let d0 := (a0 - 67108845) % 2 ^ (32 : Nat)
  let s0 := d0 % 2 ^ (26 : Nat)
  let w0 := d0 / 2 ^ (31 : Nat)
  let d1 := ((a1 - w0) % 2 ^ (32 : Nat) - 33554431) % 2 ^ (32 : Nat)
  let s1 := d1 % 2 ^ (25 : Nat)
  let w1 := d1 / 2 ^ (31 : Nat)
  let d2 := ((a2 - w1) % 2 ^ (32 : Nat) - 67108863) % 2 ^ (32 : Nat)
  let s2 := d2 % 2 ^ (26 : Nat)
  let w2 := d2 / 2 ^ (31 : Nat)
  let d3 := ((a3 - w2) % 2 ^ (32 : Nat) - 33554431) % 2 ^ (32 : Nat)
  let s3 := d3 % 2 ^ (25 : Nat)
  let w3 := d3 / 2 ^ (31 : Nat)
  let d4 := ((a4 - w3) % 2 ^ (32 : Nat) - 67108863) % 2 ^ (32 : Nat)
  let s4 := d4 % 2 ^ (26 : Nat)
  let w4 := d4 / 2 ^ (31 : Nat)
  let d5 := ((a5 - w4) % 2 ^ (32 : Nat) - 33554431) % 2 ^ (32 : Nat)
  let s5 := d5 % 2 ^ (25 : Nat)
  let w5 := d5 / 2 ^ (31 : Nat)
  let d6 := ((a6 - w5) % 2 ^ (32 : Nat) - 67108863) % 2 ^ (32 : Nat)
  let s6 := d6 % 2 ^ (26 : Nat)
  let w6 := d6 / 2 ^ (31 : Nat)
  let d7 := ((a7 - w6) % 2 ^ (32 : Nat) - 33554431) % 2 ^ (32 : Nat)
  let s7 := d7 % 2 ^ (25 : Nat)
  let w7 := d7 / 2 ^ (31 : Nat)
  let d8 := ((a8 - w7) % 2 ^ (32 : Nat) - 67108863) % 2 ^ (32 : Nat)
  let s8 := d8 % 2 ^ (26 : Nat)
  let w8 := d8 / 2 ^ (31 : Nat)
  let d9 := ((a9 - w8) % 2 ^ (32 : Nat) - 33554431) % 2 ^ (32 : Nat)
  let s9 := d9 % 2 ^ (25 : Nat)
  let w9 := d9 / 2 ^ (31 : Nat)
  -- add `p` back iff the subtraction borrowed (constant-time mask), with a carry chain; the last carry is dropped
  let m0 := if w9 = 0 then (0 : Int) else 67108845
  let mE := if w9 = 0 then (0 : Int) else 67108863
  let mO := if w9 = 0 then (0 : Int) else 33554431
  let t0 := s0 + m0
  let f0 := t0 % 2 ^ (26 : Nat)
  let c0 := t0 / 2 ^ (26 : Nat)
  let t1 := c0 + s1 + mO
  let f1 := t1 % 2 ^ (25 : Nat)
  let c1 := t1 / 2 ^ (25 : Nat)
  let t2 := c1 + s2 + mE
  let f2 := t2 % 2 ^ (26 : Nat)
  let c2 := t2 / 2 ^ (26 : Nat)
  let t3 := c2 + s3 + mO
  let f3 := t3 % 2 ^ (25 : Nat)
  let c3 := t3 / 2 ^ (25 : Nat)
  let t4 := c3 + s4 + mE
  let f4 := t4 % 2 ^ (26 : Nat)
  let c4 := t4 / 2 ^ (26 : Nat)
  let t5 := c4 + s5 + mO
  let f5 := t5 % 2 ^ (25 : Nat)
  let c5 := t5 / 2 ^ (25 : Nat)
  let t6 := c5 + s6 + mE
  let f6 := t6 % 2 ^ (26 : Nat)
  let c6 := t6 / 2 ^ (26 : Nat)
  let t7 := c6 + s7 + mO
  let f7 := t7 % 2 ^ (25 : Nat)
  let c7 := t7 / 2 ^ (25 : Nat)
  let t8 := c7 + s8 + mE
  let f8 := t8 % 2 ^ (26 : Nat)
  let c8 := t8 / 2 ^ (26 : Nat)
  let t9 := c8 + s9 + mO
  let f9 := t9 % 2 ^ (25 : Nat)
  packFiat26 f0 f1 f2 f3 f4 f5 f6 f7 f8 f9

/-- the generated normal form and the hand model are the same integer function: written out, they differ in `x - 0` and
`0 + x` -/
theorem as_bytes_fn_eq_model (a0 a1 a2 a3 a4 a5 a6 a7 a8 a9 : Int) :
    as_bytes_fn a0 a1 a2 a3 a4 a5 a6 a7 a8 a9 = asBytesFiat26 a0 a1 a2 a3 a4 a5 a6 a7 a8 a9 := by
  unfold as_bytes_fn asBytesFiat26 packFiat26
  simp only [chainOut, List.replicate, List.cons_append, List.nil_append, sub_zero, zero_add, add_zero]

/-! ### `as_bytes` -/

/-- one step of the subtract-with-borrow chain (`fiat_25519_subborrowx_u26` in wrapping 32-bit arithmetic) is a step of a
carry chain on the limb `a - m` with the carries `-b`, `-w` -/
theorem borrowE (a b m d s w : Int) (ha : 0 ≤ a ∧ a ≤ 2 ^ 26) (hb : 0 ≤ b ∧ b ≤ 1)
    (hm : 2 ^ 26 - 19 ≤ m ∧ m ≤ 2 ^ 26 - 1)
    (ed : d = ((a - b) % 2 ^ 32 - m) % 2 ^ 32) (es : s = d % 2 ^ 26) (ew : w = d / 2 ^ 31) :
    (0 ≤ w ∧ w ≤ 1) ∧ (0 ≤ s ∧ s < 2 ^ 26) ∧ a - m + -b = s + 2 ^ 26 * -w := by
  omega

/-- the same at an odd (25-bit) limb (`fiat_25519_subborrowx_u25`) -/
theorem borrowO (a b m d s w : Int) (ha : 0 ≤ a ∧ a ≤ 2 ^ 25) (hb : 0 ≤ b ∧ b ≤ 1)
    (hm : m = 2 ^ 25 - 1)
    (ed : d = ((a - b) % 2 ^ 32 - m) % 2 ^ 32) (es : s = d % 2 ^ 25) (ew : w = d / 2 ^ 31) :
    (0 ≤ w ∧ w ≤ 1) ∧ (0 ≤ s ∧ s < 2 ^ 25) ∧ a - m + -b = s + 2 ^ 25 * -w := by
  omega

/-- ten limbs inside fiat's tight bounds represent a number below `2 p` -/
theorem tight_lt (a0 a1 a2 a3 a4 a5 a6 a7 a8 a9 : Int)
    (ha0 : 0 ≤ a0 ∧ a0 ≤ 2 ^ 26) (ha1 : 0 ≤ a1 ∧ a1 ≤ 2 ^ 25) (ha2 : 0 ≤ a2 ∧ a2 ≤ 2 ^ 26) (ha3 : 0 ≤ a3 ∧ a3 ≤ 2 ^ 25) (ha4 : 0 ≤ a4 ∧ a4 ≤ 2 ^ 26) (ha5 : 0 ≤ a5 ∧ a5 ≤ 2 ^ 25) (ha6 : 0 ≤ a6 ∧ a6 ≤ 2 ^ 26) (ha7 : 0 ≤ a7 ∧ a7 ≤ 2 ^ 25) (ha8 : 0 ≤ a8 ∧ a8 ≤ 2 ^ 26) (ha9 : 0 ≤ a9 ∧ a9 ≤ 2 ^ 25) :
    0 ≤ val26Z [a0, a1, a2, a3, a4, a5, a6, a7, a8, a9] ∧ val26Z [a0, a1, a2, a3, a4, a5, a6, a7, a8, a9] < 2 * (2 ^ 255 - 19) := by
  simp only [val26Z, List.getD_cons_zero, List.getD_cons_succ]
  omega

/-- packing: the 32 bytes are the base-256 digits of the integer whose 26/25-bit digits the limbs are -/
theorem packFiat26_eq (f0 f1 f2 f3 f4 f5 f6 f7 f8 f9 M : Int) (hM : 0 ≤ M ∧ M < 2 ^ 255)
    (hf : [f0, f1, f2, f3, f4, f5, f6, f7, f8, f9] = digits ws26 M) :
    packFiat26 f0 f1 f2 f3 f4 f5 f6 f7 f8 f9 = digits (List.replicate 32 8) M := by
  rw [show ws26 = [26, 25, 26, 25, 26] ++ [25, 26, 25, 26, 25] from rfl, digits_append] at hf
  obtain ⟨hA, hB⟩ := List.append_inj (s₁ := [f0, f1, f2, f3, f4]) (t₁ := [f5, f6, f7, f8, f9]) hf rfl
  have hlo := And.intro (Int.emod_nonneg M (by norm_num : (2 : Int) ^ 128 ≠ 0))
    (Int.emod_lt_of_pos M (by norm_num : (0 : Int) < 2 ^ 128))
  have hhi : 0 ≤ M / 2 ^ 128 ∧ M / 2 ^ 128 < 2 ^ 127 := by omega
  have hVA : radVal [26, 25, 26, 25, 26] [f0, f1, f2, f3, f4] = M % 2 ^ 128 :=
    (congrArg _ hA).trans (radVal_digits _ M)
  have hVB : radVal [25, 26, 25, 26, 25] [f5, f6, f7, f8, f9] = M / 2 ^ 128 :=
    (congrArg _ hB).trans ((radVal_digits _ _).trans (Int.emod_eq_of_lt hhi.1 hhi.2))
  rw [packFiat26,
    chainOut_bytes 15 _ (M % 2 ^ 128) rfl (by rw [← hVA]; simp only [radVal, List.replicate]; ring) hlo,
    chainOut_bytes 15 _ (M / 2 ^ 128) rfl (by rw [← hVB]; simp only [radVal, List.replicate]; ring)
      ⟨hhi.1, hhi.2.trans (by norm_num)⟩,
    show List.replicate 32 8 = List.replicate 16 8 ++ List.replicate 16 8 from rfl, digits_append,
    show (2 : Int) ^ (List.replicate 16 8).sum = 2 ^ 128 from rfl]
  exact congrArg (· ++ _) (digits_emod (List.replicate 16 8) M)

/-- **the hand model computes the canonical encoding**: for limbs inside fiat's tight bounds (inclusive) the output is the
32 base-256 digits of `(Σ a_i 2^⌈25.5 i⌉) mod p`.  The borrow chain leaves the digits of `A - p` and minus its carry out
as the borrow `w9`; the add-back chain leaves the digits of that plus `w9 p`. -/
theorem asBytesFiat26_eq (a0 a1 a2 a3 a4 a5 a6 a7 a8 a9 : Int)
    (ha0 : 0 ≤ a0 ∧ a0 ≤ 2 ^ 26) (ha1 : 0 ≤ a1 ∧ a1 ≤ 2 ^ 25) (ha2 : 0 ≤ a2 ∧ a2 ≤ 2 ^ 26) (ha3 : 0 ≤ a3 ∧ a3 ≤ 2 ^ 25) (ha4 : 0 ≤ a4 ∧ a4 ≤ 2 ^ 26) (ha5 : 0 ≤ a5 ∧ a5 ≤ 2 ^ 25) (ha6 : 0 ≤ a6 ∧ a6 ≤ 2 ^ 26) (ha7 : 0 ≤ a7 ∧ a7 ≤ 2 ^ 25) (ha8 : 0 ≤ a8 ∧ a8 ≤ 2 ^ 26) (ha9 : 0 ≤ a9 ∧ a9 ≤ 2 ^ 25) :
    asBytesFiat26 a0 a1 a2 a3 a4 a5 a6 a7 a8 a9 = digits (List.replicate 32 8) (val26Z [a0, a1, a2, a3, a4, a5, a6, a7, a8, a9] % (2 ^ 255 - 19)) := by
  unfold asBytesFiat26
  extract_lets d0 s0 w0 d1 s1 w1 d2 s2 w2 d3 s3 w3 d4 s4 w4 d5 s5 w5 d6 s6 w6 d7 s7 w7 d8 s8 w8 d9 s9 w9 m0 mE mO t0 f0 c0 t1 f1 c1 t2 f2 c2 t3 f3 c3 t4 f4 c4 t5 f5 c5 t6 f6 c6 t7 f7 c7 t8 f8 c8 t9 f9
  have b0 := borrowE a0 0 67108845 d0 s0 w0 ha0 ⟨le_rfl, zero_le_one⟩ (by norm_num)
    (show (a0 - 67108845) % 2 ^ 32 = _ by omega) rfl rfl
  have b1 := borrowO a1 w0 33554431 d1 s1 w1 ha1 b0.1 (by norm_num) rfl rfl rfl
  have b2 := borrowE a2 w1 67108863 d2 s2 w2 ha2 b1.1 (by norm_num) rfl rfl rfl
  have b3 := borrowO a3 w2 33554431 d3 s3 w3 ha3 b2.1 (by norm_num) rfl rfl rfl
  have b4 := borrowE a4 w3 67108863 d4 s4 w4 ha4 b3.1 (by norm_num) rfl rfl rfl
  have b5 := borrowO a5 w4 33554431 d5 s5 w5 ha5 b4.1 (by norm_num) rfl rfl rfl
  have b6 := borrowE a6 w5 67108863 d6 s6 w6 ha6 b5.1 (by norm_num) rfl rfl rfl
  have b7 := borrowO a7 w6 33554431 d7 s7 w7 ha7 b6.1 (by norm_num) rfl rfl rfl
  have b8 := borrowE a8 w7 67108863 d8 s8 w8 ha8 b7.1 (by norm_num) rfl rfl rfl
  have b9 := borrowO a9 w8 33554431 d9 s9 w9 ha9 b8.1 (by norm_num) rfl rfl rfl
  obtain ⟨hs, hw⟩ := Chain.spec (show Chain ws26 (-0)
      [a0 - 67108845, a1 - 33554431, a2 - 67108863, a3 - 33554431, a4 - 67108863, a5 - 33554431, a6 - 67108863, a7 - 33554431, a8 - 67108863, a9 - 33554431]
      [s0, s1, s2, s3, s4, s5, s6, s7, s8, s9] (-w9) from
    .step b0.2.1 b0.2.2 (.step b1.2.1 b1.2.2 (.step b2.2.1 b2.2.2 (.step b3.2.1 b3.2.2 (.step b4.2.1 b4.2.2 (.step b5.2.1 b5.2.2 (.step b6.2.1 b6.2.2 (.step b7.2.1 b7.2.2 (.step b8.2.1 b8.2.2 (.step b9.2.1 b9.2.2 (.nil)))))))))))
  rw [show -0 + radVal ws26 [a0 - 67108845, a1 - 33554431, a2 - 67108863, a3 - 33554431, a4 - 67108863, a5 - 33554431, a6 - 67108863, a7 - 33554431, a8 - 67108863, a9 - 33554431]
      = val26Z [a0, a1, a2, a3, a4, a5, a6, a7, a8, a9] - (2 ^ 255 - 19) by
    simp only [radVal, val26Z, List.getD_cons_zero, List.getD_cons_succ]; ring] at hs hw
  obtain ⟨hf, -⟩ := Chain.spec (show Chain ws26 0 [s0 + m0, s1 + mO, s2 + mE, s3 + mO, s4 + mE, s5 + mO, s6 + mE, s7 + mO, s8 + mE, s9 + mO]
      [f0, f1, f2, f3, f4, f5, f6, f7, f8, f9] (t9 / 2 ^ 25) from
    .cons (add_zero _) (.cons (add_rotate ..).symm (.cons (add_rotate ..).symm (.cons (add_rotate ..).symm (.cons (add_rotate ..).symm (.cons (add_rotate ..).symm (.cons (add_rotate ..).symm (.cons (add_rotate ..).symm (.cons (add_rotate ..).symm (.cons (add_rotate ..).symm (.nil)))))))))))
  have hA := tight_lt a0 a1 a2 a3 a4 a5 a6 a7 a8 a9 ha0 ha1 ha2 ha3 ha4 ha5 ha6 ha7 ha8 ha9
  rw [show 0 + radVal ws26 [s0 + m0, s1 + mO, s2 + mE, s3 + mO, s4 + mE, s5 + mO, s6 + mE, s7 + mO, s8 + mE, s9 + mO]
        = radVal ws26 [s0, s1, s2, s3, s4, s5, s6, s7, s8, s9] + (2 ^ 255 - 19) * w9 by
      rw [show m0 = _ from ite_mask w9 _ b9.1, show mE = _ from ite_mask w9 _ b9.1,
        show mO = _ from ite_mask w9 _ b9.1]; simp only [radVal]; ring,
    hs, radVal_digits, ← digits_emod, show (2 : Int) ^ ws26.sum = 2 ^ 255 from rfl, fiat_canon _ w9 hA hw] at hf
  exact packFiat26_eq f0 f1 f2 f3 f4 f5 f6 f7 f8 f9 _ (emod_p_bounds _) hf

/-- the same for the generated normal form -/
theorem as_bytes_fn_eq (a0 a1 a2 a3 a4 a5 a6 a7 a8 a9 : Int)
    (ha0 : 0 ≤ a0 ∧ a0 ≤ 2 ^ 26) (ha1 : 0 ≤ a1 ∧ a1 ≤ 2 ^ 25) (ha2 : 0 ≤ a2 ∧ a2 ≤ 2 ^ 26) (ha3 : 0 ≤ a3 ∧ a3 ≤ 2 ^ 25) (ha4 : 0 ≤ a4 ∧ a4 ≤ 2 ^ 26) (ha5 : 0 ≤ a5 ∧ a5 ≤ 2 ^ 25) (ha6 : 0 ≤ a6 ∧ a6 ≤ 2 ^ 26) (ha7 : 0 ≤ a7 ∧ a7 ≤ 2 ^ 25) (ha8 : 0 ≤ a8 ∧ a8 ≤ 2 ^ 26) (ha9 : 0 ≤ a9 ∧ a9 ≤ 2 ^ 25) :
    as_bytes_fn a0 a1 a2 a3 a4 a5 a6 a7 a8 a9 = digits (List.replicate 32 8) (val26Z [a0, a1, a2, a3, a4, a5, a6, a7, a8, a9] % (2 ^ 255 - 19)) :=
  (as_bytes_fn_eq_model ..).trans (asBytesFiat26_eq a0 a1 a2 a3 a4 a5 a6 a7 a8 a9 ha0 ha1 ha2 ha3 ha4 ha5 ha6 ha7 ha8 ha9)

/-- every output is a byte and the little-endian value of the output is `(Σ a_i 2^⌈25.5 i⌉) mod p` -/
theorem as_bytes_fn_val (a0 a1 a2 a3 a4 a5 a6 a7 a8 a9 : Int)
    (ha0 : 0 ≤ a0 ∧ a0 ≤ 2 ^ 26) (ha1 : 0 ≤ a1 ∧ a1 ≤ 2 ^ 25) (ha2 : 0 ≤ a2 ∧ a2 ≤ 2 ^ 26) (ha3 : 0 ≤ a3 ∧ a3 ≤ 2 ^ 25) (ha4 : 0 ≤ a4 ∧ a4 ≤ 2 ^ 26) (ha5 : 0 ≤ a5 ∧ a5 ≤ 2 ^ 25) (ha6 : 0 ≤ a6 ∧ a6 ≤ 2 ^ 26) (ha7 : 0 ≤ a7 ∧ a7 ≤ 2 ^ 25) (ha8 : 0 ≤ a8 ∧ a8 ≤ 2 ^ 26) (ha9 : 0 ≤ a9 ∧ a9 ≤ 2 ^ 25) :
    (∀ b ∈ as_bytes_fn a0 a1 a2 a3 a4 a5 a6 a7 a8 a9, 0 ≤ b ∧ b ≤ 255) ∧
    leValZ (as_bytes_fn a0 a1 a2 a3 a4 a5 a6 a7 a8 a9) = val26Z [a0, a1, a2, a3, a4, a5, a6, a7, a8, a9] % (2 ^ 255 - 19) := by
  rw [as_bytes_fn_eq a0 a1 a2 a3 a4 a5 a6 a7 a8 a9 ha0 ha1 ha2 ha3 ha4 ha5 ha6 ha7 ha8 ha9, leValZ_digits8]
  exact ⟨mem_digits8 32 _, by omega⟩

end Dalek.Proofs.FiatBytes26
