import Dalek.IR.LimbPost
/-!
# `Prog.normFast`, `NProg.evalZFast` — `Prog.norm` and `NProg.evalZ` arranged for evaluation by the Lean kernel

As `Prog.post` (`Dalek/IR/LimbPost.lean`), for the whole result of the analyser and for the run of its normal form:
the values of the locals are kept NEWEST FIRST beside the unchanged inputs, so that a new local is one `cons` instead
of an append at the end of the environment.  `Prog.normFast_eq : p.normFast pre = p.norm pre` and
`NProg.evalZ_eq_fast : q.evalZ xs = q.evalZFast xs`; `Prog.nf` is the normal form alone.
-/
namespace Dalek.IR

/-! ### the analyser -/

/-- `E.norm`, the environment given as a lookup function -/
def E.normL (look : Nat → Option Itv) : E → Option (Itv × NE)
  | .v i => (look i).map (fun t => (t, NE.v i))
  | .c n => some (⟨n, n, tzOf 200 n⟩, NE.c n)
  | .add w a b => do
      let (ia, na) ← a.normL look; let (ib, nb) ← b.normL look
      if ia.hi + ib.hi < 2 ^ w then some (⟨ia.lo + ib.lo, ia.hi + ib.hi, min ia.tz ib.tz⟩, NE.add na nb) else none
  | .sub w a b => do
      let (ia, na) ← a.normL look; let (ib, nb) ← b.normL look
      if ib.hi ≤ ia.lo ∧ ia.hi < 2 ^ w then some (⟨ia.lo - ib.hi, ia.hi - ib.lo, min ia.tz ib.tz⟩, NE.sub na nb) else none
  | .mul w a b => do
      let (ia, na) ← a.normL look; let (ib, nb) ← b.normL look
      if ia.hi * ib.hi < 2 ^ w then some (⟨ia.lo * ib.lo, ia.hi * ib.hi, ia.tz + ib.tz⟩, NE.mul na nb) else none
  | .wadd w a b => do
      let (ia, na) ← a.normL look; let (ib, nb) ← b.normL look
      if ia.hi + ib.hi < 2 ^ w then some (⟨ia.lo + ib.lo, ia.hi + ib.hi, min ia.tz ib.tz⟩, NE.add na nb)
      else some (⟨0, 2 ^ w - 1, min (min ia.tz ib.tz) w⟩, NE.mod2 (NE.add na nb) w)
  | .wsub w a b => do
      let (ia, na) ← a.normL look; let (ib, nb) ← b.normL look
      if ib.hi ≤ ia.lo ∧ ia.hi < 2 ^ w then some (⟨ia.lo - ib.hi, ia.hi - ib.lo, min ia.tz ib.tz⟩, NE.sub na nb)
      else some (⟨0, 2 ^ w - 1, min (min ia.tz ib.tz) w⟩, NE.mod2 (NE.sub na nb) w)
  | .wmul w a b => do
      let (ia, na) ← a.normL look; let (ib, nb) ← b.normL look
      if ia.hi * ib.hi < 2 ^ w then some (⟨ia.lo * ib.lo, ia.hi * ib.hi, ia.tz + ib.tz⟩, NE.mul na nb)
      else some (⟨0, 2 ^ w - 1, min (ia.tz + ib.tz) w⟩, NE.mod2 (NE.mul na nb) w)
  | .shr a k => do
      let (ia, na) ← a.normL look
      some (⟨ia.lo / 2 ^ k, ia.hi / 2 ^ k, ia.tz - k⟩, NE.div2 na k)
  | .shl w a k => do
      let (ia, na) ← a.normL look
      if ia.hi * 2 ^ k < 2 ^ w then some (⟨ia.lo * 2 ^ k, ia.hi * 2 ^ k, ia.tz + k⟩, NE.mul na (NE.c (2 ^ k)))
      else some (⟨0, 2 ^ w - 1, min (ia.tz + k) w⟩, NE.mod2 (NE.mul na (NE.c (2 ^ k))) w)
  | .band a b => do
      let (ia, na) ← a.normL look; let (ib, nb) ← b.normL look
      if ia.hi < 2 ^ ib.tz ∨ ib.hi < 2 ^ ia.tz then some (⟨0, 0, 200⟩, NE.c 0)
      else
      match (if ib.lo = ib.hi then isMask ib.hi else none) with
      | some k =>
          if ia.hi < 2 ^ k then some (ia, na)
          else some (⟨0, 2 ^ k - 1, min ia.tz k⟩, NE.mod2 na k)
      | none => some (⟨0, min ia.hi ib.hi, 0⟩, NE.band na nb)
  | .bor a b => do
      let (ia, na) ← a.normL look; let (ib, nb) ← b.normL look
      if ia.hi < 2 ^ ib.tz ∨ ib.hi < 2 ^ ia.tz then
        some (⟨ia.lo + ib.lo, ia.hi + ib.hi, min ia.tz ib.tz⟩, NE.add na nb)
      else some (⟨0, bitCeil (max ia.hi ib.hi), 0⟩, NE.bor na nb)
  | .bxor a b => do
      let (ia, na) ← a.normL look; let (ib, nb) ← b.normL look
      some (⟨0, bitCeil (max ia.hi ib.hi), 0⟩, NE.bxor na nb)
  | .cast w a => do
      let (ia, na) ← a.normL look
      if ia.hi < 2 ^ w then some (ia, na)
      else some (⟨0, 2 ^ w - 1, min ia.tz w⟩, NE.mod2 na w)
  | .sel cnd a b => do
      let (ic, nc) ← cnd.normL look; let (ia, na) ← a.normL look; let (ib, nb) ← b.normL look
      if ic.hi < 2 then some (⟨min ia.lo ib.lo, max ia.hi ib.hi, min ia.tz ib.tz⟩, NE.sel nc na nb) else none

theorem E.normL_eq {look : Nat → Option Itv} {ienv : List Itv} (h : ∀ i, look i = ienv[i]?) :
    ∀ e : E, e.normL look = e.norm ienv
  | .v i => by simp only [E.normL, E.norm, h i]
  | .c n => rfl
  | .add w a b => by simp only [E.normL, E.norm, E.normL_eq h a, E.normL_eq h b]
  | .sub w a b => by simp only [E.normL, E.norm, E.normL_eq h a, E.normL_eq h b]
  | .mul w a b => by simp only [E.normL, E.norm, E.normL_eq h a, E.normL_eq h b]
  | .wadd w a b => by simp only [E.normL, E.norm, E.normL_eq h a, E.normL_eq h b]
  | .wsub w a b => by simp only [E.normL, E.norm, E.normL_eq h a, E.normL_eq h b]
  | .wmul w a b => by simp only [E.normL, E.norm, E.normL_eq h a, E.normL_eq h b]
  | .shr a k => by simp only [E.normL, E.norm, E.normL_eq h a]
  | .shl w a k => by simp only [E.normL, E.norm, E.normL_eq h a]
  | .band a b => by
      simp only [E.normL, E.norm, E.normL_eq h a, E.normL_eq h b]
      rfl
  | .bor a b => by simp only [E.normL, E.norm, E.normL_eq h a, E.normL_eq h b]
  | .bxor a b => by simp only [E.normL, E.norm, E.normL_eq h a, E.normL_eq h b]
  | .cast w a => by simp only [E.normL, E.norm, E.normL_eq h a]
  | .sel cnd a b => by simp only [E.normL, E.norm, E.normL_eq h cnd, E.normL_eq h a, E.normL_eq h b]

/-- `normBody` with the inputs `pre` (`n` of them) and the locals newest first (`m` of them) -/
def normBodyL (pre : List Itv) (n : Nat) : List S → List Itv → Nat → Option ((List Itv × Nat) × List NE)
  | [], loc, m => some ((loc, m), [])
  | .set e :: ss, loc, m =>
    match e.normL (look pre n loc m) with
    | some (t, ne) =>
      match normBodyL pre n ss (t :: loc) (m + 1) with
      | some (r, nes) => some (r, ne :: nes)
      | none => none
    | none => none
  | .assertLt e k :: ss, loc, m =>
    match e.normL (look pre n loc m) with
    | some (t, _) => if t.hi < k then normBodyL pre n ss loc m else none
    | none => none

theorem normBodyL_eq (pre : List Itv) : ∀ (ss : List S) (loc : List Itv),
    (normBodyL pre pre.length ss loc loc.length).map (fun r => ((pre ++ r.1.1.reverse, r.1.2), r.2)) =
      (normBody ss (pre ++ loc.reverse)).map (fun r => ((r.1, r.1.length - pre.length), r.2))
  | [], loc => by simp [normBodyL, normBody]
  | .set e :: ss, loc => by
      have ih := fun t => normBodyL_eq pre ss (t :: loc)
      simp only [normBodyL, normBody, E.normL_eq (look_eq pre loc) e]
      rcases e.norm (pre ++ loc.reverse) with _ | ⟨t, ne⟩
      · simp
      · have ih := ih t
        simp only [List.reverse_cons, ← List.append_assoc, List.length_cons] at ih
        simp only [Option.bind_eq_bind, Option.bind_some]
        rcases hb : normBody ss (pre ++ loc.reverse ++ [t]) with _ | ⟨ienv', nes⟩
        · rw [hb] at ih
          rcases hl : normBodyL pre pre.length ss (t :: loc) (loc.length + 1) with _ | ⟨r, nes'⟩
          · simp
          · rw [hl] at ih; simp at ih
        · rw [hb] at ih
          rcases hl : normBodyL pre pre.length ss (t :: loc) (loc.length + 1) with _ | ⟨r, nes'⟩
          · rw [hl] at ih; simp at ih
          · rw [hl] at ih
            simp only [Option.map_some, Option.some.injEq, Prod.mk.injEq] at ih
            simp [ih.1.1, ih.1.2, ih.2]
  | .assertLt e k :: ss, loc => by
      simp only [normBodyL, normBody, E.normL_eq (look_eq pre loc) e]
      rcases e.norm (pre ++ loc.reverse) with _ | ⟨t, ne⟩
      · simp
      · simp only [Option.bind_eq_bind, Option.bind_some]
        split
        · exact normBodyL_eq pre ss loc
        · simp

/-- `Prog.norm`, evaluated with the locals newest first -/
def Prog.normFast (p : Prog) (pre : List Itv) : Option (NProg × List Itv) :=
  if pre.length = p.nIn then
    match normBodyL pre p.nIn p.body [] 0 with
    | some ((loc, m), nes) =>
      match pickP (look pre p.nIn loc m) p.outs with
      | some post => some (⟨p.nIn, nes, p.outs⟩, post)
      | none => none
    | none => none
  else none

theorem Prog.normFast_eq (p : Prog) (pre : List Itv) : p.normFast pre = p.norm pre := by
  unfold Prog.normFast Prog.norm
  split
  · rename_i hn
    have hb := normBodyL_eq pre p.body []
    simp only [List.reverse_nil, List.append_nil, List.length_nil, hn] at hb
    rcases hp : normBodyL pre p.nIn p.body [] 0 with _ | ⟨⟨loc, m⟩, nes⟩
    · rw [hp] at hb
      rcases hq : normBody p.body pre with _ | ⟨ienv, nes'⟩
      · rfl
      · rw [hq] at hb; simp at hb
    · rw [hp] at hb
      rcases hq : normBody p.body pre with _ | ⟨ienv, nes'⟩
      · rw [hq] at hb; simp at hb
      · rw [hq] at hb
        simp only [Option.map_some, Option.some.injEq, Prod.mk.injEq] at hb
        obtain ⟨⟨h1, h2⟩, rfl⟩ := hb
        have hl : ∀ i, look pre p.nIn loc m i = ienv[i]? := by
          intro i
          have : m = loc.length := by
            have := congrArg List.length h1
            simp only [List.length_append, List.length_reverse] at this
            omega
          rw [← h1, ← hn, this]
          exact look_eq pre loc i
        simp only [pickP_eq hl p.outs, Option.bind_eq_bind, Option.bind_some]
        cases pickI ienv p.outs <;> rfl
  · rfl

/-- the normal form `Prog.norm` computes for `p` under `pre`, if the analysis succeeds -/
def Prog.nf (p : Prog) (pre : List Itv) : Option NProg := (p.normFast pre).map (·.1)

theorem Prog.nf_eq (p : Prog) (pre : List Itv) : p.nf pre = (p.norm pre).map (·.1) := by
  rw [Prog.nf, Prog.normFast_eq]

/-! ### the run of a normal form -/

/-- `NE.evalZ`, the environment given as a lookup function -/
def NE.evalL (look : Nat → Int) : NE → Int
  | .v i => look i
  | .c n => (n : Int)
  | .add a b => a.evalL look + b.evalL look
  | .sub a b => a.evalL look - b.evalL look
  | .mul a b => a.evalL look * b.evalL look
  | .div2 a k => a.evalL look / 2 ^ k
  | .mod2 a k => a.evalL look % 2 ^ k
  | .sel cnd a b => if cnd.evalL look = 0 then a.evalL look else b.evalL look
  | .band a b => (((a.evalL look).toNat &&& (b.evalL look).toNat : Nat) : Int)
  | .bor a b => (((a.evalL look).toNat ||| (b.evalL look).toNat : Nat) : Int)
  | .bxor a b => (((a.evalL look).toNat ^^^ (b.evalL look).toNat : Nat) : Int)

theorem NE.evalL_eq {look : Nat → Int} {env : List Int} (h : ∀ i, look i = env.getD i 0) :
    ∀ e : NE, e.evalL look = e.evalZ env
  | .v i => h i
  | .c n => rfl
  | .add a b => by simp only [NE.evalL, NE.evalZ, NE.evalL_eq h a, NE.evalL_eq h b]
  | .sub a b => by simp only [NE.evalL, NE.evalZ, NE.evalL_eq h a, NE.evalL_eq h b]
  | .mul a b => by simp only [NE.evalL, NE.evalZ, NE.evalL_eq h a, NE.evalL_eq h b]
  | .div2 a k => by simp only [NE.evalL, NE.evalZ, NE.evalL_eq h a]
  | .mod2 a k => by simp only [NE.evalL, NE.evalZ, NE.evalL_eq h a]
  | .sel cnd a b => by simp only [NE.evalL, NE.evalZ, NE.evalL_eq h cnd, NE.evalL_eq h a, NE.evalL_eq h b]
  | .band a b => by simp only [NE.evalL, NE.evalZ, NE.evalL_eq h a, NE.evalL_eq h b]
  | .bor a b => by simp only [NE.evalL, NE.evalZ, NE.evalL_eq h a, NE.evalL_eq h b]
  | .bxor a b => by simp only [NE.evalL, NE.evalZ, NE.evalL_eq h a, NE.evalL_eq h b]

/-- value of variable `i`: inputs `ins` (`n` of them), locals newest first (`m` of them) -/
def lookZ (ins : List Int) (n : Nat) (loc : List Int) (m : Nat) (i : Nat) : Int :=
  if i < n then ins.getD i 0 else if i - n < m then loc.getD (m - 1 - (i - n)) 0 else 0

theorem lookZ_eq (ins loc : List Int) (i : Nat) :
    lookZ ins ins.length loc loc.length i = (ins ++ loc.reverse).getD i 0 := by
  unfold lookZ
  simp only [List.getD_eq_getElem?_getD]
  split
  · rename_i hi
    rw [List.getElem?_append_left hi]
  · rename_i hi
    rw [List.getElem?_append_right (by omega)]
    split
    · rename_i hm
      rw [List.getElem?_reverse hm]
    · rename_i hm
      rw [List.getElem?_eq_none (by simpa using Nat.le_of_not_lt hm)]
      rfl

def runZL (ins : List Int) (n : Nat) : List NE → List Int → Nat → List Int × Nat
  | [], loc, m => (loc, m)
  | e :: es, loc, m => runZL ins n es (e.evalL (lookZ ins n loc m) :: loc) (m + 1)

theorem runZL_eq (ins : List Int) : ∀ (es : List NE) (loc : List Int),
    runZ es (ins ++ loc.reverse) = ins ++ (runZL ins ins.length es loc loc.length).1.reverse ∧
      (runZL ins ins.length es loc loc.length).2 = (runZL ins ins.length es loc loc.length).1.length
  | [], loc => ⟨rfl, rfl⟩
  | e :: es, loc => by
      have ih := runZL_eq ins es (e.evalL (lookZ ins ins.length loc loc.length) :: loc)
      simp only [List.reverse_cons, ← List.append_assoc, List.length_cons,
        NE.evalL_eq (lookZ_eq ins loc) e] at ih
      simp only [runZ, runZL, NE.evalL_eq (lookZ_eq ins loc) e]
      exact ih

/-- `NProg.evalZ`, run with the locals newest first -/
def NProg.evalZFast (q : NProg) (ins : List Int) : List Int :=
  let n := ins.length
  let r := runZL ins n q.body [] 0
  q.outs.map (lookZ ins n r.1 r.2)

theorem NProg.evalZ_eq_fast (q : NProg) (ins : List Int) : q.evalZ ins = q.evalZFast ins := by
  have h := runZL_eq ins q.body []
  simp only [List.reverse_nil, List.append_nil, List.length_nil] at h
  simp only [NProg.evalZ, NProg.evalZFast, h.1]
  apply List.map_congr_left
  intro i _
  rw [h.2]
  exact (lookZ_eq ins _ i).symm

end Dalek.IR
