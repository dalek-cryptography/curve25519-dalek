import Dalek.Props.C02.Scalar29
import Dalek.Proofs.Scalar29.Inline
import Dalek.Proofs.Scalar29.Wide
/-!
# C02, serial u32 backend — the composed items `montgomery_mul`, `mul`, `square`, `as_montgomery`, `from_bytes_wide`

The theorems are about the translated composed PROGRAMS `Dalek.Gen.Scalar29.{montgomery_mul, mul, square,
as_montgomery, from_bytes_wide}` (regenerated from the Rust source), in the same shape as for the registered kernels:
`∃ out, evalC … = some out ∧ evalW … = out ∧ bounds ∧ value`.

Method.  `*_is_pipeline` / `from_bytes_wide_is_script` (decidable checks on the regenerated programs, by
`decide +kernel`) show that the body of each composed program is the inlined sequence of its callees — the callee's
variables replaced by atoms of the caller, the constant arguments `R`, `RR` folded as the translator does;
`Dalek.IR.Inline.pipe_prog` / `script_prog'` (`Dalek/Proofs/Scalar29/Inline.lean`) then turn a non-panicking run of
the callees in sequence into a non-panicking run of the composed program with the same result, and
`Prog.evalW_of_evalC` gives the release build.  The value statements come from the theorems about the callees in
`Dalek/Props/C02/Scalar29.lean`.  For `from_bytes_wide` the limb-extraction prefix is isolated as the program
`widePrefix` (`Dalek/Proofs/Scalar29/Wide.lean`).
-/
set_option exponentiation.threshold 600
set_option maxRecDepth 100000

namespace Dalek.Props.C02.Scalar29
open Dalek.IR Dalek.Proofs.Scalar29 Dalek.Model.Contracts Dalek.Gen.Consts
open Dalek.Proofs.Scalar52 (leValZ_toZ limBytes_of_envIn nat_emod_of_int)

open Dalek.IR.Inline

/-- the body of `montgomery_mul` is `mul_internal` followed by `montgomery_reduce`, inlined -/
theorem montgomery_mul_is_pipeline :
    pipeChk [(Dalek.Gen.Scalar29.mul_internal, []), (Dalek.Gen.Scalar29.montgomery_reduce, [])]
      ((List.range Dalek.Gen.Scalar29.montgomery_mul.nIn).map E.v) Dalek.Gen.Scalar29.montgomery_mul.nIn
      Dalek.Gen.Scalar29.montgomery_mul.body = some (Dalek.Gen.Scalar29.montgomery_mul.outs.map E.v, []) := by
  decide +kernel

/-- `mul = montgomery_reduce ∘ mul_internal(·, RR) ∘ montgomery_reduce ∘ mul_internal`, inlined (with `RR` folded) -/
theorem mul_is_pipeline :
    pipeChk [(Dalek.Gen.Scalar29.mul_internal, []), (Dalek.Gen.Scalar29.montgomery_reduce, []),
        (Dalek.Gen.Scalar29.mul_internal, U32.RR), (Dalek.Gen.Scalar29.montgomery_reduce, [])]
      ((List.range Dalek.Gen.Scalar29.mul.nIn).map E.v) Dalek.Gen.Scalar29.mul.nIn
      Dalek.Gen.Scalar29.mul.body = some (Dalek.Gen.Scalar29.mul.outs.map E.v, []) := by
  decide +kernel

theorem square_is_pipeline :
    pipeChk [(Dalek.Gen.Scalar29.square_internal, []), (Dalek.Gen.Scalar29.montgomery_reduce, []),
        (Dalek.Gen.Scalar29.mul_internal, U32.RR), (Dalek.Gen.Scalar29.montgomery_reduce, [])]
      ((List.range Dalek.Gen.Scalar29.square.nIn).map E.v) Dalek.Gen.Scalar29.square.nIn
      Dalek.Gen.Scalar29.square.body = some (Dalek.Gen.Scalar29.square.outs.map E.v, []) := by
  decide +kernel

theorem as_montgomery_is_pipeline :
    pipeChk [(Dalek.Gen.Scalar29.mul_internal, U32.RR), (Dalek.Gen.Scalar29.montgomery_reduce, [])]
      ((List.range Dalek.Gen.Scalar29.as_montgomery.nIn).map E.v) Dalek.Gen.Scalar29.as_montgomery.nIn
      Dalek.Gen.Scalar29.as_montgomery.body = some (Dalek.Gen.Scalar29.as_montgomery.outs.map E.v, []) := by
  decide +kernel

theorem RR_envIn : EnvIn U32.RR (rep 9 Scalar29.lim) := by decide +kernel

abbrev MI := Dalek.Gen.Scalar29.mul_internal
abbrev SQ := Dalek.Gen.Scalar29.square_internal
abbrev MR := Dalek.Gen.Scalar29.montgomery_reduce

/-- checked run of `mul_internal` then `montgomery_reduce` on `a ++ b` (two limb vectors inside the contract with
`a·b < 2^261·l`) -/
theorem mr_mi_run (a0 a1 a2 a3 a4 a5 a6 a7 a8 b0 b1 b2 b3 b4 b5 b6 b7 b8 : Nat) (hin : EnvIn ([a0, a1, a2, a3, a4, a5, a6, a7, a8] ++ [b0, b1, b2, b3, b4, b5, b6, b7, b8]) Scalar29.pre_mul_internal)
    (hab : val29 [a0, a1, a2, a3, a4, a5, a6, a7, a8] * val29 [b0, b1, b2, b3, b4, b5, b6, b7, b8] < 2 ^ 261 * l) :
    ∃ z out, MI.evalC ([a0, a1, a2, a3, a4, a5, a6, a7, a8] ++ [b0, b1, b2, b3, b4, b5, b6, b7, b8]) = some z ∧ MR.evalC z = some out ∧
      z.length = 17 ∧ EnvIn out limbs29 ∧ val29 out < l ∧ val29 out * 2 ^ 261 % l = val29 [a0, a1, a2, a3, a4, a5, a6, a7, a8] * val29 [b0, b1, b2, b3, b4, b5, b6, b7, b8] % l := by
  obtain ⟨z, hC1, -, hz, hv1⟩ := mul_internal_spec a0 a1 a2 a3 a4 a5 a6 a7 a8 b0 b1 b2 b3 b4 b5 b6 b7 b8 hin
  obtain ⟨z0, z1, z2, z3, z4, z5, z6, z7, z8, z9, z10, z11, z12, z13, z14, z15, z16, rfl⟩ := list17_of_length (by rw [EnvIn_length hz]; rfl : z.length = 17)
  obtain ⟨out, hC2, -, ho, hlt, hv2⟩ := montgomery_reduce_spec z0 z1 z2 z3 z4 z5 z6 z7 z8 z9 z10 z11 z12 z13 z14 z15 z16 hz (by rw [hv1]; exact hab)
  exact ⟨_, out, hC1, hC2, rfl, ho, hlt, by rw [hv2, hv1]⟩

/-- the same with `square_internal` as the first stage -/
theorem mr_sq_run (a0 a1 a2 a3 a4 a5 a6 a7 a8 : Nat) (hin : EnvIn [a0, a1, a2, a3, a4, a5, a6, a7, a8] Scalar29.pre_square_internal)
    (haa : val29 [a0, a1, a2, a3, a4, a5, a6, a7, a8] * val29 [a0, a1, a2, a3, a4, a5, a6, a7, a8] < 2 ^ 261 * l) :
    ∃ z out, SQ.evalC [a0, a1, a2, a3, a4, a5, a6, a7, a8] = some z ∧ MR.evalC z = some out ∧
      EnvIn out limbs29 ∧ val29 out < l ∧ val29 out * 2 ^ 261 % l = val29 [a0, a1, a2, a3, a4, a5, a6, a7, a8] * val29 [a0, a1, a2, a3, a4, a5, a6, a7, a8] % l := by
  obtain ⟨z, hC1, -, hz, hv1⟩ := square_internal_spec a0 a1 a2 a3 a4 a5 a6 a7 a8 hin
  obtain ⟨z0, z1, z2, z3, z4, z5, z6, z7, z8, z9, z10, z11, z12, z13, z14, z15, z16, rfl⟩ := list17_of_length (by rw [EnvIn_length hz]; rfl : z.length = 17)
  obtain ⟨out, hC2, -, ho, hlt, hv2⟩ := montgomery_reduce_spec z0 z1 z2 z3 z4 z5 z6 z7 z8 z9 z10 z11 z12 z13 z14 z15 z16 hz (by rw [hv1]; exact haa)
  exact ⟨_, out, hC1, hC2, ho, hlt, by rw [hv2, hv1]⟩

/-- `montgomery_reduce(mul_internal(c, RR))` for any limb vector `c` inside the contract -/
theorem mr_miRR_run (c0 c1 c2 c3 c4 c5 c6 c7 c8 : Nat) (hc : EnvIn [c0, c1, c2, c3, c4, c5, c6, c7, c8] limbs29) :
    ∃ out, pipeC [(MI, U32.RR), (MR, [])] [c0, c1, c2, c3, c4, c5, c6, c7, c8] = some out ∧
      EnvIn out limbs29 ∧ val29 out < l ∧ val29 out * 2 ^ 261 % l = val29 [c0, c1, c2, c3, c4, c5, c6, c7, c8] * val29 U32.RR % l := by
  have hin2 : EnvIn ([c0, c1, c2, c3, c4, c5, c6, c7, c8] ++ U32.RR) Scalar29.pre_mul_internal := EnvIn_append hc RR_envIn
  have hC9 : val29 [c0, c1, c2, c3, c4, c5, c6, c7, c8] < 2 ^ 261 := by
    have h1 := lim29_of_envIn hc
    simp only [toZ_cons, toZ_nil] at h1
    have h2 := (repZ9_bd _ _ _ _ _ _ _ _ _ h1).2
    rw [repZ_cast9] at h2
    exact_mod_cast h2
  obtain ⟨z, out, h1, h2, -, ho, hlt, hv⟩ := mr_mi_run c0 c1 c2 c3 c4 c5 c6 c7 c8 190815506 504634135 361594685 339687255 426956673 70249340 485410621 504909086 328813 hin2
    (by show val29 [c0, c1, c2, c3, c4, c5, c6, c7, c8] * val29 U32.RR < 2 ^ 261 * l
        rw [val29_RR]
        exact Nat.mul_lt_mul'' hC9 (Nat.mod_lt _ (by norm_num [l])))
  exact ⟨out, pipeC_two MI MR U32.RR [c0, c1, c2, c3, c4, c5, c6, c7, c8] z out h1 h2, ho, hlt, hv⟩

section
variable (a0 a1 a2 a3 a4 a5 a6 a7 a8 b0 b1 b2 b3 b4 b5 b6 b7 b8 : Nat)

/-- `Scalar29::montgomery_mul(a, b)` for `a·b < 2^261·l`: canonical `out` with `out·2^261 ≡ a·b (mod l)` -/
theorem montgomery_mul_spec (hin : EnvIn [a0, a1, a2, a3, a4, a5, a6, a7, a8, b0, b1, b2, b3, b4, b5, b6, b7, b8] Scalar29.pre_mul_internal)
    (hab : val29 [a0, a1, a2, a3, a4, a5, a6, a7, a8] * val29 [b0, b1, b2, b3, b4, b5, b6, b7, b8] < 2 ^ 261 * l) :
    ∃ out, Dalek.Gen.Scalar29.montgomery_mul.evalC [a0, a1, a2, a3, a4, a5, a6, a7, a8, b0, b1, b2, b3, b4, b5, b6, b7, b8] = some out ∧
      Dalek.Gen.Scalar29.montgomery_mul.evalW [a0, a1, a2, a3, a4, a5, a6, a7, a8, b0, b1, b2, b3, b4, b5, b6, b7, b8] = out ∧
      EnvIn out limbs29 ∧ val29 out < l ∧
      val29 out * 2 ^ 261 % l = val29 [a0, a1, a2, a3, a4, a5, a6, a7, a8] * val29 [b0, b1, b2, b3, b4, b5, b6, b7, b8] % l := by
  obtain ⟨z, out, h1, h2, -, ho, hlt, hv⟩ := mr_mi_run a0 a1 a2 a3 a4 a5 a6 a7 a8 b0 b1 b2 b3 b4 b5 b6 b7 b8 hin hab
  obtain ⟨hC, hW⟩ := pipe_prog _ _ montgomery_mul_is_pipeline [a0, a1, a2, a3, a4, a5, a6, a7, a8, b0, b1, b2, b3, b4, b5, b6, b7, b8] out rfl
    (pipeC_two_nil MI MR _ z out h1 h2)
  exact ⟨out, hC, hW, ho, hlt, hv⟩

/-- `Scalar29::mul(a, b)` for `a·b < 2^261·l`: the canonical representative of the product -/
theorem mul_spec_of_lt (hin : EnvIn [a0, a1, a2, a3, a4, a5, a6, a7, a8, b0, b1, b2, b3, b4, b5, b6, b7, b8] Scalar29.pre_mul_internal)
    (hab : val29 [a0, a1, a2, a3, a4, a5, a6, a7, a8] * val29 [b0, b1, b2, b3, b4, b5, b6, b7, b8] < 2 ^ 261 * l) :
    ∃ out, Dalek.Gen.Scalar29.mul.evalC [a0, a1, a2, a3, a4, a5, a6, a7, a8, b0, b1, b2, b3, b4, b5, b6, b7, b8] = some out ∧
      Dalek.Gen.Scalar29.mul.evalW [a0, a1, a2, a3, a4, a5, a6, a7, a8, b0, b1, b2, b3, b4, b5, b6, b7, b8] = out ∧
      EnvIn out limbs29 ∧ val29 out = val29 [a0, a1, a2, a3, a4, a5, a6, a7, a8] * val29 [b0, b1, b2, b3, b4, b5, b6, b7, b8] % l := by
  obtain ⟨z, c, h1, h2, -, hc, hclt, hcv⟩ := mr_mi_run a0 a1 a2 a3 a4 a5 a6 a7 a8 b0 b1 b2 b3 b4 b5 b6 b7 b8 hin hab
  obtain ⟨c0, c1, c2, c3, c4, c5, c6, c7, c8, rfl⟩ := list9_of_length (by rw [EnvIn_length hc]; rfl : c.length = 9)
  obtain ⟨out, hp2, ho, hlt, hv⟩ := mr_miRR_run c0 c1 c2 c3 c4 c5 c6 c7 c8 hc
  obtain ⟨hC, hW⟩ := pipe_prog _ _ mul_is_pipeline [a0, a1, a2, a3, a4, a5, a6, a7, a8, b0, b1, b2, b3, b4, b5, b6, b7, b8] out rfl
    (pipeC_append [(MI, []), (MR, [])] [(MI, U32.RR), (MR, [])] _ _ out (pipeC_two_nil MI MR _ z _ h1 h2) hp2)
  exact ⟨out, hC, hW, ho, mont_twice hcv hv val29_RR hlt⟩

/-- `Scalar29::mul(a, b)` on canonical inputs: `a·b mod l`, canonical -/
theorem mul_spec (hin : EnvIn [a0, a1, a2, a3, a4, a5, a6, a7, a8, b0, b1, b2, b3, b4, b5, b6, b7, b8] Scalar29.pre_mul_internal)
    (ha : val29 [a0, a1, a2, a3, a4, a5, a6, a7, a8] < l) (hb : val29 [b0, b1, b2, b3, b4, b5, b6, b7, b8] < l) :
    ∃ out, Dalek.Gen.Scalar29.mul.evalC [a0, a1, a2, a3, a4, a5, a6, a7, a8, b0, b1, b2, b3, b4, b5, b6, b7, b8] = some out ∧
      Dalek.Gen.Scalar29.mul.evalW [a0, a1, a2, a3, a4, a5, a6, a7, a8, b0, b1, b2, b3, b4, b5, b6, b7, b8] = out ∧
      EnvIn out limbs29 ∧ val29 out = val29 [a0, a1, a2, a3, a4, a5, a6, a7, a8] * val29 [b0, b1, b2, b3, b4, b5, b6, b7, b8] % l :=
  mul_spec_of_lt a0 a1 a2 a3 a4 a5 a6 a7 a8 b0 b1 b2 b3 b4 b5 b6 b7 b8 hin (Nat.mul_lt_mul'' (lt_trans ha (by norm_num [l])) hb)

/-- `Scalar29::square(a)` for `a² < 2^261·l`: the canonical representative of the square -/
theorem square_spec_of_lt (hin : EnvIn [a0, a1, a2, a3, a4, a5, a6, a7, a8] Scalar29.pre_square_internal)
    (haa : val29 [a0, a1, a2, a3, a4, a5, a6, a7, a8] * val29 [a0, a1, a2, a3, a4, a5, a6, a7, a8] < 2 ^ 261 * l) :
    ∃ out, Dalek.Gen.Scalar29.square.evalC [a0, a1, a2, a3, a4, a5, a6, a7, a8] = some out ∧
      Dalek.Gen.Scalar29.square.evalW [a0, a1, a2, a3, a4, a5, a6, a7, a8] = out ∧
      EnvIn out limbs29 ∧ val29 out = val29 [a0, a1, a2, a3, a4, a5, a6, a7, a8] * val29 [a0, a1, a2, a3, a4, a5, a6, a7, a8] % l := by
  obtain ⟨z, c, h1, h2, hc, hclt, hcv⟩ := mr_sq_run a0 a1 a2 a3 a4 a5 a6 a7 a8 hin haa
  obtain ⟨c0, c1, c2, c3, c4, c5, c6, c7, c8, rfl⟩ := list9_of_length (by rw [EnvIn_length hc]; rfl : c.length = 9)
  obtain ⟨out, hp2, ho, hlt, hv⟩ := mr_miRR_run c0 c1 c2 c3 c4 c5 c6 c7 c8 hc
  obtain ⟨hC, hW⟩ := pipe_prog _ _ square_is_pipeline [a0, a1, a2, a3, a4, a5, a6, a7, a8] out rfl
    (pipeC_append [(SQ, []), (MR, [])] [(MI, U32.RR), (MR, [])] _ _ out (pipeC_two_nil SQ MR _ z _ h1 h2) hp2)
  exact ⟨out, hC, hW, ho, mont_twice hcv hv val29_RR hlt⟩

/-- `Scalar29::square(a)` on a canonical input: `a² mod l`, canonical -/
theorem square_spec (hin : EnvIn [a0, a1, a2, a3, a4, a5, a6, a7, a8] Scalar29.pre_square_internal) (ha : val29 [a0, a1, a2, a3, a4, a5, a6, a7, a8] < l) :
    ∃ out, Dalek.Gen.Scalar29.square.evalC [a0, a1, a2, a3, a4, a5, a6, a7, a8] = some out ∧
      Dalek.Gen.Scalar29.square.evalW [a0, a1, a2, a3, a4, a5, a6, a7, a8] = out ∧
      EnvIn out limbs29 ∧ val29 out = val29 [a0, a1, a2, a3, a4, a5, a6, a7, a8] * val29 [a0, a1, a2, a3, a4, a5, a6, a7, a8] % l :=
  square_spec_of_lt a0 a1 a2 a3 a4 a5 a6 a7 a8 hin (Nat.mul_lt_mul'' (lt_trans ha (by norm_num [l])) ha)

/-- `Scalar29::as_montgomery(a)` for ANY nine 29-bit limbs: the canonical representative of `a·2^261` -/
theorem as_montgomery_spec (hin : EnvIn [a0, a1, a2, a3, a4, a5, a6, a7, a8] limbs29) :
    ∃ out, Dalek.Gen.Scalar29.as_montgomery.evalC [a0, a1, a2, a3, a4, a5, a6, a7, a8] = some out ∧
      Dalek.Gen.Scalar29.as_montgomery.evalW [a0, a1, a2, a3, a4, a5, a6, a7, a8] = out ∧
      EnvIn out limbs29 ∧ val29 out = val29 [a0, a1, a2, a3, a4, a5, a6, a7, a8] * 2 ^ 261 % l := by
  obtain ⟨out, hp, ho, hlt, hv⟩ := mr_miRR_run a0 a1 a2 a3 a4 a5 a6 a7 a8 hin
  obtain ⟨hC, hW⟩ := pipe_prog _ _ as_montgomery_is_pipeline [a0, a1, a2, a3, a4, a5, a6, a7, a8] out rfl hp
  exact ⟨out, hC, hW, ho, mont_as hv val29_RR hlt⟩

end

/-! ## `from_bytes_wide` -/

open Dalek.Model.FieldBytes (leVal)

def vals (a n : Nat) : List Arg := (List.range' a n).map Sum.inl
def cst (l : List Nat) : List Arg := l.map Sum.inr

/-- `from_bytes_wide`: cut the bytes into `lo`, `hi`; `lo' = montgomery_mul(lo, R)`; `hi' = montgomery_mul(hi, RR)`;
`add(hi', lo')`.  Values are numbered: 0..63 the bytes, 64..72 `lo`, 73..81 `hi`, 82..98 and 99..107 the two stages
of the first `montgomery_mul`, 108..124 and 125..133 of the second, 134..142 the result. -/
def wideScript : List (Prog × List Arg) :=
  [(widePrefix, vals 0 64),
   (MI, vals 64 9 ++ cst U32.R), (MR, vals 82 17),
   (MI, vals 73 9 ++ cst U32.RR), (MR, vals 108 17),
   (Dalek.Gen.Scalar29.add, vals 125 9 ++ vals 99 9)]

/-- the body of the translated `from_bytes_wide` is this script, inlined -/
theorem from_bytes_wide_is_script :
    scriptOK Dalek.Gen.Scalar29.from_bytes_wide wideScript (List.range' 134 9) = true := by
  decide +kernel

theorem R_envIn : EnvIn U32.R (rep 9 Scalar29.lim) := by decide +kernel

/-- the limb-extraction prefix, at the level of naturals -/
theorem widePrefix_spec (x0 x1 x2 x3 x4 x5 x6 x7 x8 x9 x10 x11 x12 x13 x14 x15 x16 x17 x18 x19 x20 x21 x22 x23 x24 x25 x26 x27 x28 x29 x30 x31 x32 x33 x34 x35 x36 x37 x38 x39 x40 x41 x42 x43 x44 x45 x46 x47 x48 x49 x50 x51 x52 x53 x54 x55 x56 x57 x58 x59 x60 x61 x62 x63 : Nat) (hin : EnvIn [x0, x1, x2, x3, x4, x5, x6, x7, x8, x9, x10, x11, x12, x13, x14, x15, x16, x17, x18, x19, x20, x21, x22, x23, x24, x25, x26, x27, x28, x29, x30, x31, x32, x33, x34, x35, x36, x37, x38, x39, x40, x41, x42, x43, x44, x45, x46, x47, x48, x49, x50, x51, x52, x53, x54, x55, x56, x57, x58, x59, x60, x61, x62, x63] (bytes 64)) :
    ∃ P0 P1 P2 P3 P4 P5 P6 P7 P8 Q0 Q1 Q2 Q3 Q4 Q5 Q6 Q7 Q8, widePrefix.evalC [x0, x1, x2, x3, x4, x5, x6, x7, x8, x9, x10, x11, x12, x13, x14, x15, x16, x17, x18, x19, x20, x21, x22, x23, x24, x25, x26, x27, x28, x29, x30, x31, x32, x33, x34, x35, x36, x37, x38, x39, x40, x41, x42, x43, x44, x45, x46, x47, x48, x49, x50, x51, x52, x53, x54, x55, x56, x57, x58, x59, x60, x61, x62, x63] = some [P0, P1, P2, P3, P4, P5, P6, P7, P8, Q0, Q1, Q2, Q3, Q4, Q5, Q6, Q7, Q8] ∧
      EnvIn [P0, P1, P2, P3, P4, P5, P6, P7, P8] limbs29 ∧ EnvIn [Q0, Q1, Q2, Q3, Q4, Q5, Q6, Q7, Q8] limbs29 ∧
      val29 [P0, P1, P2, P3, P4, P5, P6, P7, P8] + 2 ^ 261 * val29 [Q0, Q1, Q2, Q3, Q4, Q5, Q6, Q7, Q8] = leVal [x0, x1, x2, x3, x4, x5, x6, x7, x8, x9, x10, x11, x12, x13, x14, x15, x16, x17, x18, x19, x20, x21, x22, x23, x24, x25, x26, x27, x28, x29, x30, x31, x32, x33, x34, x35, x36, x37, x38, x39, x40, x41, x42, x43, x44, x45, x46, x47, x48, x49, x50, x51, x52, x53, x54, x55, x56, x57, x58, x59, x60, x61, x62, x63] := by
  obtain ⟨out, hC, -, hpost, hZ⟩ := Prog.norm_sound _ _ _ _ widePrefix_norm_ok _ hin
  have hpost' := EnvIn_of_itvsLe hpost widePrefix_post_le
  obtain ⟨P0, P1, P2, P3, P4, P5, P6, P7, P8, Q0, Q1, Q2, Q3, Q4, Q5, Q6, Q7, Q8, rfl⟩ := list18_of_length (by rw [EnvIn_length hpost']; rfl : out.length = 18)
  have hl := limBytes_of_envIn hin
  simp only [toZ_cons, toZ_nil] at hZ hl
  obtain ⟨p0, p1, p2, p3, p4, p5, p6, p7, p8, q0, q1, q2, q3, q4, q5, q6, q7, q8, he, -, -, hv⟩ := widePrefix_fn_spec _ _ _ _ _ _ _ _ _ _ _ _ _ _ _ _ _ _ _ _ _ _ _ _ _ _ _ _ _ _ _ _ _ _ _ _ _ _ _ _ _ _ _ _ _ _ _ _ _ _ _ _ _ _ _ _ _ _ _ _ _ _ _ _ hl
  rw [he] at hZ
  simp only [List.cons.injEq, and_true] at hZ
  obtain ⟨e0, e1, e2, e3, e4, e5, e6, e7, e8, f0, f1, f2, f3, f4, f5, f6, f7, f8⟩ := hZ
  subst e0 e1 e2 e3 e4 e5 e6 e7 e8 f0 f1 f2 f3 f4 f5 f6 f7 f8
  have h2 := leValZ_toZ [x0, x1, x2, x3, x4, x5, x6, x7, x8, x9, x10, x11, x12, x13, x14, x15, x16, x17, x18, x19, x20, x21, x22, x23, x24, x25, x26, x27, x28, x29, x30, x31, x32, x33, x34, x35, x36, x37, x38, x39, x40, x41, x42, x43, x44, x45, x46, x47, x48, x49, x50, x51, x52, x53, x54, x55, x56, x57, x58, x59, x60, x61, x62, x63]
  simp only [toZ_cons, toZ_nil] at h2
  rw [h2, repZ_cast9, repZ_cast9] at hv
  refine ⟨P0, P1, P2, P3, P4, P5, P6, P7, P8, Q0, Q1, Q2, Q3, Q4, Q5, Q6, Q7, Q8, hC, ?_, ?_, by exact_mod_cast hv⟩
  · simp only [limbs29, rep, List.replicate, EnvIn] at hpost' ⊢
    exact ⟨hpost'.1, hpost'.2.1, hpost'.2.2.1, hpost'.2.2.2.1, hpost'.2.2.2.2.1, hpost'.2.2.2.2.2.1,
      hpost'.2.2.2.2.2.2.1, hpost'.2.2.2.2.2.2.2.1, hpost'.2.2.2.2.2.2.2.2.1, trivial⟩
  · simp only [limbs29, rep, List.replicate, EnvIn] at hpost' ⊢
    exact hpost'.2.2.2.2.2.2.2.2.2

section
variable (x0 x1 x2 x3 x4 x5 x6 x7 x8 x9 x10 x11 x12 x13 x14 x15 x16 x17 x18 x19 x20 x21 x22 x23 x24 x25 x26 x27 x28 x29 x30 x31 x32 x33 x34 x35 x36 x37 x38 x39 x40 x41 x42 x43 x44 x45 x46 x47 x48 x49 x50 x51 x52 x53 x54 x55 x56 x57 x58 x59 x60 x61 x62 x63 : Nat)

/-- `Scalar29::from_bytes_wide`: the canonical representative of the little-endian value of the 64 bytes -/
theorem from_bytes_wide_spec (hin : EnvIn [x0, x1, x2, x3, x4, x5, x6, x7, x8, x9, x10, x11, x12, x13, x14, x15, x16, x17, x18, x19, x20, x21, x22, x23, x24, x25, x26, x27, x28, x29, x30, x31, x32, x33, x34, x35, x36, x37, x38, x39, x40, x41, x42, x43, x44, x45, x46, x47, x48, x49, x50, x51, x52, x53, x54, x55, x56, x57, x58, x59, x60, x61, x62, x63] Scalar29.pre_from_bytes_wide) :
    ∃ out, Dalek.Gen.Scalar29.from_bytes_wide.evalC [x0, x1, x2, x3, x4, x5, x6, x7, x8, x9, x10, x11, x12, x13, x14, x15, x16, x17, x18, x19, x20, x21, x22, x23, x24, x25, x26, x27, x28, x29, x30, x31, x32, x33, x34, x35, x36, x37, x38, x39, x40, x41, x42, x43, x44, x45, x46, x47, x48, x49, x50, x51, x52, x53, x54, x55, x56, x57, x58, x59, x60, x61, x62, x63] = some out ∧
      Dalek.Gen.Scalar29.from_bytes_wide.evalW [x0, x1, x2, x3, x4, x5, x6, x7, x8, x9, x10, x11, x12, x13, x14, x15, x16, x17, x18, x19, x20, x21, x22, x23, x24, x25, x26, x27, x28, x29, x30, x31, x32, x33, x34, x35, x36, x37, x38, x39, x40, x41, x42, x43, x44, x45, x46, x47, x48, x49, x50, x51, x52, x53, x54, x55, x56, x57, x58, x59, x60, x61, x62, x63] = out ∧
      EnvIn out limbs29 ∧ val29 out = leVal [x0, x1, x2, x3, x4, x5, x6, x7, x8, x9, x10, x11, x12, x13, x14, x15, x16, x17, x18, x19, x20, x21, x22, x23, x24, x25, x26, x27, x28, x29, x30, x31, x32, x33, x34, x35, x36, x37, x38, x39, x40, x41, x42, x43, x44, x45, x46, x47, x48, x49, x50, x51, x52, x53, x54, x55, x56, x57, x58, x59, x60, x61, x62, x63] % l := by
  obtain ⟨P0, P1, P2, P3, P4, P5, P6, P7, P8, Q0, Q1, Q2, Q3, Q4, Q5, Q6, Q7, Q8, hC0, hp, hq, hv0⟩ := widePrefix_spec x0 x1 x2 x3 x4 x5 x6 x7 x8 x9 x10 x11 x12 x13 x14 x15 x16 x17 x18 x19 x20 x21 x22 x23 x24 x25 x26 x27 x28 x29 x30 x31 x32 x33 x34 x35 x36 x37 x38 x39 x40 x41 x42 x43 x44 x45 x46 x47 x48 x49 x50 x51 x52 x53 x54 x55 x56 x57 x58 x59 x60 x61 x62 x63 hin
  -- lo' = montgomery_mul(lo, R)
  have hP : val29 [P0, P1, P2, P3, P4, P5, P6, P7, P8] < 2 ^ 261 := by
    have h1 := lim29_of_envIn hp
    simp only [toZ_cons, toZ_nil] at h1
    have h2 := (repZ9_bd _ _ _ _ _ _ _ _ _ h1).2
    rw [repZ_cast9] at h2
    exact_mod_cast h2
  have hQ : val29 [Q0, Q1, Q2, Q3, Q4, Q5, Q6, Q7, Q8] < 2 ^ 261 := by
    have h1 := lim29_of_envIn hq
    simp only [toZ_cons, toZ_nil] at h1
    have h2 := (repZ9_bd _ _ _ _ _ _ _ _ _ h1).2
    rw [repZ_cast9] at h2
    exact_mod_cast h2
  obtain ⟨z1, lo', h1, h2, hz1, hlo, hlolt, hlov⟩ := mr_mi_run P0 P1 P2 P3 P4 P5 P6 P7 P8 290322925 442594051 259787148 377041255 536700270 536870911 536870911 536870911 1048575
    (EnvIn_append hp R_envIn)
    (by show val29 [P0, P1, P2, P3, P4, P5, P6, P7, P8] * val29 U32.R < 2 ^ 261 * l
        rw [val29_R]
        exact Nat.mul_lt_mul'' hP (Nat.mod_lt _ (by norm_num [l])))
  obtain ⟨z2, hi', h3, h4, hz2, hhi, hhilt, hhiv⟩ := mr_mi_run Q0 Q1 Q2 Q3 Q4 Q5 Q6 Q7 Q8 190815506 504634135 361594685 339687255 426956673 70249340 485410621 504909086 328813
    (EnvIn_append hq RR_envIn)
    (by show val29 [Q0, Q1, Q2, Q3, Q4, Q5, Q6, Q7, Q8] * val29 U32.RR < 2 ^ 261 * l
        rw [val29_RR]
        exact Nat.mul_lt_mul'' hQ (Nat.mod_lt _ (by norm_num [l])))
  obtain ⟨Z0, Z1, Z2, Z3, Z4, Z5, Z6, Z7, Z8, Z9, Z10, Z11, Z12, Z13, Z14, Z15, Z16, rfl⟩ := list17_of_length hz1
  obtain ⟨Y0, Y1, Y2, Y3, Y4, Y5, Y6, Y7, Y8, Y9, Y10, Y11, Y12, Y13, Y14, Y15, Y16, rfl⟩ := list17_of_length hz2
  obtain ⟨L0, L1, L2, L3, L4, L5, L6, L7, L8, rfl⟩ := list9_of_length (by rw [EnvIn_length hlo]; rfl : lo'.length = 9)
  obtain ⟨H0, H1, H2, H3, H4, H5, H6, H7, H8, rfl⟩ := list9_of_length (by rw [EnvIn_length hhi]; rfl : hi'.length = 9)
  obtain ⟨out, hC5, -, ho, hov⟩ := add_spec H0 H1 H2 H3 H4 H5 H6 H7 H8 L0 L1 L2 L3 L4 L5 L6 L7 L8 (EnvIn_append hhi hlo) hhilt hlolt
  obtain ⟨O0, O1, O2, O3, O4, O5, O6, O7, O8, rfl⟩ := list9_of_length (by rw [EnvIn_length ho]; rfl : out.length = 9)
  have hs : scriptC wideScript [x0, x1, x2, x3, x4, x5, x6, x7, x8, x9, x10, x11, x12, x13, x14, x15, x16, x17, x18, x19, x20, x21, x22, x23, x24, x25, x26, x27, x28, x29, x30, x31, x32, x33, x34, x35, x36, x37, x38, x39, x40, x41, x42, x43, x44, x45, x46, x47, x48, x49, x50, x51, x52, x53, x54, x55, x56, x57, x58, x59, x60, x61, x62, x63] = some ([x0, x1, x2, x3, x4, x5, x6, x7, x8, x9, x10, x11, x12, x13, x14, x15, x16, x17, x18, x19, x20, x21, x22, x23, x24, x25, x26, x27, x28, x29, x30, x31, x32, x33, x34, x35, x36, x37, x38, x39, x40, x41, x42, x43, x44, x45, x46, x47, x48, x49, x50, x51, x52, x53, x54, x55, x56, x57, x58, x59, x60, x61, x62, x63] ++ [P0, P1, P2, P3, P4, P5, P6, P7, P8, Q0, Q1, Q2, Q3, Q4, Q5, Q6, Q7, Q8] ++ [Z0, Z1, Z2, Z3, Z4, Z5, Z6, Z7, Z8, Z9, Z10, Z11, Z12, Z13, Z14, Z15, Z16] ++ [L0, L1, L2, L3, L4, L5, L6, L7, L8] ++ [Y0, Y1, Y2, Y3, Y4, Y5, Y6, Y7, Y8, Y9, Y10, Y11, Y12, Y13, Y14, Y15, Y16] ++ [H0, H1, H2, H3, H4, H5, H6, H7, H8] ++ [O0, O1, O2, O3, O4, O5, O6, O7, O8]) :=
    scriptC_cons_args _ _ _ _ _ _ _ (by kernel_rfl) hC0 <|
    scriptC_cons_args _ _ _ _ _ _ _ (by kernel_rfl) h1 <|
    scriptC_cons_args _ _ _ _ _ _ _ (by kernel_rfl) h2 <|
    scriptC_cons_args _ _ _ _ _ _ _ (by kernel_rfl) h3 <|
    scriptC_cons_args _ _ _ _ _ _ _ (by kernel_rfl) h4 <|
    scriptC_cons_args _ _ _ _ _ _ _ (by kernel_rfl) hC5 rfl
  have hlen : [x0, x1, x2, x3, x4, x5, x6, x7, x8, x9, x10, x11, x12, x13, x14, x15, x16, x17, x18, x19, x20, x21, x22, x23, x24, x25, x26, x27, x28, x29, x30, x31, x32, x33, x34, x35, x36, x37, x38, x39, x40, x41, x42, x43, x44, x45, x46, x47, x48, x49, x50, x51, x52, x53, x54, x55, x56, x57, x58, x59, x60, x61, x62, x63].length = Dalek.Gen.Scalar29.from_bytes_wide.nIn := rfl
  have hsp := script_prog' Dalek.Gen.Scalar29.from_bytes_wide wideScript (List.range' 134 9) from_bytes_wide_is_script _ _ hlen hs
  have hpick : pick ([x0, x1, x2, x3, x4, x5, x6, x7, x8, x9, x10, x11, x12, x13, x14, x15, x16, x17, x18, x19, x20, x21, x22, x23, x24, x25, x26, x27, x28, x29, x30, x31, x32, x33, x34, x35, x36, x37, x38, x39, x40, x41, x42, x43, x44, x45, x46, x47, x48, x49, x50, x51, x52, x53, x54, x55, x56, x57, x58, x59, x60, x61, x62, x63] ++ [P0, P1, P2, P3, P4, P5, P6, P7, P8, Q0, Q1, Q2, Q3, Q4, Q5, Q6, Q7, Q8] ++ [Z0, Z1, Z2, Z3, Z4, Z5, Z6, Z7, Z8, Z9, Z10, Z11, Z12, Z13, Z14, Z15, Z16] ++ [L0, L1, L2, L3, L4, L5, L6, L7, L8] ++ [Y0, Y1, Y2, Y3, Y4, Y5, Y6, Y7, Y8, Y9, Y10, Y11, Y12, Y13, Y14, Y15, Y16] ++ [H0, H1, H2, H3, H4, H5, H6, H7, H8] ++ [O0, O1, O2, O3, O4, O5, O6, O7, O8]) (List.range' 134 9) = [O0, O1, O2, O3, O4, O5, O6, O7, O8] := by
    kernel_rfl
  rw [hpick] at hsp
  refine ⟨[O0, O1, O2, O3, O4, O5, O6, O7, O8], hsp.1, hsp.2, ho, ?_⟩
  rw [hov, mont_as hhiv val29_RR hhilt, mont_R hlov val29_R hlolt, ← Nat.add_mod, ← hv0, Nat.add_comm, Nat.mul_comm]

end

/-! ## non-vacuity of the hypotheses -/

example : EnvIn (List.replicate 64 255) Scalar29.pre_from_bytes_wide := by decide +kernel
/-- all limbs at the bound times `l - 1` satisfies the contract and the product bound of `mul_spec_of_lt` -/
example : EnvIn (List.replicate 9 (2 ^ 29 - 1) ++ [485872620, 9640146, 501691798, 502512965, 333, 0, 0, 0, 1048576])
      Scalar29.pre_mul_internal ∧
    val29 (List.replicate 9 (2 ^ 29 - 1)) * val29 [485872620, 9640146, 501691798, 502512965, 333, 0, 0, 0, 1048576]
      < 2 ^ 261 * l := by decide +kernel

end Dalek.Props.C02.Scalar29
