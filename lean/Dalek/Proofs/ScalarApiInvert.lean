import Dalek.Proofs.ScalarApiAlgebra
/-!
# `Scalar` API glue: the addition chain of `montgomery_invert`

* `invertChain_rel`: the chain (written once, generically, in `Dalek.Model.ScalarApi.invertChain`) preserves any
  relation preserved by its two operations — an abstract interpretation proved once;
* `invertChain_exponent`: run on exponents (`square ↦ 2·e`, `mul ↦ e₁+e₂`, start `1`) the chain yields `l - 2`
  (kernel evaluation).
-/
set_option exponentiation.threshold 600

namespace Dalek.Proofs.ScalarApi
open Dalek.Model.ScalarApi
open Dalek.Props.C02.Scalar52 (l)

section rel
variable {α β : Type} (Rel : α → β → Prop) {sq : α → α} {mm : α → α → α} {sq' : β → β} {mm' : β → β → β}

theorem repeat_rel (hsq : ∀ a b, Rel a b → Rel (sq a) (sq' b)) :
    ∀ (n : Nat) (a : α) (b : β), Rel a b → Rel (Nat.repeat sq n a) (Nat.repeat sq' n b)
  | 0, _, _, h => h
  | n + 1, a, b, h => hsq _ _ (repeat_rel hsq n a b h)

theorem squareMultiply_rel (hsq : ∀ a b, Rel a b → Rel (sq a) (sq' b))
    (hmm : ∀ a b c d, Rel a b → Rel c d → Rel (mm a c) (mm' b d))
    (y : α) (y' : β) (n : Nat) (x : α) (x' : β) (hy : Rel y y') (hx : Rel x x') :
    Rel (squareMultiply sq mm y n x) (squareMultiply sq' mm' y' n x') :=
  hmm _ _ _ _ (repeat_rel Rel hsq n y y' hy) hx

/-- abstract interpretation of the addition chain: any relation preserved by `montgomery_square` and
`montgomery_mul` is preserved by the whole chain -/
theorem invertChain_rel (hsq : ∀ a b, Rel a b → Rel (sq a) (sq' b))
    (hmm : ∀ a b c d, Rel a b → Rel c d → Rel (mm a c) (mm' b d))
    (x : α) (x' : β) (h : Rel x x') : Rel (invertChain sq mm x) (invertChain sq' mm' x') := by
  have hsm := squareMultiply_rel Rel hsq hmm
  simp only [invertChain]
  repeat (first | exact h | apply hsm | apply hsq | apply hmm)

end rel

/-- the exponent computed by the chain is `l - 2` -/
theorem invertChain_exponent : invertChain (fun e : Nat => 2 * e) (fun a b : Nat => a + b) 1 = l - 2 := by
  decide +kernel

end Dalek.Proofs.ScalarApi
