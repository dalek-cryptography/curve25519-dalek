import Dalek.Proofs.Field51
import Dalek.IR.LimbSound
import Dalek.Gen.Norm.Field51
import Dalek.Proofs.ByteLists
/-!
# Byte codecs of the serial-u64 field backend: integer-level correctness of the normalised kernels

Helper lemmas for `Dalek/Props/C01/Bytes51.lean`; the theory they rest on is `Dalek/Proofs/BytesCommon.lean`, the facts
on byte lists and on `Decodes` / `Encodes` are in `Dalek/Proofs/ByteLists.lean` (same namespace).

* `from_bytes_fn_eq`: on bytes in `[0,255]` the five limbs are `digits [51,51,51,51,51] (N % 2^255)`, `N` the
  little-endian value of the 32 bytes;
* `as_bytes_fn_eq_model`: the generated normal form equals the hand model `asBytesModel51` (both written out, up to the
  order of one product);
* `asBytesModel51_eq`, `as_bytes_fn_eq`: for limbs in `[0, 2^54)` the 32 output bytes are the base-256 digits of
  `(Σ a_i 2^(51 i)) % p` (weak reduction by `omega`; the two carry chains by `Chain.spec`; `serial_canon`; packing as a
  change of digit widths, one `omega` over one variable per byte).

No script refers to SSA numbers or to the order of the generated `let`s.
-/
namespace Dalek.Proofs.Bytes51
open Dalek Dalek.IR Dalek.Model.FieldBytes Dalek.Proofs.Field51 Dalek.Proofs.Radix

theorem rep51_toZ (l : List Nat) : rep51 (toZ l) = (val51N l : Int) := by
  simp only [rep51, val51N, getD_toZ]; push_cast; rfl

/-! ### `from_bytes` -/
open Dalek.Gen.Norm.Field51

abbrev ws51 : List Nat := [51, 51, 51, 51, 51]

theorem rep51_eq_radVal (a0 a1 a2 a3 a4 : Int) : rep51 [a0, a1, a2, a3, a4] = radVal ws51 [a0, a1, a2, a3, a4] := by
  simp only [rep51, radVal, List.getD_cons_zero, List.getD_cons_succ]; ring

theorem rep51_digits (N : Int) : rep51 (digits ws51 N) = N % 2 ^ 255 :=
  (rep51_eq_radVal ..).trans (radVal_digits ws51 N)

/-- limbs whose integer form is `digits ws51` of the value of `bs` with bit 255 cleared have that value -/
theorem val51N_of_digits {out bs : List Nat} (h : digits ws51 (leValZ (toZ bs) % 2 ^ 255) = toZ out) :
    val51N out = leVal bs % 2 ^ 255 := by
  have := congrArg rep51 h
  rw [rep51_digits, rep51_toZ, leValZ_toZ] at this
  omega

/-- the five limbs are the 51-bit digits of the little-endian value with bit 255 cleared: limb `i` is cut out of an
8-byte load, and a load is a slice of the bits of the value (`leValZ_slice`) -/
theorem from_bytes_fn_eq {x0 x1 x2 x3 x4 x5 x6 x7 x8 x9 x10 x11 x12 x13 x14 x15 x16 x17 x18 x19 x20 x21 x22 x23 x24 x25 x26 x27 x28 x29 x30 x31 : Int} (hb : ∀ b ∈ [x0, x1, x2, x3, x4, x5, x6, x7, x8, x9, x10, x11, x12, x13, x14, x15, x16, x17, x18, x19, x20, x21, x22, x23, x24, x25, x26, x27, x28, x29, x30, x31], 0 ≤ b ∧ b ≤ 255) :
    from_bytes_fn x0 x1 x2 x3 x4 x5 x6 x7 x8 x9 x10 x11 x12 x13 x14 x15 x16 x17 x18 x19 x20 x21 x22 x23 x24 x25 x26 x27 x28 x29 x30 x31 = digits ws51 (leValZ [x0, x1, x2, x3, x4, x5, x6, x7, x8, x9, x10, x11, x12, x13, x14, x15, x16, x17, x18, x19, x20, x21, x22, x23, x24, x25, x26, x27, x28, x29, x30, x31] % 2 ^ 255) := by
  have hs := leValZ_slice _ hb
  generalize leValZ [x0, x1, x2, x3, x4, x5, x6, x7, x8, x9, x10, x11, x12, x13, x14, x15, x16, x17, x18, x19, x20, x21, x22, x23, x24, x25, x26, x27, x28, x29, x30, x31] = N at hs ⊢
  simp only [from_bytes_fn, digits, ediv_pow_ediv_pow, List.cons.injEq, and_true]
  refine ⟨?_, ?_, ?_, ?_, ?_⟩
  · have h := hs 0 8 (by simp); simp only [List.drop, List.take, leValZ] at h; clear hs hb; omega
  · have h := hs 6 8 (by simp); simp only [List.drop, List.take, leValZ] at h; clear hs hb; omega
  · have h := hs 12 8 (by simp); simp only [List.drop, List.take, leValZ] at h; clear hs hb; omega
  · have h := hs 19 8 (by simp); simp only [List.drop, List.take, leValZ] at h; clear hs hb; omega
  · have h := hs 24 8 (by simp); simp only [List.drop, List.take, leValZ] at h; clear hs hb; omega

/-! ### `as_bytes` -/

/-- the generated normal form and the hand model are the same integer function -/
theorem as_bytes_fn_eq_model (a0 a1 a2 a3 a4 : Int) :
    as_bytes_fn a0 a1 a2 a3 a4 = asBytesModel51 a0 a1 a2 a3 a4 := by
  unfold as_bytes_fn asBytesModel51 pack51
  simp only [Int.mul_comm _ (19 : Int)]

/-- weak reduction: the value drops below `2p` and changes by a multiple of `p` -/
theorem reduce51_abs (a0 a1 a2 a3 a4 l0 l1 l2 l3 l4 : Int)
    (b0 : 0 ≤ a0 ∧ a0 < 2 ^ 54) (b1 : 0 ≤ a1 ∧ a1 < 2 ^ 54) (b2 : 0 ≤ a2 ∧ a2 < 2 ^ 54) (b3 : 0 ≤ a3 ∧ a3 < 2 ^ 54)
    (b4 : 0 ≤ a4 ∧ a4 < 2 ^ 54)
    (e0 : l0 = a0 % 2 ^ 51 + 19 * (a4 / 2 ^ 51)) (e1 : l1 = a1 % 2 ^ 51 + a0 / 2 ^ 51)
    (e2 : l2 = a2 % 2 ^ 51 + a1 / 2 ^ 51) (e3 : l3 = a3 % 2 ^ 51 + a2 / 2 ^ 51)
    (e4 : l4 = a4 % 2 ^ 51 + a3 / 2 ^ 51) :
    (0 ≤ radVal ws51 [l0, l1, l2, l3, l4] ∧ radVal ws51 [l0, l1, l2, l3, l4] < 2 * (2 ^ 255 - 19)) ∧
    radVal ws51 [l0, l1, l2, l3, l4] = rep51 [a0, a1, a2, a3, a4] - (2 ^ 255 - 19) * (a4 / 2 ^ 51) := by
  simp only [radVal, rep51, List.getD_cons_zero, List.getD_cons_succ]
  omega

/-- packing is a change of digit widths: limbs and bytes are digits of the same integer -/
theorem pack51_digits (G : Int) (h : 0 ≤ G ∧ G < 2 ^ 255) :
    pack51 (G % 2 ^ 51) (G / 2 ^ 51 % 2 ^ 51) (G / 2 ^ 51 / 2 ^ 51 % 2 ^ 51) (G / 2 ^ 51 / 2 ^ 51 / 2 ^ 51 % 2 ^ 51)
      (G / 2 ^ 51 / 2 ^ 51 / 2 ^ 51 / 2 ^ 51 % 2 ^ 51) = digits (List.replicate 32 8) G := by
  simp only [pack51, digits, List.replicate, emod_ediv_byte, ediv_pow_ediv_pow, Nat.reduceAdd, Nat.reduceLeDiff,
    List.cons.injEq, and_true, true_and]
  refine ⟨?_, ?_, ?_, ?_, ?_, ?_⟩ <;> omega

/-- **the hand model computes the canonical encoding**: for limbs in `[0, 2^54)` the output is the 32 base-256
digits of `(Σ a_i 2^(51 i)) mod p`.  `q` is the carry out of the chain started with `19`, the `f_i` come out of the
chain started with `19 q`. -/
theorem asBytesModel51_eq (a0 a1 a2 a3 a4 : Int)
    (b0 : 0 ≤ a0 ∧ a0 < 2 ^ 54) (b1 : 0 ≤ a1 ∧ a1 < 2 ^ 54) (b2 : 0 ≤ a2 ∧ a2 < 2 ^ 54) (b3 : 0 ≤ a3 ∧ a3 < 2 ^ 54)
    (b4 : 0 ≤ a4 ∧ a4 < 2 ^ 54) :
    asBytesModel51 a0 a1 a2 a3 a4 = digits (List.replicate 32 8) (rep51 [a0, a1, a2, a3, a4] % (2 ^ 255 - 19)) := by
  unfold asBytesModel51
  extract_lets l0 l1 l2 l3 l4 q0 q1 q2 q3 q t0 t1 t2 t3 t4 f0 f1 f2 f3 f4
  obtain ⟨hH, hA⟩ := reduce51_abs a0 a1 a2 a3 a4 l0 l1 l2 l3 l4 b0 b1 b2 b3 b4 rfl rfl rfl rfl rfl
  have hq := (Chain.spec (show Chain ws51 19 [l0, l1, l2, l3, l4] _ q from
    .cons rfl (.cons rfl (.cons rfl (.cons rfl (.cons rfl .nil)))))).2
  have hf := (Chain.spec (show Chain ws51 (19 * q) [l0, l1, l2, l3, l4] [f0, f1, f2, f3, f4] (t4 / 2 ^ 51) from
    .cons rfl (.cons rfl (.cons rfl (.cons rfl (.cons rfl .nil)))))).1
  rw [hq, ← digits_emod, show (2 : Int) ^ ws51.sum = 2 ^ 255 from rfl, serial_canon _ hH, hA,
    Int.sub_mul_emod_self_left] at hf
  obtain ⟨e0, e1, e2, e3, e4, -⟩ : f0 = _ ∧ f1 = _ ∧ f2 = _ ∧ f3 = _ ∧ f4 = _ ∧ _ := by
    simpa only [digits, List.cons.injEq] using hf
  rw [e0, e1, e2, e3, e4]
  exact pack51_digits _ (by omega)

/-- the same for the generated normal form -/
theorem as_bytes_fn_eq (a0 a1 a2 a3 a4 : Int)
    (b0 : 0 ≤ a0 ∧ a0 < 2 ^ 54) (b1 : 0 ≤ a1 ∧ a1 < 2 ^ 54) (b2 : 0 ≤ a2 ∧ a2 < 2 ^ 54) (b3 : 0 ≤ a3 ∧ a3 < 2 ^ 54)
    (b4 : 0 ≤ a4 ∧ a4 < 2 ^ 54) :
    as_bytes_fn a0 a1 a2 a3 a4 = digits (List.replicate 32 8) (rep51 [a0, a1, a2, a3, a4] % (2 ^ 255 - 19)) :=
  (as_bytes_fn_eq_model ..).trans (asBytesModel51_eq a0 a1 a2 a3 a4 b0 b1 b2 b3 b4)

end Dalek.Proofs.Bytes51
