import Dalek.IR.KProg
import Dalek.Gen.Norm.All
import Dalek.Props.C01.FiatHistory51
import Dalek.Props.C01.FiatHistory26
/-!
# C11 — the fiat backends: no overflow in any wrapper kernel, and along every chain of operations

Kernel level: for every translated wrapper method of `fiat_u64/field.rs` / `fiat_u32/field.rs` (fiat-crypto functions inlined)
and every input inside fiat's documented bounds, the overflow-checked semantics does not panic and equals the release
semantics (`Prog.norm_sound` applied to the kernel-evaluated analysis).  History level: `fiat51_never_panics` /
`fiat26_never_panics` — every expression over the field operations, evaluated on tight inputs, is panic-free in a checked build
and returns the same limbs as the release build (corollaries of `fiat51_expr` / `fiat26_expr`: tight is an inductive invariant).
-/
namespace Dalek.Props.C11.Fiat
open Dalek.IR Dalek.Model.Contracts Dalek.Props.C01 Dalek.Props.C01.FiatExpr

theorem FiatField51_add_safe (ins : List Nat) (hin : EnvIn ins FiatField51.pre_add) :
    ∃ outs, Dalek.Gen.FiatField51.add.evalC ins = some outs ∧ Dalek.Gen.FiatField51.add.evalW ins = outs ∧
      EnvIn outs Dalek.Gen.Norm.FiatField51.add_post :=
  Triple.of_norm Dalek.Gen.Norm.FiatField51.add_norm_ok ins hin

theorem FiatField51_add_ref_safe (ins : List Nat) (hin : EnvIn ins FiatField51.pre_add_ref) :
    ∃ outs, Dalek.Gen.FiatField51.add_ref.evalC ins = some outs ∧ Dalek.Gen.FiatField51.add_ref.evalW ins = outs ∧
      EnvIn outs Dalek.Gen.Norm.FiatField51.add_ref_post :=
  Triple.of_norm Dalek.Gen.Norm.FiatField51.add_ref_norm_ok ins hin

theorem FiatField51_sub_safe (ins : List Nat) (hin : EnvIn ins FiatField51.pre_sub) :
    ∃ outs, Dalek.Gen.FiatField51.sub.evalC ins = some outs ∧ Dalek.Gen.FiatField51.sub.evalW ins = outs ∧
      EnvIn outs Dalek.Gen.Norm.FiatField51.sub_post :=
  Triple.of_norm Dalek.Gen.Norm.FiatField51.sub_norm_ok ins hin

theorem FiatField51_sub_assign_safe (ins : List Nat) (hin : EnvIn ins FiatField51.pre_sub_assign) :
    ∃ outs, Dalek.Gen.FiatField51.sub_assign.evalC ins = some outs ∧ Dalek.Gen.FiatField51.sub_assign.evalW ins = outs ∧
      EnvIn outs Dalek.Gen.Norm.FiatField51.sub_assign_post :=
  Triple.of_norm Dalek.Gen.Norm.FiatField51.sub_assign_norm_ok ins hin

theorem FiatField51_mul_safe (ins : List Nat) (hin : EnvIn ins FiatField51.pre_mul) :
    ∃ outs, Dalek.Gen.FiatField51.mul.evalC ins = some outs ∧ Dalek.Gen.FiatField51.mul.evalW ins = outs ∧
      EnvIn outs Dalek.Gen.Norm.FiatField51.mul_post :=
  Triple.of_norm Dalek.Gen.Norm.FiatField51.mul_norm_ok ins hin

theorem FiatField51_mul_assign_safe (ins : List Nat) (hin : EnvIn ins FiatField51.pre_mul_assign) :
    ∃ outs, Dalek.Gen.FiatField51.mul_assign.evalC ins = some outs ∧ Dalek.Gen.FiatField51.mul_assign.evalW ins = outs ∧
      EnvIn outs Dalek.Gen.Norm.FiatField51.mul_assign_post :=
  Triple.of_norm Dalek.Gen.Norm.FiatField51.mul_assign_norm_ok ins hin

theorem FiatField51_neg_safe (ins : List Nat) (hin : EnvIn ins FiatField51.pre_neg) :
    ∃ outs, Dalek.Gen.FiatField51.neg.evalC ins = some outs ∧ Dalek.Gen.FiatField51.neg.evalW ins = outs ∧
      EnvIn outs Dalek.Gen.Norm.FiatField51.neg_post :=
  Triple.of_norm Dalek.Gen.Norm.FiatField51.neg_norm_ok ins hin

theorem FiatField51_reduce_safe (ins : List Nat) (hin : EnvIn ins FiatField51.pre_reduce) :
    ∃ outs, Dalek.Gen.FiatField51.reduce.evalC ins = some outs ∧ Dalek.Gen.FiatField51.reduce.evalW ins = outs ∧
      EnvIn outs Dalek.Gen.Norm.FiatField51.reduce_post :=
  Triple.of_norm Dalek.Gen.Norm.FiatField51.reduce_norm_ok ins hin

theorem FiatField51_from_bytes_safe (ins : List Nat) (hin : EnvIn ins FiatField51.pre_from_bytes) :
    ∃ outs, Dalek.Gen.FiatField51.from_bytes.evalC ins = some outs ∧ Dalek.Gen.FiatField51.from_bytes.evalW ins = outs ∧
      EnvIn outs Dalek.Gen.Norm.FiatField51.from_bytes_post :=
  Triple.of_norm Dalek.Gen.Norm.FiatField51.from_bytes_norm_ok ins hin

theorem FiatField51_as_bytes_safe (ins : List Nat) (hin : EnvIn ins FiatField51.pre_as_bytes) :
    ∃ outs, Dalek.Gen.FiatField51.as_bytes.evalC ins = some outs ∧ Dalek.Gen.FiatField51.as_bytes.evalW ins = outs ∧
      EnvIn outs Dalek.Gen.Norm.FiatField51.as_bytes_post :=
  Triple.of_norm Dalek.Gen.Norm.FiatField51.as_bytes_norm_ok ins hin

theorem FiatField51_square_safe (ins : List Nat) (hin : EnvIn ins FiatField51.pre_square) :
    ∃ outs, Dalek.Gen.FiatField51.square.evalC ins = some outs ∧ Dalek.Gen.FiatField51.square.evalW ins = outs ∧
      EnvIn outs Dalek.Gen.Norm.FiatField51.square_post :=
  Triple.of_norm Dalek.Gen.Norm.FiatField51.square_norm_ok ins hin

theorem FiatField51_square2_safe (ins : List Nat) (hin : EnvIn ins FiatField51.pre_square2) :
    ∃ outs, Dalek.Gen.FiatField51.square2.evalC ins = some outs ∧ Dalek.Gen.FiatField51.square2.evalW ins = outs ∧
      EnvIn outs Dalek.Gen.Norm.FiatField51.square2_post :=
  Triple.of_norm Dalek.Gen.Norm.FiatField51.square2_norm_ok ins hin

theorem FiatField51_pow2k_body_safe (ins : List Nat) (hin : EnvIn ins FiatField51.pre_pow2k_body) :
    ∃ outs, Dalek.Gen.FiatField51.pow2k_body.evalC ins = some outs ∧ Dalek.Gen.FiatField51.pow2k_body.evalW ins = outs ∧
      EnvIn outs Dalek.Gen.Norm.FiatField51.pow2k_body_post :=
  Triple.of_norm Dalek.Gen.Norm.FiatField51.pow2k_body_norm_ok ins hin

theorem FiatField51_conditional_select_safe (ins : List Nat) (hin : EnvIn ins FiatField51.pre_conditional_select) :
    ∃ outs, Dalek.Gen.FiatField51.conditional_select.evalC ins = some outs ∧ Dalek.Gen.FiatField51.conditional_select.evalW ins = outs ∧
      EnvIn outs Dalek.Gen.Norm.FiatField51.conditional_select_post :=
  Triple.of_norm Dalek.Gen.Norm.FiatField51.conditional_select_norm_ok ins hin

theorem FiatField51_conditional_assign_safe (ins : List Nat) (hin : EnvIn ins FiatField51.pre_conditional_assign) :
    ∃ outs, Dalek.Gen.FiatField51.conditional_assign.evalC ins = some outs ∧ Dalek.Gen.FiatField51.conditional_assign.evalW ins = outs ∧
      EnvIn outs Dalek.Gen.Norm.FiatField51.conditional_assign_post :=
  Triple.of_norm Dalek.Gen.Norm.FiatField51.conditional_assign_norm_ok ins hin

theorem FiatField26_add_safe (ins : List Nat) (hin : EnvIn ins FiatField26.pre_add) :
    ∃ outs, Dalek.Gen.FiatField26.add.evalC ins = some outs ∧ Dalek.Gen.FiatField26.add.evalW ins = outs ∧
      EnvIn outs Dalek.Gen.Norm.FiatField26.add_post :=
  Triple.of_norm Dalek.Gen.Norm.FiatField26.add_norm_ok ins hin

theorem FiatField26_add_ref_safe (ins : List Nat) (hin : EnvIn ins FiatField26.pre_add_ref) :
    ∃ outs, Dalek.Gen.FiatField26.add_ref.evalC ins = some outs ∧ Dalek.Gen.FiatField26.add_ref.evalW ins = outs ∧
      EnvIn outs Dalek.Gen.Norm.FiatField26.add_ref_post :=
  Triple.of_norm Dalek.Gen.Norm.FiatField26.add_ref_norm_ok ins hin

theorem FiatField26_sub_safe (ins : List Nat) (hin : EnvIn ins FiatField26.pre_sub) :
    ∃ outs, Dalek.Gen.FiatField26.sub.evalC ins = some outs ∧ Dalek.Gen.FiatField26.sub.evalW ins = outs ∧
      EnvIn outs Dalek.Gen.Norm.FiatField26.sub_post :=
  Triple.of_norm Dalek.Gen.Norm.FiatField26.sub_norm_ok ins hin

theorem FiatField26_sub_assign_safe (ins : List Nat) (hin : EnvIn ins FiatField26.pre_sub_assign) :
    ∃ outs, Dalek.Gen.FiatField26.sub_assign.evalC ins = some outs ∧ Dalek.Gen.FiatField26.sub_assign.evalW ins = outs ∧
      EnvIn outs Dalek.Gen.Norm.FiatField26.sub_assign_post :=
  Triple.of_norm Dalek.Gen.Norm.FiatField26.sub_assign_norm_ok ins hin

theorem FiatField26_mul_safe (ins : List Nat) (hin : EnvIn ins FiatField26.pre_mul) :
    ∃ outs, Dalek.Gen.FiatField26.mul.evalC ins = some outs ∧ Dalek.Gen.FiatField26.mul.evalW ins = outs ∧
      EnvIn outs Dalek.Gen.Norm.FiatField26.mul_post :=
  Triple.of_norm Dalek.Gen.Norm.FiatField26.mul_norm_ok ins hin

theorem FiatField26_mul_assign_safe (ins : List Nat) (hin : EnvIn ins FiatField26.pre_mul_assign) :
    ∃ outs, Dalek.Gen.FiatField26.mul_assign.evalC ins = some outs ∧ Dalek.Gen.FiatField26.mul_assign.evalW ins = outs ∧
      EnvIn outs Dalek.Gen.Norm.FiatField26.mul_assign_post :=
  Triple.of_norm Dalek.Gen.Norm.FiatField26.mul_assign_norm_ok ins hin

theorem FiatField26_neg_safe (ins : List Nat) (hin : EnvIn ins FiatField26.pre_neg) :
    ∃ outs, Dalek.Gen.FiatField26.neg.evalC ins = some outs ∧ Dalek.Gen.FiatField26.neg.evalW ins = outs ∧
      EnvIn outs Dalek.Gen.Norm.FiatField26.neg_post :=
  Triple.of_norm Dalek.Gen.Norm.FiatField26.neg_norm_ok ins hin

theorem FiatField26_from_bytes_safe (ins : List Nat) (hin : EnvIn ins FiatField26.pre_from_bytes) :
    ∃ outs, Dalek.Gen.FiatField26.from_bytes.evalC ins = some outs ∧ Dalek.Gen.FiatField26.from_bytes.evalW ins = outs ∧
      EnvIn outs Dalek.Gen.Norm.FiatField26.from_bytes_post :=
  Triple.of_norm Dalek.Gen.Norm.FiatField26.from_bytes_norm_ok ins hin

theorem FiatField26_as_bytes_safe (ins : List Nat) (hin : EnvIn ins FiatField26.pre_as_bytes) :
    ∃ outs, Dalek.Gen.FiatField26.as_bytes.evalC ins = some outs ∧ Dalek.Gen.FiatField26.as_bytes.evalW ins = outs ∧
      EnvIn outs Dalek.Gen.Norm.FiatField26.as_bytes_post :=
  Triple.of_norm Dalek.Gen.Norm.FiatField26.as_bytes_norm_ok ins hin

theorem FiatField26_square_safe (ins : List Nat) (hin : EnvIn ins FiatField26.pre_square) :
    ∃ outs, Dalek.Gen.FiatField26.square.evalC ins = some outs ∧ Dalek.Gen.FiatField26.square.evalW ins = outs ∧
      EnvIn outs Dalek.Gen.Norm.FiatField26.square_post :=
  Triple.of_norm Dalek.Gen.Norm.FiatField26.square_norm_ok ins hin

theorem FiatField26_square2_safe (ins : List Nat) (hin : EnvIn ins FiatField26.pre_square2) :
    ∃ outs, Dalek.Gen.FiatField26.square2.evalC ins = some outs ∧ Dalek.Gen.FiatField26.square2.evalW ins = outs ∧
      EnvIn outs Dalek.Gen.Norm.FiatField26.square2_post :=
  Triple.of_norm Dalek.Gen.Norm.FiatField26.square2_norm_ok ins hin

theorem FiatField26_pow2k_body_safe (ins : List Nat) (hin : EnvIn ins FiatField26.pre_pow2k_body) :
    ∃ outs, Dalek.Gen.FiatField26.pow2k_body.evalC ins = some outs ∧ Dalek.Gen.FiatField26.pow2k_body.evalW ins = outs ∧
      EnvIn outs Dalek.Gen.Norm.FiatField26.pow2k_body_post :=
  Triple.of_norm Dalek.Gen.Norm.FiatField26.pow2k_body_norm_ok ins hin

theorem FiatField26_conditional_select_safe (ins : List Nat) (hin : EnvIn ins FiatField26.pre_conditional_select) :
    ∃ outs, Dalek.Gen.FiatField26.conditional_select.evalC ins = some outs ∧ Dalek.Gen.FiatField26.conditional_select.evalW ins = outs ∧
      EnvIn outs Dalek.Gen.Norm.FiatField26.conditional_select_post :=
  Triple.of_norm Dalek.Gen.Norm.FiatField26.conditional_select_norm_ok ins hin

theorem FiatField26_conditional_assign_safe (ins : List Nat) (hin : EnvIn ins FiatField26.pre_conditional_assign) :
    ∃ outs, Dalek.Gen.FiatField26.conditional_assign.evalC ins = some outs ∧ Dalek.Gen.FiatField26.conditional_assign.evalW ins = outs ∧
      EnvIn outs Dalek.Gen.Norm.FiatField26.conditional_assign_post :=
  Triple.of_norm Dalek.Gen.Norm.FiatField26.conditional_assign_norm_ok ins hin

/-- every chain of fiat u64 field operations on tight inputs: a checked build does not panic and agrees with release -/
theorem fiat51_never_panics (env : List (List Nat)) (henv : ∀ l ∈ env, EnvIn l Fiat51.tightOut) (e : FExpr)
    (hs : e.scoped env.length) : Fiat51.evalC env e = some (Fiat51.evalW env e) := by
  obtain ⟨out, hC, hW, _, _⟩ := Fiat51.fiat51_expr env henv e hs
  rw [hC, hW]

/-- every chain of fiat u32 field operations on tight inputs: a checked build does not panic and agrees with release -/
theorem fiat26_never_panics (env : List (List Nat)) (henv : ∀ l ∈ env, EnvIn l Fiat26.tightOut) (e : FExpr)
    (hs : e.scoped env.length) : Fiat26.evalC env e = some (Fiat26.evalW env e) := by
  obtain ⟨out, hC, hW, _, _⟩ := Fiat26.fiat26_expr env henv e hs
  rw [hC, hW]

/-- the contract is not decorative: for ARBITRARY u32 limbs the analysis of the regenerated u32 `mul` wrapper fails (its
`u32 × 19` and 64-bit accumulations can overflow outside fiat's bounds) -/
example : Prog.norm Dalek.Gen.FiatField26.mul (List.replicate 20 (ub (2 ^ 32 - 1))) = none := by decide +kernel

end Dalek.Props.C11.Fiat
