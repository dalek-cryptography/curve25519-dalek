import Dalek.Props.C02.Scalar29Composed
import Dalek.Proofs.ScalarApi29GenInvert
import Dalek.Model.ScalarApi29
/-!
# `Scalar` API glue, serial u32 backend: the kernel theorems restated on limb LISTS; `ok29 : KernelsOk K29`

Each theorem of `Dalek/Props/C02/Scalar29.lean` / `Scalar29Composed.lean` (given there for explicit limbs `a0 … a8`)
is restated for the model's wrappers `Dalek.Model.ScalarApi29.*29` on arbitrary lists inside the limb contract
(`EnvIn a limbs29`: exactly nine limbs `< 2^29`), as `Dalek/Proofs/ScalarApiKernels.lean` does for the u64 backend;
`ok29` packages them for the generic development (`Dalek/Proofs/ScalarApi29Gen*.lean`).  Nothing here depends on the
shape of generated code.
-/
set_option exponentiation.threshold 600

namespace Dalek.Proofs.ScalarApi29
open Dalek.IR Dalek.Proofs.Scalar29 Dalek.Model.Contracts Dalek.Gen.Consts Dalek.Model.ScalarApi29
open Dalek.Model.FieldBytes (leVal natToLeN)
open Dalek.Proofs.Scalar52 (ForallVec)
open Dalek.Props.C02.Scalar29 (limbs29)
open Dalek.Props.C02.Scalar52 (l)

/-- the two developments use the same group order -/
theorem l_eq : Dalek.Props.C02.Scalar29.l = l := rfl

/-! ## the kernels on lists -/

theorem unpack_ok {b : List Nat} (hb : EnvIn b (bytes 32)) :
    EnvIn (fromBytes29 b) limbs29 ∧ val29 (fromBytes29 b) = leVal b := by
  refine ForallVec.of_envIn b hb ?_
  repeat intro
  rename_i hb
  obtain ⟨out, -, rfl, he, hv⟩ := Dalek.Props.C02.Scalar29.from_bytes_spec (hin := hb)
  exact ⟨EnvIn_of_itvsLe he (by decide +kernel), hv⟩

theorem fromBytesWide_ok {b : List Nat} (hb : EnvIn b (bytes 64)) :
    EnvIn (fromBytesWide29 b) limbs29 ∧ val29 (fromBytesWide29 b) = leVal b % l := by
  refine ForallVec.of_envIn b hb ?_
  repeat intro
  rename_i hb
  obtain ⟨out, -, rfl, h⟩ := Dalek.Props.C02.Scalar29.from_bytes_wide_spec (hin := hb)
  exact h

theorem pack_ok {a : List Nat} (ha : EnvIn a limbs29) (hv : val29 a < 2 ^ 256) :
    EnvIn (asBytes29 a) (bytes 32) ∧ leVal (asBytes29 a) = val29 a := by
  revert hv
  refine ForallVec.of_envIn a ha ?_
  repeat intro
  rename_i ha hv
  obtain ⟨out, -, rfl, h⟩ := Dalek.Props.C02.Scalar29.as_bytes_spec (hin := ha) (hv := hv)
  exact h

theorem add29_ok {a b : List Nat} (ha : EnvIn a limbs29) (hb : EnvIn b limbs29)
    (hav : val29 a < l) (hbv : val29 b < l) :
    EnvIn (add29 a b) limbs29 ∧ val29 (add29 a b) = (val29 a + val29 b) % l := by
  revert hav hbv
  refine ForallVec.of_envIn₂ a b ha hb ?_
  repeat intro
  rename_i ha hb hav hbv
  obtain ⟨out, -, rfl, h⟩ := Dalek.Props.C02.Scalar29.add_spec (hin := EnvIn_append ha hb) (ha := hav) (hb := hbv)
  exact h

theorem sub29_ok {a b : List Nat} (ha : EnvIn a limbs29) (hb : EnvIn b limbs29)
    (hav : val29 a < l) (hbv : val29 b < l) :
    EnvIn (sub29 a b) limbs29 ∧ val29 (sub29 a b) = (val29 a + l - val29 b) % l := by
  revert hav hbv
  refine ForallVec.of_envIn₂ a b ha hb ?_
  repeat intro
  rename_i ha hb hav hbv
  obtain ⟨out, -, rfl, he, -, hv⟩ :=
    Dalek.Props.C02.Scalar29.sub_spec (hin := EnvIn_append ha hb) (ha := hav) (hb := hbv)
  exact ⟨he, hv⟩

theorem mul29_ok {a b : List Nat} (ha : EnvIn a limbs29) (hb : EnvIn b limbs29)
    (hav : val29 a < l) (hbv : val29 b < l) :
    EnvIn (mul29 a b) limbs29 ∧ val29 (mul29 a b) = val29 a * val29 b % l := by
  revert hav hbv
  refine ForallVec.of_envIn₂ a b ha hb ?_
  repeat intro
  rename_i ha hb hav hbv
  obtain ⟨out, -, rfl, h⟩ := Dalek.Props.C02.Scalar29.mul_spec (hin := EnvIn_append ha hb) (ha := hav) (hb := hbv)
  exact h

theorem mulInternal29_ok {a b : List Nat} (ha : EnvIn a limbs29) (hb : EnvIn b limbs29) :
    EnvIn (mulInternal29 a b) Scalar29.pre_montgomery_reduce ∧
      val29 (mulInternal29 a b) = val29 a * val29 b := by
  refine ForallVec.of_envIn₂ a b ha hb ?_
  repeat intro
  rename_i ha hb
  obtain ⟨out, -, rfl, h⟩ := Dalek.Props.C02.Scalar29.mul_internal_spec (hin := EnvIn_append ha hb)
  exact h

theorem montgomeryReduce29_ok {z : List Nat} (hz : EnvIn z Scalar29.pre_montgomery_reduce)
    (hN : val29 z < 2 ^ 261 * l) :
    EnvIn (montgomeryReduce29 z) limbs29 ∧ val29 (montgomeryReduce29 z) < l ∧
      val29 (montgomeryReduce29 z) * 2 ^ 261 % l = val29 z % l := by
  revert hN
  refine ForallVec.of_envIn z hz ?_
  repeat intro
  rename_i hz hN
  obtain ⟨out, -, rfl, h⟩ := Dalek.Props.C02.Scalar29.montgomery_reduce_spec (hin := hz) (hN := hN)
  exact h

theorem montgomeryMul29_ok {a b : List Nat} (ha : EnvIn a limbs29) (hb : EnvIn b limbs29)
    (hav : val29 a < l) (hbv : val29 b < l) :
    EnvIn (montgomeryMul29 a b) limbs29 ∧ val29 (montgomeryMul29 a b) < l ∧
      val29 (montgomeryMul29 a b) * 2 ^ 261 % l = val29 a * val29 b % l := by
  revert hav hbv
  refine ForallVec.of_envIn₂ a b ha hb ?_
  repeat intro
  rename_i ha hb hav hbv
  obtain ⟨out, -, rfl, h⟩ := Dalek.Props.C02.Scalar29.montgomery_mul_spec (hin := EnvIn_append ha hb)
    (hab := Nat.mul_lt_mul'' (lt_trans hav (by norm_num [l])) hbv)
  exact h

theorem montgomerySquare29_ok {a : List Nat} (ha : EnvIn a limbs29) (hav : val29 a < l) :
    EnvIn (montgomerySquare29 a) limbs29 ∧ val29 (montgomerySquare29 a) < l ∧
      val29 (montgomerySquare29 a) * 2 ^ 261 % l = val29 a * val29 a % l := by
  revert hav
  refine ForallVec.of_envIn a ha ?_
  repeat intro
  rename_i ha hav
  obtain ⟨out, -, rfl, h⟩ := Dalek.Props.C02.Scalar29.montgomery_square_spec (hin := ha)
    (haa := Nat.mul_lt_mul'' (lt_trans hav (by norm_num [l])) hav)
  exact h

theorem asMontgomery29_ok {a : List Nat} (ha : EnvIn a limbs29) :
    EnvIn (asMontgomery29 a) limbs29 ∧ val29 (asMontgomery29 a) = val29 a * 2 ^ 261 % l := by
  refine ForallVec.of_envIn a ha ?_
  repeat intro
  rename_i ha
  obtain ⟨out, -, rfl, h⟩ := Dalek.Props.C02.Scalar29.as_montgomery_spec (hin := ha)
  exact h

theorem fromMontgomery29_ok {a : List Nat} (ha : EnvIn a limbs29) :
    EnvIn (fromMontgomery29 a) limbs29 ∧ val29 (fromMontgomery29 a) < l ∧
      val29 (fromMontgomery29 a) * 2 ^ 261 % l = val29 a % l := by
  refine ForallVec.of_envIn a ha ?_
  repeat intro
  rename_i ha
  obtain ⟨out, -, rfl, h⟩ := Dalek.Props.C02.Scalar29.from_montgomery_spec (hin := ha)
  exact h

end Dalek.Proofs.ScalarApi29

namespace Dalek.Proofs.ScalarApiGen

/-- the serial u32 backend satisfies the kernel theorems: nine 29-bit limbs, Montgomery radix `2^261` -/
def ok29 : KernelsOk Dalek.Model.ScalarApi29.K29 where
  val := Dalek.Proofs.Scalar29.val29
  limbs := Dalek.Props.C02.Scalar29.limbs29
  wide := Dalek.Model.Contracts.Scalar29.pre_montgomery_reduce
  rexp := 261
  rexp_ge := by norm_num
  fromBytes_ok := Dalek.Proofs.ScalarApi29.unpack_ok
  fromBytesWide_ok := Dalek.Proofs.ScalarApi29.fromBytesWide_ok
  asBytes_ok := Dalek.Proofs.ScalarApi29.pack_ok
  add_ok := Dalek.Proofs.ScalarApi29.add29_ok
  sub_ok := Dalek.Proofs.ScalarApi29.sub29_ok
  mul_ok := Dalek.Proofs.ScalarApi29.mul29_ok
  mulInternal_ok := Dalek.Proofs.ScalarApi29.mulInternal29_ok
  montgomeryReduce_ok := Dalek.Proofs.ScalarApi29.montgomeryReduce29_ok
  montgomeryMul_ok := Dalek.Proofs.ScalarApi29.montgomeryMul29_ok
  montgomerySquare_ok := Dalek.Proofs.ScalarApi29.montgomerySquare29_ok
  asMontgomery_ok := Dalek.Proofs.ScalarApi29.asMontgomery29_ok
  fromMontgomery_ok := Dalek.Proofs.ScalarApi29.fromMontgomery29_ok
  R_limbs := by decide +kernel
  R_value := Dalek.Props.C02.Scalar29.R_value
  ZERO_limbs := by decide +kernel
  ZERO_val := by decide +kernel

end Dalek.Proofs.ScalarApiGen
