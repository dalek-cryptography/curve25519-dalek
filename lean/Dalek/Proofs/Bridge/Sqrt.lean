/-
`Spec.sqrtRatioM1` (RFC 9496 `SQRT_RATIO_M1`, dalek `FieldElement::sqrt_ratio_i`) meets its
four-case contract, stated in the field `Fp = ZMod (2^255 - 19)`.

Main statements: `sqrtRatioM1_lt`, `sqrtRatioM1_even`, `sqrtRatioM1_zero`, `sqrtRatioM1_v_zero`,
`sqrtRatioM1_square`, `sqrtRatioM1_nonsquare`, `sqrtRatioM1_ok_iff`, `sqrtRatioM1_unique`,
and the combined `sqrtRatioM1_spec`.
-/
import Dalek.Proofs.Bridge.Field
import Mathlib.Tactic.FieldSimp

namespace Dalek.Bridge

open Dalek.Spec Dalek.FieldFacts

/-! ## Field facts: `i = sqrt(-1)`, fourth roots of unity -/

theorem cast_SQRT_M1 : ((SQRT_M1 : Nat) : Fp) = sqrtM1 := by
  simp only [SQRT_M1, sqrtM1, Nat.cast_ofNat]

theorem SQRT_M1_lt : SQRT_M1 < P := by decide +kernel

theorem sqrtM1_ne_zero : sqrtM1 ≠ 0 := by
  intro h
  have h1 := sqrtM1_mul_self
  rw [h, mul_zero] at h1
  exact one_ne_zero (α := Fp) (by linear_combination h1)

theorem one_ne_neg_one : (1 : Fp) ≠ -1 := fun h => neg_one_ne_one_p h.symm

theorem sqrtM1_ne_one : sqrtM1 ≠ 1 := by
  intro h
  have h1 := sqrtM1_mul_self
  rw [h, mul_one] at h1
  exact one_ne_neg_one h1

theorem sqrtM1_ne_neg_one : sqrtM1 ≠ -1 := by
  intro h
  have h1 := sqrtM1_mul_self
  rw [h] at h1
  exact one_ne_neg_one (by linear_combination h1)

theorem sqrtM1_ne_neg_self : sqrtM1 ≠ -sqrtM1 := by
  intro h
  have h2 : (2 : Fp) * sqrtM1 = 0 := by linear_combination h
  rcases mul_eq_zero.1 h2 with h3 | h3
  · exact two_ne_zero_p h3
  · exact sqrtM1_ne_zero h3

/-- The fourth roots of unity are `±1, ±i`. -/
theorem fourth_root_cases {z : Fp} (h : z ^ 4 = 1) :
    z = 1 ∨ z = -1 ∨ z = sqrtM1 ∨ z = -sqrtM1 := by
  have hi := sqrtM1_mul_self
  have h0 : (z - 1) * ((z + 1) * ((z - sqrtM1) * (z + sqrtM1))) = 0 := by
    linear_combination h - (z ^ 2 - 1) * hi
  rcases mul_eq_zero.1 h0 with h1 | h1
  · left; exact sub_eq_zero.1 h1
  rcases mul_eq_zero.1 h1 with h2 | h2
  · right; left; exact eq_neg_of_add_eq_zero_left h2
  rcases mul_eq_zero.1 h2 with h3 | h3
  · right; right; left; exact sub_eq_zero.1 h3
  · right; right; right; exact eq_neg_of_add_eq_zero_left h3

theorem P_quarter : (P - 1) / 4 * 4 = P - 1 := by decide +kernel
theorem P_quarter_eq : (P - 1) / 4 = 2 * ((P - 5) / 8) + 1 := by decide +kernel
theorem P_half_eq : P / 2 = (P - 1) / 4 * 2 := by decide +kernel
theorem P_quarter_odd : Odd ((P - 1) / 4) := by
  rw [Nat.odd_iff]; decide +kernel

theorem pow_quarter_fourth {t : Fp} (ht : t ≠ 0) : (t ^ ((P - 1) / 4)) ^ 4 = 1 := by
  rw [← pow_mul, P_quarter]; exact pow_p_sub_one ht

/-- `i` is not a square (as `p ≡ 5 mod 8`). -/
theorem sqrtM1_not_isSquare : ¬ IsSquare sqrtM1 := by
  have h : sqrtM1 ^ (P / 2) = -1 := by
    rw [P_half_eq, mul_comm, pow_mul, sqrtM1_sq, P_quarter_odd.neg_one_pow]
  exact not_isSquare_of_pow_half h

/-- The algebraic heart of `sqrt_ratio_i`. -/
theorem check_identity (u v : Fp) (k : Nat) :
    v * (u * v ^ 3 * (u * v ^ 7) ^ k) ^ 2 = u * (u * v ^ 7) ^ (2 * k + 1) := by ring

/-! ## Unfolding the specification -/

/-- The candidate root `u v³ (u v⁷)^((p-5)/8)` as computed by the specification. -/
def cand (u v : Nat) : Nat :=
  fmul (fmul (u % P) (fmul (fsq (v % P)) (v % P)))
    (fpow (fmul (u % P) (fmul (fsq (fmul (fsq (v % P)) (v % P))) (v % P))) ((P - 5) / 8))

/-- `v · r²` for the candidate root. -/
def chk (u v : Nat) : Nat := fmul (v % P) (fsq (cand u v))

theorem sqrtRatioM1_unfold (u v : Nat) :
    sqrtRatioM1 u v =
      ((chk u v == u % P) || (chk u v == fneg (u % P)),
       fabs (if (chk u v == fneg (u % P)) || (chk u v == fmul (fneg (u % P)) SQRT_M1)
             then fmul SQRT_M1 (cand u v) else cand u v)) := rfl

theorem cast_cand (u v : Nat) :
    ((cand u v : Nat) : Fp) = (u : Fp) * (v : Fp) ^ 3 * ((u : Fp) * (v : Fp) ^ 7) ^ ((P - 5) / 8) := by
  simp only [cand, cast_fmul, cast_fsq, cast_fpow, cast_mod_P]; ring

theorem cast_chk (u v : Nat) :
    ((chk u v : Nat) : Fp) = (u : Fp) * ((u : Fp) * (v : Fp) ^ 7) ^ ((P - 1) / 4) := by
  simp only [chk, cast_fmul, cast_fsq, cast_mod_P, cast_cand]
  rw [check_identity, P_quarter_eq]

theorem cast_chk' (u v : Nat) :
    ((chk u v : Nat) : Fp) = (v : Fp) * ((cand u v : Nat) : Fp) ^ 2 := by
  simp only [chk, cast_fmul, cast_fsq, cast_mod_P]

theorem chk_lt (u v : Nat) : chk u v < P := fmul_lt _ _

theorem beq_iff_cast {a b : Nat} (ha : a < P) (hb : b < P) : (a == b) = true ↔ (a : Fp) = (b : Fp) := by
  rw [beq_iff_eq, cast_inj_of_lt ha hb]

theorem beq_false_iff_cast {a b : Nat} (ha : a < P) (hb : b < P) :
    (a == b) = false ↔ (a : Fp) ≠ (b : Fp) := by
  rw [← Bool.not_eq_true, beq_iff_cast ha hb]

/-! ## General facts on the result -/

/-- The returned root is canonical. -/
theorem sqrtRatioM1_lt (u v : Nat) : (sqrtRatioM1 u v).2 < P := by
  rw [sqrtRatioM1_unfold]; dsimp only; exact fabs_lt _

/-- The returned root is non-negative (even). -/
theorem sqrtRatioM1_even (u v : Nat) : (sqrtRatioM1 u v).2 % 2 = 0 := by
  rw [sqrtRatioM1_unfold]; dsimp only; exact fabs_even _

theorem sqrtRatioM1_isNeg (u v : Nat) : isNeg (sqrtRatioM1 u v).2 = false := by
  rw [sqrtRatioM1_unfold]; dsimp only; exact isNeg_fabs _

/-- `sqrtRatioM1` only depends on the residues of its arguments. -/
theorem sqrtRatioM1_mod (u v : Nat) : sqrtRatioM1 (u % P) (v % P) = sqrtRatioM1 u v := by
  unfold sqrtRatioM1; rw [Nat.mod_mod, Nat.mod_mod]

/-! ## The four cases -/

/-- Case `u = 0`: `(true, 0)`. -/
theorem sqrtRatioM1_zero {u : Nat} (v : Nat) (hu : (u : Fp) = 0) : sqrtRatioM1 u v = (true, 0) := by
  have hu0 : u % P = 0 := (cast_eq_zero_iff u).1 hu
  have hc : ((cand u v : Nat) : Fp) = 0 := by rw [cast_cand, hu]; ring
  have hk : chk u v = 0 := by
    apply (cast_eq_zero_of_lt (chk_lt u v)).1; rw [cast_chk', hc]; ring
  rw [sqrtRatioM1_unfold, hk, hu0]
  have h1 : fabs (if ((0 : Nat) == fneg 0) || ((0 : Nat) == fmul (fneg 0) SQRT_M1)
      then fmul SQRT_M1 (cand u v) else cand u v) = 0 := by
    apply fabs_eq_zero
    split
    · rw [cast_fmul, hc, mul_zero]
    · exact hc
  rw [h1]; rfl

/-- Case `v = 0`, `u ≠ 0`: `(false, 0)`. -/
theorem sqrtRatioM1_v_zero {u v : Nat} (hv : (v : Fp) = 0) (hu : (u : Fp) ≠ 0) :
    sqrtRatioM1 u v = (false, 0) := by
  have hc : ((cand u v : Nat) : Fp) = 0 := by rw [cast_cand, hv]; ring
  have hk : ((chk u v : Nat) : Fp) = 0 := by rw [cast_chk', hv]; ring
  have hulp : u % P < P := Nat.mod_lt _ P_pos
  have b1 : (chk u v == u % P) = false := by
    rw [beq_false_iff_cast (chk_lt u v) hulp, hk, cast_mod_P]; exact fun h => hu h.symm
  have b2 : (chk u v == fneg (u % P)) = false := by
    rw [beq_false_iff_cast (chk_lt u v) (fneg_lt _), hk, cast_fneg, cast_mod_P]
    exact fun h => hu (neg_eq_zero.1 h.symm)
  rw [sqrtRatioM1_unfold, b1, b2]
  have h1 : fabs (if (false || (chk u v == fmul (fneg (u % P)) SQRT_M1)) = true
      then fmul SQRT_M1 (cand u v) else cand u v) = 0 := by
    apply fabs_eq_zero
    split
    · rw [cast_fmul, hc, mul_zero]
    · exact hc
  rw [h1]; rfl

/-- Case `u, v ≠ 0`: either `(true, r)` with `r² v = u` or `(false, r)` with `r² v = i u`. -/
theorem sqrtRatioM1_nonzero {u v : Nat} (hu : (u : Fp) ≠ 0) (hv : (v : Fp) ≠ 0) :
    ((sqrtRatioM1 u v).1 = true ∧ (((sqrtRatioM1 u v).2 : Nat) : Fp) ^ 2 * (v : Fp) = (u : Fp)) ∨
    ((sqrtRatioM1 u v).1 = false ∧
      (((sqrtRatioM1 u v).2 : Nat) : Fp) ^ 2 * (v : Fp) = sqrtM1 * (u : Fp)) := by
  have hi := sqrtM1_mul_self
  have ht : (u : Fp) * (v : Fp) ^ 7 ≠ 0 := mul_ne_zero hu (pow_ne_zero 7 hv)
  have hulp : u % P < P := Nat.mod_lt _ P_pos
  have hk := cast_chk u v
  have hk' := cast_chk' u v
  -- the Boolean tests as field propositions
  have e1 : (chk u v == u % P) = true ↔ ((chk u v : Nat) : Fp) = (u : Fp) := by
    rw [beq_iff_cast (chk_lt u v) hulp, cast_mod_P]
  have e2 : (chk u v == fneg (u % P)) = true ↔ ((chk u v : Nat) : Fp) = -(u : Fp) := by
    rw [beq_iff_cast (chk_lt u v) (fneg_lt _), cast_fneg, cast_mod_P]
  have e3 : (chk u v == fmul (fneg (u % P)) SQRT_M1) = true ↔
      ((chk u v : Nat) : Fp) = -(u : Fp) * sqrtM1 := by
    rw [beq_iff_cast (chk_lt u v) (fmul_lt _ _), cast_fmul, cast_fneg, cast_mod_P, cast_SQRT_M1]
  have n1 : ∀ {b : Bool} {p : Prop}, (b = true ↔ p) → ¬ p → b = false := by
    intro b p h hp; cases b
    · rfl
    · exact absurd (h.1 rfl) hp
  have cancel : ∀ {a b : Fp}, (u : Fp) * a = (u : Fp) * b → a = b :=
    fun h => mul_left_cancel₀ hu h
  rw [sqrtRatioM1_unfold]
  rcases fourth_root_cases (pow_quarter_fourth ht) with hz | hz | hz | hz <;> rw [hz] at hk
  · -- ζ = 1 : check = u
    have b1 : (chk u v == u % P) = true := e1.2 (by rw [hk, mul_one])
    have b2 : (chk u v == fneg (u % P)) = false := n1 e2 (by
      rw [hk]; intro h; exact one_ne_neg_one (cancel (by linear_combination h)))
    have b3 : (chk u v == fmul (fneg (u % P)) SQRT_M1) = false := n1 e3 (by
      rw [hk]; intro h
      exact sqrtM1_ne_neg_one (cancel (by linear_combination h)))
    left
    rw [b1, b2, b3]
    refine ⟨rfl, ?_⟩
    simp only [Bool.or_self, Bool.false_eq_true, if_false]
    rw [cast_fabs_sq, mul_comm, ← hk', hk, mul_one]
  · -- ζ = -1 : check = -u
    have b1 : (chk u v == u % P) = false := n1 e1 (by
      rw [hk]; intro h; exact one_ne_neg_one (cancel (by linear_combination -h)))
    have b2 : (chk u v == fneg (u % P)) = true := e2.2 (by rw [hk]; ring)
    left
    rw [b1, b2]
    refine ⟨rfl, ?_⟩
    simp only [Bool.true_or, if_true]
    rw [cast_fabs_sq, cast_fmul, cast_SQRT_M1]
    linear_combination hk' - hk + ((cand u v : Fp) ^ 2 * (v : Fp)) * hi
  · -- ζ = i : check = u i, no test fires
    have b1 : (chk u v == u % P) = false := n1 e1 (by
      rw [hk]; intro h; exact sqrtM1_ne_one (cancel (by linear_combination h)))
    have b2 : (chk u v == fneg (u % P)) = false := n1 e2 (by
      rw [hk]; intro h; exact sqrtM1_ne_neg_one (cancel (by linear_combination h)))
    have b3 : (chk u v == fmul (fneg (u % P)) SQRT_M1) = false := n1 e3 (by
      rw [hk]; intro h
      exact sqrtM1_ne_neg_self (cancel (by linear_combination h)))
    right
    rw [b1, b2, b3]
    refine ⟨rfl, ?_⟩
    simp only [Bool.or_self, Bool.false_eq_true, if_false]
    rw [cast_fabs_sq, mul_comm, ← hk', hk]; ring
  · -- ζ = -i : check = -u i
    have b1 : (chk u v == u % P) = false := n1 e1 (by
      rw [hk]; intro h
      exact sqrtM1_ne_neg_one (cancel (by linear_combination -h)))
    have b2 : (chk u v == fneg (u % P)) = false := n1 e2 (by
      rw [hk]; intro h
      exact sqrtM1_ne_one (cancel (by linear_combination -h)))
    have b3 : (chk u v == fmul (fneg (u % P)) SQRT_M1) = true := e3.2 (by rw [hk]; ring)
    right
    rw [b1, b2, b3]
    refine ⟨rfl, ?_⟩
    simp only [Bool.or_true, if_true]
    rw [cast_fabs_sq, cast_fmul, cast_SQRT_M1]
    linear_combination hk' - hk + ((cand u v : Fp) ^ 2 * (v : Fp)) * hi

/-! ## The contract -/

/-- Case `v ≠ 0`, `u / v` a square: `(true, r)` with `r² v = u`. -/
theorem sqrtRatioM1_square {u v : Nat} (hv : (v : Fp) ≠ 0) (hsq : IsSquare ((u : Fp) / (v : Fp))) :
    (sqrtRatioM1 u v).1 = true ∧ (((sqrtRatioM1 u v).2 : Nat) : Fp) ^ 2 * (v : Fp) = (u : Fp) := by
  by_cases hu : (u : Fp) = 0
  · rw [sqrtRatioM1_zero v hu, hu]; simp
  rcases sqrtRatioM1_nonzero hu hv with h | ⟨-, h⟩
  · exact h
  · exfalso
    -- i = r² v / u = r² / (u/v) would be a square
    obtain ⟨s, hs⟩ := hsq
    have hs0 : s ≠ 0 := by
      intro h0; rw [h0, mul_zero] at hs
      exact hu (by rw [div_eq_iff hv, zero_mul] at hs; exact hs)
    have hus : (u : Fp) = s * s * (v : Fp) := by rw [← hs]; field_simp
    apply sqrtM1_not_isSquare
    refine ⟨(((sqrtRatioM1 u v).2 : Nat) : Fp) / s, ?_⟩
    rw [hus] at h
    field_simp
    have hv' := hv
    apply mul_right_cancel₀ hv
    linear_combination -h

/-- Case `v ≠ 0`, `u / v` not a square: `(false, r)` with `r² v = i u`. -/
theorem sqrtRatioM1_nonsquare {u v : Nat} (hv : (v : Fp) ≠ 0) (hsq : ¬ IsSquare ((u : Fp) / (v : Fp))) :
    (sqrtRatioM1 u v).1 = false ∧
      (((sqrtRatioM1 u v).2 : Nat) : Fp) ^ 2 * (v : Fp) = sqrtM1 * (u : Fp) := by
  have hu : (u : Fp) ≠ 0 := by
    intro h; apply hsq; rw [h, zero_div]; exact ⟨0, by ring⟩
  rcases sqrtRatioM1_nonzero hu hv with ⟨-, h⟩ | h
  · exfalso; apply hsq
    refine ⟨(((sqrtRatioM1 u v).2 : Nat) : Fp), ?_⟩
    rw [div_eq_iff hv, ← h]; ring
  · exact h

/-- The success flag is set exactly when `u = 0`, or `v ≠ 0` and `u / v` is a square. -/
theorem sqrtRatioM1_ok_iff (u v : Nat) :
    (sqrtRatioM1 u v).1 = true ↔
      ((u : Fp) = 0 ∨ ((v : Fp) ≠ 0 ∧ IsSquare ((u : Fp) / (v : Fp)))) := by
  constructor
  · intro h
    by_cases hu : (u : Fp) = 0
    · left; exact hu
    right
    by_cases hv : (v : Fp) = 0
    · rw [sqrtRatioM1_v_zero hv hu] at h; cases h
    refine ⟨hv, ?_⟩
    by_contra hsq
    rw [(sqrtRatioM1_nonsquare hv hsq).1] at h; cases h
  · rintro (hu | ⟨hv, hsq⟩)
    · rw [sqrtRatioM1_zero v hu]
    · exact (sqrtRatioM1_square hv hsq).1

/-- When the flag is set, the root satisfies `r² v = u` (also in the case `u = 0`). -/
theorem sqrtRatioM1_ok {u v : Nat} (h : (sqrtRatioM1 u v).1 = true) :
    (((sqrtRatioM1 u v).2 : Nat) : Fp) ^ 2 * (v : Fp) = (u : Fp) := by
  rcases (sqrtRatioM1_ok_iff u v).1 h with hu | ⟨hv, hsq⟩
  · rw [sqrtRatioM1_zero v hu, hu]; simp
  · exact (sqrtRatioM1_square hv hsq).2

/-- Uniqueness: the result is THE canonical non-negative root.  If `x` is canonical, even and
`x² v = u` with `v ≠ 0`, then `sqrtRatioM1 u v = (true, x)`. -/
theorem sqrtRatioM1_unique {u v x : Nat} (hv : (v : Fp) ≠ 0) (hx : x < P) (hxe : x % 2 = 0)
    (h : (x : Fp) ^ 2 * (v : Fp) = (u : Fp)) : sqrtRatioM1 u v = (true, x) := by
  have hsq : IsSquare ((u : Fp) / (v : Fp)) := ⟨(x : Fp), by rw [div_eq_iff hv, ← h]; ring⟩
  obtain ⟨h1, h2⟩ := sqrtRatioM1_square hv hsq
  have h3 : (sqrtRatioM1 u v).2 = x := by
    apply eq_of_sq_eq_of_even (sqrtRatioM1_lt u v) hx (sqrtRatioM1_even u v) hxe
    apply mul_right_cancel₀ hv
    rw [h2, h]
  rw [← h1, ← h3]

/-- **Contract of `SQRT_RATIO_M1`** (RFC 9496 §4.2), all four cases, in the field. -/
theorem sqrtRatioM1_spec (u v : Nat) :
    (sqrtRatioM1 u v).2 < P ∧ (sqrtRatioM1 u v).2 % 2 = 0 ∧
    ((u : Fp) = 0 → sqrtRatioM1 u v = (true, 0)) ∧
    ((v : Fp) = 0 → (u : Fp) ≠ 0 → sqrtRatioM1 u v = (false, 0)) ∧
    ((v : Fp) ≠ 0 → IsSquare ((u : Fp) / (v : Fp)) →
      (sqrtRatioM1 u v).1 = true ∧ (((sqrtRatioM1 u v).2 : Nat) : Fp) ^ 2 * (v : Fp) = (u : Fp)) ∧
    ((v : Fp) ≠ 0 → ¬ IsSquare ((u : Fp) / (v : Fp)) →
      (sqrtRatioM1 u v).1 = false ∧
        (((sqrtRatioM1 u v).2 : Nat) : Fp) ^ 2 * (v : Fp) = sqrtM1 * (u : Fp)) :=
  ⟨sqrtRatioM1_lt u v, sqrtRatioM1_even u v, sqrtRatioM1_zero v, sqrtRatioM1_v_zero,
    sqrtRatioM1_square, sqrtRatioM1_nonsquare⟩

/-- The hypotheses of the four cases are satisfiable (and the function can be run in the kernel). -/
example : sqrtRatioM1 4 1 = (true, 2) := by decide +kernel
example : sqrtRatioM1 0 7 = (true, 0) := by decide +kernel
example : sqrtRatioM1 3 0 = (false, 0) := by decide +kernel
example : (sqrtRatioM1 2 1).1 = false := by decide +kernel

end Dalek.Bridge
