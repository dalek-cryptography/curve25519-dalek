import Dalek.Proofs.Scalar52.Basic
import Dalek.Gen.Norm.Scalar29
/-!
# Scalar29: radix-2^29 values, constants, `sub` and `add` of the translated serial-u32 scalar kernels

Same method as `Dalek/Proofs/Scalar52/Basic.lean`: the generated shallow function is shown BY `rfl` to be a
hand-named let-chain (ending in the generated `sub_fn` where `Scalar29::sub` is inlined); the value statements are
linear integer arithmetic, one limb at a time, with the final case analysis in a limb-free lemma (`sub_final`).
-/
set_option exponentiation.threshold 600

namespace Dalek.Proofs.Scalar29
open Dalek.IR Dalek.Gen.Norm.Scalar29 Dalek.Gen.Consts
open Dalek.Proofs.Scalar52 (Lim ell ell_eq ell_eqZ lim_of_envIn lim_map_emod sub_final)

/-- value of a little-endian radix-2^29 limb vector (any length) -/
def val29 : List Nat → Nat
  | [] => 0
  | x :: xs => x + 2 ^ 29 * val29 xs

/-- the same over `Int` -/
def repZ : List Int → Int
  | [] => 0
  | x :: xs => x + 2 ^ 29 * repZ xs

theorem repZ_toZ : ∀ l : List Nat, repZ (toZ l) = (val29 l : Int)
  | [] => rfl
  | x :: xs => by
    rw [toZ_cons, repZ, val29, repZ_toZ xs]; push_cast; rfl

/-- inputs inside `rep n Scalar29.lim` are `< 2^29` -/
theorem lim29_of_envIn {n : Nat} {xs : List Nat} (h : EnvIn xs (Dalek.Model.Contracts.rep n Dalek.Model.Contracts.Scalar29.lim)) :
    Lim (2 ^ 29) (toZ xs) :=
  lim_of_envIn _ _ (by norm_num) n xs h

/-- the `montgomery_reduce` input bound `9·(2^29-1)^2`, plus one -/
abbrev W1 : Int := 2594073375701729290

theorem limW_of_envIn {n : Nat} {xs : List Nat} (h : EnvIn xs (Dalek.Model.Contracts.rep n Dalek.Model.Contracts.Scalar29.wide)) :
    Lim W1 (toZ xs) :=
  lim_of_envIn _ _ (by norm_num [W1]) n xs h

/-- converse: a `Nat` vector of the right length whose `Int` image is in `[0, h]` satisfies `rep n (ub h)` -/
theorem envIn_of_lim (h : Nat) :
    ∀ (n : Nat) (xs : List Nat), xs.length = n → Lim ((h : Int) + 1) (toZ xs) →
      EnvIn xs (Dalek.Model.Contracts.rep n (Dalek.Model.Contracts.ub h))
  | 0, [], _, _ => trivial
  | 0, _ :: _, hl, _ => by simp at hl
  | n + 1, [], hl, _ => by simp at hl
  | n + 1, x :: xs, hl, hx => by
    rw [toZ_cons] at hx
    simp only [Dalek.Model.Contracts.rep, List.replicate_succ, EnvIn]
    refine ⟨⟨Nat.zero_le _, ?_, ?_⟩, envIn_of_lim h n xs (by simpa using hl) hx.2⟩
    · have := hx.1.2
      simp only [Dalek.Model.Contracts.ub]
      omega
    · simp [Dalek.Model.Contracts.ub]

/-! ## the constants (facts about the REGENERATED literals) -/

theorem val29_L : val29 U32.L = ell := by decide +kernel
theorem val29_R : val29 U32.R = 2 ^ 261 % ell := by decide +kernel
theorem val29_RR : val29 U32.RR = (2 ^ 261) ^ 2 % ell := by decide +kernel
theorem lfactor_spec : U32.LFACTOR * U32.L.getD 0 0 % 2 ^ 29 = 2 ^ 29 - 1 := by decide +kernel

theorem repZ9_bd (a0 a1 a2 a3 a4 a5 a6 a7 a8 : Int) (h : Lim (2 ^ 29) [a0, a1, a2, a3, a4, a5, a6, a7, a8]) :
    0 ≤ repZ [a0, a1, a2, a3, a4, a5, a6, a7, a8] ∧ repZ [a0, a1, a2, a3, a4, a5, a6, a7, a8] < 2 ^ 261 := by
  simp only [Lim, repZ] at *
  omega

/-! ## `sub` -/

/-- one limb of the borrow chain `borrow = a[i].wrapping_sub(b[i] + (borrow >> 31))` -/
theorem sub_limb {a b c w : Int} (ha : 0 ≤ a ∧ a < 2 ^ 29) (hb : 0 ≤ b ∧ b < 2 ^ 29) (hc : 0 ≤ c ∧ c ≤ 1)
    (hw : w = (a - (b + c)) % 2 ^ 32) :
    (0 ≤ w / 2 ^ 31 ∧ w / 2 ^ 31 ≤ 1) ∧ w % 2 ^ 29 + b + c = a + 2 ^ 29 * (w / 2 ^ 31) := by
  omega

/-- `sub_fn` is the borrow chain followed by the conditional addition of the literal `L`
(structural equality, checked by `rfl`). -/
theorem sub_fn_eq (a0 a1 a2 a3 a4 a5 a6 a7 a8 b0 b1 b2 b3 b4 b5 b6 b7 b8 : Int) : sub_fn a0 a1 a2 a3 a4 a5 a6 a7 a8 b0 b1 b2 b3 b4 b5 b6 b7 b8 =
    (let B : Int := 2 ^ 29
     let M : Int := 2 ^ 32
     let S : Int := 2 ^ 31
     let w0 := (a0 - (b0 + 0)) % M
     let w1 := (a1 - (b1 + w0 / S)) % M
     let w2 := (a2 - (b2 + w1 / S)) % M
     let w3 := (a3 - (b3 + w2 / S)) % M
     let w4 := (a4 - (b4 + w3 / S)) % M
     let w5 := (a5 - (b5 + w4 / S)) % M
     let w6 := (a6 - (b6 + w5 / S)) % M
     let w7 := (a7 - (b7 + w6 / S)) % M
     let w8 := (a8 - (b8 + w7 / S)) % M
     let m := w8 / S
     let t0 := (0 + w0 % B) + (if m = 0 then 0 else 485872621)
     let t1 := (t0 / B + w1 % B) + (if m = 0 then 0 else 9640146)
     let t2 := (t1 / B + w2 % B) + (if m = 0 then 0 else 501691798)
     let t3 := (t2 / B + w3 % B) + (if m = 0 then 0 else 502512965)
     let t4 := (t3 / B + w4 % B) + (if m = 0 then 0 else 333)
     let t5 := (t4 / B + w5 % B) + (if m = 0 then 0 else 0)
     let t6 := (t5 / B + w6 % B) + (if m = 0 then 0 else 0)
     let t7 := (t6 / B + w7 % B) + (if m = 0 then 0 else 0)
     let t8 := (t7 / B + w8 % B) + (if m = 0 then 0 else 1048576)
     [t0 % B, t1 % B, t2 % B, t3 % B, t4 % B, t5 % B, t6 % B, t7 % B, t8 % B]) := rfl

/-- the powers `B = 2^29`, `M = 2^32`, `S = 2^31` are variables of the statement (a numeral power in each of the
forty hypotheses makes the statement slow to elaborate) -/
theorem sub_core (B M S : Int) (hB : B = 2 ^ 29) (hM : M = 2 ^ 32) (hS : S = 2 ^ 31)
    (a0 a1 a2 a3 a4 a5 a6 a7 a8 b0 b1 b2 b3 b4 b5 b6 b7 b8 w0 w1 w2 w3 w4 w5 w6 w7 w8 m t0 t1 t2 t3 t4 t5 t6 t7 t8 : Int)
    (ha : Lim B [a0, a1, a2, a3, a4, a5, a6, a7, a8]) (hb : Lim B [b0, b1, b2, b3, b4, b5, b6, b7, b8])
    (hw0 : w0 = (a0 - (b0 + 0)) % M)
    (hw1 : w1 = (a1 - (b1 + w0 / S)) % M)
    (hw2 : w2 = (a2 - (b2 + w1 / S)) % M)
    (hw3 : w3 = (a3 - (b3 + w2 / S)) % M)
    (hw4 : w4 = (a4 - (b4 + w3 / S)) % M)
    (hw5 : w5 = (a5 - (b5 + w4 / S)) % M)
    (hw6 : w6 = (a6 - (b6 + w5 / S)) % M)
    (hw7 : w7 = (a7 - (b7 + w6 / S)) % M)
    (hw8 : w8 = (a8 - (b8 + w7 / S)) % M)
    (hmdef : m = w8 / S)
    (E0 : t0 = (0 + w0 % B) + (if m = 0 then 0 else 485872621))
    (E1 : t1 = (t0 / B + w1 % B) + (if m = 0 then 0 else 9640146))
    (E2 : t2 = (t1 / B + w2 % B) + (if m = 0 then 0 else 501691798))
    (E3 : t3 = (t2 / B + w3 % B) + (if m = 0 then 0 else 502512965))
    (E4 : t4 = (t3 / B + w4 % B) + (if m = 0 then 0 else 333))
    (E5 : t5 = (t4 / B + w5 % B) + (if m = 0 then 0 else 0))
    (E6 : t6 = (t5 / B + w6 % B) + (if m = 0 then 0 else 0))
    (E7 : t7 = (t6 / B + w7 % B) + (if m = 0 then 0 else 0))
    (E8 : t8 = (t7 / B + w8 % B) + (if m = 0 then 0 else 1048576)) :
    Lim B [t0 % B, t1 % B, t2 % B, t3 % B, t4 % B, t5 % B, t6 % B, t7 % B, t8 % B] ∧
    repZ [t0 % B, t1 % B, t2 % B, t3 % B, t4 % B, t5 % B, t6 % B, t7 % B, t8 % B] = (repZ [a0, a1, a2, a3, a4, a5, a6, a7, a8] - repZ [b0, b1, b2, b3, b4, b5, b6, b7, b8]
        + (if repZ [a0, a1, a2, a3, a4, a5, a6, a7, a8] < repZ [b0, b1, b2, b3, b4, b5, b6, b7, b8] then (ell : Int) else 0)) % 2 ^ 261 := by
  subst hB hM hS
  have hlo := lim_map_emod (B := 2 ^ 29) (by norm_num) [t0, t1, t2, t3, t4, t5, t6, t7, t8]
  have hld := lim_map_emod (B := 2 ^ 29) (by norm_num) [w0, w1, w2, w3, w4, w5, w6, w7, w8]
  refine ⟨hlo, ?_⟩
  have hA := repZ9_bd a0 a1 a2 a3 a4 a5 a6 a7 a8 ha
  have hB := repZ9_bd b0 b1 b2 b3 b4 b5 b6 b7 b8 hb
  have hD := repZ9_bd _ _ _ _ _ _ _ _ _ hld
  have hO := repZ9_bd _ _ _ _ _ _ _ _ _ hlo
  have hm : (0 ≤ m ∧ m ≤ 1) ∧
      repZ [w0 % 2 ^ 29, w1 % 2 ^ 29, w2 % 2 ^ 29, w3 % 2 ^ 29, w4 % 2 ^ 29, w5 % 2 ^ 29, w6 % 2 ^ 29, w7 % 2 ^ 29, w8 % 2 ^ 29] + repZ [b0, b1, b2, b3, b4, b5, b6, b7, b8] = repZ [a0, a1, a2, a3, a4, a5, a6, a7, a8] + 2 ^ 261 * m := by
    obtain ⟨ha0, ha1, ha2, ha3, ha4, ha5, ha6, ha7, ha8, -⟩ := ha
    obtain ⟨hb0, hb1, hb2, hb3, hb4, hb5, hb6, hb7, hb8, -⟩ := hb
    obtain ⟨c0, h0⟩ := sub_limb ha0 hb0 ⟨le_rfl, zero_le_one⟩ hw0
    obtain ⟨c1, h1⟩ := sub_limb ha1 hb1 c0 hw1
    obtain ⟨c2, h2⟩ := sub_limb ha2 hb2 c1 hw2
    obtain ⟨c3, h3⟩ := sub_limb ha3 hb3 c2 hw3
    obtain ⟨c4, h4⟩ := sub_limb ha4 hb4 c3 hw4
    obtain ⟨c5, h5⟩ := sub_limb ha5 hb5 c4 hw5
    obtain ⟨c6, h6⟩ := sub_limb ha6 hb6 c5 hw6
    obtain ⟨c7, h7⟩ := sub_limb ha7 hb7 c6 hw7
    obtain ⟨c8, h8⟩ := sub_limb ha8 hb8 c7 hw8
    rw [hmdef]
    refine ⟨c8, ?_⟩
    simp only [repZ]
    linear_combination 1 * h0 + 2 ^ 29 * h1 + 2 ^ 58 * h2 + 2 ^ 87 * h3 + 2 ^ 116 * h4 + 2 ^ 145 * h5 + 2 ^ 174 * h6 + 2 ^ 203 * h7 + 2 ^ 232 * h8
  have ho : repZ [t0 % 2 ^ 29, t1 % 2 ^ 29, t2 % 2 ^ 29, t3 % 2 ^ 29, t4 % 2 ^ 29, t5 % 2 ^ 29, t6 % 2 ^ 29, t7 % 2 ^ 29, t8 % 2 ^ 29] + 2 ^ 261 * (t8 / 2 ^ 29)
      = repZ [w0 % 2 ^ 29, w1 % 2 ^ 29, w2 % 2 ^ 29, w3 % 2 ^ 29, w4 % 2 ^ 29, w5 % 2 ^ 29, w6 % 2 ^ 29, w7 % 2 ^ 29, w8 % 2 ^ 29] + (if m = 0 then 0 else (ell : Int)) := by
    rw [ell_eqZ]
    simp only [repZ]
    have D0 := Int.emod_add_mul_ediv t0 (2 ^ 29)
    have D1 := Int.emod_add_mul_ediv t1 (2 ^ 29)
    have D2 := Int.emod_add_mul_ediv t2 (2 ^ 29)
    have D3 := Int.emod_add_mul_ediv t3 (2 ^ 29)
    have D4 := Int.emod_add_mul_ediv t4 (2 ^ 29)
    have D5 := Int.emod_add_mul_ediv t5 (2 ^ 29)
    have D6 := Int.emod_add_mul_ediv t6 (2 ^ 29)
    have D7 := Int.emod_add_mul_ediv t7 (2 ^ 29)
    have D8 := Int.emod_add_mul_ediv t8 (2 ^ 29)
    by_cases hm0 : m = 0
    · simp only [if_pos hm0] at E0 E1 E2 E3 E4 E5 E6 E7 E8 ⊢
      linear_combination 1 * (D0 + E0) + 2 ^ 29 * (D1 + E1) + 2 ^ 58 * (D2 + E2) + 2 ^ 87 * (D3 + E3) + 2 ^ 116 * (D4 + E4) + 2 ^ 145 * (D5 + E5) + 2 ^ 174 * (D6 + E6) + 2 ^ 203 * (D7 + E7) + 2 ^ 232 * (D8 + E8)
    · simp only [if_neg hm0] at E0 E1 E2 E3 E4 E5 E6 E7 E8 ⊢
      linear_combination 1 * (D0 + E0) + 2 ^ 29 * (D1 + E1) + 2 ^ 58 * (D2 + E2) + 2 ^ 87 * (D3 + E3) + 2 ^ 116 * (D4 + E4) + 2 ^ 145 * (D5 + E5) + 2 ^ 174 * (D6 + E6) + 2 ^ 203 * (D7 + E7) + 2 ^ 232 * (D8 + E8)
  exact sub_final hA hB hD hO hm.1 hm.2 ho

/-- `sub` on arbitrary 29-bit limb vectors: `a - b`, plus `l` if that is negative, modulo `2^261`. -/
theorem sub_fn_spec (a0 a1 a2 a3 a4 a5 a6 a7 a8 b0 b1 b2 b3 b4 b5 b6 b7 b8 : Int)
    (ha : Lim (2 ^ 29) [a0, a1, a2, a3, a4, a5, a6, a7, a8]) (hb : Lim (2 ^ 29) [b0, b1, b2, b3, b4, b5, b6, b7, b8]) :
    ∃ o0 o1 o2 o3 o4 o5 o6 o7 o8, sub_fn a0 a1 a2 a3 a4 a5 a6 a7 a8 b0 b1 b2 b3 b4 b5 b6 b7 b8 = [o0, o1, o2, o3, o4, o5, o6, o7, o8] ∧
      Lim (2 ^ 29) [o0, o1, o2, o3, o4, o5, o6, o7, o8] ∧
      repZ [o0, o1, o2, o3, o4, o5, o6, o7, o8] = (repZ [a0, a1, a2, a3, a4, a5, a6, a7, a8] - repZ [b0, b1, b2, b3, b4, b5, b6, b7, b8]
        + (if repZ [a0, a1, a2, a3, a4, a5, a6, a7, a8] < repZ [b0, b1, b2, b3, b4, b5, b6, b7, b8] then (ell : Int) else 0)) % 2 ^ 261 := by
  rw [sub_fn_eq]
  extract_lets B M S w0 w1 w2 w3 w4 w5 w6 w7 w8 m t0 t1 t2 t3 t4 t5 t6 t7 t8
  exact ⟨_, _, _, _, _, _, _, _, _, rfl, sub_core B M S rfl rfl rfl a0 a1 a2 a3 a4 a5 a6 a7 a8 b0 b1 b2 b3 b4 b5 b6 b7 b8 w0 w1 w2 w3 w4 w5 w6 w7 w8 m t0 t1 t2 t3 t4 t5 t6 t7 t8 ha hb
    rfl rfl rfl rfl rfl rfl rfl rfl rfl rfl rfl rfl rfl rfl rfl rfl rfl rfl rfl⟩

theorem L_literal : toZ U32.L = [485872621, 9640146, 501691798, 502512965, 333, 0, 0, 0, 1048576] := rfl

theorem repZ_L : repZ [485872621, 9640146, 501691798, 502512965, 333, 0, 0, 0, 1048576] = (ell : Int) := by
  rw [ell_eqZ]; simp only [repZ]; norm_num

/-- `sub(r, L)` for `r < 2l`: the canonical representative `r mod l`
(the tail of `add` and of `montgomery_reduce`). -/
theorem sub_fn_L_spec (r0 r1 r2 r3 r4 r5 r6 r7 r8 : Int) (hr : Lim (2 ^ 29) [r0, r1, r2, r3, r4, r5, r6, r7, r8])
    (h2 : repZ [r0, r1, r2, r3, r4, r5, r6, r7, r8] < 2 * ell) :
    ∃ o0 o1 o2 o3 o4 o5 o6 o7 o8, sub_fn r0 r1 r2 r3 r4 r5 r6 r7 r8 485872621 9640146 501691798 502512965 333 0 0 0 1048576
        = [o0, o1, o2, o3, o4, o5, o6, o7, o8] ∧ Lim (2 ^ 29) [o0, o1, o2, o3, o4, o5, o6, o7, o8] ∧
      repZ [o0, o1, o2, o3, o4, o5, o6, o7, o8] = repZ [r0, r1, r2, r3, r4, r5, r6, r7, r8] % ell := by
  obtain ⟨o0, o1, o2, o3, o4, o5, o6, o7, o8, he, hl, hv⟩ := sub_fn_spec r0 r1 r2 r3 r4 r5 r6 r7 r8 485872621 9640146 501691798 502512965 333 0 0 0 1048576 hr (by simp only [Lim]; norm_num)
  refine ⟨o0, o1, o2, o3, o4, o5, o6, o7, o8, he, hl, ?_⟩
  rw [hv, repZ_L]
  have h0 := (repZ9_bd r0 r1 r2 r3 r4 r5 r6 r7 r8 hr).1
  generalize repZ [r0, r1, r2, r3, r4, r5, r6, r7, r8] = R at *
  rw [ell_eqZ] at *
  split_ifs <;> omega

/-- `sub` on canonical inputs is subtraction modulo `l`. -/
theorem sub_fn_canon (a0 a1 a2 a3 a4 a5 a6 a7 a8 b0 b1 b2 b3 b4 b5 b6 b7 b8 : Int)
    (ha : Lim (2 ^ 29) [a0, a1, a2, a3, a4, a5, a6, a7, a8]) (hb : Lim (2 ^ 29) [b0, b1, b2, b3, b4, b5, b6, b7, b8])
    (hal : repZ [a0, a1, a2, a3, a4, a5, a6, a7, a8] < ell) (hbl : repZ [b0, b1, b2, b3, b4, b5, b6, b7, b8] < ell) :
    ∃ o0 o1 o2 o3 o4 o5 o6 o7 o8, sub_fn a0 a1 a2 a3 a4 a5 a6 a7 a8 b0 b1 b2 b3 b4 b5 b6 b7 b8 = [o0, o1, o2, o3, o4, o5, o6, o7, o8] ∧
      Lim (2 ^ 29) [o0, o1, o2, o3, o4, o5, o6, o7, o8] ∧
      repZ [o0, o1, o2, o3, o4, o5, o6, o7, o8] = (repZ [a0, a1, a2, a3, a4, a5, a6, a7, a8] - repZ [b0, b1, b2, b3, b4, b5, b6, b7, b8]) % ell := by
  obtain ⟨o0, o1, o2, o3, o4, o5, o6, o7, o8, he, hl, hv⟩ := sub_fn_spec a0 a1 a2 a3 a4 a5 a6 a7 a8 b0 b1 b2 b3 b4 b5 b6 b7 b8 ha hb
  refine ⟨o0, o1, o2, o3, o4, o5, o6, o7, o8, he, hl, ?_⟩
  rw [hv]
  have h0 := (repZ9_bd a0 a1 a2 a3 a4 a5 a6 a7 a8 ha).1
  have h1 := (repZ9_bd b0 b1 b2 b3 b4 b5 b6 b7 b8 hb).1
  generalize repZ [a0, a1, a2, a3, a4, a5, a6, a7, a8] = A at *
  generalize repZ [b0, b1, b2, b3, b4, b5, b6, b7, b8] = B at *
  rw [ell_eqZ] at *
  split_ifs <;> omega

/-! ## `add` -/

/-- `add_fn` is the carry chain followed by `sub(·, L)` (structural equality, by `rfl`). -/
theorem add_fn_eq (a0 a1 a2 a3 a4 a5 a6 a7 a8 b0 b1 b2 b3 b4 b5 b6 b7 b8 : Int) :
    add_fn a0 a1 a2 a3 a4 a5 a6 a7 a8 b0 b1 b2 b3 b4 b5 b6 b7 b8 =
      (let B : Int := 2 ^ 29
       let s0 := (a0 + b0) + 0
       let s1 := (a1 + b1) + s0 / B
       let s2 := (a2 + b2) + s1 / B
       let s3 := (a3 + b3) + s2 / B
       let s4 := (a4 + b4) + s3 / B
       let s5 := (a5 + b5) + s4 / B
       let s6 := (a6 + b6) + s5 / B
       let s7 := (a7 + b7) + s6 / B
       let s8 := (a8 + b8) + s7 / B
       sub_fn (s0 % B) (s1 % B) (s2 % B) (s3 % B) (s4 % B) (s5 % B) (s6 % B) (s7 % B) (s8 % B)
         485872621 9640146 501691798 502512965 333 0 0 0 1048576) := rfl

theorem add_core (B : Int) (hB : B = 2 ^ 29)
    (a0 a1 a2 a3 a4 a5 a6 a7 a8 b0 b1 b2 b3 b4 b5 b6 b7 b8 s0 s1 s2 s3 s4 s5 s6 s7 s8 : Int)
    (ha : Lim B [a0, a1, a2, a3, a4, a5, a6, a7, a8]) (hb : Lim B [b0, b1, b2, b3, b4, b5, b6, b7, b8])
    (hal : repZ [a0, a1, a2, a3, a4, a5, a6, a7, a8] < ell) (hbl : repZ [b0, b1, b2, b3, b4, b5, b6, b7, b8] < ell)
    (e0 : s0 = (a0 + b0) + 0)
    (e1 : s1 = (a1 + b1) + s0 / B)
    (e2 : s2 = (a2 + b2) + s1 / B)
    (e3 : s3 = (a3 + b3) + s2 / B)
    (e4 : s4 = (a4 + b4) + s3 / B)
    (e5 : s5 = (a5 + b5) + s4 / B)
    (e6 : s6 = (a6 + b6) + s5 / B)
    (e7 : s7 = (a7 + b7) + s6 / B)
    (e8 : s8 = (a8 + b8) + s7 / B) :
    Lim B [s0 % B, s1 % B, s2 % B, s3 % B, s4 % B, s5 % B, s6 % B, s7 % B, s8 % B] ∧
    repZ [s0 % B, s1 % B, s2 % B, s3 % B, s4 % B, s5 % B, s6 % B, s7 % B, s8 % B] = repZ [a0, a1, a2, a3, a4, a5, a6, a7, a8] + repZ [b0, b1, b2, b3, b4, b5, b6, b7, b8] := by
  subst hB
  have hls := lim_map_emod (B := 2 ^ 29) (by norm_num) [s0, s1, s2, s3, s4, s5, s6, s7, s8]
  refine ⟨hls, ?_⟩
  have hS := repZ9_bd _ _ _ _ _ _ _ _ _ hls
  have hA := repZ9_bd a0 a1 a2 a3 a4 a5 a6 a7 a8 ha
  have hB := repZ9_bd b0 b1 b2 b3 b4 b5 b6 b7 b8 hb
  have key : repZ [s0 % 2 ^ 29, s1 % 2 ^ 29, s2 % 2 ^ 29, s3 % 2 ^ 29, s4 % 2 ^ 29, s5 % 2 ^ 29, s6 % 2 ^ 29, s7 % 2 ^ 29, s8 % 2 ^ 29] + 2 ^ 261 * (s8 / 2 ^ 29)
      = repZ [a0, a1, a2, a3, a4, a5, a6, a7, a8] + repZ [b0, b1, b2, b3, b4, b5, b6, b7, b8] := by
    simp only [repZ]
    have D0 := Int.emod_add_mul_ediv s0 (2 ^ 29)
    have D1 := Int.emod_add_mul_ediv s1 (2 ^ 29)
    have D2 := Int.emod_add_mul_ediv s2 (2 ^ 29)
    have D3 := Int.emod_add_mul_ediv s3 (2 ^ 29)
    have D4 := Int.emod_add_mul_ediv s4 (2 ^ 29)
    have D5 := Int.emod_add_mul_ediv s5 (2 ^ 29)
    have D6 := Int.emod_add_mul_ediv s6 (2 ^ 29)
    have D7 := Int.emod_add_mul_ediv s7 (2 ^ 29)
    have D8 := Int.emod_add_mul_ediv s8 (2 ^ 29)
    linear_combination 1 * (D0 + e0) + 2 ^ 29 * (D1 + e1) + 2 ^ 58 * (D2 + e2) + 2 ^ 87 * (D3 + e3) + 2 ^ 116 * (D4 + e4) + 2 ^ 145 * (D5 + e5) + 2 ^ 174 * (D6 + e6) + 2 ^ 203 * (D7 + e7) + 2 ^ 232 * (D8 + e8)
  generalize repZ [s0 % 2 ^ 29, s1 % 2 ^ 29, s2 % 2 ^ 29, s3 % 2 ^ 29, s4 % 2 ^ 29, s5 % 2 ^ 29, s6 % 2 ^ 29, s7 % 2 ^ 29, s8 % 2 ^ 29] = S at *
  generalize repZ [a0, a1, a2, a3, a4, a5, a6, a7, a8] = A at *
  generalize repZ [b0, b1, b2, b3, b4, b5, b6, b7, b8] = B at *
  generalize s8 / 2 ^ 29 = k at *
  rw [ell_eqZ] at *
  omega

theorem add_fn_spec (a0 a1 a2 a3 a4 a5 a6 a7 a8 b0 b1 b2 b3 b4 b5 b6 b7 b8 : Int)
    (ha : Lim (2 ^ 29) [a0, a1, a2, a3, a4, a5, a6, a7, a8]) (hb : Lim (2 ^ 29) [b0, b1, b2, b3, b4, b5, b6, b7, b8])
    (hal : repZ [a0, a1, a2, a3, a4, a5, a6, a7, a8] < ell) (hbl : repZ [b0, b1, b2, b3, b4, b5, b6, b7, b8] < ell) :
    ∃ o0 o1 o2 o3 o4 o5 o6 o7 o8, add_fn a0 a1 a2 a3 a4 a5 a6 a7 a8 b0 b1 b2 b3 b4 b5 b6 b7 b8 = [o0, o1, o2, o3, o4, o5, o6, o7, o8] ∧
      Lim (2 ^ 29) [o0, o1, o2, o3, o4, o5, o6, o7, o8] ∧
      repZ [o0, o1, o2, o3, o4, o5, o6, o7, o8] = (repZ [a0, a1, a2, a3, a4, a5, a6, a7, a8] + repZ [b0, b1, b2, b3, b4, b5, b6, b7, b8]) % ell := by
  rw [add_fn_eq]
  extract_lets B s0 s1 s2 s3 s4 s5 s6 s7 s8
  obtain ⟨hls, hs⟩ := add_core B rfl a0 a1 a2 a3 a4 a5 a6 a7 a8 b0 b1 b2 b3 b4 b5 b6 b7 b8 s0 s1 s2 s3 s4 s5 s6 s7 s8 ha hb hal hbl rfl rfl rfl rfl rfl rfl rfl rfl rfl
  obtain ⟨o0, o1, o2, o3, o4, o5, o6, o7, o8, he, hl, hv⟩ := sub_fn_L_spec _ _ _ _ _ _ _ _ _ hls (by rw [hs]; omega)
  exact ⟨o0, o1, o2, o3, o4, o5, o6, o7, o8, he, hl, by rw [hv, hs]⟩

end Dalek.Proofs.Scalar29
