import Dalek.Proofs.KLane.Ifma
/-!
# C11 — bound chaining through the parallel point formulas of the IFMA backend

The programs `Dalek.Gen.KIfmaEdwards.<item>` are REGENERATED from `backend/vector/ifma/edwards.rs` on every run: each
vector-field method call of the Rust function is one call of the translated limb kernel of that method.

`<item>_chain`: the verified interval analysis (`Prog.norm` of every called kernel, on the intervals its arguments actually
have at that point of the formula) succeeds and the result is inside the invariant.  It is the interval half of the
kernel evaluation `Dalek.Proofs.KLane.Ifma.<item>_laneOk` (`chainOk_of_laneOk`), which runs this very analysis.
`<item>_safe`: for ALL inputs inside the invariants, no kernel call overflows or fails a debug assertion (checked semantics
succeeds), checked and wrapping (release) semantics agree, and the result is inside the invariant.
-/
namespace Dalek.Props.C11.VecChain.Ifma
open Dalek.IR Dalek.Gen Dalek.Model.VecInv Dalek.Proofs.KLane

theorem ExtendedPoint_from_EdwardsPoint_chain :
    KIfmaEdwards.ExtendedPoint_from_EdwardsPoint.chainOk [] [fe54, fe54, fe54, fe54] [Ifma.invExt] = true :=
  chainOk_of_laneOk Ifma.ExtendedPoint_from_EdwardsPoint_laneOk

/-- `ExtendedPoint::from(EdwardsPoint)`: four serial field elements with limbs `< 2^54` give an `ExtendedPoint` inside its invariant -/
theorem ExtendedPoint_from_EdwardsPoint_safe :
    KIfmaEdwards.ExtendedPoint_from_EdwardsPoint.Safe [fe54, fe54, fe54, fe54] [Ifma.invExt] :=
  KProg.safe_of_chainOk _ [] _ _ (HintsValid.nil _ _) ExtendedPoint_from_EdwardsPoint_chain

theorem EdwardsPoint_from_ExtendedPoint_chain :
    KIfmaEdwards.EdwardsPoint_from_ExtendedPoint.chainOk [] [Ifma.invExt] [Ifma.splitOut] = true :=
  chainOk_of_laneOk Ifma.EdwardsPoint_from_ExtendedPoint_laneOk

/-- `EdwardsPoint::from(ExtendedPoint)`: the four returned `FieldElement51` have limbs inside `splitOut` -/
theorem EdwardsPoint_from_ExtendedPoint_safe :
    KIfmaEdwards.EdwardsPoint_from_ExtendedPoint.Safe [Ifma.invExt] [Ifma.splitOut] :=
  KProg.safe_of_chainOk _ [] _ _ (HintsValid.nil _ _) EdwardsPoint_from_ExtendedPoint_chain

theorem CachedPoint_from_ExtendedPoint_chain :
    KIfmaEdwards.CachedPoint_from_ExtendedPoint.chainOk [] [Ifma.invExt] [Ifma.invCached] = true :=
  chainOk_of_laneOk Ifma.CachedPoint_from_ExtendedPoint_laneOk

/-- `CachedPoint::from(ExtendedPoint)` -/
theorem CachedPoint_from_ExtendedPoint_safe :
    KIfmaEdwards.CachedPoint_from_ExtendedPoint.Safe [Ifma.invExt] [Ifma.invCached] :=
  KProg.safe_of_chainOk _ [] _ _ (HintsValid.nil _ _) CachedPoint_from_ExtendedPoint_chain

theorem ExtendedPoint_double_chain :
    KIfmaEdwards.ExtendedPoint_double.chainOk [] [Ifma.invExt] [Ifma.invExt] = true :=
  chainOk_of_laneOk Ifma.ExtendedPoint_double_laneOk

/-- `ExtendedPoint::double` -/
theorem ExtendedPoint_double_safe :
    KIfmaEdwards.ExtendedPoint_double.Safe [Ifma.invExt] [Ifma.invExt] :=
  KProg.safe_of_chainOk _ [] _ _ (HintsValid.nil _ _) ExtendedPoint_double_chain

theorem ExtendedPoint_mul_by_pow_2_body_chain :
    KIfmaEdwards.ExtendedPoint_mul_by_pow_2_body.chainOk [] [Ifma.invExt] [Ifma.invExt] = true :=
  chainOk_of_laneOk Ifma.ExtendedPoint_mul_by_pow_2_body_laneOk

/-- one iteration of the loop of `ExtendedPoint::mul_by_pow_2` -/
theorem ExtendedPoint_mul_by_pow_2_body_safe :
    KIfmaEdwards.ExtendedPoint_mul_by_pow_2_body.Safe [Ifma.invExt] [Ifma.invExt] :=
  KProg.safe_of_chainOk _ [] _ _ (HintsValid.nil _ _) ExtendedPoint_mul_by_pow_2_body_chain

theorem ExtendedPoint_add_CachedPoint_chain :
    KIfmaEdwards.ExtendedPoint_add_CachedPoint.chainOk [] [Ifma.invExt, Ifma.invCached] [Ifma.invExt] = true :=
  chainOk_of_laneOk Ifma.ExtendedPoint_add_CachedPoint_laneOk

/-- `&ExtendedPoint + &CachedPoint` -/
theorem ExtendedPoint_add_CachedPoint_safe :
    KIfmaEdwards.ExtendedPoint_add_CachedPoint.Safe [Ifma.invExt, Ifma.invCached] [Ifma.invExt] :=
  KProg.safe_of_chainOk _ [] _ _ (HintsValid.nil _ _) ExtendedPoint_add_CachedPoint_chain

theorem ExtendedPoint_sub_CachedPoint_chain :
    KIfmaEdwards.ExtendedPoint_sub_CachedPoint.chainOk [] [Ifma.invExt, Ifma.invCached] [Ifma.invExt] = true :=
  chainOk_of_laneOk Ifma.ExtendedPoint_sub_CachedPoint_laneOk

/-- `&ExtendedPoint - &CachedPoint` -/
theorem ExtendedPoint_sub_CachedPoint_safe :
    KIfmaEdwards.ExtendedPoint_sub_CachedPoint.Safe [Ifma.invExt, Ifma.invCached] [Ifma.invExt] :=
  KProg.safe_of_chainOk _ [] _ _ (HintsValid.nil _ _) ExtendedPoint_sub_CachedPoint_chain

theorem CachedPoint_neg_chain :
    KIfmaEdwards.CachedPoint_neg.chainOk [] [Ifma.invCached] [Ifma.invCached] = true :=
  chainOk_of_laneOk Ifma.CachedPoint_neg_laneOk

/-- `-&CachedPoint` -/
theorem CachedPoint_neg_safe :
    KIfmaEdwards.CachedPoint_neg.Safe [Ifma.invCached] [Ifma.invCached] :=
  KProg.safe_of_chainOk _ [] _ _ (HintsValid.nil _ _) CachedPoint_neg_chain

theorem ExtendedPoint_identity_chain :
    KIfmaEdwards.ExtendedPoint_identity.chainOk [] [] [Ifma.invExt] = true :=
  chainOk_of_laneOk Ifma.ExtendedPoint_identity_laneOk

/-- `ExtendedPoint::identity()` (the constant satisfies the invariant) -/
theorem ExtendedPoint_identity_safe :
    KIfmaEdwards.ExtendedPoint_identity.Safe [] [Ifma.invExt] :=
  KProg.safe_of_chainOk _ [] _ _ (HintsValid.nil _ _) ExtendedPoint_identity_chain

theorem CachedPoint_identity_chain :
    KIfmaEdwards.CachedPoint_identity.chainOk [] [] [Ifma.invCached] = true :=
  chainOk_of_laneOk Ifma.CachedPoint_identity_laneOk

/-- `CachedPoint::identity()` -/
theorem CachedPoint_identity_safe :
    KIfmaEdwards.CachedPoint_identity.Safe [] [Ifma.invCached] :=
  KProg.safe_of_chainOk _ [] _ _ (HintsValid.nil _ _) CachedPoint_identity_chain

theorem CachedPoint_conditional_select_chain :
    KIfmaEdwards.CachedPoint_conditional_select.chainOk [] [Ifma.invCached, Ifma.invCached, choice] [Ifma.invCached] = true :=
  chainOk_of_laneOk Ifma.CachedPoint_conditional_select_laneOk

/-- `CachedPoint::conditional_select` -/
theorem CachedPoint_conditional_select_safe :
    KIfmaEdwards.CachedPoint_conditional_select.Safe [Ifma.invCached, Ifma.invCached, choice] [Ifma.invCached] :=
  KProg.safe_of_chainOk _ [] _ _ (HintsValid.nil _ _) CachedPoint_conditional_select_chain

theorem CachedPoint_conditional_assign_chain :
    KIfmaEdwards.CachedPoint_conditional_assign.chainOk [] [Ifma.invCached, Ifma.invCached, choice] [Ifma.invCached] = true :=
  chainOk_of_laneOk Ifma.CachedPoint_conditional_assign_laneOk

/-- `CachedPoint::conditional_assign` -/
theorem CachedPoint_conditional_assign_safe :
    KIfmaEdwards.CachedPoint_conditional_assign.Safe [Ifma.invCached, Ifma.invCached, choice] [Ifma.invCached] :=
  KProg.safe_of_chainOk _ [] _ _ (HintsValid.nil _ _) CachedPoint_conditional_assign_chain

end Dalek.Props.C11.VecChain.Ifma
