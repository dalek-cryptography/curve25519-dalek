import Dalek.Proofs.ScalarApiKernels
import Dalek.Spec.Scalar
/-!
# C02 — the `Scalar` API of `curve25519-dalek/src/scalar.rs` is exact arithmetic modulo `l`, canonical output
(serial u64 backend; property theorems about the glue that composes the 52-bit kernels)

Statements are about `Dalek.Model.ScalarApi.*`: a model whose every arithmetic step is the release semantics
(`evalW`) of a kernel TRANSLATED from `backend/serial/u64/scalar.rs` (`Dalek.Gen.Scalar52.*`, constants from
`Dalek.Gen.Consts`) — a kernel or constant change therefore propagates — and whose COMPOSITION (`reduce`,
`from_bytes_mod_order(_wide)`, `from_canonical_bytes`/`is_canonical`, `Add/Sub/Mul/Neg`, `Sum`, `Product`, `invert`
with the full addition chain of `montgomery_invert`, `batch_invert`, `From<u8…u128>`, `from_hash`, `unpack`/`pack`)
is transcribed by hand from `scalar.rs`.  The composition is NOT regenerated: the tie of that layer to the source
is the transcription (line references in `Dalek/Model/ScalarApi.lean`) plus the differential run of the model.

A scalar is a `List Nat` of 32 bytes; `leVal` is its little-endian value; `Canonical b` means
`EnvIn b (bytes 32)` (exactly 32 entries `≤ 255`) and `leVal b < l`.  Each theorem is the backend-parametric one of
`Dalek/Proofs/ScalarApi29GenInvert.lean` at `ok52` (the kernel theorems of `Dalek/Props/C02/Scalar52.lean` on lists);
the model's functions are definitionally the generic glue at `K52`.
-/
set_option exponentiation.threshold 600

namespace Dalek.Props.C02.Api
open Dalek.IR Dalek.Model.Contracts Dalek.Gen.Consts Dalek.Model.ScalarApi Dalek.Proofs.ScalarApi
open Dalek.Model.FieldBytes (leVal natToLeN)
open Dalek.Props.C02.Scalar52 (l)
open Dalek.Proofs.ScalarApiGen (ok52)

/-! ## the invariant -/

/-- bit 255 (indeed bits 253–255) of a canonical scalar is clear: `bytes[31] >> 7 == 0` -/
theorem canonical_high_bit_clear {b : List Nat} (h : Canonical b) :
    b.getD 31 0 < 32 ∧ b.getD 31 0 >>> 7 = 0 :=
  ⟨h.byte31, h.high_bit⟩

/-- canonical byte strings with the same value are equal (so equalities of values below are equalities of
`Scalar`s) -/
theorem canonical_ext {a b : List Nat} (ha : Canonical a) (hb : Canonical b) (h : leVal a = leVal b) : a = b :=
  ha.isSc.unique (by rw [h]; exact hb.isSc)

/-! ## `unpack` / `pack` -/

/-- `Scalar::unpack` then `UnpackedScalar::pack` is the identity on ALL 32-byte strings (also non-canonical ones):
the five limbs hold the full 256-bit integer -/
theorem pack_unpack (b : List Nat) (hb : EnvIn b (bytes 32)) : pack (unpack b) = b :=
  Dalek.Proofs.ScalarApiGen.pack_unpack ok52 b hb

/-- `unpack` of a canonical scalar: five limbs `< 2^52` whose radix-2^52 value is the scalar -/
theorem unpack_spec (b : List Nat) (hb : EnvIn b (bytes 32)) :
    EnvIn (unpack b) Dalek.Props.C02.Scalar52.limbs52 ∧ Dalek.Proofs.Scalar52.val52 (unpack b) = leVal b :=
  ok52.fromBytes_ok hb

/-! ## reduction and the constructors -/

/-- `Scalar::reduce`, for ALL 32-byte inputs (all 2^256): the canonical encoding of `LE(b) mod l` -/
theorem reduce_spec (b : List Nat) (hb : EnvIn b (bytes 32)) :
    Canonical (reduce52 b) ∧ leVal (reduce52 b) = leVal b % l :=
  Dalek.Proofs.ScalarApiGen.reduce_spec ok52 b hb

/-- the same on `List UInt8` against the executable specification `Dalek.Spec.scFromBytesModOrder` -/
theorem reduce_spec_bytes (b : List UInt8) (hb : b.length = 32) :
    Dalek.Spec.leToNat ((reduce52 (b.map UInt8.toNat)).map UInt8.ofNat) = Dalek.Spec.scFromBytesModOrder b :=
  Dalek.Proofs.ScalarApiGen.reduce_spec_bytes ok52 b hb

/-- `Scalar::from_bytes_mod_order`, for ALL 32-byte inputs -/
theorem from_bytes_mod_order_spec (b : List Nat) (hb : EnvIn b (bytes 32)) :
    Canonical (fromBytesModOrder b) ∧ leVal (fromBytesModOrder b) = leVal b % l :=
  reduce_spec b hb

/-- the `debug_assert_eq!(0u8, s[31] >> 7)` of `from_bytes_mod_order` holds for every input -/
theorem from_bytes_mod_order_high_bit (b : List Nat) (hb : EnvIn b (bytes 32)) :
    (fromBytesModOrder b).getD 31 0 >>> 7 = 0 :=
  (canonical_high_bit_clear (from_bytes_mod_order_spec b hb).1).2

/-- `Scalar::from_bytes_mod_order_wide`, for ALL 64-byte inputs (all 2^512) -/
theorem from_bytes_mod_order_wide_spec (b : List Nat) (hb : EnvIn b (bytes 64)) :
    Canonical (fromBytesModOrderWide b) ∧ leVal (fromBytesModOrderWide b) = leVal b % l :=
  Dalek.Proofs.ScalarApiGen.wide_spec ok52 b hb

/-- `Scalar::from_hash` / `hash_from_bytes`: the 64-byte digest reduced mod `l` (the hash is a parameter) -/
theorem from_hash_spec (digest : List Nat) (hd : EnvIn digest (bytes 64)) :
    Canonical (fromHash digest) ∧ leVal (fromHash digest) = leVal digest % l :=
  from_bytes_mod_order_wide_spec digest hd

/-- `is_canonical` decides `LE(b) < l`, for ALL 32-byte inputs -/
theorem is_canonical_spec (b : List Nat) (hb : EnvIn b (bytes 32)) : isCanonical b = true ↔ leVal b < l :=
  Dalek.Proofs.ScalarApiGen.isCanonical_spec ok52 b hb

/-- `Scalar::from_canonical_bytes`, for ALL 32-byte inputs: `Some` exactly for the encodings of integers `< l`,
and then the scalar IS the input -/
theorem from_canonical_bytes_spec (b : List Nat) (hb : EnvIn b (bytes 32)) :
    ((fromCanonicalBytes b).isSome ↔ leVal b < l) ∧ (∀ s, fromCanonicalBytes b = some s → s = b) ∧
      fromCanonicalBytes b = if leVal b < l then some b else none :=
  Dalek.Proofs.ScalarApiGen.fromCanonicalBytes_spec ok52 b hb

/-- the integer conversions `From<u8>` (`k = 1`), `From<u16>` (2), `From<u32>` (4), `From<u64>` (8),
`From<u128>` (16): the scalar of that integer -/
theorem from_uint_spec (k x : Nat) (hk : k ≤ 16) (hx : x < 256 ^ k) :
    Canonical (fromUInt k x) ∧ leVal (fromUInt k x) = x := by
  have h := fromUInt_isSc hk hx
  have hx' : x < l := lt_of_lt_of_le hx
    (le_trans (Nat.pow_le_pow_right (by norm_num) hk) (by norm_num [l]))
  exact ⟨h.canonical, by rw [h.val_eq, Nat.mod_eq_of_lt hx']⟩

theorem from_u8_spec (x : Nat) (hx : x < 2 ^ 8) : Canonical (fromU8 x) ∧ leVal (fromU8 x) = x :=
  from_uint_spec 1 x (by norm_num) (by norm_num at hx ⊢; exact hx)
theorem from_u16_spec (x : Nat) (hx : x < 2 ^ 16) : Canonical (fromU16 x) ∧ leVal (fromU16 x) = x :=
  from_uint_spec 2 x (by norm_num) (by norm_num at hx ⊢; exact hx)
theorem from_u32_spec (x : Nat) (hx : x < 2 ^ 32) : Canonical (fromU32 x) ∧ leVal (fromU32 x) = x :=
  from_uint_spec 4 x (by norm_num) (by norm_num at hx ⊢; exact hx)
theorem from_u64_spec (x : Nat) (hx : x < 2 ^ 64) : Canonical (fromU64 x) ∧ leVal (fromU64 x) = x :=
  from_uint_spec 8 x (by norm_num) (by norm_num at hx ⊢; exact hx)
theorem from_u128_spec (x : Nat) (hx : x < 2 ^ 128) : Canonical (fromU128 x) ∧ leVal (fromU128 x) = x :=
  from_uint_spec 16 x (by norm_num) (by norm_num at hx ⊢; exact hx)

/-! ## the operators (all pairs of canonical scalars) -/

/-- `&a + &b` -/
theorem add_spec (a b : List Nat) (ha : Canonical a) (hb : Canonical b) :
    Canonical (add a b) ∧ leVal (add a b) = (leVal a + leVal b) % l :=
  Dalek.Proofs.ScalarApiGen.add_spec ok52 a b ha hb

/-- `&a - &b` -/
theorem sub_spec (a b : List Nat) (ha : Canonical a) (hb : Canonical b) :
    Canonical (sub a b) ∧ leVal (sub a b) = (leVal a + l - leVal b) % l :=
  Dalek.Proofs.ScalarApiGen.sub_spec ok52 a b ha hb

/-- `&a * &b` -/
theorem mul_spec (a b : List Nat) (ha : Canonical a) (hb : Canonical b) :
    Canonical (mul a b) ∧ leVal (mul a b) = leVal a * leVal b % l :=
  Dalek.Proofs.ScalarApiGen.mul_spec ok52 a b ha hb

/-- `-&a`: `(l - a) mod l`; in particular `0` for `a = 0` (see `neg_zero`) -/
theorem neg_spec (a : List Nat) (ha : Canonical a) :
    Canonical (neg a) ∧ leVal (neg a) = (l - leVal a) % l :=
  Dalek.Proofs.ScalarApiGen.neg_spec ok52 a ha

/-- the negation of zero is zero (the case a `sub(L, x)` rewrite of `Neg` gets wrong) -/
theorem neg_zero : neg ScalarRs.ZERO = ScalarRs.ZERO :=
  Dalek.Proofs.ScalarApiGen.neg_zero ok52

/-- more generally the negation of any canonical scalar of value zero has value zero -/
theorem neg_val_zero (a : List Nat) (ha : Canonical a) (h0 : leVal a = 0) : leVal (neg a) = 0 := by
  rw [(neg_spec a ha).2, h0, Nat.sub_zero, Nat.mod_self]

/-- `Sum`: the fold of `+` from `Scalar::ZERO` -/
theorem sum_spec (bs : List (List Nat)) (h : ∀ b ∈ bs, Canonical b) :
    Canonical (sum bs) ∧ leVal (sum bs) = (bs.map leVal).sum % l :=
  Dalek.Proofs.ScalarApiGen.sum_spec ok52 bs h

/-- `Product`: the fold of `*` from `Scalar::ONE` -/
theorem product_spec (bs : List (List Nat)) (h : ∀ b ∈ bs, Canonical b) :
    Canonical (product bs) ∧ leVal (product bs) = (bs.map leVal).prod % l :=
  Dalek.Proofs.ScalarApiGen.product_spec ok52 bs h

/-! ## inversion -/

/-- the addition chain of `montgomery_invert` computes the power `l - 2` -/
theorem invert_chain_exponent :
    invertChain (fun e : Nat => 2 * e) (fun a b : Nat => a + b) 1 = l - 2 := invertChain_exponent

/-- `Scalar::invert` on every canonical scalar: the canonical encoding of `x^(l-2) mod l` -/
theorem invert_pow_spec (x : List Nat) (hx : Canonical x) :
    Canonical (invert x) ∧ leVal (invert x) = leVal x ^ (l - 2) % l :=
  Dalek.Proofs.ScalarApiGen.invert_pow_spec ok52 x hx

/-- `Scalar::invert` of a non-zero scalar is its inverse: `invert(x)·x ≡ 1 (mod l)` -/
theorem invert_spec (x : List Nat) (hx : Canonical x) (h0 : leVal x ≠ 0) :
    Canonical (invert x) ∧ leVal (invert x) * leVal x % l = 1 :=
  Dalek.Proofs.ScalarApiGen.invert_spec ok52 x hx h0

/-- `invert(0) = 0` (the documented convention) -/
theorem invert_zero : invert ScalarRs.ZERO = ScalarRs.ZERO :=
  Dalek.Proofs.ScalarApiGen.invert_zero ok52

/-- `Scalar::batch_invert`, for ALL batch lengths `n ≥ 0`: if all inputs are canonical and non-zero, every input is
replaced by its inverse and the returned scalar is the inverse of the product of the inputs -/
theorem batch_invert_spec (inputs : List (List Nat)) (hc : ∀ b ∈ inputs, Canonical b)
    (h0 : ∀ b ∈ inputs, leVal b ≠ 0) :
    List.Forall₂ (fun out inp => Canonical out ∧ leVal out * leVal inp % l = 1) (batchInvert inputs).1 inputs ∧
      Canonical (batchInvert inputs).2 ∧
      leVal (batchInvert inputs).2 * (inputs.map leVal).prod % l = 1 := by
  rw [Dalek.Proofs.ScalarApiGen.gen52_batchInvert]
  exact Dalek.Proofs.ScalarApiGen.batch_invert_spec ok52 inputs hc h0

/-- the empty batch returns one -/
theorem batch_invert_nil : batchInvert [] = ([], ScalarRs.ONE) :=
  (Dalek.Proofs.ScalarApiGen.gen52_batchInvert []).trans (Dalek.Proofs.ScalarApiGen.batch_invert_nil ok52)

/-! ## every constructor and operator returns a canonical scalar -/

/-- **canonical invariant** (scalar invariant #2): every public constructor/operator of the model returns 32 bytes
whose value is `< l` — for ALL byte inputs of the reducing constructors and all canonical operands -/
theorem canonical_invariant :
    (∀ b, EnvIn b (bytes 32) → Canonical (fromBytesModOrder b)) ∧
    (∀ b, EnvIn b (bytes 64) → Canonical (fromBytesModOrderWide b)) ∧
    (∀ d, EnvIn d (bytes 64) → Canonical (fromHash d)) ∧
    (∀ b s, EnvIn b (bytes 32) → fromCanonicalBytes b = some s → Canonical s) ∧
    (∀ k x, k ≤ 16 → x < 256 ^ k → Canonical (fromUInt k x)) ∧
    Canonical ScalarRs.ZERO ∧ Canonical ScalarRs.ONE ∧
    (∀ a b, Canonical a → Canonical b → Canonical (add a b)) ∧
    (∀ a b, Canonical a → Canonical b → Canonical (sub a b)) ∧
    (∀ a b, Canonical a → Canonical b → Canonical (mul a b)) ∧
    (∀ a, Canonical a → Canonical (neg a)) ∧
    (∀ bs, (∀ b ∈ bs, Canonical b) → Canonical (sum bs)) ∧
    (∀ bs, (∀ b ∈ bs, Canonical b) → Canonical (product bs)) ∧
    (∀ a, Canonical a → Canonical (invert a)) ∧
    (∀ bs, (∀ b ∈ bs, Canonical b) → (∀ o ∈ (batchInvert bs).1, Canonical o) ∧ Canonical (batchInvert bs).2) := by
  simp only [Dalek.Proofs.ScalarApiGen.gen52_batchInvert]
  exact Dalek.Proofs.ScalarApiGen.canonical_invariant ok52

/-! ## non-vacuity -/

example : Canonical (natToLeN (l - 1) 32) := by
  refine ⟨by decide +kernel, ?_⟩
  rw [Dalek.Proofs.Bytes51.leVal_natToLeN]; decide +kernel
example : EnvIn (List.replicate 32 255) (bytes 32) ∧ ¬ leVal (List.replicate 32 255) < l := by decide +kernel
example : EnvIn (List.replicate 64 255) (bytes 64) := by decide +kernel
example : ∃ b, Canonical b ∧ leVal b ≠ 0 := ⟨ScalarRs.ONE, ONE_isSc.canonical, by decide +kernel⟩

/-! ## axiom audit -/

/-- info: 'Dalek.Props.C02.Api.reduce_spec' depends on axioms: [propext, Classical.choice, Quot.sound] -/
#guard_msgs in #print axioms reduce_spec
/-- info: 'Dalek.Props.C02.Api.from_bytes_mod_order_wide_spec' depends on axioms: [propext, Classical.choice, Quot.sound] -/
#guard_msgs in #print axioms from_bytes_mod_order_wide_spec
/-- info: 'Dalek.Props.C02.Api.from_canonical_bytes_spec' depends on axioms: [propext, Classical.choice, Quot.sound] -/
#guard_msgs in #print axioms from_canonical_bytes_spec
/-- info: 'Dalek.Props.C02.Api.from_uint_spec' depends on axioms: [propext, Classical.choice, Quot.sound] -/
#guard_msgs in #print axioms from_uint_spec
/-- info: 'Dalek.Props.C02.Api.add_spec' depends on axioms: [propext, Classical.choice, Quot.sound] -/
#guard_msgs in #print axioms add_spec
/-- info: 'Dalek.Props.C02.Api.sub_spec' depends on axioms: [propext, Classical.choice, Quot.sound] -/
#guard_msgs in #print axioms sub_spec
/-- info: 'Dalek.Props.C02.Api.mul_spec' depends on axioms: [propext, Classical.choice, Quot.sound] -/
#guard_msgs in #print axioms mul_spec
/-- info: 'Dalek.Props.C02.Api.neg_spec' depends on axioms: [propext, Classical.choice, Quot.sound] -/
#guard_msgs in #print axioms neg_spec
/-- info: 'Dalek.Props.C02.Api.neg_zero' depends on axioms: [propext, Classical.choice, Quot.sound] -/
#guard_msgs in #print axioms neg_zero
/-- info: 'Dalek.Props.C02.Api.sum_spec' depends on axioms: [propext, Classical.choice, Quot.sound] -/
#guard_msgs in #print axioms sum_spec
/-- info: 'Dalek.Props.C02.Api.product_spec' depends on axioms: [propext, Classical.choice, Quot.sound] -/
#guard_msgs in #print axioms product_spec
/-- info: 'Dalek.Props.C02.Api.invert_spec' depends on axioms: [propext, Classical.choice, Quot.sound] -/
#guard_msgs in #print axioms invert_spec
/-- info: 'Dalek.Props.C02.Api.batch_invert_spec' depends on axioms: [propext, Classical.choice, Quot.sound] -/
#guard_msgs in #print axioms batch_invert_spec
/-- info: 'Dalek.Props.C02.Api.canonical_invariant' depends on axioms: [propext, Classical.choice, Quot.sound] -/
#guard_msgs in #print axioms canonical_invariant
/-- info: 'Dalek.Props.C02.Api.pack_unpack' depends on axioms: [propext, Classical.choice, Quot.sound] -/
#guard_msgs in #print axioms pack_unpack

end Dalek.Props.C02.Api
