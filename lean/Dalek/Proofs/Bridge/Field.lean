/-
Bridge between the executable field specification over `Nat` (`Dalek/Spec/Field.lean`) and the
mathematical field `ZMod (2^255 - 19)`.

* `cast_fadd`, `cast_fsub`, …         every `Spec` field operation is the `ZMod` operation after casting
* `*_lt`                              every `Spec` field operation returns a canonical value `< P`
* `cast_inj_of_lt`                    canonical naturals are equal iff their casts are equal
* `isNeg`, `fabs`                     parity of the canonical representative
-/
import Dalek.Spec.Field
import Dalek.Proofs.FieldFacts
import Mathlib.Tactic.Ring
import Mathlib.Tactic.LinearCombination
import Mathlib.Data.ZMod.Basic

namespace Dalek.Bridge

open Dalek.Spec

/-- The field `GF(2^255 - 19)` as a Mathlib object. -/
abbrev Fp := ZMod Dalek.Spec.P

/-! ## Canonical representatives -/

theorem P_pos : 0 < P := by norm_num

theorem P_odd : P % 2 = 1 := by norm_num

theorem P_gt_two : 2 < P := by norm_num

theorem cast_P : ((P : Nat) : Fp) = 0 := ZMod.natCast_self P

theorem cast_mod_P (a : Nat) : ((a % P : Nat) : Fp) = (a : Fp) := ZMod.natCast_mod a P

/-- Casts of naturals agree iff the canonical representatives agree. -/
theorem cast_eq_iff (a b : Nat) : (a : Fp) = (b : Fp) ↔ a % P = b % P :=
  ZMod.natCast_eq_natCast_iff' a b P

/-- Canonical naturals are determined by their image in the field. -/
theorem cast_inj_of_lt {a b : Nat} (ha : a < P) (hb : b < P) : (a : Fp) = (b : Fp) ↔ a = b := by
  rw [cast_eq_iff, Nat.mod_eq_of_lt ha, Nat.mod_eq_of_lt hb]

theorem cast_eq_zero_iff (a : Nat) : (a : Fp) = 0 ↔ a % P = 0 := by
  have := cast_eq_iff a 0
  simpa using this

theorem cast_eq_zero_of_lt {a : Nat} (ha : a < P) : (a : Fp) = 0 ↔ a = 0 := by
  rw [cast_eq_zero_iff, Nat.mod_eq_of_lt ha]

/-- `ZMod.val` of a cast is the canonical representative. -/
theorem val_cast (a : Nat) : ((a : Fp)).val = a % P := ZMod.val_natCast P a

/-! ## Field operations -/

theorem fadd_lt (a b : Nat) : fadd a b < P := Nat.mod_lt _ P_pos
theorem fneg_lt (a : Nat) : fneg a < P := Nat.mod_lt _ P_pos
theorem fsub_lt (a b : Nat) : fsub a b < P := Nat.mod_lt _ P_pos
theorem fmul_lt (a b : Nat) : fmul a b < P := Nat.mod_lt _ P_pos
theorem fsq_lt (a : Nat) : fsq a < P := Nat.mod_lt _ P_pos
theorem fpow_lt (a e : Nat) : fpow a e < P := by
  unfold fpow; rw [powMod_eq]; exact Nat.mod_lt _ P_pos
theorem finv_lt (a : Nat) : finv a < P := fpow_lt _ _

theorem cast_fadd (a b : Nat) : ((fadd a b : Nat) : Fp) = (a : Fp) + (b : Fp) := by
  unfold fadd; rw [cast_mod_P, Nat.cast_add]

theorem cast_fmul (a b : Nat) : ((fmul a b : Nat) : Fp) = (a : Fp) * (b : Fp) := by
  unfold fmul; rw [cast_mod_P, Nat.cast_mul]

theorem cast_fsq (a : Nat) : ((fsq a : Nat) : Fp) = (a : Fp) ^ 2 := by
  unfold fsq; rw [cast_mod_P, Nat.cast_mul, pow_two]

theorem cast_P_sub_mod (a : Nat) : ((P - a % P : Nat) : Fp) = -(a : Fp) := by
  rw [Nat.cast_sub (Nat.le_of_lt (Nat.mod_lt _ P_pos)), cast_P, cast_mod_P, zero_sub]

theorem cast_fneg (a : Nat) : ((fneg a : Nat) : Fp) = -(a : Fp) := by
  unfold fneg; rw [cast_mod_P, cast_P_sub_mod]

theorem cast_fsub (a b : Nat) : ((fsub a b : Nat) : Fp) = (a : Fp) - (b : Fp) := by
  unfold fsub; rw [cast_mod_P, Nat.cast_add, cast_P_sub_mod, sub_eq_add_neg]

theorem cast_fpow (a e : Nat) : ((fpow a e : Nat) : Fp) = (a : Fp) ^ e := by
  unfold fpow; exact powMod_cast P a e

/-- `Spec.fpow` as a natural number. -/
theorem fpow_eq (a e : Nat) : fpow a e = a ^ e % P := powMod_eq P a e

/-- **Fermat inversion**: `Spec.finv` is the field inverse (with `0 ↦ 0`). -/
theorem cast_finv (a : Nat) : ((finv a : Nat) : Fp) = (a : Fp)⁻¹ := by
  unfold finv; rw [cast_fpow]; exact Dalek.FieldFacts.pow_p_sub_two' (a : Fp)

theorem finv_zero : finv 0 = 0 := by
  have h : ((finv 0 : Nat) : Fp) = 0 := by rw [cast_finv]; simp
  exact (cast_eq_zero_of_lt (finv_lt 0)).1 h

/-- `a * finv a = 1` for `a ≢ 0`. -/
theorem fmul_finv {a : Nat} (ha : a % P ≠ 0) : fmul a (finv a) = 1 := by
  have h0 : (a : Fp) ≠ 0 := fun h => ha ((cast_eq_zero_iff a).1 h)
  have h : ((fmul a (finv a) : Nat) : Fp) = ((1 : Nat) : Fp) := by
    rw [cast_fmul, cast_finv, mul_inv_cancel₀ h0, Nat.cast_one]
  exact (cast_inj_of_lt (fmul_lt _ _) (by norm_num)).1 h

/-! ### The operations only depend on the residue class and return the canonical representative -/

/-- A canonical natural number is characterised by its cast: the work-horse for transporting field
identities back to `Nat`. -/
theorem eq_of_cast_eq {a b : Nat} (ha : a < P) (hb : b < P) (h : (a : Fp) = (b : Fp)) : a = b :=
  (cast_inj_of_lt ha hb).1 h

theorem fadd_eq_val (a b : Nat) : fadd a b = ((a : Fp) + (b : Fp)).val := by
  rw [← Nat.cast_add, val_cast]; rfl

theorem fmul_eq_val (a b : Nat) : fmul a b = ((a : Fp) * (b : Fp)).val := by
  rw [← Nat.cast_mul, val_cast]; rfl

theorem fsub_eq_val (a b : Nat) : fsub a b = ((a : Fp) - (b : Fp)).val := by
  rw [← cast_fsub, val_cast, Nat.mod_eq_of_lt (fsub_lt a b)]

theorem fneg_eq_val (a : Nat) : fneg a = (-(a : Fp)).val := by
  rw [← cast_fneg, val_cast, Nat.mod_eq_of_lt (fneg_lt a)]

theorem finv_eq_val (a : Nat) : finv a = ((a : Fp)⁻¹).val := by
  rw [← cast_finv, val_cast, Nat.mod_eq_of_lt (finv_lt a)]

/-! ## Sign (`isNeg`) and absolute value -/

theorem isNeg_iff (a : Nat) : isNeg a = true ↔ (a % P) % 2 = 1 := by
  unfold isNeg; exact beq_iff_eq

theorem isNeg_eq_false_iff (a : Nat) : isNeg a = false ↔ (a % P) % 2 = 0 := by
  rw [← Bool.not_eq_true, isNeg_iff]; omega

/-- `isNeg` in terms of the field element: parity of `ZMod.val`. -/
theorem isNeg_iff_val (a : Nat) : isNeg a = true ↔ ((a : Fp)).val % 2 = 1 := by
  rw [isNeg_iff, val_cast]

theorem isNeg_zero : isNeg 0 = false := by decide

/-- For `a ≢ 0` exactly one of `a`, `-a` is negative (`p` is odd). -/
theorem isNeg_fneg {a : Nat} (ha : a % P ≠ 0) : isNeg (fneg a) = !isNeg a := by
  have hP := P_odd
  have hlt := Nat.mod_lt a P_pos
  have h1 : fneg a = P - a % P := by
    unfold fneg; exact Nat.mod_eq_of_lt (by omega)
  have h2 : fneg a % P = P - a % P := by rw [h1]; exact Nat.mod_eq_of_lt (by omega)
  cases h : isNeg a
  · rw [isNeg_eq_false_iff] at h
    rw [Bool.not_false, isNeg_iff, h2]; omega
  · rw [isNeg_iff] at h
    rw [Bool.not_true, isNeg_eq_false_iff, h2]; omega

theorem fabs_lt (a : Nat) : fabs a < P := by
  unfold fabs; split
  · exact fneg_lt a
  · exact Nat.mod_lt _ P_pos

/-- `fabs a` is non-negative (even canonical representative). -/
theorem fabs_even (a : Nat) : fabs a % 2 = 0 := by
  have hP := P_odd
  have hlt := Nat.mod_lt a P_pos
  unfold fabs
  cases h : isNeg a
  · rw [isNeg_eq_false_iff] at h; simpa using h
  · rw [isNeg_iff] at h
    have h1 : fneg a = P - a % P := by
      unfold fneg; exact Nat.mod_eq_of_lt (by omega)
    simp only [if_true, h1]; omega

theorem isNeg_fabs (a : Nat) : isNeg (fabs a) = false := by
  rw [isNeg_eq_false_iff, Nat.mod_eq_of_lt (fabs_lt a)]; exact fabs_even a

/-- `fabs a` is `a` or `-a` in the field. -/
theorem cast_fabs (a : Nat) : ((fabs a : Nat) : Fp) = (a : Fp) ∨ ((fabs a : Nat) : Fp) = -(a : Fp) := by
  unfold fabs; split
  · right; exact cast_fneg a
  · left; exact cast_mod_P a

theorem cast_fabs_sq (a : Nat) : ((fabs a : Nat) : Fp) ^ 2 = (a : Fp) ^ 2 := by
  rcases cast_fabs a with h | h <;> rw [h]; ring

theorem fabs_eq_zero {a : Nat} (h : (a : Fp) = 0) : fabs a = 0 := by
  apply (cast_eq_zero_of_lt (fabs_lt a)).1
  rcases cast_fabs a with h' | h' <;> rw [h', h]; simp

/-- Two canonical non-negative naturals with the same square in the field are equal. -/
theorem eq_of_sq_eq_of_even {a b : Nat} (ha : a < P) (hb : b < P) (hae : a % 2 = 0) (hbe : b % 2 = 0)
    (h : (a : Fp) ^ 2 = (b : Fp) ^ 2) : a = b := by
  have h' : ((a : Fp) - b) * ((a : Fp) + b) = 0 := by linear_combination h
  rcases mul_eq_zero.1 h' with h1 | h1
  · exact eq_of_cast_eq ha hb (sub_eq_zero.1 h1)
  · -- a = -b, so a + b ≡ 0 (mod p), so a + b ∈ {0, p}; p is odd, a + b even
    have h2 : ((a + b : Nat) : Fp) = 0 := by rw [Nat.cast_add]; exact h1
    rw [cast_eq_zero_iff] at h2
    have hP := P_odd
    have hdvd : P ∣ a + b := Nat.dvd_of_mod_eq_zero h2
    obtain ⟨k, hk⟩ := hdvd
    have hk2 : k < 2 := by
      by_contra hk2
      have : 2 ≤ k := by omega
      have : P * 2 ≤ P * k := Nat.mul_le_mul_left _ this
      omega
    have : k = 0 ∨ k = 1 := by omega
    rcases this with rfl | rfl
    · omega
    · omega

end Dalek.Bridge
