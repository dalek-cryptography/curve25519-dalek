import Dalek.Proofs.KLane.Avx2
import Dalek.Proofs.KLane.Ifma
import Dalek.Proofs.KLane.Bridge
import Dalek.Proofs.KLane.Programs
import Dalek.Props.C03.Vector
import Dalek.Props.C11.VecChain
/-!
# C01 — the parallel point formulas, as the sequences of calls of the real limb kernels, compute their lane formulas
# (and hence the group law) down to the machine words

For every point formula of `backend/vector/{avx2,ifma}/edwards.rs` the translator emits (regenerated on every run)
* a `KProg` `Dalek.Gen.K{Avx2,Ifma}Edwards.<item>`: the straight-line sequence of CALLS of the translated limb kernels
  (`Dalek.Gen.{Avx2,Ifma}Field.*`, programs over u32 / u64 machine words), and
* an AlgIR program `Dalek.Gen.Alg{Avx2,Ifma}Edwards.<item>` over FIELD values, one variable per lane, produced with a
  table "method name ↦ lane meaning" inside the translator; the group-law theorems of `Props/C03/Vector.lean` are about
  these.

`<item>_lanes` (REFINEMENT): for ALL machine-word inputs inside the representation invariants (`Dalek.Model.VecInv`, the same
pre-intervals as in `Props/C11/VecChain`: `<item>_safe`), the overflow-checked run of the kernel calls succeeds, equals the
wrapping (release) run, the result is inside the invariant, and EVERY LANE VALUE of the result (`vecVal k out` resp.
`vecVal51 k out`: the field value `Σ 2^⌈25.5 m⌉·limb_m` resp. `Σ 2^(51 m)·limb_m` of the limbs of element `k`) is the
corresponding output of the AlgIR item run in the field `Fp` (`zmodOpsV`) on the lane values of the inputs.  So the
translator's lane-meaning table is no longer trusted: it is replaced by the PROVED table `Dalek.Proofs.KLane.{Avx2,Ifma}.table`
(every entry a theorem about the kernel, from `Props/C01/{Avx2,Ifma}.lean`) and the verified scalariser `KProg.scal`
(`Dalek/Proofs/KLane.lean`).

`<item>_limb_spec` (GROUP LAW ON MACHINE WORDS): combined with `Props/C03/Vector.lean`: if the lane values of the input
words represent curve points, the lane values of the output words of the kernel calls represent the result of the group
operation.  `RepExtW P x` : the words `x` of a vector `ExtendedPoint` represent `P` (`RepExt` of its four lane values
`(A,B,C,D) = (X,Y,Z,T)`); `RepCachedW Q x` likewise for a vector `CachedPoint` (`RepCached`).
-/
set_option maxRecDepth 100000
namespace Dalek.Props.C01.VecFormulas
open Dalek.IR Dalek.Gen Dalek.Model.VecInv Dalek.Proofs Dalek.Proofs.KLane Dalek.Proofs.Avx2Field Dalek.Proofs.IfmaField
open Dalek.Edwards
open Dalek.Bridge (Ed)
open Dalek.Props.C11.VecChain (Step Formulas Backend VOp Ty Typed wellTyped runWith avx2Backend ifmaBackend)

/-- four serial `FieldElement51` (limb lists `X, Y, Z, T`) are extended coordinates of `P` -/
def RepFe (P : Ed) (X Y Z T : List Nat) : Prop := RepExt P (feVal X) (feVal Y) (feVal Z) (feVal T)

/-- the 20 limbs `l` (four serial `FieldElement51` `X, Y, Z, T`, 5 limbs each) are extended coordinates of `P` -/
def RepSer (P : Ed) (l : List Nat) : Prop := RepExt P (elemVal .A l) (elemVal .B l) (elemVal .C l) (elemVal .D l)

/-- the group element reached by a history of steps from `P`: `dbl` doubles, `add q` / `sub q` add / subtract the point
`pt q` denoted by the cached-point words `q` -/
def histPoint (pt : List Nat → Ed) : Ed → List Step → Ed
  | P, [] => P
  | P, .dbl :: ss => histPoint pt (2 • P) ss
  | P, .add q :: ss => histPoint pt (P + pt q) ss
  | P, .sub q :: ss => histPoint pt (P - pt q) ss

/-- the cached operands of a history denote the points given by `pt` -/
def stepsRep (RepC : Ed → List Nat → Prop) (pt : List Nat → Ed) : List Step → Prop
  | [] => True
  | .dbl :: ss => stepsRep RepC pt ss
  | .add q :: ss => RepC (pt q) q ∧ stepsRep RepC pt ss
  | .sub q :: ss => RepC (pt q) q ∧ stepsRep RepC pt ss

/-! ## The AVX2 backend (`backend/vector/avx2/edwards.rs`) -/

namespace Avx2

/-- the 40 u32 words `x` of an `avx2::ExtendedPoint` represent the curve point `P` -/
def RepExtW (P : Ed) (x : List Nat) : Prop := RepExt P (vecVal .A x) (vecVal .B x) (vecVal .C x) (vecVal .D x)

/-- the 40 u32 words `x` of an `avx2::CachedPoint` represent the curve point `Q` -/
def RepCachedW (Q : Ed) (x : List Nat) : Prop := RepCached Q (vecVal .A x) (vecVal .B x) (vecVal .C x) (vecVal .D x)

/-- `ExtendedPoint::from(EdwardsPoint)` (one call of `new`): lanes of the result = AlgIR item on the values of `X, Y, Z, T` -/
theorem ExtendedPoint_from_EdwardsPoint_lanes (X Y Z T : List Nat) (hX : EnvIn X fe54) (hY : EnvIn Y fe54) (hZ : EnvIn Z fe54) (hT : EnvIn T fe54) :
    ∃ out, KAvx2Edwards.ExtendedPoint_from_EdwardsPoint.evalC [X, Y, Z, T] = some [out] ∧ KAvx2Edwards.ExtendedPoint_from_EdwardsPoint.evalW [X, Y, Z, T] = some [out] ∧
      EnvIn out Avx2.invExt ∧
      ∀ k : Lane, vecVal k out = (AProg.run zmodOpsV AlgAvx2Edwards.ExtendedPoint_from_EdwardsPoint [feVal X, feVal Y, feVal Z, feVal T]).getD k.idx 0 :=
  by
  have hin : EnvIn2 [X, Y, Z, T] [fe54, fe54, fe54, fe54] := ⟨hX, hY, hZ, hT, trivial⟩
  have h := Dalek.Proofs.KLane.Avx2.ExtendedPoint_from_EdwardsPoint_refines _ hin
  lanes_simp at h
  exact bridge_v26 Dalek.Props.C11.VecChain.Avx2.ExtendedPoint_from_EdwardsPoint_safe hin h

/-- … hence the result words represent the same point as the serial coordinates -/
theorem ExtendedPoint_from_EdwardsPoint_limb_spec {P : Ed} (X Y Z T : List Nat) (hX : EnvIn X fe54) (hY : EnvIn Y fe54) (hZ : EnvIn Z fe54) (hT : EnvIn T fe54)
    (hP : RepFe P X Y Z T) :
    ∃ out, KAvx2Edwards.ExtendedPoint_from_EdwardsPoint.evalC [X, Y, Z, T] = some [out] ∧ KAvx2Edwards.ExtendedPoint_from_EdwardsPoint.evalW [X, Y, Z, T] = some [out] ∧
      EnvIn out Avx2.invExt ∧ RepExtW P out := by
  obtain ⟨out, h1, h2, h3, hv⟩ := ExtendedPoint_from_EdwardsPoint_lanes X Y Z T hX hY hZ hT
  exact ⟨out, h1, h2, h3, rep_of_lanes (Rp := RepExt P) (f := fun k => vecVal k out) hv (Dalek.Props.C03.Vector.Avx2.ExtendedPoint_from_EdwardsPoint_spec hP)⟩

/-- `EdwardsPoint::from(ExtendedPoint)`: the values of the four serial `FieldElement51` of the result = AlgIR item on the lanes -/
theorem EdwardsPoint_from_ExtendedPoint_lanes (x : List Nat) (hx : EnvIn x Avx2.invExt) :
    ∃ out, KAvx2Edwards.EdwardsPoint_from_ExtendedPoint.evalC [x] = some [out] ∧ KAvx2Edwards.EdwardsPoint_from_ExtendedPoint.evalW [x] = some [out] ∧
      EnvIn out Avx2.splitOut ∧
      ∀ k : Lane, elemVal k out = (AProg.run zmodOpsV AlgAvx2Edwards.EdwardsPoint_from_ExtendedPoint [vecVal .A x, vecVal .B x, vecVal .C x, vecVal .D x]).getD k.idx 0 :=
  by
  have hin : EnvIn2 [x] [Avx2.invExt] := ⟨hx, trivial⟩
  have h := Dalek.Proofs.KLane.Avx2.EdwardsPoint_from_ExtendedPoint_refines _ hin
  lanes_simp at h
  exact bridge_ser Dalek.Props.C11.VecChain.Avx2.EdwardsPoint_from_ExtendedPoint_safe hin h

/-- … hence the serial coordinates represent the same point -/
theorem EdwardsPoint_from_ExtendedPoint_limb_spec {P : Ed} (x : List Nat) (hx : EnvIn x Avx2.invExt) (hP : RepExtW P x) :
    ∃ out, KAvx2Edwards.EdwardsPoint_from_ExtendedPoint.evalC [x] = some [out] ∧ KAvx2Edwards.EdwardsPoint_from_ExtendedPoint.evalW [x] = some [out] ∧
      EnvIn out Avx2.splitOut ∧ RepSer P out := by
  obtain ⟨out, h1, h2, h3, hv⟩ := EdwardsPoint_from_ExtendedPoint_lanes x hx
  exact ⟨out, h1, h2, h3, rep_of_lanes (Rp := RepExt P) (f := fun k => elemVal k out) hv (Dalek.Props.C03.Vector.Avx2.EdwardsPoint_from_ExtendedPoint_spec hP)⟩

/-- `CachedPoint::from(ExtendedPoint)`: lanes of the result of the kernel calls = AlgIR item on the lanes of the input -/
theorem CachedPoint_from_ExtendedPoint_lanes (x : List Nat) (hx : EnvIn x Avx2.invExt) :
    ∃ out, KAvx2Edwards.CachedPoint_from_ExtendedPoint.evalC [x] = some [out] ∧ KAvx2Edwards.CachedPoint_from_ExtendedPoint.evalW [x] = some [out] ∧
      EnvIn out Avx2.invCached ∧
      ∀ k : Lane, vecVal k out = (AProg.run zmodOpsV AlgAvx2Edwards.CachedPoint_from_ExtendedPoint [vecVal .A x, vecVal .B x, vecVal .C x, vecVal .D x]).getD k.idx 0 :=
  by
  have hin : EnvIn2 [x] [Avx2.invExt] := ⟨hx, trivial⟩
  have h := Dalek.Proofs.KLane.Avx2.CachedPoint_from_ExtendedPoint_refines _ hin
  lanes_simp at h
  exact bridge_v26 Dalek.Props.C11.VecChain.Avx2.CachedPoint_from_ExtendedPoint_safe hin h

/-- `CachedPoint::from(ExtendedPoint)` on machine words: the result words represent a valid cached point for the same group element -/
theorem CachedPoint_from_ExtendedPoint_limb_spec {P : Ed} (x : List Nat) (hx : EnvIn x Avx2.invExt) (hP : RepExtW P x) :
    ∃ out, KAvx2Edwards.CachedPoint_from_ExtendedPoint.evalC [x] = some [out] ∧ KAvx2Edwards.CachedPoint_from_ExtendedPoint.evalW [x] = some [out] ∧
      EnvIn out Avx2.invCached ∧ RepCachedW P out := by
  obtain ⟨out, h1, h2, h3, hv⟩ := CachedPoint_from_ExtendedPoint_lanes x hx
  exact ⟨out, h1, h2, h3, rep_of_lanes (Rp := RepCached P) (f := fun k => vecVal k out) hv (Dalek.Props.C03.Vector.Avx2.CachedPoint_from_ExtendedPoint_spec hP)⟩

/-- `ExtendedPoint::double`: lanes of the result of the kernel calls = AlgIR item on the lanes of the input -/
theorem ExtendedPoint_double_lanes (x : List Nat) (hx : EnvIn x Avx2.invExt) :
    ∃ out, KAvx2Edwards.ExtendedPoint_double.evalC [x] = some [out] ∧ KAvx2Edwards.ExtendedPoint_double.evalW [x] = some [out] ∧
      EnvIn out Avx2.invExt ∧
      ∀ k : Lane, vecVal k out = (AProg.run zmodOpsV AlgAvx2Edwards.ExtendedPoint_double [vecVal .A x, vecVal .B x, vecVal .C x, vecVal .D x]).getD k.idx 0 :=
  by
  have hin : EnvIn2 [x] [Avx2.invExt] := ⟨hx, trivial⟩
  have h := Dalek.Proofs.KLane.Avx2.ExtendedPoint_double_refines _ hin
  lanes_simp at h
  exact bridge_v26 Dalek.Props.C11.VecChain.Avx2.ExtendedPoint_double_safe hin h

/-- `ExtendedPoint::double` on machine words: the result words represent `2 • P` -/
theorem ExtendedPoint_double_limb_spec {P : Ed} (x : List Nat) (hx : EnvIn x Avx2.invExt) (hP : RepExtW P x) :
    ∃ out, KAvx2Edwards.ExtendedPoint_double.evalC [x] = some [out] ∧ KAvx2Edwards.ExtendedPoint_double.evalW [x] = some [out] ∧
      EnvIn out Avx2.invExt ∧ RepExtW (2 • P) out := by
  obtain ⟨out, h1, h2, h3, hv⟩ := ExtendedPoint_double_lanes x hx
  exact ⟨out, h1, h2, h3, rep_of_lanes (Rp := RepExt (2 • P)) (f := fun k => vecVal k out) hv (Dalek.Props.C03.Vector.Avx2.ExtendedPoint_double_spec hP)⟩

/-- one iteration of the loop of `ExtendedPoint::mul_by_pow_2`: lanes of the result of the kernel calls = AlgIR item on the lanes of the input -/
theorem ExtendedPoint_mul_by_pow_2_body_lanes (x : List Nat) (hx : EnvIn x Avx2.invExt) :
    ∃ out, KAvx2Edwards.ExtendedPoint_mul_by_pow_2_body.evalC [x] = some [out] ∧ KAvx2Edwards.ExtendedPoint_mul_by_pow_2_body.evalW [x] = some [out] ∧
      EnvIn out Avx2.invExt ∧
      ∀ k : Lane, vecVal k out = (AProg.run zmodOpsV AlgAvx2Edwards.ExtendedPoint_mul_by_pow_2_body [vecVal .A x, vecVal .B x, vecVal .C x, vecVal .D x]).getD k.idx 0 :=
  by
  have hin : EnvIn2 [x] [Avx2.invExt] := ⟨hx, trivial⟩
  have h := Dalek.Proofs.KLane.Avx2.ExtendedPoint_mul_by_pow_2_body_refines _ hin
  lanes_simp at h
  exact bridge_v26 Dalek.Props.C11.VecChain.Avx2.ExtendedPoint_mul_by_pow_2_body_safe hin h

/-- one iteration of the loop of `ExtendedPoint::mul_by_pow_2` on machine words: the result words represent `2 • P` -/
theorem ExtendedPoint_mul_by_pow_2_body_limb_spec {P : Ed} (x : List Nat) (hx : EnvIn x Avx2.invExt) (hP : RepExtW P x) :
    ∃ out, KAvx2Edwards.ExtendedPoint_mul_by_pow_2_body.evalC [x] = some [out] ∧ KAvx2Edwards.ExtendedPoint_mul_by_pow_2_body.evalW [x] = some [out] ∧
      EnvIn out Avx2.invExt ∧ RepExtW (2 • P) out := by
  obtain ⟨out, h1, h2, h3, hv⟩ := ExtendedPoint_mul_by_pow_2_body_lanes x hx
  exact ⟨out, h1, h2, h3, rep_of_lanes (Rp := RepExt (2 • P)) (f := fun k => vecVal k out) hv (Dalek.Props.C03.Vector.Avx2.ExtendedPoint_mul_by_pow_2_body_spec hP)⟩

/-- `-&CachedPoint`: lanes of the result of the kernel calls = AlgIR item on the lanes of the input -/
theorem CachedPoint_neg_lanes (x : List Nat) (hx : EnvIn x Avx2.invCached) :
    ∃ out, KAvx2Edwards.CachedPoint_neg.evalC [x] = some [out] ∧ KAvx2Edwards.CachedPoint_neg.evalW [x] = some [out] ∧
      EnvIn out Avx2.invCached ∧
      ∀ k : Lane, vecVal k out = (AProg.run zmodOpsV AlgAvx2Edwards.CachedPoint_neg [vecVal .A x, vecVal .B x, vecVal .C x, vecVal .D x]).getD k.idx 0 :=
  by
  have hin : EnvIn2 [x] [Avx2.invCached] := ⟨hx, trivial⟩
  have h := Dalek.Proofs.KLane.Avx2.CachedPoint_neg_refines _ hin
  lanes_simp at h
  exact bridge_v26 Dalek.Props.C11.VecChain.Avx2.CachedPoint_neg_safe hin h

/-- `-&CachedPoint` on machine words: the result words represent a valid cached point for `-P` -/
theorem CachedPoint_neg_limb_spec {P : Ed} (x : List Nat) (hx : EnvIn x Avx2.invCached) (hP : RepCachedW P x) :
    ∃ out, KAvx2Edwards.CachedPoint_neg.evalC [x] = some [out] ∧ KAvx2Edwards.CachedPoint_neg.evalW [x] = some [out] ∧
      EnvIn out Avx2.invCached ∧ RepCachedW (-P) out := by
  obtain ⟨out, h1, h2, h3, hv⟩ := CachedPoint_neg_lanes x hx
  exact ⟨out, h1, h2, h3, rep_of_lanes (Rp := RepCached (-P)) (f := fun k => vecVal k out) hv (Dalek.Props.C03.Vector.Avx2.CachedPoint_neg_spec hP)⟩

/-- `&ExtendedPoint + &CachedPoint`: lanes of the result of the kernel calls = AlgIR item on the lanes of the inputs -/
theorem ExtendedPoint_add_CachedPoint_lanes (x y : List Nat) (hx : EnvIn x Avx2.invExt) (hy : EnvIn y Avx2.invCached) :
    ∃ out, KAvx2Edwards.ExtendedPoint_add_CachedPoint.evalC [x, y] = some [out] ∧ KAvx2Edwards.ExtendedPoint_add_CachedPoint.evalW [x, y] = some [out] ∧
      EnvIn out Avx2.invExt ∧
      ∀ k : Lane, vecVal k out = (AProg.run zmodOpsV AlgAvx2Edwards.ExtendedPoint_add_CachedPoint
        [vecVal .A x, vecVal .B x, vecVal .C x, vecVal .D x, vecVal .A y, vecVal .B y, vecVal .C y, vecVal .D y]).getD k.idx 0 :=
  by
  have hin : EnvIn2 [x, y] [Avx2.invExt, Avx2.invCached] := ⟨hx, hy, trivial⟩
  have h := Dalek.Proofs.KLane.Avx2.ExtendedPoint_add_CachedPoint_refines _ hin
  lanes_simp at h
  exact bridge_v26 Dalek.Props.C11.VecChain.Avx2.ExtendedPoint_add_CachedPoint_safe hin h

/-- **`&ExtendedPoint + &CachedPoint` computes `P + Q` on machine words**: if the lane values of the words `x` represent `P` and those of `y`
(a cached point) represent `Q`, the words returned by the sequence of kernel calls represent `P + Q` (and are inside the invariant again) -/
theorem ExtendedPoint_add_CachedPoint_limb_spec {P Q : Ed} (x y : List Nat) (hx : EnvIn x Avx2.invExt) (hy : EnvIn y Avx2.invCached)
    (hP : RepExtW P x) (hQ : RepCachedW Q y) :
    ∃ out, KAvx2Edwards.ExtendedPoint_add_CachedPoint.evalC [x, y] = some [out] ∧ KAvx2Edwards.ExtendedPoint_add_CachedPoint.evalW [x, y] = some [out] ∧
      EnvIn out Avx2.invExt ∧ RepExtW (P + Q) out := by
  obtain ⟨out, h1, h2, h3, hv⟩ := ExtendedPoint_add_CachedPoint_lanes x y hx hy
  exact ⟨out, h1, h2, h3, rep_of_lanes (Rp := RepExt (P + Q)) (f := fun k => vecVal k out) hv (Dalek.Props.C03.Vector.Avx2.ExtendedPoint_add_CachedPoint_spec hP hQ)⟩

/-- `&ExtendedPoint - &CachedPoint`: lanes of the result of the kernel calls = AlgIR item on the lanes of the inputs -/
theorem ExtendedPoint_sub_CachedPoint_lanes (x y : List Nat) (hx : EnvIn x Avx2.invExt) (hy : EnvIn y Avx2.invCached) :
    ∃ out, KAvx2Edwards.ExtendedPoint_sub_CachedPoint.evalC [x, y] = some [out] ∧ KAvx2Edwards.ExtendedPoint_sub_CachedPoint.evalW [x, y] = some [out] ∧
      EnvIn out Avx2.invExt ∧
      ∀ k : Lane, vecVal k out = (AProg.run zmodOpsV AlgAvx2Edwards.ExtendedPoint_sub_CachedPoint
        [vecVal .A x, vecVal .B x, vecVal .C x, vecVal .D x, vecVal .A y, vecVal .B y, vecVal .C y, vecVal .D y]).getD k.idx 0 :=
  by
  have hin : EnvIn2 [x, y] [Avx2.invExt, Avx2.invCached] := ⟨hx, hy, trivial⟩
  have h := Dalek.Proofs.KLane.Avx2.ExtendedPoint_sub_CachedPoint_refines _ hin
  lanes_simp at h
  exact bridge_v26 Dalek.Props.C11.VecChain.Avx2.ExtendedPoint_sub_CachedPoint_safe hin h

/-- **`&ExtendedPoint - &CachedPoint` computes `P - Q` on machine words**: if the lane values of the words `x` represent `P` and those of `y`
(a cached point) represent `Q`, the words returned by the sequence of kernel calls represent `P - Q` (and are inside the invariant again) -/
theorem ExtendedPoint_sub_CachedPoint_limb_spec {P Q : Ed} (x y : List Nat) (hx : EnvIn x Avx2.invExt) (hy : EnvIn y Avx2.invCached)
    (hP : RepExtW P x) (hQ : RepCachedW Q y) :
    ∃ out, KAvx2Edwards.ExtendedPoint_sub_CachedPoint.evalC [x, y] = some [out] ∧ KAvx2Edwards.ExtendedPoint_sub_CachedPoint.evalW [x, y] = some [out] ∧
      EnvIn out Avx2.invExt ∧ RepExtW (P - Q) out := by
  obtain ⟨out, h1, h2, h3, hv⟩ := ExtendedPoint_sub_CachedPoint_lanes x y hx hy
  exact ⟨out, h1, h2, h3, rep_of_lanes (Rp := RepExt (P - Q)) (f := fun k => vecVal k out) hv (Dalek.Props.C03.Vector.Avx2.ExtendedPoint_sub_CachedPoint_spec hP hQ)⟩

/-- `ExtendedPoint::identity()` (a literal constant vector): its lane values = the constants of the AlgIR item -/
theorem ExtendedPoint_identity_lanes :
    ∃ out, KAvx2Edwards.ExtendedPoint_identity.evalC [] = some [out] ∧ KAvx2Edwards.ExtendedPoint_identity.evalW [] = some [out] ∧
      EnvIn out Avx2.invExt ∧
      ∀ k : Lane, vecVal k out = (AProg.run zmodOpsV AlgAvx2Edwards.ExtendedPoint_identity []).getD k.idx 0 :=
  by
  have hin : EnvIn2 [] [] := trivial
  have h := Dalek.Proofs.KLane.Avx2.ExtendedPoint_identity_refines _ hin
  lanes_simp at h
  exact bridge_v26 Dalek.Props.C11.VecChain.Avx2.ExtendedPoint_identity_safe hin h

/-- the constant words represent the neutral element -/
theorem ExtendedPoint_identity_limb_spec :
    ∃ out, KAvx2Edwards.ExtendedPoint_identity.evalC [] = some [out] ∧ KAvx2Edwards.ExtendedPoint_identity.evalW [] = some [out] ∧
      EnvIn out Avx2.invExt ∧ RepExtW 0 out := by
  obtain ⟨out, h1, h2, h3, hv⟩ := ExtendedPoint_identity_lanes
  exact ⟨out, h1, h2, h3, rep_of_lanes (Rp := RepExt (0 : Ed)) (f := fun k => vecVal k out) hv Dalek.Props.C03.Vector.Avx2.ExtendedPoint_identity_spec⟩

/-- `CachedPoint::identity()` (a literal constant vector): its lane values = the constants of the AlgIR item -/
theorem CachedPoint_identity_lanes :
    ∃ out, KAvx2Edwards.CachedPoint_identity.evalC [] = some [out] ∧ KAvx2Edwards.CachedPoint_identity.evalW [] = some [out] ∧
      EnvIn out Avx2.invCached ∧
      ∀ k : Lane, vecVal k out = (AProg.run zmodOpsV AlgAvx2Edwards.CachedPoint_identity []).getD k.idx 0 :=
  by
  have hin : EnvIn2 [] [] := trivial
  have h := Dalek.Proofs.KLane.Avx2.CachedPoint_identity_refines _ hin
  lanes_simp at h
  exact bridge_v26 Dalek.Props.C11.VecChain.Avx2.CachedPoint_identity_safe hin h

/-- the constant words represent the neutral element -/
theorem CachedPoint_identity_limb_spec :
    ∃ out, KAvx2Edwards.CachedPoint_identity.evalC [] = some [out] ∧ KAvx2Edwards.CachedPoint_identity.evalW [] = some [out] ∧
      EnvIn out Avx2.invCached ∧ RepCachedW 0 out := by
  obtain ⟨out, h1, h2, h3, hv⟩ := CachedPoint_identity_lanes
  exact ⟨out, h1, h2, h3, rep_of_lanes (Rp := RepCached (0 : Ed)) (f := fun k => vecVal k out) hv Dalek.Props.C03.Vector.Avx2.CachedPoint_identity_spec⟩

/-- `ExtendedPoint_conditional_select` (`choice` word `c ∈ {0,1}`): lanes of the result = AlgIR item (`csel`) on the lanes of the inputs -/
theorem ExtendedPoint_conditional_select_lanes (x y : List Nat) (c : Nat) (hx : EnvIn x Avx2.invExt) (hy : EnvIn y Avx2.invExt) (hc : EnvIn [c] choice) :
    ∃ out, KAvx2Edwards.ExtendedPoint_conditional_select.evalC [x, y, [c]] = some [out] ∧ KAvx2Edwards.ExtendedPoint_conditional_select.evalW [x, y, [c]] = some [out] ∧
      EnvIn out Avx2.invExt ∧
      ∀ k : Lane, vecVal k out = (AProg.run zmodOpsV AlgAvx2Edwards.ExtendedPoint_conditional_select
        [vecVal .A x, vecVal .B x, vecVal .C x, vecVal .D x, vecVal .A y, vecVal .B y, vecVal .C y, vecVal .D y, ((c : Nat) : Fp)]).getD k.idx 0 := by
  have hin : EnvIn2 [x, y, [c]] [Avx2.invExt, Avx2.invExt, choice] := ⟨hx, hy, hc, trivial⟩
  have h := Dalek.Proofs.KLane.Avx2.ExtendedPoint_conditional_select_refines _ hin
  lanes_simp at h
  exact bridge_v26 Dalek.Props.C11.VecChain.Avx2.ExtendedPoint_conditional_select_safe hin h

/-- … hence the result words represent `P` if `c = 0` and `Q` if `c = 1` -/
theorem ExtendedPoint_conditional_select_limb_spec {P Q : Ed} (x y : List Nat) (c : Nat) (hx : EnvIn x Avx2.invExt) (hy : EnvIn y Avx2.invExt) (hc : EnvIn [c] choice)
    (hP : RepExtW P x) (hQ : RepExtW Q y) :
    ∃ out, KAvx2Edwards.ExtendedPoint_conditional_select.evalC [x, y, [c]] = some [out] ∧ KAvx2Edwards.ExtendedPoint_conditional_select.evalW [x, y, [c]] = some [out] ∧
      EnvIn out Avx2.invExt ∧ RepExtW (if c = 0 then P else Q) out := by
  obtain ⟨out, h1, h2, h3, hv⟩ := ExtendedPoint_conditional_select_lanes x y c hx hy hc
  have e : (if ((c : Nat) : Fp) = 0 then P else Q) = (if c = 0 then P else Q) := by
    simp only [choice_cast_eq_zero (choice_cases hc)]
  exact ⟨out, h1, h2, h3, e ▸ rep_of_lanes (Rp := RepExt (if ((c : Nat) : Fp) = 0 then P else Q)) (f := fun k => vecVal k out) hv
    (Dalek.Props.C03.Vector.Avx2.ExtendedPoint_conditional_select_spec ((c : Nat) : Fp) hP hQ)⟩

/-- `ExtendedPoint_conditional_assign` (`choice` word `c ∈ {0,1}`): lanes of the result = AlgIR item (`csel`) on the lanes of the inputs -/
theorem ExtendedPoint_conditional_assign_lanes (x y : List Nat) (c : Nat) (hx : EnvIn x Avx2.invExt) (hy : EnvIn y Avx2.invExt) (hc : EnvIn [c] choice) :
    ∃ out, KAvx2Edwards.ExtendedPoint_conditional_assign.evalC [x, y, [c]] = some [out] ∧ KAvx2Edwards.ExtendedPoint_conditional_assign.evalW [x, y, [c]] = some [out] ∧
      EnvIn out Avx2.invExt ∧
      ∀ k : Lane, vecVal k out = (AProg.run zmodOpsV AlgAvx2Edwards.ExtendedPoint_conditional_assign
        [vecVal .A x, vecVal .B x, vecVal .C x, vecVal .D x, vecVal .A y, vecVal .B y, vecVal .C y, vecVal .D y, ((c : Nat) : Fp)]).getD k.idx 0 := by
  have hin : EnvIn2 [x, y, [c]] [Avx2.invExt, Avx2.invExt, choice] := ⟨hx, hy, hc, trivial⟩
  have h := Dalek.Proofs.KLane.Avx2.ExtendedPoint_conditional_assign_refines _ hin
  lanes_simp at h
  exact bridge_v26 Dalek.Props.C11.VecChain.Avx2.ExtendedPoint_conditional_assign_safe hin h

/-- … hence the result words represent `P` if `c = 0` and `Q` if `c = 1` -/
theorem ExtendedPoint_conditional_assign_limb_spec {P Q : Ed} (x y : List Nat) (c : Nat) (hx : EnvIn x Avx2.invExt) (hy : EnvIn y Avx2.invExt) (hc : EnvIn [c] choice)
    (hP : RepExtW P x) (hQ : RepExtW Q y) :
    ∃ out, KAvx2Edwards.ExtendedPoint_conditional_assign.evalC [x, y, [c]] = some [out] ∧ KAvx2Edwards.ExtendedPoint_conditional_assign.evalW [x, y, [c]] = some [out] ∧
      EnvIn out Avx2.invExt ∧ RepExtW (if c = 0 then P else Q) out := by
  obtain ⟨out, h1, h2, h3, hv⟩ := ExtendedPoint_conditional_assign_lanes x y c hx hy hc
  have e : (if ((c : Nat) : Fp) = 0 then P else Q) = (if c = 0 then P else Q) := by
    simp only [choice_cast_eq_zero (choice_cases hc)]
  exact ⟨out, h1, h2, h3, e ▸ rep_of_lanes (Rp := RepExt (if ((c : Nat) : Fp) = 0 then P else Q)) (f := fun k => vecVal k out) hv
    (Dalek.Props.C03.Vector.Avx2.ExtendedPoint_conditional_assign_spec ((c : Nat) : Fp) hP hQ)⟩

/-- `CachedPoint_conditional_select` (`choice` word `c ∈ {0,1}`): lanes of the result = AlgIR item (`csel`) on the lanes of the inputs -/
theorem CachedPoint_conditional_select_lanes (x y : List Nat) (c : Nat) (hx : EnvIn x Avx2.invCached) (hy : EnvIn y Avx2.invCached) (hc : EnvIn [c] choice) :
    ∃ out, KAvx2Edwards.CachedPoint_conditional_select.evalC [x, y, [c]] = some [out] ∧ KAvx2Edwards.CachedPoint_conditional_select.evalW [x, y, [c]] = some [out] ∧
      EnvIn out Avx2.invCached ∧
      ∀ k : Lane, vecVal k out = (AProg.run zmodOpsV AlgAvx2Edwards.CachedPoint_conditional_select
        [vecVal .A x, vecVal .B x, vecVal .C x, vecVal .D x, vecVal .A y, vecVal .B y, vecVal .C y, vecVal .D y, ((c : Nat) : Fp)]).getD k.idx 0 := by
  have hin : EnvIn2 [x, y, [c]] [Avx2.invCached, Avx2.invCached, choice] := ⟨hx, hy, hc, trivial⟩
  have h := Dalek.Proofs.KLane.Avx2.CachedPoint_conditional_select_refines _ hin
  lanes_simp at h
  exact bridge_v26 Dalek.Props.C11.VecChain.Avx2.CachedPoint_conditional_select_safe hin h

/-- … hence the result words represent `P` if `c = 0` and `Q` if `c = 1` -/
theorem CachedPoint_conditional_select_limb_spec {P Q : Ed} (x y : List Nat) (c : Nat) (hx : EnvIn x Avx2.invCached) (hy : EnvIn y Avx2.invCached) (hc : EnvIn [c] choice)
    (hP : RepCachedW P x) (hQ : RepCachedW Q y) :
    ∃ out, KAvx2Edwards.CachedPoint_conditional_select.evalC [x, y, [c]] = some [out] ∧ KAvx2Edwards.CachedPoint_conditional_select.evalW [x, y, [c]] = some [out] ∧
      EnvIn out Avx2.invCached ∧ RepCachedW (if c = 0 then P else Q) out := by
  obtain ⟨out, h1, h2, h3, hv⟩ := CachedPoint_conditional_select_lanes x y c hx hy hc
  have e : (if ((c : Nat) : Fp) = 0 then P else Q) = (if c = 0 then P else Q) := by
    simp only [choice_cast_eq_zero (choice_cases hc)]
  exact ⟨out, h1, h2, h3, e ▸ rep_of_lanes (Rp := RepCached (if ((c : Nat) : Fp) = 0 then P else Q)) (f := fun k => vecVal k out) hv
    (Dalek.Props.C03.Vector.Avx2.CachedPoint_conditional_select_spec ((c : Nat) : Fp) hP hQ)⟩

/-- `CachedPoint_conditional_assign` (`choice` word `c ∈ {0,1}`): lanes of the result = AlgIR item (`csel`) on the lanes of the inputs -/
theorem CachedPoint_conditional_assign_lanes (x y : List Nat) (c : Nat) (hx : EnvIn x Avx2.invCached) (hy : EnvIn y Avx2.invCached) (hc : EnvIn [c] choice) :
    ∃ out, KAvx2Edwards.CachedPoint_conditional_assign.evalC [x, y, [c]] = some [out] ∧ KAvx2Edwards.CachedPoint_conditional_assign.evalW [x, y, [c]] = some [out] ∧
      EnvIn out Avx2.invCached ∧
      ∀ k : Lane, vecVal k out = (AProg.run zmodOpsV AlgAvx2Edwards.CachedPoint_conditional_assign
        [vecVal .A x, vecVal .B x, vecVal .C x, vecVal .D x, vecVal .A y, vecVal .B y, vecVal .C y, vecVal .D y, ((c : Nat) : Fp)]).getD k.idx 0 := by
  have hin : EnvIn2 [x, y, [c]] [Avx2.invCached, Avx2.invCached, choice] := ⟨hx, hy, hc, trivial⟩
  have h := Dalek.Proofs.KLane.Avx2.CachedPoint_conditional_assign_refines _ hin
  lanes_simp at h
  exact bridge_v26 Dalek.Props.C11.VecChain.Avx2.CachedPoint_conditional_assign_safe hin h

/-- … hence the result words represent `P` if `c = 0` and `Q` if `c = 1` -/
theorem CachedPoint_conditional_assign_limb_spec {P Q : Ed} (x y : List Nat) (c : Nat) (hx : EnvIn x Avx2.invCached) (hy : EnvIn y Avx2.invCached) (hc : EnvIn [c] choice)
    (hP : RepCachedW P x) (hQ : RepCachedW Q y) :
    ∃ out, KAvx2Edwards.CachedPoint_conditional_assign.evalC [x, y, [c]] = some [out] ∧ KAvx2Edwards.CachedPoint_conditional_assign.evalW [x, y, [c]] = some [out] ∧
      EnvIn out Avx2.invCached ∧ RepCachedW (if c = 0 then P else Q) out := by
  obtain ⟨out, h1, h2, h3, hv⟩ := CachedPoint_conditional_assign_lanes x y c hx hy hc
  have e : (if ((c : Nat) : Fp) = 0 then P else Q) = (if c = 0 then P else Q) := by
    simp only [choice_cast_eq_zero (choice_cases hc)]
  exact ⟨out, h1, h2, h3, e ▸ rep_of_lanes (Rp := RepCached (if ((c : Nat) : Fp) = 0 then P else Q)) (f := fun k => vecVal k out) hv
    (Dalek.Props.C03.Vector.Avx2.CachedPoint_conditional_assign_spec ((c : Nat) : Fp) hP hQ)⟩

/-- **Histories compute the group law on machine words.**  Any sequence of `double` / `+ cached` / `- cached` steps of the
AVX2 backend (the shape of every vector scalar-multiplication loop), from accumulator words representing `P`, with cached operands
inside their invariant representing the points `pt q`: the checked run of all kernel calls succeeds, equals the release run, the
accumulator stays inside the invariant and its final words represent `histPoint pt P steps`. -/
theorem history_limb_spec (pt : List Nat → Ed) : ∀ (steps : List Step) (acc : List Nat) (P : Ed), EnvIn acc Avx2.invExt →
    RepExtW P acc → (∀ s ∈ steps, s.ok Avx2.invCached) → stepsRep RepCachedW pt steps →
    ∃ r, Dalek.Props.C11.VecChain.runC Dalek.Props.C11.VecChain.avx2 acc steps = some r ∧ Dalek.Props.C11.VecChain.runW Dalek.Props.C11.VecChain.avx2 acc steps = some r ∧ EnvIn r Avx2.invExt ∧
      RepExtW (histPoint pt P steps) r
  | [], acc, P, h, hP, _, _ => ⟨acc, rfl, rfl, h, hP⟩
  | .dbl :: ss, acc, P, h, hP, hok, hr => by
    obtain ⟨r, h1, h2, h3, h4⟩ := ExtendedPoint_double_limb_spec acc h hP
    obtain ⟨r', g1, g2, g3, g4⟩ := history_limb_spec pt ss r (2 • P) h3 h4 (fun t ht => hok t (by simp [ht])) hr
    have e1 : Dalek.Props.C11.VecChain.stepC Dalek.Props.C11.VecChain.avx2 acc .dbl = some r := by
      show Dalek.Props.C11.VecChain.one (KAvx2Edwards.ExtendedPoint_double.evalC [acc]) = some r
      rw [h1]; rfl
    have e2 : Dalek.Props.C11.VecChain.stepW Dalek.Props.C11.VecChain.avx2 acc .dbl = some r := by
      show Dalek.Props.C11.VecChain.one (KAvx2Edwards.ExtendedPoint_double.evalW [acc]) = some r
      rw [h2]; rfl
    exact ⟨r', by simp only [Dalek.Props.C11.VecChain.runC, e1, g1], by simp only [Dalek.Props.C11.VecChain.runW, e2, g2], g3, g4⟩
  | .add q :: ss, acc, P, h, hP, hok, hr => by
    have hq : EnvIn q Avx2.invCached := hok (.add q) (by simp)
    obtain ⟨r, h1, h2, h3, h4⟩ := ExtendedPoint_add_CachedPoint_limb_spec acc q h hq hP hr.1
    obtain ⟨r', g1, g2, g3, g4⟩ := history_limb_spec pt ss r (P + pt q) h3 h4 (fun t ht => hok t (by simp [ht])) hr.2
    have e1 : Dalek.Props.C11.VecChain.stepC Dalek.Props.C11.VecChain.avx2 acc (.add q) = some r := by
      show Dalek.Props.C11.VecChain.one (KAvx2Edwards.ExtendedPoint_add_CachedPoint.evalC [acc, q]) = some r
      rw [h1]; rfl
    have e2 : Dalek.Props.C11.VecChain.stepW Dalek.Props.C11.VecChain.avx2 acc (.add q) = some r := by
      show Dalek.Props.C11.VecChain.one (KAvx2Edwards.ExtendedPoint_add_CachedPoint.evalW [acc, q]) = some r
      rw [h2]; rfl
    exact ⟨r', by simp only [Dalek.Props.C11.VecChain.runC, e1, g1], by simp only [Dalek.Props.C11.VecChain.runW, e2, g2], g3, g4⟩
  | .sub q :: ss, acc, P, h, hP, hok, hr => by
    have hq : EnvIn q Avx2.invCached := hok (.sub q) (by simp)
    obtain ⟨r, h1, h2, h3, h4⟩ := ExtendedPoint_sub_CachedPoint_limb_spec acc q h hq hP hr.1
    obtain ⟨r', g1, g2, g3, g4⟩ := history_limb_spec pt ss r (P - pt q) h3 h4 (fun t ht => hok t (by simp [ht])) hr.2
    have e1 : Dalek.Props.C11.VecChain.stepC Dalek.Props.C11.VecChain.avx2 acc (.sub q) = some r := by
      show Dalek.Props.C11.VecChain.one (KAvx2Edwards.ExtendedPoint_sub_CachedPoint.evalC [acc, q]) = some r
      rw [h1]; rfl
    have e2 : Dalek.Props.C11.VecChain.stepW Dalek.Props.C11.VecChain.avx2 acc (.sub q) = some r := by
      show Dalek.Props.C11.VecChain.one (KAvx2Edwards.ExtendedPoint_sub_CachedPoint.evalW [acc, q]) = some r
      rw [h2]; rfl
    exact ⟨r', by simp only [Dalek.Props.C11.VecChain.runC, e1, g1], by simp only [Dalek.Props.C11.VecChain.runW, e2, g2], g3, g4⟩

/-- the nine formulas of the AVX2 backend that make up the vector scalar-multiplication code compute the group law on
machine words (the `_limb_spec` theorems above, packaged) -/
theorem groupLaw : GroupLaw avx2Backend RepExtW RepCachedW where
  dbl := fun x hx hP => ExtendedPoint_double_limb_spec x hx hP
  add := fun x y hx hy hP hQ => ExtendedPoint_add_CachedPoint_limb_spec x y hx hy hP hQ
  sub := fun x y hx hy hP hQ => ExtendedPoint_sub_CachedPoint_limb_spec x y hx hy hP hQ
  toCached := fun x hx hP => CachedPoint_from_ExtendedPoint_limb_spec x hx hP
  negC := fun x hx hP => CachedPoint_neg_limb_spec x hx hP
  selC := fun x y c hx hy hc hP hQ => CachedPoint_conditional_select_limb_spec x y c hx hy hc hP hQ
  asgC := fun x y c hx hy hc hP hQ => CachedPoint_conditional_assign_limb_spec x y c hx hy hc hP hQ
  idE := ExtendedPoint_identity_limb_spec
  idC := CachedPoint_identity_limb_spec

/-- **AVX2: every well-typed program of vector point operations computes the group law on machine words.**  For any
straight-line program `ops` over registers holding `ExtendedPoint`s, `CachedPoint`s and `Choice` words (double, ± cached,
`CachedPoint::from`, cached negation, conditional select / assign = the body of `LookupTable::select`, identities), well typed
in `Γ`, from registers `env` inside their invariants that represent the curve points `den` (choice words `cv`): the
overflow-checked run of ALL kernel calls succeeds, equals the release run, every register is inside the invariant of its type
and REPRESENTS ITS DENOTATION `denRun den cv ops` in the curve group. -/
theorem program_limb_spec (ops : List VOp) (Γ : List Ty) (den : List Ed) (cv : List Nat) (env : List (List Nat))
    (ht : Typed avx2Backend Γ env) (hr : Reps RepExtW RepCachedW Γ den cv env) (hw : wellTyped avx2Backend Γ ops = true) :
    ∃ env', runWith KProg.evalC avx2Backend env ops = some env' ∧ runWith KProg.evalW avx2Backend env ops = some env' ∧
      Typed avx2Backend (tyRun avx2Backend Γ ops) env' ∧
      Reps RepExtW RepCachedW (tyRun avx2Backend Γ ops) (denRun den cv ops) (cv ++ List.replicate ops.length 0) env' :=
  program_group groupLaw ops Γ den cv env ht hr hw

end Avx2

/-! ## The IFMA backend (`backend/vector/ifma/edwards.rs`) -/

namespace Ifma

/-- the 20 u64 words `x` of an `ifma::ExtendedPoint` represent the curve point `P` -/
def RepExtW (P : Ed) (x : List Nat) : Prop := RepExt P (vecVal51 .A x) (vecVal51 .B x) (vecVal51 .C x) (vecVal51 .D x)

/-- the 20 u64 words `x` of an `ifma::CachedPoint` represent the curve point `Q` -/
def RepCachedW (Q : Ed) (x : List Nat) : Prop := RepCached Q (vecVal51 .A x) (vecVal51 .B x) (vecVal51 .C x) (vecVal51 .D x)

/-- `ExtendedPoint::from(EdwardsPoint)` (one call of `new`): lanes of the result = AlgIR item on the values of `X, Y, Z, T` -/
theorem ExtendedPoint_from_EdwardsPoint_lanes (X Y Z T : List Nat) (hX : EnvIn X fe54) (hY : EnvIn Y fe54) (hZ : EnvIn Z fe54) (hT : EnvIn T fe54) :
    ∃ out, KIfmaEdwards.ExtendedPoint_from_EdwardsPoint.evalC [X, Y, Z, T] = some [out] ∧ KIfmaEdwards.ExtendedPoint_from_EdwardsPoint.evalW [X, Y, Z, T] = some [out] ∧
      EnvIn out Ifma.invExt ∧
      ∀ k : Lane, vecVal51 k out = (AProg.run zmodOpsV AlgIfmaEdwards.ExtendedPoint_from_EdwardsPoint [feVal X, feVal Y, feVal Z, feVal T]).getD k.idx 0 :=
  by
  have hin : EnvIn2 [X, Y, Z, T] [fe54, fe54, fe54, fe54] := ⟨hX, hY, hZ, hT, trivial⟩
  have h := Dalek.Proofs.KLane.Ifma.ExtendedPoint_from_EdwardsPoint_refines _ hin
  lanes_simp at h
  exact bridge_v51 Dalek.Props.C11.VecChain.Ifma.ExtendedPoint_from_EdwardsPoint_safe hin h

/-- … hence the result words represent the same point as the serial coordinates -/
theorem ExtendedPoint_from_EdwardsPoint_limb_spec {P : Ed} (X Y Z T : List Nat) (hX : EnvIn X fe54) (hY : EnvIn Y fe54) (hZ : EnvIn Z fe54) (hT : EnvIn T fe54)
    (hP : RepFe P X Y Z T) :
    ∃ out, KIfmaEdwards.ExtendedPoint_from_EdwardsPoint.evalC [X, Y, Z, T] = some [out] ∧ KIfmaEdwards.ExtendedPoint_from_EdwardsPoint.evalW [X, Y, Z, T] = some [out] ∧
      EnvIn out Ifma.invExt ∧ RepExtW P out := by
  obtain ⟨out, h1, h2, h3, hv⟩ := ExtendedPoint_from_EdwardsPoint_lanes X Y Z T hX hY hZ hT
  exact ⟨out, h1, h2, h3, rep_of_lanes (Rp := RepExt P) (f := fun k => vecVal51 k out) hv (Dalek.Props.C03.Vector.Ifma.ExtendedPoint_from_EdwardsPoint_spec hP)⟩

/-- `EdwardsPoint::from(ExtendedPoint)`: the values of the four serial `FieldElement51` of the result = AlgIR item on the lanes -/
theorem EdwardsPoint_from_ExtendedPoint_lanes (x : List Nat) (hx : EnvIn x Ifma.invExt) :
    ∃ out, KIfmaEdwards.EdwardsPoint_from_ExtendedPoint.evalC [x] = some [out] ∧ KIfmaEdwards.EdwardsPoint_from_ExtendedPoint.evalW [x] = some [out] ∧
      EnvIn out Ifma.splitOut ∧
      ∀ k : Lane, elemVal k out = (AProg.run zmodOpsV AlgIfmaEdwards.EdwardsPoint_from_ExtendedPoint [vecVal51 .A x, vecVal51 .B x, vecVal51 .C x, vecVal51 .D x]).getD k.idx 0 :=
  by
  have hin : EnvIn2 [x] [Ifma.invExt] := ⟨hx, trivial⟩
  have h := Dalek.Proofs.KLane.Ifma.EdwardsPoint_from_ExtendedPoint_refines _ hin
  lanes_simp at h
  exact bridge_ser Dalek.Props.C11.VecChain.Ifma.EdwardsPoint_from_ExtendedPoint_safe hin h

/-- … hence the serial coordinates represent the same point -/
theorem EdwardsPoint_from_ExtendedPoint_limb_spec {P : Ed} (x : List Nat) (hx : EnvIn x Ifma.invExt) (hP : RepExtW P x) :
    ∃ out, KIfmaEdwards.EdwardsPoint_from_ExtendedPoint.evalC [x] = some [out] ∧ KIfmaEdwards.EdwardsPoint_from_ExtendedPoint.evalW [x] = some [out] ∧
      EnvIn out Ifma.splitOut ∧ RepSer P out := by
  obtain ⟨out, h1, h2, h3, hv⟩ := EdwardsPoint_from_ExtendedPoint_lanes x hx
  exact ⟨out, h1, h2, h3, rep_of_lanes (Rp := RepExt P) (f := fun k => elemVal k out) hv (Dalek.Props.C03.Vector.Ifma.EdwardsPoint_from_ExtendedPoint_spec hP)⟩

/-- `CachedPoint::from(ExtendedPoint)`: lanes of the result of the kernel calls = AlgIR item on the lanes of the input -/
theorem CachedPoint_from_ExtendedPoint_lanes (x : List Nat) (hx : EnvIn x Ifma.invExt) :
    ∃ out, KIfmaEdwards.CachedPoint_from_ExtendedPoint.evalC [x] = some [out] ∧ KIfmaEdwards.CachedPoint_from_ExtendedPoint.evalW [x] = some [out] ∧
      EnvIn out Ifma.invCached ∧
      ∀ k : Lane, vecVal51 k out = (AProg.run zmodOpsV AlgIfmaEdwards.CachedPoint_from_ExtendedPoint [vecVal51 .A x, vecVal51 .B x, vecVal51 .C x, vecVal51 .D x]).getD k.idx 0 :=
  by
  have hin : EnvIn2 [x] [Ifma.invExt] := ⟨hx, trivial⟩
  have h := Dalek.Proofs.KLane.Ifma.CachedPoint_from_ExtendedPoint_refines _ hin
  lanes_simp at h
  exact bridge_v51 Dalek.Props.C11.VecChain.Ifma.CachedPoint_from_ExtendedPoint_safe hin h

/-- `CachedPoint::from(ExtendedPoint)` on machine words: the result words represent a valid cached point for the same group element -/
theorem CachedPoint_from_ExtendedPoint_limb_spec {P : Ed} (x : List Nat) (hx : EnvIn x Ifma.invExt) (hP : RepExtW P x) :
    ∃ out, KIfmaEdwards.CachedPoint_from_ExtendedPoint.evalC [x] = some [out] ∧ KIfmaEdwards.CachedPoint_from_ExtendedPoint.evalW [x] = some [out] ∧
      EnvIn out Ifma.invCached ∧ RepCachedW P out := by
  obtain ⟨out, h1, h2, h3, hv⟩ := CachedPoint_from_ExtendedPoint_lanes x hx
  exact ⟨out, h1, h2, h3, rep_of_lanes (Rp := RepCached P) (f := fun k => vecVal51 k out) hv (Dalek.Props.C03.Vector.Ifma.CachedPoint_from_ExtendedPoint_spec hP)⟩

/-- `ExtendedPoint::double`: lanes of the result of the kernel calls = AlgIR item on the lanes of the input -/
theorem ExtendedPoint_double_lanes (x : List Nat) (hx : EnvIn x Ifma.invExt) :
    ∃ out, KIfmaEdwards.ExtendedPoint_double.evalC [x] = some [out] ∧ KIfmaEdwards.ExtendedPoint_double.evalW [x] = some [out] ∧
      EnvIn out Ifma.invExt ∧
      ∀ k : Lane, vecVal51 k out = (AProg.run zmodOpsV AlgIfmaEdwards.ExtendedPoint_double [vecVal51 .A x, vecVal51 .B x, vecVal51 .C x, vecVal51 .D x]).getD k.idx 0 :=
  by
  have hin : EnvIn2 [x] [Ifma.invExt] := ⟨hx, trivial⟩
  have h := Dalek.Proofs.KLane.Ifma.ExtendedPoint_double_refines _ hin
  lanes_simp at h
  exact bridge_v51 Dalek.Props.C11.VecChain.Ifma.ExtendedPoint_double_safe hin h

/-- `ExtendedPoint::double` on machine words: the result words represent `2 • P` -/
theorem ExtendedPoint_double_limb_spec {P : Ed} (x : List Nat) (hx : EnvIn x Ifma.invExt) (hP : RepExtW P x) :
    ∃ out, KIfmaEdwards.ExtendedPoint_double.evalC [x] = some [out] ∧ KIfmaEdwards.ExtendedPoint_double.evalW [x] = some [out] ∧
      EnvIn out Ifma.invExt ∧ RepExtW (2 • P) out := by
  obtain ⟨out, h1, h2, h3, hv⟩ := ExtendedPoint_double_lanes x hx
  exact ⟨out, h1, h2, h3, rep_of_lanes (Rp := RepExt (2 • P)) (f := fun k => vecVal51 k out) hv (Dalek.Props.C03.Vector.Ifma.ExtendedPoint_double_spec hP)⟩

/-- one iteration of the loop of `ExtendedPoint::mul_by_pow_2`: lanes of the result of the kernel calls = AlgIR item on the lanes of the input -/
theorem ExtendedPoint_mul_by_pow_2_body_lanes (x : List Nat) (hx : EnvIn x Ifma.invExt) :
    ∃ out, KIfmaEdwards.ExtendedPoint_mul_by_pow_2_body.evalC [x] = some [out] ∧ KIfmaEdwards.ExtendedPoint_mul_by_pow_2_body.evalW [x] = some [out] ∧
      EnvIn out Ifma.invExt ∧
      ∀ k : Lane, vecVal51 k out = (AProg.run zmodOpsV AlgIfmaEdwards.ExtendedPoint_mul_by_pow_2_body [vecVal51 .A x, vecVal51 .B x, vecVal51 .C x, vecVal51 .D x]).getD k.idx 0 :=
  by
  have hin : EnvIn2 [x] [Ifma.invExt] := ⟨hx, trivial⟩
  have h := Dalek.Proofs.KLane.Ifma.ExtendedPoint_mul_by_pow_2_body_refines _ hin
  lanes_simp at h
  exact bridge_v51 Dalek.Props.C11.VecChain.Ifma.ExtendedPoint_mul_by_pow_2_body_safe hin h

/-- one iteration of the loop of `ExtendedPoint::mul_by_pow_2` on machine words: the result words represent `2 • P` -/
theorem ExtendedPoint_mul_by_pow_2_body_limb_spec {P : Ed} (x : List Nat) (hx : EnvIn x Ifma.invExt) (hP : RepExtW P x) :
    ∃ out, KIfmaEdwards.ExtendedPoint_mul_by_pow_2_body.evalC [x] = some [out] ∧ KIfmaEdwards.ExtendedPoint_mul_by_pow_2_body.evalW [x] = some [out] ∧
      EnvIn out Ifma.invExt ∧ RepExtW (2 • P) out := by
  obtain ⟨out, h1, h2, h3, hv⟩ := ExtendedPoint_mul_by_pow_2_body_lanes x hx
  exact ⟨out, h1, h2, h3, rep_of_lanes (Rp := RepExt (2 • P)) (f := fun k => vecVal51 k out) hv (Dalek.Props.C03.Vector.Ifma.ExtendedPoint_mul_by_pow_2_body_spec hP)⟩

/-- `-&CachedPoint`: lanes of the result of the kernel calls = AlgIR item on the lanes of the input -/
theorem CachedPoint_neg_lanes (x : List Nat) (hx : EnvIn x Ifma.invCached) :
    ∃ out, KIfmaEdwards.CachedPoint_neg.evalC [x] = some [out] ∧ KIfmaEdwards.CachedPoint_neg.evalW [x] = some [out] ∧
      EnvIn out Ifma.invCached ∧
      ∀ k : Lane, vecVal51 k out = (AProg.run zmodOpsV AlgIfmaEdwards.CachedPoint_neg [vecVal51 .A x, vecVal51 .B x, vecVal51 .C x, vecVal51 .D x]).getD k.idx 0 :=
  by
  have hin : EnvIn2 [x] [Ifma.invCached] := ⟨hx, trivial⟩
  have h := Dalek.Proofs.KLane.Ifma.CachedPoint_neg_refines _ hin
  lanes_simp at h
  exact bridge_v51 Dalek.Props.C11.VecChain.Ifma.CachedPoint_neg_safe hin h

/-- `-&CachedPoint` on machine words: the result words represent a valid cached point for `-P` -/
theorem CachedPoint_neg_limb_spec {P : Ed} (x : List Nat) (hx : EnvIn x Ifma.invCached) (hP : RepCachedW P x) :
    ∃ out, KIfmaEdwards.CachedPoint_neg.evalC [x] = some [out] ∧ KIfmaEdwards.CachedPoint_neg.evalW [x] = some [out] ∧
      EnvIn out Ifma.invCached ∧ RepCachedW (-P) out := by
  obtain ⟨out, h1, h2, h3, hv⟩ := CachedPoint_neg_lanes x hx
  exact ⟨out, h1, h2, h3, rep_of_lanes (Rp := RepCached (-P)) (f := fun k => vecVal51 k out) hv (Dalek.Props.C03.Vector.Ifma.CachedPoint_neg_spec hP)⟩

/-- `&ExtendedPoint + &CachedPoint`: lanes of the result of the kernel calls = AlgIR item on the lanes of the inputs -/
theorem ExtendedPoint_add_CachedPoint_lanes (x y : List Nat) (hx : EnvIn x Ifma.invExt) (hy : EnvIn y Ifma.invCached) :
    ∃ out, KIfmaEdwards.ExtendedPoint_add_CachedPoint.evalC [x, y] = some [out] ∧ KIfmaEdwards.ExtendedPoint_add_CachedPoint.evalW [x, y] = some [out] ∧
      EnvIn out Ifma.invExt ∧
      ∀ k : Lane, vecVal51 k out = (AProg.run zmodOpsV AlgIfmaEdwards.ExtendedPoint_add_CachedPoint
        [vecVal51 .A x, vecVal51 .B x, vecVal51 .C x, vecVal51 .D x, vecVal51 .A y, vecVal51 .B y, vecVal51 .C y, vecVal51 .D y]).getD k.idx 0 :=
  by
  have hin : EnvIn2 [x, y] [Ifma.invExt, Ifma.invCached] := ⟨hx, hy, trivial⟩
  have h := Dalek.Proofs.KLane.Ifma.ExtendedPoint_add_CachedPoint_refines _ hin
  lanes_simp at h
  exact bridge_v51 Dalek.Props.C11.VecChain.Ifma.ExtendedPoint_add_CachedPoint_safe hin h

/-- **`&ExtendedPoint + &CachedPoint` computes `P + Q` on machine words**: if the lane values of the words `x` represent `P` and those of `y`
(a cached point) represent `Q`, the words returned by the sequence of kernel calls represent `P + Q` (and are inside the invariant again) -/
theorem ExtendedPoint_add_CachedPoint_limb_spec {P Q : Ed} (x y : List Nat) (hx : EnvIn x Ifma.invExt) (hy : EnvIn y Ifma.invCached)
    (hP : RepExtW P x) (hQ : RepCachedW Q y) :
    ∃ out, KIfmaEdwards.ExtendedPoint_add_CachedPoint.evalC [x, y] = some [out] ∧ KIfmaEdwards.ExtendedPoint_add_CachedPoint.evalW [x, y] = some [out] ∧
      EnvIn out Ifma.invExt ∧ RepExtW (P + Q) out := by
  obtain ⟨out, h1, h2, h3, hv⟩ := ExtendedPoint_add_CachedPoint_lanes x y hx hy
  exact ⟨out, h1, h2, h3, rep_of_lanes (Rp := RepExt (P + Q)) (f := fun k => vecVal51 k out) hv (Dalek.Props.C03.Vector.Ifma.ExtendedPoint_add_CachedPoint_spec hP hQ)⟩

/-- `&ExtendedPoint - &CachedPoint`: lanes of the result of the kernel calls = AlgIR item on the lanes of the inputs -/
theorem ExtendedPoint_sub_CachedPoint_lanes (x y : List Nat) (hx : EnvIn x Ifma.invExt) (hy : EnvIn y Ifma.invCached) :
    ∃ out, KIfmaEdwards.ExtendedPoint_sub_CachedPoint.evalC [x, y] = some [out] ∧ KIfmaEdwards.ExtendedPoint_sub_CachedPoint.evalW [x, y] = some [out] ∧
      EnvIn out Ifma.invExt ∧
      ∀ k : Lane, vecVal51 k out = (AProg.run zmodOpsV AlgIfmaEdwards.ExtendedPoint_sub_CachedPoint
        [vecVal51 .A x, vecVal51 .B x, vecVal51 .C x, vecVal51 .D x, vecVal51 .A y, vecVal51 .B y, vecVal51 .C y, vecVal51 .D y]).getD k.idx 0 :=
  by
  have hin : EnvIn2 [x, y] [Ifma.invExt, Ifma.invCached] := ⟨hx, hy, trivial⟩
  have h := Dalek.Proofs.KLane.Ifma.ExtendedPoint_sub_CachedPoint_refines _ hin
  lanes_simp at h
  exact bridge_v51 Dalek.Props.C11.VecChain.Ifma.ExtendedPoint_sub_CachedPoint_safe hin h

/-- **`&ExtendedPoint - &CachedPoint` computes `P - Q` on machine words**: if the lane values of the words `x` represent `P` and those of `y`
(a cached point) represent `Q`, the words returned by the sequence of kernel calls represent `P - Q` (and are inside the invariant again) -/
theorem ExtendedPoint_sub_CachedPoint_limb_spec {P Q : Ed} (x y : List Nat) (hx : EnvIn x Ifma.invExt) (hy : EnvIn y Ifma.invCached)
    (hP : RepExtW P x) (hQ : RepCachedW Q y) :
    ∃ out, KIfmaEdwards.ExtendedPoint_sub_CachedPoint.evalC [x, y] = some [out] ∧ KIfmaEdwards.ExtendedPoint_sub_CachedPoint.evalW [x, y] = some [out] ∧
      EnvIn out Ifma.invExt ∧ RepExtW (P - Q) out := by
  obtain ⟨out, h1, h2, h3, hv⟩ := ExtendedPoint_sub_CachedPoint_lanes x y hx hy
  exact ⟨out, h1, h2, h3, rep_of_lanes (Rp := RepExt (P - Q)) (f := fun k => vecVal51 k out) hv (Dalek.Props.C03.Vector.Ifma.ExtendedPoint_sub_CachedPoint_spec hP hQ)⟩

/-- `ExtendedPoint::identity()` (a literal constant vector): its lane values = the constants of the AlgIR item -/
theorem ExtendedPoint_identity_lanes :
    ∃ out, KIfmaEdwards.ExtendedPoint_identity.evalC [] = some [out] ∧ KIfmaEdwards.ExtendedPoint_identity.evalW [] = some [out] ∧
      EnvIn out Ifma.invExt ∧
      ∀ k : Lane, vecVal51 k out = (AProg.run zmodOpsV AlgIfmaEdwards.ExtendedPoint_identity []).getD k.idx 0 :=
  by
  have hin : EnvIn2 [] [] := trivial
  have h := Dalek.Proofs.KLane.Ifma.ExtendedPoint_identity_refines _ hin
  lanes_simp at h
  exact bridge_v51 Dalek.Props.C11.VecChain.Ifma.ExtendedPoint_identity_safe hin h

/-- the constant words represent the neutral element -/
theorem ExtendedPoint_identity_limb_spec :
    ∃ out, KIfmaEdwards.ExtendedPoint_identity.evalC [] = some [out] ∧ KIfmaEdwards.ExtendedPoint_identity.evalW [] = some [out] ∧
      EnvIn out Ifma.invExt ∧ RepExtW 0 out := by
  obtain ⟨out, h1, h2, h3, hv⟩ := ExtendedPoint_identity_lanes
  exact ⟨out, h1, h2, h3, rep_of_lanes (Rp := RepExt (0 : Ed)) (f := fun k => vecVal51 k out) hv Dalek.Props.C03.Vector.Ifma.ExtendedPoint_identity_spec⟩

/-- `CachedPoint::identity()` (a literal constant vector): its lane values = the constants of the AlgIR item -/
theorem CachedPoint_identity_lanes :
    ∃ out, KIfmaEdwards.CachedPoint_identity.evalC [] = some [out] ∧ KIfmaEdwards.CachedPoint_identity.evalW [] = some [out] ∧
      EnvIn out Ifma.invCached ∧
      ∀ k : Lane, vecVal51 k out = (AProg.run zmodOpsV AlgIfmaEdwards.CachedPoint_identity []).getD k.idx 0 :=
  by
  have hin : EnvIn2 [] [] := trivial
  have h := Dalek.Proofs.KLane.Ifma.CachedPoint_identity_refines _ hin
  lanes_simp at h
  exact bridge_v51 Dalek.Props.C11.VecChain.Ifma.CachedPoint_identity_safe hin h

/-- the constant words represent the neutral element -/
theorem CachedPoint_identity_limb_spec :
    ∃ out, KIfmaEdwards.CachedPoint_identity.evalC [] = some [out] ∧ KIfmaEdwards.CachedPoint_identity.evalW [] = some [out] ∧
      EnvIn out Ifma.invCached ∧ RepCachedW 0 out := by
  obtain ⟨out, h1, h2, h3, hv⟩ := CachedPoint_identity_lanes
  exact ⟨out, h1, h2, h3, rep_of_lanes (Rp := RepCached (0 : Ed)) (f := fun k => vecVal51 k out) hv Dalek.Props.C03.Vector.Ifma.CachedPoint_identity_spec⟩

/-- `CachedPoint_conditional_select` (`choice` word `c ∈ {0,1}`): lanes of the result = AlgIR item (`csel`) on the lanes of the inputs -/
theorem CachedPoint_conditional_select_lanes (x y : List Nat) (c : Nat) (hx : EnvIn x Ifma.invCached) (hy : EnvIn y Ifma.invCached) (hc : EnvIn [c] choice) :
    ∃ out, KIfmaEdwards.CachedPoint_conditional_select.evalC [x, y, [c]] = some [out] ∧ KIfmaEdwards.CachedPoint_conditional_select.evalW [x, y, [c]] = some [out] ∧
      EnvIn out Ifma.invCached ∧
      ∀ k : Lane, vecVal51 k out = (AProg.run zmodOpsV AlgIfmaEdwards.CachedPoint_conditional_select
        [vecVal51 .A x, vecVal51 .B x, vecVal51 .C x, vecVal51 .D x, vecVal51 .A y, vecVal51 .B y, vecVal51 .C y, vecVal51 .D y, ((c : Nat) : Fp)]).getD k.idx 0 := by
  have hin : EnvIn2 [x, y, [c]] [Ifma.invCached, Ifma.invCached, choice] := ⟨hx, hy, hc, trivial⟩
  have h := Dalek.Proofs.KLane.Ifma.CachedPoint_conditional_select_refines _ hin
  lanes_simp at h
  exact bridge_v51 Dalek.Props.C11.VecChain.Ifma.CachedPoint_conditional_select_safe hin h

/-- … hence the result words represent `P` if `c = 0` and `Q` if `c = 1` -/
theorem CachedPoint_conditional_select_limb_spec {P Q : Ed} (x y : List Nat) (c : Nat) (hx : EnvIn x Ifma.invCached) (hy : EnvIn y Ifma.invCached) (hc : EnvIn [c] choice)
    (hP : RepCachedW P x) (hQ : RepCachedW Q y) :
    ∃ out, KIfmaEdwards.CachedPoint_conditional_select.evalC [x, y, [c]] = some [out] ∧ KIfmaEdwards.CachedPoint_conditional_select.evalW [x, y, [c]] = some [out] ∧
      EnvIn out Ifma.invCached ∧ RepCachedW (if c = 0 then P else Q) out := by
  obtain ⟨out, h1, h2, h3, hv⟩ := CachedPoint_conditional_select_lanes x y c hx hy hc
  have e : (if ((c : Nat) : Fp) = 0 then P else Q) = (if c = 0 then P else Q) := by
    simp only [choice_cast_eq_zero (choice_cases hc)]
  exact ⟨out, h1, h2, h3, e ▸ rep_of_lanes (Rp := RepCached (if ((c : Nat) : Fp) = 0 then P else Q)) (f := fun k => vecVal51 k out) hv
    (Dalek.Props.C03.Vector.Ifma.CachedPoint_conditional_select_spec ((c : Nat) : Fp) hP hQ)⟩

/-- `CachedPoint_conditional_assign` (`choice` word `c ∈ {0,1}`): lanes of the result = AlgIR item (`csel`) on the lanes of the inputs -/
theorem CachedPoint_conditional_assign_lanes (x y : List Nat) (c : Nat) (hx : EnvIn x Ifma.invCached) (hy : EnvIn y Ifma.invCached) (hc : EnvIn [c] choice) :
    ∃ out, KIfmaEdwards.CachedPoint_conditional_assign.evalC [x, y, [c]] = some [out] ∧ KIfmaEdwards.CachedPoint_conditional_assign.evalW [x, y, [c]] = some [out] ∧
      EnvIn out Ifma.invCached ∧
      ∀ k : Lane, vecVal51 k out = (AProg.run zmodOpsV AlgIfmaEdwards.CachedPoint_conditional_assign
        [vecVal51 .A x, vecVal51 .B x, vecVal51 .C x, vecVal51 .D x, vecVal51 .A y, vecVal51 .B y, vecVal51 .C y, vecVal51 .D y, ((c : Nat) : Fp)]).getD k.idx 0 := by
  have hin : EnvIn2 [x, y, [c]] [Ifma.invCached, Ifma.invCached, choice] := ⟨hx, hy, hc, trivial⟩
  have h := Dalek.Proofs.KLane.Ifma.CachedPoint_conditional_assign_refines _ hin
  lanes_simp at h
  exact bridge_v51 Dalek.Props.C11.VecChain.Ifma.CachedPoint_conditional_assign_safe hin h

/-- … hence the result words represent `P` if `c = 0` and `Q` if `c = 1` -/
theorem CachedPoint_conditional_assign_limb_spec {P Q : Ed} (x y : List Nat) (c : Nat) (hx : EnvIn x Ifma.invCached) (hy : EnvIn y Ifma.invCached) (hc : EnvIn [c] choice)
    (hP : RepCachedW P x) (hQ : RepCachedW Q y) :
    ∃ out, KIfmaEdwards.CachedPoint_conditional_assign.evalC [x, y, [c]] = some [out] ∧ KIfmaEdwards.CachedPoint_conditional_assign.evalW [x, y, [c]] = some [out] ∧
      EnvIn out Ifma.invCached ∧ RepCachedW (if c = 0 then P else Q) out := by
  obtain ⟨out, h1, h2, h3, hv⟩ := CachedPoint_conditional_assign_lanes x y c hx hy hc
  have e : (if ((c : Nat) : Fp) = 0 then P else Q) = (if c = 0 then P else Q) := by
    simp only [choice_cast_eq_zero (choice_cases hc)]
  exact ⟨out, h1, h2, h3, e ▸ rep_of_lanes (Rp := RepCached (if ((c : Nat) : Fp) = 0 then P else Q)) (f := fun k => vecVal51 k out) hv
    (Dalek.Props.C03.Vector.Ifma.CachedPoint_conditional_assign_spec ((c : Nat) : Fp) hP hQ)⟩

/-- **Histories compute the group law on machine words.**  Any sequence of `double` / `+ cached` / `- cached` steps of the
IFMA backend (the shape of every vector scalar-multiplication loop), from accumulator words representing `P`, with cached operands
inside their invariant representing the points `pt q`: the checked run of all kernel calls succeeds, equals the release run, the
accumulator stays inside the invariant and its final words represent `histPoint pt P steps`. -/
theorem history_limb_spec (pt : List Nat → Ed) : ∀ (steps : List Step) (acc : List Nat) (P : Ed), EnvIn acc Ifma.invExt →
    RepExtW P acc → (∀ s ∈ steps, s.ok Ifma.invCached) → stepsRep RepCachedW pt steps →
    ∃ r, Dalek.Props.C11.VecChain.runC Dalek.Props.C11.VecChain.ifma acc steps = some r ∧ Dalek.Props.C11.VecChain.runW Dalek.Props.C11.VecChain.ifma acc steps = some r ∧ EnvIn r Ifma.invExt ∧
      RepExtW (histPoint pt P steps) r
  | [], acc, P, h, hP, _, _ => ⟨acc, rfl, rfl, h, hP⟩
  | .dbl :: ss, acc, P, h, hP, hok, hr => by
    obtain ⟨r, h1, h2, h3, h4⟩ := ExtendedPoint_double_limb_spec acc h hP
    obtain ⟨r', g1, g2, g3, g4⟩ := history_limb_spec pt ss r (2 • P) h3 h4 (fun t ht => hok t (by simp [ht])) hr
    have e1 : Dalek.Props.C11.VecChain.stepC Dalek.Props.C11.VecChain.ifma acc .dbl = some r := by
      show Dalek.Props.C11.VecChain.one (KIfmaEdwards.ExtendedPoint_double.evalC [acc]) = some r
      rw [h1]; rfl
    have e2 : Dalek.Props.C11.VecChain.stepW Dalek.Props.C11.VecChain.ifma acc .dbl = some r := by
      show Dalek.Props.C11.VecChain.one (KIfmaEdwards.ExtendedPoint_double.evalW [acc]) = some r
      rw [h2]; rfl
    exact ⟨r', by simp only [Dalek.Props.C11.VecChain.runC, e1, g1], by simp only [Dalek.Props.C11.VecChain.runW, e2, g2], g3, g4⟩
  | .add q :: ss, acc, P, h, hP, hok, hr => by
    have hq : EnvIn q Ifma.invCached := hok (.add q) (by simp)
    obtain ⟨r, h1, h2, h3, h4⟩ := ExtendedPoint_add_CachedPoint_limb_spec acc q h hq hP hr.1
    obtain ⟨r', g1, g2, g3, g4⟩ := history_limb_spec pt ss r (P + pt q) h3 h4 (fun t ht => hok t (by simp [ht])) hr.2
    have e1 : Dalek.Props.C11.VecChain.stepC Dalek.Props.C11.VecChain.ifma acc (.add q) = some r := by
      show Dalek.Props.C11.VecChain.one (KIfmaEdwards.ExtendedPoint_add_CachedPoint.evalC [acc, q]) = some r
      rw [h1]; rfl
    have e2 : Dalek.Props.C11.VecChain.stepW Dalek.Props.C11.VecChain.ifma acc (.add q) = some r := by
      show Dalek.Props.C11.VecChain.one (KIfmaEdwards.ExtendedPoint_add_CachedPoint.evalW [acc, q]) = some r
      rw [h2]; rfl
    exact ⟨r', by simp only [Dalek.Props.C11.VecChain.runC, e1, g1], by simp only [Dalek.Props.C11.VecChain.runW, e2, g2], g3, g4⟩
  | .sub q :: ss, acc, P, h, hP, hok, hr => by
    have hq : EnvIn q Ifma.invCached := hok (.sub q) (by simp)
    obtain ⟨r, h1, h2, h3, h4⟩ := ExtendedPoint_sub_CachedPoint_limb_spec acc q h hq hP hr.1
    obtain ⟨r', g1, g2, g3, g4⟩ := history_limb_spec pt ss r (P - pt q) h3 h4 (fun t ht => hok t (by simp [ht])) hr.2
    have e1 : Dalek.Props.C11.VecChain.stepC Dalek.Props.C11.VecChain.ifma acc (.sub q) = some r := by
      show Dalek.Props.C11.VecChain.one (KIfmaEdwards.ExtendedPoint_sub_CachedPoint.evalC [acc, q]) = some r
      rw [h1]; rfl
    have e2 : Dalek.Props.C11.VecChain.stepW Dalek.Props.C11.VecChain.ifma acc (.sub q) = some r := by
      show Dalek.Props.C11.VecChain.one (KIfmaEdwards.ExtendedPoint_sub_CachedPoint.evalW [acc, q]) = some r
      rw [h2]; rfl
    exact ⟨r', by simp only [Dalek.Props.C11.VecChain.runC, e1, g1], by simp only [Dalek.Props.C11.VecChain.runW, e2, g2], g3, g4⟩

/-- the nine formulas of the IFMA backend that make up the vector scalar-multiplication code compute the group law on
machine words (the `_limb_spec` theorems above, packaged) -/
theorem groupLaw : GroupLaw ifmaBackend RepExtW RepCachedW where
  dbl := fun x hx hP => ExtendedPoint_double_limb_spec x hx hP
  add := fun x y hx hy hP hQ => ExtendedPoint_add_CachedPoint_limb_spec x y hx hy hP hQ
  sub := fun x y hx hy hP hQ => ExtendedPoint_sub_CachedPoint_limb_spec x y hx hy hP hQ
  toCached := fun x hx hP => CachedPoint_from_ExtendedPoint_limb_spec x hx hP
  negC := fun x hx hP => CachedPoint_neg_limb_spec x hx hP
  selC := fun x y c hx hy hc hP hQ => CachedPoint_conditional_select_limb_spec x y c hx hy hc hP hQ
  asgC := fun x y c hx hy hc hP hQ => CachedPoint_conditional_assign_limb_spec x y c hx hy hc hP hQ
  idE := ExtendedPoint_identity_limb_spec
  idC := CachedPoint_identity_limb_spec

/-- **IFMA: every well-typed program of vector point operations computes the group law on machine words.**  For any
straight-line program `ops` over registers holding `ExtendedPoint`s, `CachedPoint`s and `Choice` words (double, ± cached,
`CachedPoint::from`, cached negation, conditional select / assign = the body of `LookupTable::select`, identities), well typed
in `Γ`, from registers `env` inside their invariants that represent the curve points `den` (choice words `cv`): the
overflow-checked run of ALL kernel calls succeeds, equals the release run, every register is inside the invariant of its type
and REPRESENTS ITS DENOTATION `denRun den cv ops` in the curve group. -/
theorem program_limb_spec (ops : List VOp) (Γ : List Ty) (den : List Ed) (cv : List Nat) (env : List (List Nat))
    (ht : Typed ifmaBackend Γ env) (hr : Reps RepExtW RepCachedW Γ den cv env) (hw : wellTyped ifmaBackend Γ ops = true) :
    ∃ env', runWith KProg.evalC ifmaBackend env ops = some env' ∧ runWith KProg.evalW ifmaBackend env ops = some env' ∧
      Typed ifmaBackend (tyRun ifmaBackend Γ ops) env' ∧
      Reps RepExtW RepCachedW (tyRun ifmaBackend Γ ops) (denRun den cv ops) (cv ++ List.replicate ops.length 0) env' :=
  program_group groupLaw ops Γ den cv env ht hr hw

end Ifma

/-! ### The hypotheses are satisfiable -/

/-- the all-zero words are inside the invariants (so the `_lanes` theorems are not vacuous) -/
example : EnvIn (List.replicate 40 0) Avx2.invExt ∧ EnvIn (List.replicate 40 0) Avx2.invCached := by decide +kernel

example : EnvIn (List.replicate 20 0) Ifma.invExt ∧ EnvIn (List.replicate 20 0) Ifma.invCached := by decide +kernel

/-- the words of the identity constants represent the neutral element and are inside the invariants: the hypotheses of the
`_limb_spec` theorems (`EnvIn … ∧ RepExtW …`, `EnvIn … ∧ RepCachedW …`) are satisfiable -/
example : ∃ x y, EnvIn x Avx2.invExt ∧ Avx2.RepExtW 0 x ∧ EnvIn y Avx2.invCached ∧ Avx2.RepCachedW 0 y := by
  obtain ⟨x, _, _, hx, hP⟩ := Avx2.ExtendedPoint_identity_limb_spec
  obtain ⟨y, _, _, hy, hQ⟩ := Avx2.CachedPoint_identity_limb_spec
  exact ⟨x, y, hx, hP, hy, hQ⟩

example : ∃ x y, EnvIn x Ifma.invExt ∧ Ifma.RepExtW 0 x ∧ EnvIn y Ifma.invCached ∧ Ifma.RepCachedW 0 y := by
  obtain ⟨x, _, _, hx, hP⟩ := Ifma.ExtendedPoint_identity_limb_spec
  obtain ⟨y, _, _, hy, hQ⟩ := Ifma.CachedPoint_identity_limb_spec
  exact ⟨x, y, hx, hP, hy, hQ⟩

/-- the denotation of one window step of the vector `variable_base::mul` (table entry selected by conditional assignment
from `Q1`, `Q2` with choice `c`, conditionally negated with the same choice, four doublings of the accumulator `P`, one
addition): register 11 denotes `16 P ± Qc` -/
example (P Q1 Q2 : Ed) (c : Nat) :
    (denRun [P, Q1, Q2, 0] [0, 0, 0, c]
      [.asgC 1 2 3, .negC 4, .selC 4 5 3, .dbl 0, .dbl 7, .dbl 8, .dbl 9, .add 10 6]).getD 11 0
    = 2 • (2 • (2 • (2 • P))) + (if c = 0 then (if c = 0 then Q1 else Q2) else -(if c = 0 then Q1 else Q2)) := rfl

/-- the per-formula check discriminates: the kernel calls of `CachedPoint_neg` are NOT the lane terms of the AlgIR item
`CachedPoint_from_ExtendedPoint` (evaluated by the Lean kernel) -/
example : refOk Dalek.Proofs.KLane.Avx2.table KAvx2Edwards.CachedPoint_neg [Avx2.invCached] [.v26] .v26
    AlgAvx2Edwards.CachedPoint_from_ExtendedPoint = false := by decide +kernel

/-! ### Axiom audit -/

/-- info: 'Dalek.Props.C01.VecFormulas.Avx2.ExtendedPoint_from_EdwardsPoint_lanes' depends on axioms: [propext, Classical.choice, Quot.sound] -/
#guard_msgs (whitespace := lax) in #print axioms Avx2.ExtendedPoint_from_EdwardsPoint_lanes

/-- info: 'Dalek.Props.C01.VecFormulas.Avx2.ExtendedPoint_from_EdwardsPoint_limb_spec' depends on axioms: [propext, Classical.choice, Quot.sound] -/
#guard_msgs (whitespace := lax) in #print axioms Avx2.ExtendedPoint_from_EdwardsPoint_limb_spec

/-- info: 'Dalek.Props.C01.VecFormulas.Avx2.EdwardsPoint_from_ExtendedPoint_lanes' depends on axioms: [propext, Classical.choice, Quot.sound] -/
#guard_msgs (whitespace := lax) in #print axioms Avx2.EdwardsPoint_from_ExtendedPoint_lanes

/-- info: 'Dalek.Props.C01.VecFormulas.Avx2.EdwardsPoint_from_ExtendedPoint_limb_spec' depends on axioms: [propext, Classical.choice, Quot.sound] -/
#guard_msgs (whitespace := lax) in #print axioms Avx2.EdwardsPoint_from_ExtendedPoint_limb_spec

/-- info: 'Dalek.Props.C01.VecFormulas.Avx2.CachedPoint_from_ExtendedPoint_lanes' depends on axioms: [propext, Classical.choice, Quot.sound] -/
#guard_msgs (whitespace := lax) in #print axioms Avx2.CachedPoint_from_ExtendedPoint_lanes

/-- info: 'Dalek.Props.C01.VecFormulas.Avx2.CachedPoint_from_ExtendedPoint_limb_spec' depends on axioms: [propext, Classical.choice, Quot.sound] -/
#guard_msgs (whitespace := lax) in #print axioms Avx2.CachedPoint_from_ExtendedPoint_limb_spec

/-- info: 'Dalek.Props.C01.VecFormulas.Avx2.ExtendedPoint_double_lanes' depends on axioms: [propext, Classical.choice, Quot.sound] -/
#guard_msgs (whitespace := lax) in #print axioms Avx2.ExtendedPoint_double_lanes

/-- info: 'Dalek.Props.C01.VecFormulas.Avx2.ExtendedPoint_double_limb_spec' depends on axioms: [propext, Classical.choice, Quot.sound] -/
#guard_msgs (whitespace := lax) in #print axioms Avx2.ExtendedPoint_double_limb_spec

/-- info: 'Dalek.Props.C01.VecFormulas.Avx2.ExtendedPoint_mul_by_pow_2_body_lanes' depends on axioms: [propext, Classical.choice, Quot.sound] -/
#guard_msgs (whitespace := lax) in #print axioms Avx2.ExtendedPoint_mul_by_pow_2_body_lanes

/-- info: 'Dalek.Props.C01.VecFormulas.Avx2.ExtendedPoint_mul_by_pow_2_body_limb_spec' depends on axioms: [propext, Classical.choice, Quot.sound] -/
#guard_msgs (whitespace := lax) in #print axioms Avx2.ExtendedPoint_mul_by_pow_2_body_limb_spec

/-- info: 'Dalek.Props.C01.VecFormulas.Avx2.ExtendedPoint_add_CachedPoint_lanes' depends on axioms: [propext, Classical.choice, Quot.sound] -/
#guard_msgs (whitespace := lax) in #print axioms Avx2.ExtendedPoint_add_CachedPoint_lanes

/-- info: 'Dalek.Props.C01.VecFormulas.Avx2.ExtendedPoint_add_CachedPoint_limb_spec' depends on axioms: [propext, Classical.choice, Quot.sound] -/
#guard_msgs (whitespace := lax) in #print axioms Avx2.ExtendedPoint_add_CachedPoint_limb_spec

/-- info: 'Dalek.Props.C01.VecFormulas.Avx2.ExtendedPoint_sub_CachedPoint_lanes' depends on axioms: [propext, Classical.choice, Quot.sound] -/
#guard_msgs (whitespace := lax) in #print axioms Avx2.ExtendedPoint_sub_CachedPoint_lanes

/-- info: 'Dalek.Props.C01.VecFormulas.Avx2.ExtendedPoint_sub_CachedPoint_limb_spec' depends on axioms: [propext, Classical.choice, Quot.sound] -/
#guard_msgs (whitespace := lax) in #print axioms Avx2.ExtendedPoint_sub_CachedPoint_limb_spec

/-- info: 'Dalek.Props.C01.VecFormulas.Avx2.CachedPoint_neg_lanes' depends on axioms: [propext, Classical.choice, Quot.sound] -/
#guard_msgs (whitespace := lax) in #print axioms Avx2.CachedPoint_neg_lanes

/-- info: 'Dalek.Props.C01.VecFormulas.Avx2.CachedPoint_neg_limb_spec' depends on axioms: [propext, Classical.choice, Quot.sound] -/
#guard_msgs (whitespace := lax) in #print axioms Avx2.CachedPoint_neg_limb_spec

/-- info: 'Dalek.Props.C01.VecFormulas.Avx2.ExtendedPoint_identity_lanes' depends on axioms: [propext, Classical.choice, Quot.sound] -/
#guard_msgs (whitespace := lax) in #print axioms Avx2.ExtendedPoint_identity_lanes

/-- info: 'Dalek.Props.C01.VecFormulas.Avx2.ExtendedPoint_identity_limb_spec' depends on axioms: [propext, Classical.choice, Quot.sound] -/
#guard_msgs (whitespace := lax) in #print axioms Avx2.ExtendedPoint_identity_limb_spec

/-- info: 'Dalek.Props.C01.VecFormulas.Avx2.CachedPoint_identity_lanes' depends on axioms: [propext, Classical.choice, Quot.sound] -/
#guard_msgs (whitespace := lax) in #print axioms Avx2.CachedPoint_identity_lanes

/-- info: 'Dalek.Props.C01.VecFormulas.Avx2.CachedPoint_identity_limb_spec' depends on axioms: [propext, Classical.choice, Quot.sound] -/
#guard_msgs (whitespace := lax) in #print axioms Avx2.CachedPoint_identity_limb_spec

/-- info: 'Dalek.Props.C01.VecFormulas.Avx2.ExtendedPoint_conditional_select_lanes' depends on axioms: [propext, Classical.choice, Quot.sound] -/
#guard_msgs (whitespace := lax) in #print axioms Avx2.ExtendedPoint_conditional_select_lanes

/-- info: 'Dalek.Props.C01.VecFormulas.Avx2.ExtendedPoint_conditional_select_limb_spec' depends on axioms: [propext, Classical.choice, Quot.sound] -/
#guard_msgs (whitespace := lax) in #print axioms Avx2.ExtendedPoint_conditional_select_limb_spec

/-- info: 'Dalek.Props.C01.VecFormulas.Avx2.ExtendedPoint_conditional_assign_lanes' depends on axioms: [propext, Classical.choice, Quot.sound] -/
#guard_msgs (whitespace := lax) in #print axioms Avx2.ExtendedPoint_conditional_assign_lanes

/-- info: 'Dalek.Props.C01.VecFormulas.Avx2.ExtendedPoint_conditional_assign_limb_spec' depends on axioms: [propext, Classical.choice, Quot.sound] -/
#guard_msgs (whitespace := lax) in #print axioms Avx2.ExtendedPoint_conditional_assign_limb_spec

/-- info: 'Dalek.Props.C01.VecFormulas.Avx2.CachedPoint_conditional_select_lanes' depends on axioms: [propext, Classical.choice, Quot.sound] -/
#guard_msgs (whitespace := lax) in #print axioms Avx2.CachedPoint_conditional_select_lanes

/-- info: 'Dalek.Props.C01.VecFormulas.Avx2.CachedPoint_conditional_select_limb_spec' depends on axioms: [propext, Classical.choice, Quot.sound] -/
#guard_msgs (whitespace := lax) in #print axioms Avx2.CachedPoint_conditional_select_limb_spec

/-- info: 'Dalek.Props.C01.VecFormulas.Avx2.CachedPoint_conditional_assign_lanes' depends on axioms: [propext, Classical.choice, Quot.sound] -/
#guard_msgs (whitespace := lax) in #print axioms Avx2.CachedPoint_conditional_assign_lanes

/-- info: 'Dalek.Props.C01.VecFormulas.Avx2.CachedPoint_conditional_assign_limb_spec' depends on axioms: [propext, Classical.choice, Quot.sound] -/
#guard_msgs (whitespace := lax) in #print axioms Avx2.CachedPoint_conditional_assign_limb_spec

/-- info: 'Dalek.Props.C01.VecFormulas.Avx2.history_limb_spec' depends on axioms: [propext, Classical.choice, Quot.sound] -/
#guard_msgs (whitespace := lax) in #print axioms Avx2.history_limb_spec

/-- info: 'Dalek.Props.C01.VecFormulas.Avx2.program_limb_spec' depends on axioms: [propext, Classical.choice, Quot.sound] -/
#guard_msgs (whitespace := lax) in #print axioms Avx2.program_limb_spec

/-- info: 'Dalek.Props.C01.VecFormulas.Ifma.ExtendedPoint_from_EdwardsPoint_lanes' depends on axioms: [propext, Classical.choice, Quot.sound] -/
#guard_msgs (whitespace := lax) in #print axioms Ifma.ExtendedPoint_from_EdwardsPoint_lanes

/-- info: 'Dalek.Props.C01.VecFormulas.Ifma.ExtendedPoint_from_EdwardsPoint_limb_spec' depends on axioms: [propext, Classical.choice, Quot.sound] -/
#guard_msgs (whitespace := lax) in #print axioms Ifma.ExtendedPoint_from_EdwardsPoint_limb_spec

/-- info: 'Dalek.Props.C01.VecFormulas.Ifma.EdwardsPoint_from_ExtendedPoint_lanes' depends on axioms: [propext, Classical.choice, Quot.sound] -/
#guard_msgs (whitespace := lax) in #print axioms Ifma.EdwardsPoint_from_ExtendedPoint_lanes

/-- info: 'Dalek.Props.C01.VecFormulas.Ifma.EdwardsPoint_from_ExtendedPoint_limb_spec' depends on axioms: [propext, Classical.choice, Quot.sound] -/
#guard_msgs (whitespace := lax) in #print axioms Ifma.EdwardsPoint_from_ExtendedPoint_limb_spec

/-- info: 'Dalek.Props.C01.VecFormulas.Ifma.CachedPoint_from_ExtendedPoint_lanes' depends on axioms: [propext, Classical.choice, Quot.sound] -/
#guard_msgs (whitespace := lax) in #print axioms Ifma.CachedPoint_from_ExtendedPoint_lanes

/-- info: 'Dalek.Props.C01.VecFormulas.Ifma.CachedPoint_from_ExtendedPoint_limb_spec' depends on axioms: [propext, Classical.choice, Quot.sound] -/
#guard_msgs (whitespace := lax) in #print axioms Ifma.CachedPoint_from_ExtendedPoint_limb_spec

/-- info: 'Dalek.Props.C01.VecFormulas.Ifma.ExtendedPoint_double_lanes' depends on axioms: [propext, Classical.choice, Quot.sound] -/
#guard_msgs (whitespace := lax) in #print axioms Ifma.ExtendedPoint_double_lanes

/-- info: 'Dalek.Props.C01.VecFormulas.Ifma.ExtendedPoint_double_limb_spec' depends on axioms: [propext, Classical.choice, Quot.sound] -/
#guard_msgs (whitespace := lax) in #print axioms Ifma.ExtendedPoint_double_limb_spec

/-- info: 'Dalek.Props.C01.VecFormulas.Ifma.ExtendedPoint_mul_by_pow_2_body_lanes' depends on axioms: [propext, Classical.choice, Quot.sound] -/
#guard_msgs (whitespace := lax) in #print axioms Ifma.ExtendedPoint_mul_by_pow_2_body_lanes

/-- info: 'Dalek.Props.C01.VecFormulas.Ifma.ExtendedPoint_mul_by_pow_2_body_limb_spec' depends on axioms: [propext, Classical.choice, Quot.sound] -/
#guard_msgs (whitespace := lax) in #print axioms Ifma.ExtendedPoint_mul_by_pow_2_body_limb_spec

/-- info: 'Dalek.Props.C01.VecFormulas.Ifma.ExtendedPoint_add_CachedPoint_lanes' depends on axioms: [propext, Classical.choice, Quot.sound] -/
#guard_msgs (whitespace := lax) in #print axioms Ifma.ExtendedPoint_add_CachedPoint_lanes

/-- info: 'Dalek.Props.C01.VecFormulas.Ifma.ExtendedPoint_add_CachedPoint_limb_spec' depends on axioms: [propext, Classical.choice, Quot.sound] -/
#guard_msgs (whitespace := lax) in #print axioms Ifma.ExtendedPoint_add_CachedPoint_limb_spec

/-- info: 'Dalek.Props.C01.VecFormulas.Ifma.ExtendedPoint_sub_CachedPoint_lanes' depends on axioms: [propext, Classical.choice, Quot.sound] -/
#guard_msgs (whitespace := lax) in #print axioms Ifma.ExtendedPoint_sub_CachedPoint_lanes

/-- info: 'Dalek.Props.C01.VecFormulas.Ifma.ExtendedPoint_sub_CachedPoint_limb_spec' depends on axioms: [propext, Classical.choice, Quot.sound] -/
#guard_msgs (whitespace := lax) in #print axioms Ifma.ExtendedPoint_sub_CachedPoint_limb_spec

/-- info: 'Dalek.Props.C01.VecFormulas.Ifma.CachedPoint_neg_lanes' depends on axioms: [propext, Classical.choice, Quot.sound] -/
#guard_msgs (whitespace := lax) in #print axioms Ifma.CachedPoint_neg_lanes

/-- info: 'Dalek.Props.C01.VecFormulas.Ifma.CachedPoint_neg_limb_spec' depends on axioms: [propext, Classical.choice, Quot.sound] -/
#guard_msgs (whitespace := lax) in #print axioms Ifma.CachedPoint_neg_limb_spec

/-- info: 'Dalek.Props.C01.VecFormulas.Ifma.ExtendedPoint_identity_lanes' depends on axioms: [propext, Classical.choice, Quot.sound] -/
#guard_msgs (whitespace := lax) in #print axioms Ifma.ExtendedPoint_identity_lanes

/-- info: 'Dalek.Props.C01.VecFormulas.Ifma.ExtendedPoint_identity_limb_spec' depends on axioms: [propext, Classical.choice, Quot.sound] -/
#guard_msgs (whitespace := lax) in #print axioms Ifma.ExtendedPoint_identity_limb_spec

/-- info: 'Dalek.Props.C01.VecFormulas.Ifma.CachedPoint_identity_lanes' depends on axioms: [propext, Classical.choice, Quot.sound] -/
#guard_msgs (whitespace := lax) in #print axioms Ifma.CachedPoint_identity_lanes

/-- info: 'Dalek.Props.C01.VecFormulas.Ifma.CachedPoint_identity_limb_spec' depends on axioms: [propext, Classical.choice, Quot.sound] -/
#guard_msgs (whitespace := lax) in #print axioms Ifma.CachedPoint_identity_limb_spec

/-- info: 'Dalek.Props.C01.VecFormulas.Ifma.CachedPoint_conditional_select_lanes' depends on axioms: [propext, Classical.choice, Quot.sound] -/
#guard_msgs (whitespace := lax) in #print axioms Ifma.CachedPoint_conditional_select_lanes

/-- info: 'Dalek.Props.C01.VecFormulas.Ifma.CachedPoint_conditional_select_limb_spec' depends on axioms: [propext, Classical.choice, Quot.sound] -/
#guard_msgs (whitespace := lax) in #print axioms Ifma.CachedPoint_conditional_select_limb_spec

/-- info: 'Dalek.Props.C01.VecFormulas.Ifma.CachedPoint_conditional_assign_lanes' depends on axioms: [propext, Classical.choice, Quot.sound] -/
#guard_msgs (whitespace := lax) in #print axioms Ifma.CachedPoint_conditional_assign_lanes

/-- info: 'Dalek.Props.C01.VecFormulas.Ifma.CachedPoint_conditional_assign_limb_spec' depends on axioms: [propext, Classical.choice, Quot.sound] -/
#guard_msgs (whitespace := lax) in #print axioms Ifma.CachedPoint_conditional_assign_limb_spec

/-- info: 'Dalek.Props.C01.VecFormulas.Ifma.history_limb_spec' depends on axioms: [propext, Classical.choice, Quot.sound] -/
#guard_msgs (whitespace := lax) in #print axioms Ifma.history_limb_spec

/-- info: 'Dalek.Props.C01.VecFormulas.Ifma.program_limb_spec' depends on axioms: [propext, Classical.choice, Quot.sound] -/
#guard_msgs (whitespace := lax) in #print axioms Ifma.program_limb_spec

end Dalek.Props.C01.VecFormulas
