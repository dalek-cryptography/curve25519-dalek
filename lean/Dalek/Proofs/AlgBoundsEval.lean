import Dalek.Model.AlgBounds
import Dalek.IR.LimbPost
/-!
# The bound interpretation over an arbitrary kernel analysis

`Dalek.Model.AlgBounds.boundOps` calls the kernel analysis through `absK p I = (p.norm I).map (·.2)`.  Here the same
abstract domain is written with the analysis as a parameter `an`; with `an := absK` it is `boundOps` (`boundOpsOf_absK`),
and since `absK = Prog.post` (`absK_eq_post`) a `check` can be evaluated by the Lean kernel with `Prog.post`
(`Sig.ok_of_post`), the interval half of `Prog.norm` arranged for evaluation by the kernel (`Dalek/IR/LimbPost.lean`).  Mathlib-free.
-/
namespace Dalek.Model.AlgBounds
open Dalek.IR

variable (an : Prog → List Itv → AVal)

def absSeqOf : List Prog → List Itv → AVal
  | [], I => some I
  | p :: ps, I => (an p I).bind (absSeqOf ps)

def powFixOf (body : Prog) : Nat → List Itv → AVal
  | fuel, H =>
    match an body H with
    | none => none
    | some P =>
      if itvsLe P H then some P
      else match fuel with
        | 0 => none
        | f + 1 =>
          match joinV H P with
          | none => none
          | some J => if itvsLe H (widen J) then powFixOf body f (widen J) else none

def absBinOf (p : Prog) (a b : AVal) : AVal :=
  match a, b with
  | some x, some y => an p (x ++ y)
  | _, _ => none

def absUnOf (ps : List Prog) (a : AVal) : AVal :=
  match a with
  | some x => absSeqOf an ps x
  | none => none

def absEncOf (asBytes : Prog) (pre : List Itv) (x : List Itv) : Bool :=
  if itvsLe x pre then (an asBytes pre).isSome else (an asBytes x).isSome

def absPred1Of (asBytes : Prog) (pre : List Itv) (a : AVal) : AVal :=
  match a with
  | some x => if absEncOf an asBytes pre x then some choiceItv else none
  | none => none

def absPred2Of (asBytes : Prog) (pre : List Itv) (a b : AVal) : AVal :=
  match a, b with
  | some x, some y => if absEncOf an asBytes pre x && absEncOf an asBytes pre y then some choiceItv else none
  | _, _ => none

def absPowOf (body : Prog) (pre : List Itv) (x : List Itv) : AVal :=
  if itvsLe x pre then
    match an body pre with
    | some P => if itvsLe P pre then some P else powFixOf an body powFuel x
    | none => powFixOf an body powFuel x
  else powFixOf an body powFuel x

def boundOpsOf (B : Backend) : FOps AVal where
  add := absBinOf an B.add
  sub := absBinOf an B.sub
  mul := absBinOf an B.mul
  neg := absUnOf an [B.neg]
  square := absUnOf an B.square
  square2 := absUnOf an B.square2
  pow2k := fun a k => match a with
    | some x => if k = 0 then none else absPowOf an B.powBody B.powPre x
    | none => none
  const := fun i => (B.consts[i]?).map (fun l => l.map (fun n => ⟨n, n, 0⟩))
  ctEq := absPred2Of an B.asBytes B.asBytesPre
  isNeg := absPred1Of an B.asBytes B.asBytesPre
  isZero := absPred1Of an B.asBytes B.asBytesPre
  cand := absCh2
  cor := absCh2
  cxor := absCh2
  cnot := absCh1
  csel := absSel
  dflt := none

def checkOf (B : Backend) (F : AProg) (pre post : List (List Itv)) : Bool :=
  pre.length == F.nIn && allSome (arunBody (boundOpsOf an B) F.body (pre.map some)) &&
    outsLe (F.run (boundOpsOf an B) (pre.map some)) post

/-! ### with `absK` it is the interpretation of the model -/

theorem absSeqOf_absK : ∀ (ps : List Prog) (I : List Itv), absSeqOf absK ps I = absSeq ps I
  | [], _ => rfl
  | p :: ps, I => by
      simp only [absSeqOf, absSeq]
      cases absK p I with
      | none => rfl
      | some J => exact absSeqOf_absK ps J

theorem powFixOf_absK (body : Prog) : ∀ (fuel : Nat) (H : List Itv), powFixOf absK body fuel H = powFix body fuel H
  | 0, H => by unfold powFixOf powFix; rfl
  | f + 1, H => by
      unfold powFixOf powFix
      cases absK body H with
      | none => rfl
      | some P =>
        simp only []
        split
        · rfl
        · cases joinV H P with
          | none => rfl
          | some J => simp only [powFixOf_absK body f]

theorem absPowOf_absK (body : Prog) (pre x : List Itv) : absPowOf absK body pre x = absPow body pre x := by
  simp only [absPowOf, absPow, powFixOf_absK]
  rfl

theorem boundOpsOf_absK (B : Backend) : boundOpsOf absK B = boundOps B := by
  have hUn : ∀ ps, absUnOf absK ps = absUn ps := by
    intro ps; funext a; cases a <;> simp [absUnOf, absUn, absSeqOf_absK]
  have hP1 : ∀ p pre, absPred1Of absK p pre = absPred1 p pre := fun _ _ => rfl
  have hP2 : ∀ p pre, absPred2Of absK p pre = absPred2 p pre := fun _ _ => rfl
  have hBin : ∀ p, absBinOf absK p = absBin p := fun _ => rfl
  unfold boundOpsOf boundOps
  simp only [hUn, hP1, hP2, hBin, absPowOf_absK]
  rfl

theorem absK_eq_post : absK = Prog.post := by
  funext p I
  exact (Prog.post_eq p I).symm

theorem check_eq_post (B : Backend) (F : AProg) (pre post : List (List Itv)) :
    check B F pre post = checkOf Prog.post B F pre post := by
  rw [← absK_eq_post]
  simp only [checkOf, check, boundOpsOf_absK]

/-- a formula passes `check` if it passes it with `Prog.post` as the kernel analysis -/
theorem Sig.ok_of_post {B : Backend} {s : Sig} (h : checkOf Prog.post B s.F s.pre s.post = true) : s.ok B = true := by
  rw [Sig.ok, check_eq_post]
  exact h

/-- every formula of a table passes `check` if the table passes it with `Prog.post` (one closed Boolean) -/
theorem sigs_ok_of_post {B : Backend} {tbl : List Sig}
    (h : tbl.all (fun s => checkOf Prog.post B s.F s.pre s.post) = true) : ∀ s ∈ tbl, s.ok B = true :=
  fun s hs => Sig.ok_of_post (List.all_eq_true.1 h s hs)

end Dalek.Model.AlgBounds
