/-
Helpers for property C16 about `Dalek.Model.Serde`: the native validity rule `validate` per type
(reduced to the decode specifications through the bridge library), the bincode codec, and the JSON codec
at the level of byte lists (on top of `SerdeJson` / `SerdeJsonArray`).
-/
import Dalek.Proofs.SerdeJsonArray
import Dalek.Proofs.SerdeRistretto
import Dalek.Proofs.SpecBridge
import Mathlib.Tactic.NormNum

namespace Dalek.Proofs.Serde
open Dalek.Spec Dalek.Model.Serde Dalek.Bridge

/-! ## The native validity rule -/

/-- Types whose native decoder accepts every byte string of the right length
(`CompressedEdwardsY`, `CompressedRistretto`, `MontgomeryPoint`, `SigningKey` (seed),
`ed25519::Signature`, `x25519::PublicKey`, `x25519::StaticSecret`). -/
def Plain : Ty → Bool
  | .cedwards | .cristretto | .montgomery | .sk | .sig | .xpub | .xstatic => true
  | _ => false

/-- `v` is the canonical native byte string of a valid value of type `ty`: the native decoder accepts it
and re-encoding gives it back. -/
def Valid (ty : Ty) (v : List UInt8) : Prop := validate ty v = some v

/-- the per-type part of `validate` -/
def rule : Ty → List UInt8 → Option (List UInt8)
  | .scalar, b => if isCanonicalScalar b then some b else none
  | .edwards, b => (decompress b).map compress
  | .ristretto, b => (Ristretto.decode b).map Ristretto.encode
  | .vk, b => (decompress b).map fun _ => b
  | _, b => some b

theorem validate_eq (ty : Ty) (b : List UInt8) :
    validate ty b = if b.length != ty.len then none else rule ty b := by
  unfold validate
  cases ty <;> rfl

/-- `validate` is the length check followed by the per-type rule; the per-type lemmas below read this off
for each `rule`. -/
theorem validate_eq_some {ty : Ty} {b v : List UInt8} :
    validate ty b = some v ↔ b.length = ty.len ∧ rule ty b = some v := by
  rw [validate_eq]
  by_cases hl : b.length = ty.len <;> simp [hl]

theorem validate_length {ty : Ty} {b v : List UInt8} (h : validate ty b = some v) :
    b.length = ty.len := (validate_eq_some.1 h).1

theorem validate_of_length {ty : Ty} {b : List UInt8} (hl : b.length = ty.len) :
    validate ty b = rule ty b := by
  rw [validate_eq]; simp [hl]

theorem validate_bad_length {ty : Ty} {b : List UInt8} (hl : b.length ≠ ty.len) :
    validate ty b = none := by
  rw [validate_eq]; simp [hl]

theorem validate_scalar {b v : List UInt8} :
    validate .scalar b = some v ↔ isCanonicalScalar b = true ∧ v = b := by
  rw [validate_eq_some]
  have := fun h => ((isCanonicalScalar_iff b).1 h).1
  simp only [rule, Option.ite_none_right_eq_some, Option.some.injEq, eq_comm (a := b)]
  exact ⟨fun h => h.2, fun h => ⟨this h.1, h⟩⟩

theorem validate_edwards {b v : List UInt8} :
    validate .edwards b = some v ↔ b.length = 32 ∧ ∃ p, decompress b = some p ∧ v = compress p := by
  rw [validate_eq_some]
  simp only [rule, Option.map_eq_some_iff, eq_comm (a := v)]
  rfl

theorem validate_vk {b v : List UInt8} :
    validate .vk b = some v ↔ b.length = 32 ∧ (decompress b).isSome = true ∧ v = b := by
  rw [validate_eq_some]
  simp only [rule, Option.map_eq_some_iff, Option.isSome_iff_exists, exists_and_right, eq_comm (a := v)]
  rfl

theorem decode_length {b : List UInt8} {p : Pt} (h : Ristretto.decode b = some p) : b.length = 32 := by
  unfold Ristretto.decode at h
  by_cases hl : b.length = 32
  · exact hl
  · have : (b.length != 32) = true := by simpa using hl
    simp [this] at h

theorem validate_ristretto {b v : List UInt8} :
    validate .ristretto b = some v ↔ ∃ p, Ristretto.decode b = some p ∧ v = Ristretto.encode p := by
  rw [validate_eq_some]
  simp only [rule, Option.map_eq_some_iff, eq_comm (a := v)]
  exact ⟨fun h => h.2, fun ⟨p, hp, hv⟩ => ⟨decode_length hp, p, hp, hv⟩⟩

theorem validate_plain {ty : Ty} (hty : Plain ty = true) {b v : List UInt8} :
    validate ty b = some v ↔ b.length = ty.len ∧ v = b := by
  rw [validate_eq_some]
  cases ty <;> simp [Plain] at hty <;> simp only [rule, Option.some.injEq, eq_comm (a := b)]

/-- With the RFC 9496 round trip (`ristretto_encode_decode`): the Ristretto rule returns its input. -/
theorem validate_ristretto_eq {b v : List UInt8} :
    validate .ristretto b = some v ↔ (Ristretto.decode b).isSome = true ∧ v = b := by
  rw [validate_ristretto]
  constructor
  · rintro ⟨p, hp, rfl⟩
    exact ⟨by simp [hp], ristretto_encode_decode hp⟩
  · rintro ⟨hp, rfl⟩
    obtain ⟨p, hp⟩ := Option.isSome_iff_exists.1 hp
    exact ⟨p, hp, (ristretto_encode_decode hp).symm⟩

/-! ### `Valid` per type -/

theorem valid_scalar {v : List UInt8} : Valid .scalar v ↔ isCanonicalScalar v = true := by
  unfold Valid; rw [validate_scalar]; simp

/-- the valid `EdwardsPoint` values are the encodings `compress p` of the canonical curve points -/
theorem valid_edwards {v : List UInt8} :
    Valid .edwards v ↔ ∃ p, onCurve p = true ∧ Canon p ∧ v = compress p := by
  unfold Valid; rw [validate_edwards]
  constructor
  · rintro ⟨-, p, hp, hv⟩
    obtain ⟨h1, h2, -⟩ := decompress_some hp
    exact ⟨p, h1, h2, hv⟩
  · rintro ⟨p, h1, h2, rfl⟩
    exact ⟨compress_length p, p, decompress_compress h1 h2, rfl⟩

/-- `VerifyingKey::from_bytes`: 32 bytes that decompress (the key keeps the bytes as given) -/
theorem valid_vk {v : List UInt8} : Valid .vk v ↔ v.length = 32 ∧ (decompress v).isSome = true := by
  unfold Valid; rw [validate_vk]; simp

/-- the valid `RistrettoPoint` byte strings are those RFC 9496 DECODE accepts -/
theorem valid_ristretto {v : List UInt8} :
    Valid .ristretto v ↔ (Ristretto.decode v).isSome = true := by
  unfold Valid; rw [validate_ristretto_eq]; simp

theorem valid_plain {ty : Ty} (hty : Plain ty = true) {v : List UInt8} :
    Valid ty v ↔ v.length = ty.len := by
  unfold Valid; rw [validate_plain hty]; simp

theorem Valid.length {ty : Ty} {v : List UInt8} (h : Valid ty v) : v.length = ty.len :=
  validate_length h

/-- The result of the native rule is a valid value. -/
theorem validate_valid {ty : Ty} {b v : List UInt8}
    (h : validate ty b = some v) : Valid ty v := by
  cases ty with
  | ristretto => obtain ⟨hp, rfl⟩ := validate_ristretto_eq.1 h; exact valid_ristretto.2 hp
  | scalar => obtain ⟨hc, rfl⟩ := validate_scalar.1 h; exact valid_scalar.2 hc
  | edwards =>
    obtain ⟨-, p, hp, rfl⟩ := validate_edwards.1 h
    obtain ⟨h1, h2, -⟩ := decompress_some hp
    exact valid_edwards.2 ⟨p, h1, h2, rfl⟩
  | vk => obtain ⟨hl, hp, rfl⟩ := validate_vk.1 h; exact valid_vk.2 ⟨hl, hp⟩
  | _ => obtain ⟨hl, rfl⟩ := (validate_plain (by rfl)).1 h; exact (valid_plain (by rfl)).2 hl

/-- For every type except `edwards` (whose decoder also accepts non-canonical encodings and whose value is
re-encoded) the native rule returns its input unchanged. -/
theorem validate_eq_input {ty : Ty} (h1 : ty ≠ .edwards) {b v : List UInt8}
    (h : validate ty b = some v) : v = b := by
  cases ty with
  | ristretto => exact (validate_ristretto_eq.1 h).2
  | edwards => exact absurd rfl h1
  | scalar => exact (validate_scalar.1 h).2
  | vk => exact (validate_vk.1 h).2.2
  | _ => exact ((validate_plain (by rfl)).1 h).2

/-- So, except for `edwards`, the native rule is the identity on the valid values and rejects the rest. -/
theorem validate_iff_valid {ty : Ty} (h1 : ty ≠ .edwards) {b v : List UInt8} :
    validate ty b = some v ↔ Valid ty v ∧ v = b :=
  ⟨fun h => ⟨validate_valid h, validate_eq_input h1 h⟩, fun ⟨hv, hb⟩ => hb ▸ hv⟩

/-- A 32-byte string is a CANONICAL Edwards encoding: the 255-bit `y` is reduced and it is not the
"negative zero" (`x = 0` with bit 255 set).  `decompress` (dalek, like RFC 8032 libraries in the
non-strict mode) also accepts the non-canonical ones. -/
def CanonicalEdwardsEncoding (b : List UInt8) : Prop :=
  leToNat b % 2 ^ 255 < P ∧ ∀ p, decompress b = some p → ¬ (p.x = 0 ∧ signBit b = true)

/-- On canonical encodings the Edwards rule returns its input unchanged. -/
theorem validate_edwards_canonical {b v : List UInt8} (h : validate .edwards b = some v)
    (hc : CanonicalEdwardsEncoding b) : v = b := by
  obtain ⟨hl, p, hp, rfl⟩ := validate_edwards.1 h
  exact compress_decompress hl hc.1 hp (hc.2 p hp)

/-- The valid `EdwardsPoint` byte strings are canonical encodings. -/
theorem Valid.canonicalEdwards {v : List UInt8} (h : Valid .edwards v) : CanonicalEdwardsEncoding v := by
  obtain ⟨p, h1, h2, rfl⟩ := valid_edwards.1 h
  constructor
  · unfold compress
    rw [leToNat_setSignBit (feToBytes_length _) (leToNat_feToBytes_lt_255 _), leToNat_feToBytes]
    have := Nat.mod_lt p.y P_pos
    have hP := P_lt_255
    cases isNeg p.x
    · simp only [Bool.false_eq_true, if_false, Nat.add_zero]
      rw [Nat.mod_eq_of_lt (by omega)]; exact this
    · simp only [if_true, Nat.add_mod_right]
      rw [Nat.mod_eq_of_lt (by omega)]; exact this
  · intro q hq
    rw [decompress_compress h1 h2] at hq
    cases hq
    rintro ⟨hx, hs⟩
    rw [signBit_compress, hx, isNeg_zero] at hs
    cases hs

/-! ## bincode -/

theorem bincodeSer_plain {ty : Ty} (hty : ty.bytesStyle = false) (v : List UInt8) :
    bincodeSer ty v = v := by
  unfold bincodeSer; simp [hty]

theorem bincodeSer_bytes {ty : Ty} (hty : ty.bytesStyle = true) (v : List UInt8) :
    bincodeSer ty v = natToLe v.length 8 ++ v := by
  unfold bincodeSer; simp [hty]

theorem bytesStyle_len {ty : Ty} (hty : ty.bytesStyle = true) : ty.len = 32 := by
  cases ty <;> simp [Ty.bytesStyle] at hty <;> rfl

theorem bincodeDe_plain_eq {ty : Ty} (hty : ty.bytesStyle = false) (x : List UInt8) :
    bincodeDe ty x =
      if x.length < ty.len then .err else ofOption (validate ty (x.take ty.len)) := by
  unfold bincodeDe; rw [hty]; rfl

theorem bincodeDe_bytes_eq {ty : Ty} (hty : ty.bytesStyle = true) (x : List UInt8) :
    bincodeDe ty x =
      if x.length < 8 then .err
      else if (x.drop 8).length < leToNat (x.take 8) then .err
      else ofOption (validate ty ((x.drop 8).take (leToNat (x.take 8)))) := by
  unfold bincodeDe; rw [hty]; rfl

/-- **Evaluation of `bincodeDe`** on the serialisation of `b` (of the right length) followed by
arbitrary trailing bytes. -/
theorem bincodeDe_ser_append (ty : Ty) {b : List UInt8} (hl : b.length = ty.len) (t : List UInt8) :
    bincodeDe ty (bincodeSer ty b ++ t) = ofOption (validate ty b) := by
  cases hty : ty.bytesStyle
  · rw [bincodeSer_plain hty, bincodeDe_plain_eq hty]
    have h1 : ¬ (b ++ t).length < ty.len := by simp [hl]
    rw [if_neg h1, ← hl, List.take_left]
  · have hl' : b.length = 32 := by rw [hl, bytesStyle_len hty]
    rw [bincodeSer_bytes hty, bincodeDe_bytes_eq hty, hl', List.append_assoc]
    have h8 : (natToLe 32 8).length = 8 := natToLe_length _ _
    have h1 : ¬ (natToLe 32 8 ++ (b ++ t)).length < 8 := by rw [List.length_append, h8]; omega
    have h2 : List.take 8 (natToLe 32 8 ++ (b ++ t)) = natToLe 32 8 := List.take_left' h8
    have h3 : List.drop 8 (natToLe 32 8 ++ (b ++ t)) = b ++ t := List.drop_left' h8
    have h4 : leToNat (natToLe 32 8) = 32 := by rw [leToNat_natToLe]; norm_num
    rw [if_neg h1, h2, h3, h4]
    have h5 : ¬ (b ++ t).length < 32 := by simp [hl']
    rw [if_neg h5, ← hl', List.take_left]

/-- **Inversion of `bincodeDe`**: the accepted inputs are exactly the serialisations of byte strings that
pass the native rule, followed by arbitrary bytes. -/
theorem bincodeDe_ok_iff {ty : Ty} {x v : List UInt8} :
    bincodeDe ty x = .ok v ↔ ∃ b t, x = bincodeSer ty b ++ t ∧ validate ty b = some v := by
  constructor
  · intro h
    cases hty : ty.bytesStyle
    · rw [bincodeDe_plain_eq hty] at h
      by_cases h1 : x.length < ty.len
      · rw [if_pos h1] at h; cases h
      · rw [if_neg h1] at h
        refine ⟨x.take ty.len, x.drop ty.len, ?_, ofOption_eq_ok.1 h⟩
        rw [bincodeSer_plain hty, List.take_append_drop]
    · rw [bincodeDe_bytes_eq hty] at h
      by_cases h1 : x.length < 8
      · rw [if_pos h1] at h; cases h
      · rw [if_neg h1] at h
        by_cases h2 : (x.drop 8).length < leToNat (x.take 8)
        · rw [if_pos h2] at h; cases h
        · rw [if_neg h2] at h
          have hv := ofOption_eq_ok.1 h
          have hl := validate_length hv
          rw [bytesStyle_len hty] at hl
          have hn : leToNat (x.take 8) = 32 := by
            rw [List.length_take] at hl; omega
          rw [hn] at hv
          refine ⟨(x.drop 8).take 32, (x.drop 8).drop 32, ?_, hv⟩
          have hl8 : (x.take 8).length = 8 := by rw [List.length_take]; omega
          have h8 : x.take 8 = natToLe 32 8 := by
            rw [← natToLe_leToNat (x.take 8), hn, hl8]
          rw [bincodeSer_bytes hty, List.length_take, List.append_assoc, List.take_append_drop]
          have : min 32 (x.drop 8).length = 32 := by omega
          rw [this, ← h8, List.take_append_drop]
  · rintro ⟨b, t, rfl, hv⟩
    rw [bincodeDe_ser_append ty (validate_length hv), hv]; rfl

theorem bincodeDe_ne_skip (ty : Ty) (x : List UInt8) : bincodeDe ty x ≠ .skip := by
  cases hty : ty.bytesStyle
  · rw [bincodeDe_plain_eq hty]
    split
    · simp
    · exact ofOption_ne_skip _
  · rw [bincodeDe_bytes_eq hty]
    split
    · simp
    · split
      · simp
      · exact ofOption_ne_skip _

/-- Short input is rejected (tuple types: fewer than `len` bytes). -/
theorem bincodeDe_short_plain {ty : Ty} (hty : ty.bytesStyle = false) {x : List UInt8}
    (h : x.length < ty.len) : bincodeDe ty x = .err := by
  rw [bincodeDe_plain_eq hty, if_pos h]

/-- Short input is rejected (`serialize_bytes` types: fewer than `8 + 32` bytes). -/
theorem bincodeDe_short_bytes {ty : Ty} (hty : ty.bytesStyle = true) {x : List UInt8}
    (h : x.length < 40) : bincodeDe ty x = .err := by
  cases hd : bincodeDe ty x with
  | err => rfl
  | skip => exact absurd hd (bincodeDe_ne_skip ty x)
  | ok v =>
    exfalso
    obtain ⟨b, t, rfl, hv⟩ := bincodeDe_ok_iff.1 hd
    have hl := validate_length hv
    rw [bytesStyle_len hty] at hl
    rw [bincodeSer_bytes hty] at h
    simp [hl] at h
    omega

/-! ## JSON at the level of byte lists -/

/-- `x` is a JSON array of the bytes `b` in canonical decimal notation, with optional whitespace
wherever JSON allows it: `ws [ ws n₀ (ws , ws nᵢ)* ws ] ws`. -/
def IsJsonArrayOf (b x : List UInt8) : Prop :=
  ∃ b0 bs w0 w1 pads w2 w3, b = b0 :: bs ∧ AllWs w0 ∧ AllWs w1 ∧ AllWs w2 ∧ AllWs w3 ∧ PadsWs pads ∧
    pads.length = bs.length ∧
    x = arrayText w0 w1 (natToDec b0.toNat) pads (bs.map fun c => natToDec c.toNat) w2 w3

theorem intercalate_eq_restText (x : List UInt8) (xs : List (List UInt8)) :
    intercalateBytes 0x2c (x :: xs) = x ++ restText (xs.map fun _ => ([], [])) xs := by
  induction xs generalizing x with
  | nil => simp [intercalateBytes, restText]
  | cons y ys ih =>
    rw [intercalateBytes, ih y]
    · simp [restText]
    · intro h; cases h

theorem jsonSer_cons (ty : Ty) (b0 : UInt8) (bs : List UInt8) :
    jsonSer ty (b0 :: bs) =
      arrayText [] [] (natToDec b0.toNat) (bs.map fun _ => ([], []))
        (bs.map fun c => natToDec c.toNat) [] [] := by
  unfold jsonSer arrayText
  rw [List.map_cons, intercalate_eq_restText, List.map_map]
  simp only [List.nil_append, List.cons_append, List.append_assoc]
  rfl

theorem jsonSer_nil (ty : Ty) : jsonSer ty [] = [0x5b, 0x5d] := by
  simp [jsonSer, intercalateBytes]

theorem jsonSer_isJsonArrayOf (ty : Ty) {b : List UInt8} (hb : b ≠ []) :
    IsJsonArrayOf b (jsonSer ty b) := by
  obtain ⟨b0, bs, rfl⟩ := List.exists_cons_of_ne_nil hb
  refine ⟨b0, bs, [], [], bs.map fun _ => ([], []), [], [], rfl, allWs_nil, allWs_nil, allWs_nil,
    allWs_nil, ?_, by simp, ?_⟩
  · intro p hp
    simp only [List.mem_map] at hp
    obtain ⟨_, -, rfl⟩ := hp
    exact ⟨allWs_nil, allWs_nil⟩
  · rw [jsonSer_cons]

/-- **Evaluation of `jsonDe` on JSON arrays of bytes**: exactly `ty.len` elements are required, then the
native rule decides. -/
theorem jsonDe_of_isJsonArrayOf (ty : Ty) {b x : List UInt8} (h : IsJsonArrayOf b x) :
    jsonDe ty x = if b.length = ty.len then ofOption (validate ty b) else .err := by
  obtain ⟨b0, bs, w0, w1, pads, w2, w3, rfl, h0, h1, h2, h3, hp, hlen, rfl⟩ := h
  rw [jsonDe_arrayText ty h0 h1 h2 h3 hp (by simpa using hlen) (isDigits_natToDec (UInt8.toNat_lt b0))]
  · have hmap : ((natToDec b0.toNat) :: bs.map fun c => natToDec c.toNat).map tokByte = b0 :: bs := by
      rw [List.map_cons, tokByte_natToDec, List.map_map]
      congr 1
      conv => rhs; rw [← List.map_id bs]
      apply List.map_congr_left
      intro c _
      exact tokByte_natToDec c
    have hall : ∀ t ∈ natToDec b0.toNat :: bs.map fun c => natToDec c.toNat, TokOK t := by
      intro t ht
      rcases List.mem_cons.1 ht with rfl | ht
      · exact tokOK_natToDec (UInt8.toNat_lt b0)
      · simp only [List.mem_map] at ht
        obtain ⟨c, -, rfl⟩ := ht
        exact tokOK_natToDec (UInt8.toNat_lt c)
    rw [hmap]
    simp only [List.length_map, List.length_cons]
    by_cases hl : bs.length + 1 = ty.len
    · rw [if_pos ⟨hl, hall⟩, if_pos hl]
    · rw [if_neg (fun h => hl h.1), if_neg hl]
  · intro t ht
    simp only [List.mem_map] at ht
    obtain ⟨c, -, rfl⟩ := ht
    exact isDigits_natToDec (UInt8.toNat_lt c)

/-- `jsonDe` on the compact serialisation of ANY byte list. -/
theorem jsonDe_ser (ty : Ty) (b : List UInt8) :
    jsonDe ty (jsonSer ty b) = if b.length = ty.len then ofOption (validate ty b) else .err := by
  by_cases hb : b = []
  · subst hb
    obtain ⟨n, hn⟩ := ty_len_pos ty
    have : ¬ ([] : List UInt8).length = ty.len := by rw [hn]; simp
    rw [if_neg this, jsonSer_nil]
    exact jsonDe_empty_array ty (w0 := []) (w1 := []) allWs_nil allWs_nil []
  · exact jsonDe_of_isJsonArrayOf ty (jsonSer_isJsonArrayOf ty hb)

/-- **The language accepted by `jsonDe`.** -/
theorem jsonDe_ok_iff {ty : Ty} {x v : List UInt8} :
    jsonDe ty x = .ok v ↔
      (∃ b, IsJsonArrayOf b x ∧ validate ty b = some v) ∨
      (ty.bytesStyle = true ∧ ∃ b, IsJsonStringOf b x ∧ validate ty b = some v) := by
  constructor
  · intro h
    rcases jsonDe_ok_inv h with ⟨w0, w1, t0, pads, toks, w2, w3, h0, h1, h2, h3, hp, hlen, -, htoks, rfl, hv⟩ | h
    · left
      refine ⟨(t0 :: toks).map tokByte, ⟨tokByte t0, toks.map tokByte, w0, w1, pads, w2, w3, rfl, h0, h1,
        h2, h3, hp, by simpa using hlen, ?_⟩, hv⟩
      have e0 : natToDec (tokByte t0).toNat = t0 :=
        natToDec_tokByte (htoks t0 (by simp)).1 (htoks t0 (by simp)).2
      have e1 : (toks.map tokByte).map (fun c => natToDec c.toNat) = toks := by
        rw [List.map_map]
        conv => rhs; rw [← List.map_id toks]
        apply List.map_congr_left
        intro t ht
        exact natToDec_tokByte (htoks t (List.mem_cons_of_mem _ ht)).1
          (htoks t (List.mem_cons_of_mem _ ht)).2
      rw [e0, e1]
    · right; exact h
  · rintro (⟨b, hb, hv⟩ | ⟨hty, b, hb, hv⟩)
    · rw [jsonDe_of_isJsonArrayOf ty hb, if_pos (validate_length hv), hv]; rfl
    · rw [jsonDe_string hty hb, hv]; rfl

/-- **Both deserialisers, for every type whose native rule returns its input** (all but `edwards`): accepted
are exactly the serialisations of the valid values — bincode followed by arbitrary bytes, JSON as an array with
optional whitespace or, for the `deserialize_bytes` types, as a string — and the value is returned. -/
theorem de_ok_iff {ty : Ty} (h1 : ty ≠ .edwards) {x v : List UInt8} :
    (bincodeDe ty x = .ok v ↔ Valid ty v ∧ ∃ t, x = bincodeSer ty v ++ t) ∧
    (jsonDe ty x = .ok v ↔
      Valid ty v ∧ (IsJsonArrayOf v x ∨ (ty.bytesStyle = true ∧ IsJsonStringOf v x))) := by
  simp only [bincodeDe_ok_iff, jsonDe_ok_iff, validate_iff_valid h1]
  constructor
  · exact ⟨by rintro ⟨_, t, hx, hv, rfl⟩; exact ⟨hv, t, hx⟩, fun ⟨hv, t, hx⟩ => ⟨v, t, hx, hv, rfl⟩⟩
  · constructor
    · rintro (⟨_, hx, hv, rfl⟩ | ⟨hs, _, hx, hv, rfl⟩)
      · exact ⟨hv, Or.inl hx⟩
      · exact ⟨hv, Or.inr ⟨hs, hx⟩⟩
    · rintro ⟨hv, hx | ⟨hs, hx⟩⟩
      · exact Or.inl ⟨v, hx, hv, rfl⟩
      · exact Or.inr ⟨hs, v, hx, hv, rfl⟩

/-- `skip` (input outside the modelled fragment) is answered only for the `deserialize_bytes` types on a
JSON string containing a `\u` escape. -/
theorem jsonDe_skip_inv {ty : Ty} {x : List UInt8} (h : jsonDe ty x = .skip) :
    ty.bytesStyle = true ∧ ∃ w0 body, AllWs w0 ∧ x = w0 ++ 0x22 :: body ∧
      readRawString body [] = some none := by
  obtain ⟨w0, h0, hx, -⟩ := skipWs_spec x
  rw [jsonDe_eq] at h
  cases hk : skipWs x with
  | nil => rw [hk] at h; cases h
  | cons c body =>
    rw [hk] at h hx
    simp only at h
    split at h
    · exact absurd h (finishArr_ne_skip _ _)
    · split at h
      · rename_i hq
        obtain ⟨rfl, hbs⟩ := hq
        exact ⟨hbs, w0, body, h0, hx, finishStr_skip h⟩
      · cases h

end Dalek.Proofs.Serde
