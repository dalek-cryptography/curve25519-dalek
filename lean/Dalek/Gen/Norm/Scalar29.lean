import Dalek.Model.Contracts
import Dalek.IR.NormSpec
import Dalek.IR.Tactics
/-! GENERATED by tools/GenNorm.lean from the current /repo sources; do not edit. -/
namespace Dalek.Gen.Norm.Scalar29
open Dalek.IR

def from_bytes_post : List Itv := [⟨0, 536870911, 0⟩, ⟨0, 536870911, 0⟩, ⟨0, 536870911, 0⟩, ⟨0, 536870911, 0⟩, ⟨0, 536870911, 0⟩, ⟨0, 536870911, 0⟩, ⟨0, 536870911, 0⟩, ⟨0, 536870911, 0⟩, ⟨0, 16777215, 0⟩]

def from_bytes_nprog : NProg := Prog.normProg Dalek.Gen.Scalar29.from_bytes Dalek.Model.Contracts.Scalar29.pre_from_bytes

theorem from_bytes_norm_ok : Prog.norm Dalek.Gen.Scalar29.from_bytes Dalek.Model.Contracts.Scalar29.pre_from_bytes = some (from_bytes_nprog, from_bytes_post) :=
  Prog.norm_eq_of_post (by decide +kernel)

def from_bytes_fn (x0 x1 x2 x3 x4 x5 x6 x7 x8 x9 x10 x11 x12 x13 x14 x15 x16 x17 x18 x19 x20 x21 x22 x23 x24 x25 x26 x27 x28 x29 x30 x31 : Int) : List Int :=
  let x32 : Int := ((0 : Int) + (x0 * (1 : Int)))
  let x33 : Int := (x32 + (x1 * (256 : Int)))
  let x34 : Int := (x33 + (x2 * (65536 : Int)))
  let x35 : Int := (x34 + (x3 * (16777216 : Int)))
  let x36 : Int := ((0 : Int) + (x4 * (1 : Int)))
  let x37 : Int := (x36 + (x5 * (256 : Int)))
  let x38 : Int := (x37 + (x6 * (65536 : Int)))
  let x39 : Int := (x38 + (x7 * (16777216 : Int)))
  let x40 : Int := ((0 : Int) + (x8 * (1 : Int)))
  let x41 : Int := (x40 + (x9 * (256 : Int)))
  let x42 : Int := (x41 + (x10 * (65536 : Int)))
  let x43 : Int := (x42 + (x11 * (16777216 : Int)))
  let x44 : Int := ((0 : Int) + (x12 * (1 : Int)))
  let x45 : Int := (x44 + (x13 * (256 : Int)))
  let x46 : Int := (x45 + (x14 * (65536 : Int)))
  let x47 : Int := (x46 + (x15 * (16777216 : Int)))
  let x48 : Int := ((0 : Int) + (x16 * (1 : Int)))
  let x49 : Int := (x48 + (x17 * (256 : Int)))
  let x50 : Int := (x49 + (x18 * (65536 : Int)))
  let x51 : Int := (x50 + (x19 * (16777216 : Int)))
  let x52 : Int := ((0 : Int) + (x20 * (1 : Int)))
  let x53 : Int := (x52 + (x21 * (256 : Int)))
  let x54 : Int := (x53 + (x22 * (65536 : Int)))
  let x55 : Int := (x54 + (x23 * (16777216 : Int)))
  let x56 : Int := ((0 : Int) + (x24 * (1 : Int)))
  let x57 : Int := (x56 + (x25 * (256 : Int)))
  let x58 : Int := (x57 + (x26 * (65536 : Int)))
  let x59 : Int := (x58 + (x27 * (16777216 : Int)))
  let x60 : Int := ((0 : Int) + (x28 * (1 : Int)))
  let x61 : Int := (x60 + (x29 * (256 : Int)))
  let x62 : Int := (x61 + (x30 * (65536 : Int)))
  let x63 : Int := (x62 + (x31 * (16777216 : Int)))
  let x64 : Int := (x35 % 2 ^ (29 : Nat))
  let x65 : Int := (((x35 / 2 ^ (29 : Nat)) + ((x39 * (8 : Int)) % 2 ^ (32 : Nat))) % 2 ^ (29 : Nat))
  let x66 : Int := (((x39 / 2 ^ (26 : Nat)) + ((x43 * (64 : Int)) % 2 ^ (32 : Nat))) % 2 ^ (29 : Nat))
  let x67 : Int := (((x43 / 2 ^ (23 : Nat)) + ((x47 * (512 : Int)) % 2 ^ (32 : Nat))) % 2 ^ (29 : Nat))
  let x68 : Int := (((x47 / 2 ^ (20 : Nat)) + ((x51 * (4096 : Int)) % 2 ^ (32 : Nat))) % 2 ^ (29 : Nat))
  let x69 : Int := (((x51 / 2 ^ (17 : Nat)) + ((x55 * (32768 : Int)) % 2 ^ (32 : Nat))) % 2 ^ (29 : Nat))
  let x70 : Int := (((x55 / 2 ^ (14 : Nat)) + ((x59 * (262144 : Int)) % 2 ^ (32 : Nat))) % 2 ^ (29 : Nat))
  let x71 : Int := (((x59 / 2 ^ (11 : Nat)) + ((x63 * (2097152 : Int)) % 2 ^ (32 : Nat))) % 2 ^ (29 : Nat))
  let x72 : Int := (x63 / 2 ^ (8 : Nat))
  [x64, x65, x66, x67, x68, x69, x70, x71, x72]

theorem from_bytes_fn_ok (x0 x1 x2 x3 x4 x5 x6 x7 x8 x9 x10 x11 x12 x13 x14 x15 x16 x17 x18 x19 x20 x21 x22 x23 x24 x25 x26 x27 x28 x29 x30 x31 : Int) : NProg.evalZ from_bytes_nprog [x0, x1, x2, x3, x4, x5, x6, x7, x8, x9, x10, x11, x12, x13, x14, x15, x16, x17, x18, x19, x20, x21, x22, x23, x24, x25, x26, x27, x28, x29, x30, x31] = from_bytes_fn x0 x1 x2 x3 x4 x5 x6 x7 x8 x9 x10 x11 x12 x13 x14 x15 x16 x17 x18 x19 x20 x21 x22 x23 x24 x25 x26 x27 x28 x29 x30 x31 :=
  (NProg.evalZ_eq_fast _ _).trans (by kernel_rfl)

def as_bytes_post : List Itv := [⟨0, 255, 0⟩, ⟨0, 255, 0⟩, ⟨0, 255, 0⟩, ⟨0, 255, 0⟩, ⟨0, 255, 0⟩, ⟨0, 255, 0⟩, ⟨0, 255, 0⟩, ⟨0, 255, 0⟩, ⟨0, 255, 0⟩, ⟨0, 255, 0⟩, ⟨0, 255, 0⟩, ⟨0, 255, 0⟩, ⟨0, 255, 0⟩, ⟨0, 255, 0⟩, ⟨0, 255, 0⟩, ⟨0, 255, 0⟩, ⟨0, 255, 0⟩, ⟨0, 255, 0⟩, ⟨0, 255, 0⟩, ⟨0, 255, 0⟩, ⟨0, 255, 0⟩, ⟨0, 255, 0⟩, ⟨0, 255, 0⟩, ⟨0, 255, 0⟩, ⟨0, 255, 0⟩, ⟨0, 255, 0⟩, ⟨0, 255, 0⟩, ⟨0, 255, 0⟩, ⟨0, 255, 0⟩, ⟨0, 255, 0⟩, ⟨0, 255, 0⟩, ⟨0, 255, 0⟩]

def as_bytes_nprog : NProg := Prog.normProg Dalek.Gen.Scalar29.as_bytes Dalek.Model.Contracts.Scalar29.pre_as_bytes

theorem as_bytes_norm_ok : Prog.norm Dalek.Gen.Scalar29.as_bytes Dalek.Model.Contracts.Scalar29.pre_as_bytes = some (as_bytes_nprog, as_bytes_post) :=
  Prog.norm_eq_of_post (by decide +kernel)

def as_bytes_fn (x0 x1 x2 x3 x4 x5 x6 x7 x8 : Int) : List Int :=
  let x9 : Int := ((x0 / 2 ^ (0 : Nat)) % 2 ^ (8 : Nat))
  let x10 : Int := ((x0 / 2 ^ (8 : Nat)) % 2 ^ (8 : Nat))
  let x11 : Int := ((x0 / 2 ^ (16 : Nat)) % 2 ^ (8 : Nat))
  let x12 : Int := (((x0 / 2 ^ (24 : Nat)) + ((x1 * (32 : Int)) % 2 ^ (32 : Nat))) % 2 ^ (8 : Nat))
  let x13 : Int := ((x1 / 2 ^ (3 : Nat)) % 2 ^ (8 : Nat))
  let x14 : Int := ((x1 / 2 ^ (11 : Nat)) % 2 ^ (8 : Nat))
  let x15 : Int := ((x1 / 2 ^ (19 : Nat)) % 2 ^ (8 : Nat))
  let x16 : Int := (((x1 / 2 ^ (27 : Nat)) + (x2 * (4 : Int))) % 2 ^ (8 : Nat))
  let x17 : Int := ((x2 / 2 ^ (6 : Nat)) % 2 ^ (8 : Nat))
  let x18 : Int := ((x2 / 2 ^ (14 : Nat)) % 2 ^ (8 : Nat))
  let x19 : Int := (((x2 / 2 ^ (22 : Nat)) + ((x3 * (128 : Int)) % 2 ^ (32 : Nat))) % 2 ^ (8 : Nat))
  let x20 : Int := ((x3 / 2 ^ (1 : Nat)) % 2 ^ (8 : Nat))
  let x21 : Int := ((x3 / 2 ^ (9 : Nat)) % 2 ^ (8 : Nat))
  let x22 : Int := ((x3 / 2 ^ (17 : Nat)) % 2 ^ (8 : Nat))
  let x23 : Int := (((x3 / 2 ^ (25 : Nat)) + ((x4 * (16 : Int)) % 2 ^ (32 : Nat))) % 2 ^ (8 : Nat))
  let x24 : Int := ((x4 / 2 ^ (4 : Nat)) % 2 ^ (8 : Nat))
  let x25 : Int := ((x4 / 2 ^ (12 : Nat)) % 2 ^ (8 : Nat))
  let x26 : Int := ((x4 / 2 ^ (20 : Nat)) % 2 ^ (8 : Nat))
  let x27 : Int := (((x4 / 2 ^ (28 : Nat)) + (x5 * (2 : Int))) % 2 ^ (8 : Nat))
  let x28 : Int := ((x5 / 2 ^ (7 : Nat)) % 2 ^ (8 : Nat))
  let x29 : Int := ((x5 / 2 ^ (15 : Nat)) % 2 ^ (8 : Nat))
  let x30 : Int := (((x5 / 2 ^ (23 : Nat)) + ((x6 * (64 : Int)) % 2 ^ (32 : Nat))) % 2 ^ (8 : Nat))
  let x31 : Int := ((x6 / 2 ^ (2 : Nat)) % 2 ^ (8 : Nat))
  let x32 : Int := ((x6 / 2 ^ (10 : Nat)) % 2 ^ (8 : Nat))
  let x33 : Int := ((x6 / 2 ^ (18 : Nat)) % 2 ^ (8 : Nat))
  let x34 : Int := (((x6 / 2 ^ (26 : Nat)) + (x7 * (8 : Int))) % 2 ^ (8 : Nat))
  let x35 : Int := ((x7 / 2 ^ (5 : Nat)) % 2 ^ (8 : Nat))
  let x36 : Int := ((x7 / 2 ^ (13 : Nat)) % 2 ^ (8 : Nat))
  let x37 : Int := (x7 / 2 ^ (21 : Nat))
  let x38 : Int := ((x8 / 2 ^ (0 : Nat)) % 2 ^ (8 : Nat))
  let x39 : Int := ((x8 / 2 ^ (8 : Nat)) % 2 ^ (8 : Nat))
  let x40 : Int := ((x8 / 2 ^ (16 : Nat)) % 2 ^ (8 : Nat))
  [x9, x10, x11, x12, x13, x14, x15, x16, x17, x18, x19, x20, x21, x22, x23, x24, x25, x26, x27, x28, x29, x30, x31, x32, x33, x34, x35, x36, x37, x38, x39, x40]

theorem as_bytes_fn_ok (x0 x1 x2 x3 x4 x5 x6 x7 x8 : Int) : NProg.evalZ as_bytes_nprog [x0, x1, x2, x3, x4, x5, x6, x7, x8] = as_bytes_fn x0 x1 x2 x3 x4 x5 x6 x7 x8 :=
  (NProg.evalZ_eq_fast _ _).trans (by kernel_rfl)

def add_post : List Itv := [⟨0, 536870911, 0⟩, ⟨0, 536870911, 0⟩, ⟨0, 536870911, 0⟩, ⟨0, 536870911, 0⟩, ⟨0, 536870911, 0⟩, ⟨0, 536870911, 0⟩, ⟨0, 536870911, 0⟩, ⟨0, 536870911, 0⟩, ⟨0, 536870911, 0⟩]

def add_nprog : NProg := Prog.normProg Dalek.Gen.Scalar29.add Dalek.Model.Contracts.Scalar29.pre_add

theorem add_norm_ok : Prog.norm Dalek.Gen.Scalar29.add Dalek.Model.Contracts.Scalar29.pre_add = some (add_nprog, add_post) :=
  Prog.norm_eq_of_post (by decide +kernel)

def add_fn (x0 x1 x2 x3 x4 x5 x6 x7 x8 x9 x10 x11 x12 x13 x14 x15 x16 x17 : Int) : List Int :=
  let x18 : Int := ((x0 + x9) + (0 : Int))
  let x19 : Int := (x18 % 2 ^ (29 : Nat))
  let x20 : Int := ((x1 + x10) + (x18 / 2 ^ (29 : Nat)))
  let x21 : Int := (x20 % 2 ^ (29 : Nat))
  let x22 : Int := ((x2 + x11) + (x20 / 2 ^ (29 : Nat)))
  let x23 : Int := (x22 % 2 ^ (29 : Nat))
  let x24 : Int := ((x3 + x12) + (x22 / 2 ^ (29 : Nat)))
  let x25 : Int := (x24 % 2 ^ (29 : Nat))
  let x26 : Int := ((x4 + x13) + (x24 / 2 ^ (29 : Nat)))
  let x27 : Int := (x26 % 2 ^ (29 : Nat))
  let x28 : Int := ((x5 + x14) + (x26 / 2 ^ (29 : Nat)))
  let x29 : Int := (x28 % 2 ^ (29 : Nat))
  let x30 : Int := ((x6 + x15) + (x28 / 2 ^ (29 : Nat)))
  let x31 : Int := (x30 % 2 ^ (29 : Nat))
  let x32 : Int := ((x7 + x16) + (x30 / 2 ^ (29 : Nat)))
  let x33 : Int := (x32 % 2 ^ (29 : Nat))
  let x34 : Int := ((x8 + x17) + (x32 / 2 ^ (29 : Nat)))
  let x35 : Int := (x34 % 2 ^ (29 : Nat))
  let x36 : Int := ((x19 - (485872621 : Int)) % 2 ^ (32 : Nat))
  let x37 : Int := (x36 % 2 ^ (29 : Nat))
  let x38 : Int := ((x21 - ((9640146 : Int) + (x36 / 2 ^ (31 : Nat)))) % 2 ^ (32 : Nat))
  let x39 : Int := (x38 % 2 ^ (29 : Nat))
  let x40 : Int := ((x23 - ((501691798 : Int) + (x38 / 2 ^ (31 : Nat)))) % 2 ^ (32 : Nat))
  let x41 : Int := (x40 % 2 ^ (29 : Nat))
  let x42 : Int := ((x25 - ((502512965 : Int) + (x40 / 2 ^ (31 : Nat)))) % 2 ^ (32 : Nat))
  let x43 : Int := (x42 % 2 ^ (29 : Nat))
  let x44 : Int := ((x27 - ((333 : Int) + (x42 / 2 ^ (31 : Nat)))) % 2 ^ (32 : Nat))
  let x45 : Int := (x44 % 2 ^ (29 : Nat))
  let x46 : Int := ((x29 - ((0 : Int) + (x44 / 2 ^ (31 : Nat)))) % 2 ^ (32 : Nat))
  let x47 : Int := (x46 % 2 ^ (29 : Nat))
  let x48 : Int := ((x31 - ((0 : Int) + (x46 / 2 ^ (31 : Nat)))) % 2 ^ (32 : Nat))
  let x49 : Int := (x48 % 2 ^ (29 : Nat))
  let x50 : Int := ((x33 - ((0 : Int) + (x48 / 2 ^ (31 : Nat)))) % 2 ^ (32 : Nat))
  let x51 : Int := (x50 % 2 ^ (29 : Nat))
  let x52 : Int := ((x35 - ((1048576 : Int) + (x50 / 2 ^ (31 : Nat)))) % 2 ^ (32 : Nat))
  let x53 : Int := (x52 % 2 ^ (29 : Nat))
  let x54 : Int := (x52 / 2 ^ (31 : Nat))
  let x55 : Int := (if x54 = 0 then (0 : Int) else (485872621 : Int))
  let x56 : Int := (((0 : Int) + x37) + x55)
  let x57 : Int := (x56 % 2 ^ (29 : Nat))
  let x58 : Int := (x52 / 2 ^ (31 : Nat))
  let x59 : Int := (if x58 = 0 then (0 : Int) else (9640146 : Int))
  let x60 : Int := (((x56 / 2 ^ (29 : Nat)) + x39) + x59)
  let x61 : Int := (x60 % 2 ^ (29 : Nat))
  let x62 : Int := (x52 / 2 ^ (31 : Nat))
  let x63 : Int := (if x62 = 0 then (0 : Int) else (501691798 : Int))
  let x64 : Int := (((x60 / 2 ^ (29 : Nat)) + x41) + x63)
  let x65 : Int := (x64 % 2 ^ (29 : Nat))
  let x66 : Int := (x52 / 2 ^ (31 : Nat))
  let x67 : Int := (if x66 = 0 then (0 : Int) else (502512965 : Int))
  let x68 : Int := (((x64 / 2 ^ (29 : Nat)) + x43) + x67)
  let x69 : Int := (x68 % 2 ^ (29 : Nat))
  let x70 : Int := (x52 / 2 ^ (31 : Nat))
  let x71 : Int := (if x70 = 0 then (0 : Int) else (333 : Int))
  let x72 : Int := (((x68 / 2 ^ (29 : Nat)) + x45) + x71)
  let x73 : Int := (x72 % 2 ^ (29 : Nat))
  let x74 : Int := (x52 / 2 ^ (31 : Nat))
  let x75 : Int := (if x74 = 0 then (0 : Int) else (0 : Int))
  let x76 : Int := (((x72 / 2 ^ (29 : Nat)) + x47) + x75)
  let x77 : Int := (x76 % 2 ^ (29 : Nat))
  let x78 : Int := (x52 / 2 ^ (31 : Nat))
  let x79 : Int := (if x78 = 0 then (0 : Int) else (0 : Int))
  let x80 : Int := (((x76 / 2 ^ (29 : Nat)) + x49) + x79)
  let x81 : Int := (x80 % 2 ^ (29 : Nat))
  let x82 : Int := (x52 / 2 ^ (31 : Nat))
  let x83 : Int := (if x82 = 0 then (0 : Int) else (0 : Int))
  let x84 : Int := (((x80 / 2 ^ (29 : Nat)) + x51) + x83)
  let x85 : Int := (x84 % 2 ^ (29 : Nat))
  let x86 : Int := (x52 / 2 ^ (31 : Nat))
  let x87 : Int := (if x86 = 0 then (0 : Int) else (1048576 : Int))
  let x88 : Int := (((x84 / 2 ^ (29 : Nat)) + x53) + x87)
  let x89 : Int := (x88 % 2 ^ (29 : Nat))
  [x57, x61, x65, x69, x73, x77, x81, x85, x89]

theorem add_fn_ok (x0 x1 x2 x3 x4 x5 x6 x7 x8 x9 x10 x11 x12 x13 x14 x15 x16 x17 : Int) : NProg.evalZ add_nprog [x0, x1, x2, x3, x4, x5, x6, x7, x8, x9, x10, x11, x12, x13, x14, x15, x16, x17] = add_fn x0 x1 x2 x3 x4 x5 x6 x7 x8 x9 x10 x11 x12 x13 x14 x15 x16 x17 :=
  (NProg.evalZ_eq_fast _ _).trans (by kernel_rfl)

def sub_post : List Itv := [⟨0, 536870911, 0⟩, ⟨0, 536870911, 0⟩, ⟨0, 536870911, 0⟩, ⟨0, 536870911, 0⟩, ⟨0, 536870911, 0⟩, ⟨0, 536870911, 0⟩, ⟨0, 536870911, 0⟩, ⟨0, 536870911, 0⟩, ⟨0, 536870911, 0⟩]

def sub_nprog : NProg := Prog.normProg Dalek.Gen.Scalar29.sub Dalek.Model.Contracts.Scalar29.pre_sub

theorem sub_norm_ok : Prog.norm Dalek.Gen.Scalar29.sub Dalek.Model.Contracts.Scalar29.pre_sub = some (sub_nprog, sub_post) :=
  Prog.norm_eq_of_post (by decide +kernel)

def sub_fn (x0 x1 x2 x3 x4 x5 x6 x7 x8 x9 x10 x11 x12 x13 x14 x15 x16 x17 : Int) : List Int :=
  let x18 : Int := ((x0 - (x9 + (0 : Int))) % 2 ^ (32 : Nat))
  let x19 : Int := (x18 % 2 ^ (29 : Nat))
  let x20 : Int := ((x1 - (x10 + (x18 / 2 ^ (31 : Nat)))) % 2 ^ (32 : Nat))
  let x21 : Int := (x20 % 2 ^ (29 : Nat))
  let x22 : Int := ((x2 - (x11 + (x20 / 2 ^ (31 : Nat)))) % 2 ^ (32 : Nat))
  let x23 : Int := (x22 % 2 ^ (29 : Nat))
  let x24 : Int := ((x3 - (x12 + (x22 / 2 ^ (31 : Nat)))) % 2 ^ (32 : Nat))
  let x25 : Int := (x24 % 2 ^ (29 : Nat))
  let x26 : Int := ((x4 - (x13 + (x24 / 2 ^ (31 : Nat)))) % 2 ^ (32 : Nat))
  let x27 : Int := (x26 % 2 ^ (29 : Nat))
  let x28 : Int := ((x5 - (x14 + (x26 / 2 ^ (31 : Nat)))) % 2 ^ (32 : Nat))
  let x29 : Int := (x28 % 2 ^ (29 : Nat))
  let x30 : Int := ((x6 - (x15 + (x28 / 2 ^ (31 : Nat)))) % 2 ^ (32 : Nat))
  let x31 : Int := (x30 % 2 ^ (29 : Nat))
  let x32 : Int := ((x7 - (x16 + (x30 / 2 ^ (31 : Nat)))) % 2 ^ (32 : Nat))
  let x33 : Int := (x32 % 2 ^ (29 : Nat))
  let x34 : Int := ((x8 - (x17 + (x32 / 2 ^ (31 : Nat)))) % 2 ^ (32 : Nat))
  let x35 : Int := (x34 % 2 ^ (29 : Nat))
  let x36 : Int := (x34 / 2 ^ (31 : Nat))
  let x37 : Int := (if x36 = 0 then (0 : Int) else (485872621 : Int))
  let x38 : Int := (((0 : Int) + x19) + x37)
  let x39 : Int := (x38 % 2 ^ (29 : Nat))
  let x40 : Int := (x34 / 2 ^ (31 : Nat))
  let x41 : Int := (if x40 = 0 then (0 : Int) else (9640146 : Int))
  let x42 : Int := (((x38 / 2 ^ (29 : Nat)) + x21) + x41)
  let x43 : Int := (x42 % 2 ^ (29 : Nat))
  let x44 : Int := (x34 / 2 ^ (31 : Nat))
  let x45 : Int := (if x44 = 0 then (0 : Int) else (501691798 : Int))
  let x46 : Int := (((x42 / 2 ^ (29 : Nat)) + x23) + x45)
  let x47 : Int := (x46 % 2 ^ (29 : Nat))
  let x48 : Int := (x34 / 2 ^ (31 : Nat))
  let x49 : Int := (if x48 = 0 then (0 : Int) else (502512965 : Int))
  let x50 : Int := (((x46 / 2 ^ (29 : Nat)) + x25) + x49)
  let x51 : Int := (x50 % 2 ^ (29 : Nat))
  let x52 : Int := (x34 / 2 ^ (31 : Nat))
  let x53 : Int := (if x52 = 0 then (0 : Int) else (333 : Int))
  let x54 : Int := (((x50 / 2 ^ (29 : Nat)) + x27) + x53)
  let x55 : Int := (x54 % 2 ^ (29 : Nat))
  let x56 : Int := (x34 / 2 ^ (31 : Nat))
  let x57 : Int := (if x56 = 0 then (0 : Int) else (0 : Int))
  let x58 : Int := (((x54 / 2 ^ (29 : Nat)) + x29) + x57)
  let x59 : Int := (x58 % 2 ^ (29 : Nat))
  let x60 : Int := (x34 / 2 ^ (31 : Nat))
  let x61 : Int := (if x60 = 0 then (0 : Int) else (0 : Int))
  let x62 : Int := (((x58 / 2 ^ (29 : Nat)) + x31) + x61)
  let x63 : Int := (x62 % 2 ^ (29 : Nat))
  let x64 : Int := (x34 / 2 ^ (31 : Nat))
  let x65 : Int := (if x64 = 0 then (0 : Int) else (0 : Int))
  let x66 : Int := (((x62 / 2 ^ (29 : Nat)) + x33) + x65)
  let x67 : Int := (x66 % 2 ^ (29 : Nat))
  let x68 : Int := (x34 / 2 ^ (31 : Nat))
  let x69 : Int := (if x68 = 0 then (0 : Int) else (1048576 : Int))
  let x70 : Int := (((x66 / 2 ^ (29 : Nat)) + x35) + x69)
  let x71 : Int := (x70 % 2 ^ (29 : Nat))
  [x39, x43, x47, x51, x55, x59, x63, x67, x71]

theorem sub_fn_ok (x0 x1 x2 x3 x4 x5 x6 x7 x8 x9 x10 x11 x12 x13 x14 x15 x16 x17 : Int) : NProg.evalZ sub_nprog [x0, x1, x2, x3, x4, x5, x6, x7, x8, x9, x10, x11, x12, x13, x14, x15, x16, x17] = sub_fn x0 x1 x2 x3 x4 x5 x6 x7 x8 x9 x10 x11 x12 x13 x14 x15 x16 x17 :=
  (NProg.evalZ_eq_fast _ _).trans (by kernel_rfl)

def mul_internal_post : List Itv := [⟨0, 288230375077969921, 0⟩, ⟨0, 576460750155939842, 0⟩, ⟨0, 864691125233909763, 0⟩, ⟨0, 1152921500311879684, 0⟩, ⟨0, 1441151875389849605, 0⟩, ⟨0, 18446744073709551615, 0⟩, ⟨0, 18446744073709551615, 0⟩, ⟨0, 18446744073709551615, 0⟩, ⟨0, 18446744073709551615, 0⟩, ⟨0, 18446744073709551615, 0⟩, ⟨0, 18446744073709551615, 0⟩, ⟨0, 18446744073709551615, 0⟩, ⟨0, 18446744073709551615, 0⟩, ⟨0, 1152921500311879684, 0⟩, ⟨0, 864691125233909763, 0⟩, ⟨0, 576460750155939842, 0⟩, ⟨0, 288230375077969921, 0⟩]

def mul_internal_nprog : NProg :=
  ⟨18,
   [(.mul (.v 0) (.v 9)),
    (.add (.mul (.v 0) (.v 10)) (.mul (.v 1) (.v 9))),
    (.add (.add (.mul (.v 0) (.v 11)) (.mul (.v 1) (.v 10))) (.mul (.v 2) (.v 9))),
    (.add (.add (.add (.mul (.v 0) (.v 12)) (.mul (.v 1) (.v 11))) (.mul (.v 2) (.v 10))) (.mul (.v 3) (.v 9))),
    (.add (.add (.add (.add (.mul (.v 0) (.v 13)) (.mul (.v 1) (.v 12))) (.mul (.v 2) (.v 11))) (.mul (.v 3) (.v 10))) (.mul (.v 4) (.v 9))),
    (.add (.add (.add (.mul (.v 1) (.v 13)) (.mul (.v 2) (.v 12))) (.mul (.v 3) (.v 11))) (.mul (.v 4) (.v 10))),
    (.add (.add (.mul (.v 2) (.v 13)) (.mul (.v 3) (.v 12))) (.mul (.v 4) (.v 11))),
    (.add (.mul (.v 3) (.v 13)) (.mul (.v 4) (.v 12))),
    (.mod2 (.sub (.mul (.v 4) (.v 13)) (.v 21)) 64),
    (.mod2 (.sub (.v 23) (.mul (.v 5) (.v 14))) 64),
    (.mod2 (.sub (.v 24) (.add (.mul (.v 5) (.v 15)) (.mul (.v 6) (.v 14)))) 64),
    (.mod2 (.sub (.v 25) (.add (.add (.mul (.v 5) (.v 16)) (.mul (.v 6) (.v 15))) (.mul (.v 7) (.v 14)))) 64),
    (.add (.add (.add (.mul (.v 5) (.v 17)) (.mul (.v 6) (.v 16))) (.mul (.v 7) (.v 15))) (.mul (.v 8) (.v 14))),
    (.add (.add (.mul (.v 6) (.v 17)) (.mul (.v 7) (.v 16))) (.mul (.v 8) (.v 15))),
    (.add (.mul (.v 7) (.v 17)) (.mul (.v 8) (.v 16))),
    (.mul (.v 8) (.v 17)),
    (.mod2 (.sub (.v 27) (.v 18)) 64),
    (.mod2 (.sub (.v 28) (.v 19)) 64),
    (.mod2 (.sub (.v 29) (.v 20)) 64),
    (.mod2 (.sub (.v 26) (.v 30)) 64),
    (.add (.v 31) (.v 22)),
    (.mod2 (.add (.v 32) (.v 27)) 64),
    (.mod2 (.add (.v 33) (.v 28)) 64),
    (.add (.v 0) (.v 5)),
    (.add (.v 1) (.v 6)),
    (.add (.v 2) (.v 7)),
    (.add (.v 3) (.v 8)),
    (.add (.v 9) (.v 14)),
    (.add (.v 10) (.v 15)),
    (.add (.v 11) (.v 16)),
    (.add (.v 12) (.v 17)),
    (.mod2 (.add (.mul (.v 41) (.v 45)) (.v 34)) 64),
    (.mod2 (.add (.add (.mul (.v 41) (.v 46)) (.mul (.v 42) (.v 45))) (.v 35)) 64),
    (.mod2 (.add (.add (.add (.mul (.v 41) (.v 47)) (.mul (.v 42) (.v 46))) (.mul (.v 43) (.v 45))) (.v 36)) 64),
    (.mod2 (.add (.add (.add (.add (.mul (.v 41) (.v 48)) (.mul (.v 42) (.v 47))) (.mul (.v 43) (.v 46))) (.mul (.v 44) (.v 45))) (.v 37)) 64),
    (.mod2 (.sub (.add (.add (.add (.add (.mul (.v 41) (.v 13)) (.mul (.v 42) (.v 48))) (.mul (.v 43) (.v 47))) (.mul (.v 44) (.v 46))) (.mul (.v 4) (.v 45))) (.v 38)) 64),
    (.mod2 (.sub (.add (.add (.add (.mul (.v 42) (.v 13)) (.mul (.v 43) (.v 48))) (.mul (.v 44) (.v 47))) (.mul (.v 4) (.v 46))) (.v 39)) 64),
    (.mod2 (.sub (.add (.add (.mul (.v 43) (.v 13)) (.mul (.v 44) (.v 48))) (.mul (.v 4) (.v 47))) (.v 40)) 64),
    (.mod2 (.sub (.add (.mul (.v 44) (.v 13)) (.mul (.v 4) (.v 48))) (.v 29)) 64)],
   [18, 19, 20, 21, 22, 49, 50, 51, 52, 53, 54, 55, 56, 30, 31, 32, 33]⟩

theorem mul_internal_norm_ok : Prog.norm Dalek.Gen.Scalar29.mul_internal Dalek.Model.Contracts.Scalar29.pre_mul_internal = some (mul_internal_nprog, mul_internal_post) :=
  (Prog.normFast_eq _ _).symm.trans (by decide +kernel)

def mul_internal_fn (x0 x1 x2 x3 x4 x5 x6 x7 x8 x9 x10 x11 x12 x13 x14 x15 x16 x17 : Int) : List Int :=
  let x18 : Int := (x0 * x9)
  let x19 : Int := ((x0 * x10) + (x1 * x9))
  let x20 : Int := (((x0 * x11) + (x1 * x10)) + (x2 * x9))
  let x21 : Int := ((((x0 * x12) + (x1 * x11)) + (x2 * x10)) + (x3 * x9))
  let x22 : Int := (((((x0 * x13) + (x1 * x12)) + (x2 * x11)) + (x3 * x10)) + (x4 * x9))
  let x23 : Int := ((((x1 * x13) + (x2 * x12)) + (x3 * x11)) + (x4 * x10))
  let x24 : Int := (((x2 * x13) + (x3 * x12)) + (x4 * x11))
  let x25 : Int := ((x3 * x13) + (x4 * x12))
  let x26 : Int := (((x4 * x13) - x21) % 2 ^ (64 : Nat))
  let x27 : Int := ((x23 - (x5 * x14)) % 2 ^ (64 : Nat))
  let x28 : Int := ((x24 - ((x5 * x15) + (x6 * x14))) % 2 ^ (64 : Nat))
  let x29 : Int := ((x25 - (((x5 * x16) + (x6 * x15)) + (x7 * x14))) % 2 ^ (64 : Nat))
  let x30 : Int := ((((x5 * x17) + (x6 * x16)) + (x7 * x15)) + (x8 * x14))
  let x31 : Int := (((x6 * x17) + (x7 * x16)) + (x8 * x15))
  let x32 : Int := ((x7 * x17) + (x8 * x16))
  let x33 : Int := (x8 * x17)
  let x34 : Int := ((x27 - x18) % 2 ^ (64 : Nat))
  let x35 : Int := ((x28 - x19) % 2 ^ (64 : Nat))
  let x36 : Int := ((x29 - x20) % 2 ^ (64 : Nat))
  let x37 : Int := ((x26 - x30) % 2 ^ (64 : Nat))
  let x38 : Int := (x31 + x22)
  let x39 : Int := ((x32 + x27) % 2 ^ (64 : Nat))
  let x40 : Int := ((x33 + x28) % 2 ^ (64 : Nat))
  let x41 : Int := (x0 + x5)
  let x42 : Int := (x1 + x6)
  let x43 : Int := (x2 + x7)
  let x44 : Int := (x3 + x8)
  let x45 : Int := (x9 + x14)
  let x46 : Int := (x10 + x15)
  let x47 : Int := (x11 + x16)
  let x48 : Int := (x12 + x17)
  let x49 : Int := (((x41 * x45) + x34) % 2 ^ (64 : Nat))
  let x50 : Int := ((((x41 * x46) + (x42 * x45)) + x35) % 2 ^ (64 : Nat))
  let x51 : Int := (((((x41 * x47) + (x42 * x46)) + (x43 * x45)) + x36) % 2 ^ (64 : Nat))
  let x52 : Int := ((((((x41 * x48) + (x42 * x47)) + (x43 * x46)) + (x44 * x45)) + x37) % 2 ^ (64 : Nat))
  let x53 : Int := (((((((x41 * x13) + (x42 * x48)) + (x43 * x47)) + (x44 * x46)) + (x4 * x45)) - x38) % 2 ^ (64 : Nat))
  let x54 : Int := ((((((x42 * x13) + (x43 * x48)) + (x44 * x47)) + (x4 * x46)) - x39) % 2 ^ (64 : Nat))
  let x55 : Int := (((((x43 * x13) + (x44 * x48)) + (x4 * x47)) - x40) % 2 ^ (64 : Nat))
  let x56 : Int := ((((x44 * x13) + (x4 * x48)) - x29) % 2 ^ (64 : Nat))
  [x18, x19, x20, x21, x22, x49, x50, x51, x52, x53, x54, x55, x56, x30, x31, x32, x33]

theorem mul_internal_fn_ok (x0 x1 x2 x3 x4 x5 x6 x7 x8 x9 x10 x11 x12 x13 x14 x15 x16 x17 : Int) : NProg.evalZ mul_internal_nprog [x0, x1, x2, x3, x4, x5, x6, x7, x8, x9, x10, x11, x12, x13, x14, x15, x16, x17] = mul_internal_fn x0 x1 x2 x3 x4 x5 x6 x7 x8 x9 x10 x11 x12 x13 x14 x15 x16 x17 :=
  (NProg.evalZ_eq_fast _ _).trans (by kernel_rfl)

def square_internal_post : List Itv := [⟨0, 288230375077969921, 0⟩, ⟨0, 576460750155939842, 1⟩, ⟨0, 864691125233909763, 0⟩, ⟨0, 1152921500311879684, 1⟩, ⟨0, 1441151875389849605, 0⟩, ⟨0, 1729382250467819526, 1⟩, ⟨0, 2017612625545789447, 0⟩, ⟨0, 2305843000623759368, 1⟩, ⟨0, 2594073375701729289, 0⟩, ⟨0, 2305843000623759368, 1⟩, ⟨0, 2017612625545789447, 0⟩, ⟨0, 1729382250467819526, 1⟩, ⟨0, 1441151875389849605, 0⟩, ⟨0, 1152921500311879684, 1⟩, ⟨0, 864691125233909763, 0⟩, ⟨0, 576460750155939842, 1⟩, ⟨0, 288230375077969921, 0⟩]

def square_internal_nprog : NProg := Prog.normProg Dalek.Gen.Scalar29.square_internal Dalek.Model.Contracts.Scalar29.pre_square_internal

theorem square_internal_norm_ok : Prog.norm Dalek.Gen.Scalar29.square_internal Dalek.Model.Contracts.Scalar29.pre_square_internal = some (square_internal_nprog, square_internal_post) :=
  Prog.norm_eq_of_post (by decide +kernel)

def square_internal_fn (x0 x1 x2 x3 x4 x5 x6 x7 x8 : Int) : List Int :=
  let x9 : Int := (x0 * (2 : Int))
  let x10 : Int := (x1 * (2 : Int))
  let x11 : Int := (x2 * (2 : Int))
  let x12 : Int := (x3 * (2 : Int))
  let x13 : Int := (x4 * (2 : Int))
  let x14 : Int := (x5 * (2 : Int))
  let x15 : Int := (x6 * (2 : Int))
  let x16 : Int := (x7 * (2 : Int))
  let x17 : Int := (x0 * x0)
  let x18 : Int := (x9 * x1)
  let x19 : Int := ((x9 * x2) + (x1 * x1))
  let x20 : Int := ((x9 * x3) + (x10 * x2))
  let x21 : Int := (((x9 * x4) + (x10 * x3)) + (x2 * x2))
  let x22 : Int := (((x9 * x5) + (x10 * x4)) + (x11 * x3))
  let x23 : Int := ((((x9 * x6) + (x10 * x5)) + (x11 * x4)) + (x3 * x3))
  let x24 : Int := ((((x9 * x7) + (x10 * x6)) + (x11 * x5)) + (x12 * x4))
  let x25 : Int := (((((x9 * x8) + (x10 * x7)) + (x11 * x6)) + (x12 * x5)) + (x4 * x4))
  let x26 : Int := ((((x10 * x8) + (x11 * x7)) + (x12 * x6)) + (x13 * x5))
  let x27 : Int := ((((x11 * x8) + (x12 * x7)) + (x13 * x6)) + (x5 * x5))
  let x28 : Int := (((x12 * x8) + (x13 * x7)) + (x14 * x6))
  let x29 : Int := (((x13 * x8) + (x14 * x7)) + (x6 * x6))
  let x30 : Int := ((x14 * x8) + (x15 * x7))
  let x31 : Int := ((x15 * x8) + (x7 * x7))
  let x32 : Int := (x16 * x8)
  let x33 : Int := (x8 * x8)
  [x17, x18, x19, x20, x21, x22, x23, x24, x25, x26, x27, x28, x29, x30, x31, x32, x33]

theorem square_internal_fn_ok (x0 x1 x2 x3 x4 x5 x6 x7 x8 : Int) : NProg.evalZ square_internal_nprog [x0, x1, x2, x3, x4, x5, x6, x7, x8] = square_internal_fn x0 x1 x2 x3 x4 x5 x6 x7 x8 :=
  (NProg.evalZ_eq_fast _ _).trans (by kernel_rfl)

def montgomery_reduce_post : List Itv := [⟨0, 536870911, 0⟩, ⟨0, 536870911, 0⟩, ⟨0, 536870911, 0⟩, ⟨0, 536870911, 0⟩, ⟨0, 536870911, 0⟩, ⟨0, 536870911, 0⟩, ⟨0, 536870911, 0⟩, ⟨0, 536870911, 0⟩, ⟨0, 536870911, 0⟩]

def montgomery_reduce_nprog : NProg := Prog.normProg Dalek.Gen.Scalar29.montgomery_reduce Dalek.Model.Contracts.Scalar29.pre_montgomery_reduce

theorem montgomery_reduce_norm_ok : Prog.norm Dalek.Gen.Scalar29.montgomery_reduce Dalek.Model.Contracts.Scalar29.pre_montgomery_reduce = some (montgomery_reduce_nprog, montgomery_reduce_post) :=
  Prog.norm_eq_of_post (by decide +kernel)

def montgomery_reduce_fn (x0 x1 x2 x3 x4 x5 x6 x7 x8 x9 x10 x11 x12 x13 x14 x15 x16 : Int) : List Int :=
  let x17 : Int := ((((x0 % 2 ^ (32 : Nat)) * (307527195 : Int)) % 2 ^ (32 : Nat)) % 2 ^ (29 : Nat))
  let x18 : Int := ((x0 + (x17 * (485872621 : Int))) / 2 ^ (29 : Nat))
  let x19 : Int := ((x18 + x1) + (x17 * (9640146 : Int)))
  let x20 : Int := ((((x19 % 2 ^ (32 : Nat)) * (307527195 : Int)) % 2 ^ (32 : Nat)) % 2 ^ (29 : Nat))
  let x21 : Int := ((x19 + (x20 * (485872621 : Int))) / 2 ^ (29 : Nat))
  let x22 : Int := (((x21 + x2) + (x17 * (501691798 : Int))) + (x20 * (9640146 : Int)))
  let x23 : Int := ((((x22 % 2 ^ (32 : Nat)) * (307527195 : Int)) % 2 ^ (32 : Nat)) % 2 ^ (29 : Nat))
  let x24 : Int := ((x22 + (x23 * (485872621 : Int))) / 2 ^ (29 : Nat))
  let x25 : Int := ((((x24 + x3) + (x17 * (502512965 : Int))) + (x20 * (501691798 : Int))) + (x23 * (9640146 : Int)))
  let x26 : Int := ((((x25 % 2 ^ (32 : Nat)) * (307527195 : Int)) % 2 ^ (32 : Nat)) % 2 ^ (29 : Nat))
  let x27 : Int := ((x25 + (x26 * (485872621 : Int))) / 2 ^ (29 : Nat))
  let x28 : Int := (((((x27 + x4) + (x17 * (333 : Int))) + (x20 * (502512965 : Int))) + (x23 * (501691798 : Int))) + (x26 * (9640146 : Int)))
  let x29 : Int := ((((x28 % 2 ^ (32 : Nat)) * (307527195 : Int)) % 2 ^ (32 : Nat)) % 2 ^ (29 : Nat))
  let x30 : Int := ((x28 + (x29 * (485872621 : Int))) / 2 ^ (29 : Nat))
  let x31 : Int := (((((x30 + x5) + (x20 * (333 : Int))) + (x23 * (502512965 : Int))) + (x26 * (501691798 : Int))) + (x29 * (9640146 : Int)))
  let x32 : Int := ((((x31 % 2 ^ (32 : Nat)) * (307527195 : Int)) % 2 ^ (32 : Nat)) % 2 ^ (29 : Nat))
  let x33 : Int := ((x31 + (x32 * (485872621 : Int))) / 2 ^ (29 : Nat))
  let x34 : Int := (((((x33 + x6) + (x23 * (333 : Int))) + (x26 * (502512965 : Int))) + (x29 * (501691798 : Int))) + (x32 * (9640146 : Int)))
  let x35 : Int := ((((x34 % 2 ^ (32 : Nat)) * (307527195 : Int)) % 2 ^ (32 : Nat)) % 2 ^ (29 : Nat))
  let x36 : Int := ((x34 + (x35 * (485872621 : Int))) / 2 ^ (29 : Nat))
  let x37 : Int := (((((x36 + x7) + (x26 * (333 : Int))) + (x29 * (502512965 : Int))) + (x32 * (501691798 : Int))) + (x35 * (9640146 : Int)))
  let x38 : Int := ((((x37 % 2 ^ (32 : Nat)) * (307527195 : Int)) % 2 ^ (32 : Nat)) % 2 ^ (29 : Nat))
  let x39 : Int := ((x37 + (x38 * (485872621 : Int))) / 2 ^ (29 : Nat))
  let x40 : Int := ((((((x39 + x8) + (x17 * (1048576 : Int))) + (x29 * (333 : Int))) + (x32 * (502512965 : Int))) + (x35 * (501691798 : Int))) + (x38 * (9640146 : Int)))
  let x41 : Int := ((((x40 % 2 ^ (32 : Nat)) * (307527195 : Int)) % 2 ^ (32 : Nat)) % 2 ^ (29 : Nat))
  let x42 : Int := ((x40 + (x41 * (485872621 : Int))) / 2 ^ (29 : Nat))
  let x43 : Int := ((((((x42 + x9) + (x20 * (1048576 : Int))) + (x32 * (333 : Int))) + (x35 * (502512965 : Int))) + (x38 * (501691798 : Int))) + (x41 * (9640146 : Int)))
  let x44 : Int := ((x43 % 2 ^ (32 : Nat)) % 2 ^ (29 : Nat))
  let x45 : Int := (x43 / 2 ^ (29 : Nat))
  let x46 : Int := (((((x45 + x10) + (x23 * (1048576 : Int))) + (x35 * (333 : Int))) + (x38 * (502512965 : Int))) + (x41 * (501691798 : Int)))
  let x47 : Int := ((x46 % 2 ^ (32 : Nat)) % 2 ^ (29 : Nat))
  let x48 : Int := (x46 / 2 ^ (29 : Nat))
  let x49 : Int := ((((x48 + x11) + (x26 * (1048576 : Int))) + (x38 * (333 : Int))) + (x41 * (502512965 : Int)))
  let x50 : Int := ((x49 % 2 ^ (32 : Nat)) % 2 ^ (29 : Nat))
  let x51 : Int := (x49 / 2 ^ (29 : Nat))
  let x52 : Int := (((x51 + x12) + (x29 * (1048576 : Int))) + (x41 * (333 : Int)))
  let x53 : Int := ((x52 % 2 ^ (32 : Nat)) % 2 ^ (29 : Nat))
  let x54 : Int := (x52 / 2 ^ (29 : Nat))
  let x55 : Int := ((x54 + x13) + (x32 * (1048576 : Int)))
  let x56 : Int := ((x55 % 2 ^ (32 : Nat)) % 2 ^ (29 : Nat))
  let x57 : Int := (x55 / 2 ^ (29 : Nat))
  let x58 : Int := ((x57 + x14) + (x35 * (1048576 : Int)))
  let x59 : Int := ((x58 % 2 ^ (32 : Nat)) % 2 ^ (29 : Nat))
  let x60 : Int := (x58 / 2 ^ (29 : Nat))
  let x61 : Int := ((x60 + x15) + (x38 * (1048576 : Int)))
  let x62 : Int := ((x61 % 2 ^ (32 : Nat)) % 2 ^ (29 : Nat))
  let x63 : Int := (x61 / 2 ^ (29 : Nat))
  let x64 : Int := ((x63 + x16) + (x41 * (1048576 : Int)))
  let x65 : Int := ((x64 % 2 ^ (32 : Nat)) % 2 ^ (29 : Nat))
  let x66 : Int := (x64 / 2 ^ (29 : Nat))
  let x67 : Int := (x66 % 2 ^ (32 : Nat))
  let x68 : Int := ((x44 - (485872621 : Int)) % 2 ^ (32 : Nat))
  let x69 : Int := (x68 % 2 ^ (29 : Nat))
  let x70 : Int := ((x47 - ((9640146 : Int) + (x68 / 2 ^ (31 : Nat)))) % 2 ^ (32 : Nat))
  let x71 : Int := (x70 % 2 ^ (29 : Nat))
  let x72 : Int := ((x50 - ((501691798 : Int) + (x70 / 2 ^ (31 : Nat)))) % 2 ^ (32 : Nat))
  let x73 : Int := (x72 % 2 ^ (29 : Nat))
  let x74 : Int := ((x53 - ((502512965 : Int) + (x72 / 2 ^ (31 : Nat)))) % 2 ^ (32 : Nat))
  let x75 : Int := (x74 % 2 ^ (29 : Nat))
  let x76 : Int := ((x56 - ((333 : Int) + (x74 / 2 ^ (31 : Nat)))) % 2 ^ (32 : Nat))
  let x77 : Int := (x76 % 2 ^ (29 : Nat))
  let x78 : Int := ((x59 - ((0 : Int) + (x76 / 2 ^ (31 : Nat)))) % 2 ^ (32 : Nat))
  let x79 : Int := (x78 % 2 ^ (29 : Nat))
  let x80 : Int := ((x62 - ((0 : Int) + (x78 / 2 ^ (31 : Nat)))) % 2 ^ (32 : Nat))
  let x81 : Int := (x80 % 2 ^ (29 : Nat))
  let x82 : Int := ((x65 - ((0 : Int) + (x80 / 2 ^ (31 : Nat)))) % 2 ^ (32 : Nat))
  let x83 : Int := (x82 % 2 ^ (29 : Nat))
  let x84 : Int := ((x67 - ((1048576 : Int) + (x82 / 2 ^ (31 : Nat)))) % 2 ^ (32 : Nat))
  let x85 : Int := (x84 % 2 ^ (29 : Nat))
  let x86 : Int := (x84 / 2 ^ (31 : Nat))
  let x87 : Int := (if x86 = 0 then (0 : Int) else (485872621 : Int))
  let x88 : Int := (((0 : Int) + x69) + x87)
  let x89 : Int := (x88 % 2 ^ (29 : Nat))
  let x90 : Int := (x84 / 2 ^ (31 : Nat))
  let x91 : Int := (if x90 = 0 then (0 : Int) else (9640146 : Int))
  let x92 : Int := (((x88 / 2 ^ (29 : Nat)) + x71) + x91)
  let x93 : Int := (x92 % 2 ^ (29 : Nat))
  let x94 : Int := (x84 / 2 ^ (31 : Nat))
  let x95 : Int := (if x94 = 0 then (0 : Int) else (501691798 : Int))
  let x96 : Int := (((x92 / 2 ^ (29 : Nat)) + x73) + x95)
  let x97 : Int := (x96 % 2 ^ (29 : Nat))
  let x98 : Int := (x84 / 2 ^ (31 : Nat))
  let x99 : Int := (if x98 = 0 then (0 : Int) else (502512965 : Int))
  let x100 : Int := (((x96 / 2 ^ (29 : Nat)) + x75) + x99)
  let x101 : Int := (x100 % 2 ^ (29 : Nat))
  let x102 : Int := (x84 / 2 ^ (31 : Nat))
  let x103 : Int := (if x102 = 0 then (0 : Int) else (333 : Int))
  let x104 : Int := (((x100 / 2 ^ (29 : Nat)) + x77) + x103)
  let x105 : Int := (x104 % 2 ^ (29 : Nat))
  let x106 : Int := (x84 / 2 ^ (31 : Nat))
  let x107 : Int := (if x106 = 0 then (0 : Int) else (0 : Int))
  let x108 : Int := (((x104 / 2 ^ (29 : Nat)) + x79) + x107)
  let x109 : Int := (x108 % 2 ^ (29 : Nat))
  let x110 : Int := (x84 / 2 ^ (31 : Nat))
  let x111 : Int := (if x110 = 0 then (0 : Int) else (0 : Int))
  let x112 : Int := (((x108 / 2 ^ (29 : Nat)) + x81) + x111)
  let x113 : Int := (x112 % 2 ^ (29 : Nat))
  let x114 : Int := (x84 / 2 ^ (31 : Nat))
  let x115 : Int := (if x114 = 0 then (0 : Int) else (0 : Int))
  let x116 : Int := (((x112 / 2 ^ (29 : Nat)) + x83) + x115)
  let x117 : Int := (x116 % 2 ^ (29 : Nat))
  let x118 : Int := (x84 / 2 ^ (31 : Nat))
  let x119 : Int := (if x118 = 0 then (0 : Int) else (1048576 : Int))
  let x120 : Int := (((x116 / 2 ^ (29 : Nat)) + x85) + x119)
  let x121 : Int := (x120 % 2 ^ (29 : Nat))
  [x89, x93, x97, x101, x105, x109, x113, x117, x121]

theorem montgomery_reduce_fn_ok (x0 x1 x2 x3 x4 x5 x6 x7 x8 x9 x10 x11 x12 x13 x14 x15 x16 : Int) : NProg.evalZ montgomery_reduce_nprog [x0, x1, x2, x3, x4, x5, x6, x7, x8, x9, x10, x11, x12, x13, x14, x15, x16] = montgomery_reduce_fn x0 x1 x2 x3 x4 x5 x6 x7 x8 x9 x10 x11 x12 x13 x14 x15 x16 :=
  (NProg.evalZ_eq_fast _ _).trans (by kernel_rfl)

def montgomery_square_post : List Itv := [⟨0, 536870911, 0⟩, ⟨0, 536870911, 0⟩, ⟨0, 536870911, 0⟩, ⟨0, 536870911, 0⟩, ⟨0, 536870911, 0⟩, ⟨0, 536870911, 0⟩, ⟨0, 536870911, 0⟩, ⟨0, 536870911, 0⟩, ⟨0, 536870911, 0⟩]

def montgomery_square_nprog : NProg := Prog.normProg Dalek.Gen.Scalar29.montgomery_square Dalek.Model.Contracts.Scalar29.pre_montgomery_square

theorem montgomery_square_norm_ok : Prog.norm Dalek.Gen.Scalar29.montgomery_square Dalek.Model.Contracts.Scalar29.pre_montgomery_square = some (montgomery_square_nprog, montgomery_square_post) :=
  Prog.norm_eq_of_post (by decide +kernel)

def montgomery_square_fn (x0 x1 x2 x3 x4 x5 x6 x7 x8 : Int) : List Int :=
  let x9 : Int := (x0 * (2 : Int))
  let x10 : Int := (x1 * (2 : Int))
  let x11 : Int := (x2 * (2 : Int))
  let x12 : Int := (x3 * (2 : Int))
  let x13 : Int := (x4 * (2 : Int))
  let x14 : Int := (x5 * (2 : Int))
  let x15 : Int := (x6 * (2 : Int))
  let x16 : Int := (x7 * (2 : Int))
  let x17 : Int := (x0 * x0)
  let x18 : Int := (x9 * x1)
  let x19 : Int := ((x9 * x2) + (x1 * x1))
  let x20 : Int := ((x9 * x3) + (x10 * x2))
  let x21 : Int := (((x9 * x4) + (x10 * x3)) + (x2 * x2))
  let x22 : Int := (((x9 * x5) + (x10 * x4)) + (x11 * x3))
  let x23 : Int := ((((x9 * x6) + (x10 * x5)) + (x11 * x4)) + (x3 * x3))
  let x24 : Int := ((((x9 * x7) + (x10 * x6)) + (x11 * x5)) + (x12 * x4))
  let x25 : Int := (((((x9 * x8) + (x10 * x7)) + (x11 * x6)) + (x12 * x5)) + (x4 * x4))
  let x26 : Int := ((((x10 * x8) + (x11 * x7)) + (x12 * x6)) + (x13 * x5))
  let x27 : Int := ((((x11 * x8) + (x12 * x7)) + (x13 * x6)) + (x5 * x5))
  let x28 : Int := (((x12 * x8) + (x13 * x7)) + (x14 * x6))
  let x29 : Int := (((x13 * x8) + (x14 * x7)) + (x6 * x6))
  let x30 : Int := ((x14 * x8) + (x15 * x7))
  let x31 : Int := ((x15 * x8) + (x7 * x7))
  let x32 : Int := (x16 * x8)
  let x33 : Int := (x8 * x8)
  let x34 : Int := ((((x17 % 2 ^ (32 : Nat)) * (307527195 : Int)) % 2 ^ (32 : Nat)) % 2 ^ (29 : Nat))
  let x35 : Int := ((x17 + (x34 * (485872621 : Int))) / 2 ^ (29 : Nat))
  let x36 : Int := ((x35 + x18) + (x34 * (9640146 : Int)))
  let x37 : Int := ((((x36 % 2 ^ (32 : Nat)) * (307527195 : Int)) % 2 ^ (32 : Nat)) % 2 ^ (29 : Nat))
  let x38 : Int := ((x36 + (x37 * (485872621 : Int))) / 2 ^ (29 : Nat))
  let x39 : Int := (((x38 + x19) + (x34 * (501691798 : Int))) + (x37 * (9640146 : Int)))
  let x40 : Int := ((((x39 % 2 ^ (32 : Nat)) * (307527195 : Int)) % 2 ^ (32 : Nat)) % 2 ^ (29 : Nat))
  let x41 : Int := ((x39 + (x40 * (485872621 : Int))) / 2 ^ (29 : Nat))
  let x42 : Int := ((((x41 + x20) + (x34 * (502512965 : Int))) + (x37 * (501691798 : Int))) + (x40 * (9640146 : Int)))
  let x43 : Int := ((((x42 % 2 ^ (32 : Nat)) * (307527195 : Int)) % 2 ^ (32 : Nat)) % 2 ^ (29 : Nat))
  let x44 : Int := ((x42 + (x43 * (485872621 : Int))) / 2 ^ (29 : Nat))
  let x45 : Int := (((((x44 + x21) + (x34 * (333 : Int))) + (x37 * (502512965 : Int))) + (x40 * (501691798 : Int))) + (x43 * (9640146 : Int)))
  let x46 : Int := ((((x45 % 2 ^ (32 : Nat)) * (307527195 : Int)) % 2 ^ (32 : Nat)) % 2 ^ (29 : Nat))
  let x47 : Int := ((x45 + (x46 * (485872621 : Int))) / 2 ^ (29 : Nat))
  let x48 : Int := (((((x47 + x22) + (x37 * (333 : Int))) + (x40 * (502512965 : Int))) + (x43 * (501691798 : Int))) + (x46 * (9640146 : Int)))
  let x49 : Int := ((((x48 % 2 ^ (32 : Nat)) * (307527195 : Int)) % 2 ^ (32 : Nat)) % 2 ^ (29 : Nat))
  let x50 : Int := ((x48 + (x49 * (485872621 : Int))) / 2 ^ (29 : Nat))
  let x51 : Int := (((((x50 + x23) + (x40 * (333 : Int))) + (x43 * (502512965 : Int))) + (x46 * (501691798 : Int))) + (x49 * (9640146 : Int)))
  let x52 : Int := ((((x51 % 2 ^ (32 : Nat)) * (307527195 : Int)) % 2 ^ (32 : Nat)) % 2 ^ (29 : Nat))
  let x53 : Int := ((x51 + (x52 * (485872621 : Int))) / 2 ^ (29 : Nat))
  let x54 : Int := (((((x53 + x24) + (x43 * (333 : Int))) + (x46 * (502512965 : Int))) + (x49 * (501691798 : Int))) + (x52 * (9640146 : Int)))
  let x55 : Int := ((((x54 % 2 ^ (32 : Nat)) * (307527195 : Int)) % 2 ^ (32 : Nat)) % 2 ^ (29 : Nat))
  let x56 : Int := ((x54 + (x55 * (485872621 : Int))) / 2 ^ (29 : Nat))
  let x57 : Int := ((((((x56 + x25) + (x34 * (1048576 : Int))) + (x46 * (333 : Int))) + (x49 * (502512965 : Int))) + (x52 * (501691798 : Int))) + (x55 * (9640146 : Int)))
  let x58 : Int := ((((x57 % 2 ^ (32 : Nat)) * (307527195 : Int)) % 2 ^ (32 : Nat)) % 2 ^ (29 : Nat))
  let x59 : Int := ((x57 + (x58 * (485872621 : Int))) / 2 ^ (29 : Nat))
  let x60 : Int := ((((((x59 + x26) + (x37 * (1048576 : Int))) + (x49 * (333 : Int))) + (x52 * (502512965 : Int))) + (x55 * (501691798 : Int))) + (x58 * (9640146 : Int)))
  let x61 : Int := ((x60 % 2 ^ (32 : Nat)) % 2 ^ (29 : Nat))
  let x62 : Int := (x60 / 2 ^ (29 : Nat))
  let x63 : Int := (((((x62 + x27) + (x40 * (1048576 : Int))) + (x52 * (333 : Int))) + (x55 * (502512965 : Int))) + (x58 * (501691798 : Int)))
  let x64 : Int := ((x63 % 2 ^ (32 : Nat)) % 2 ^ (29 : Nat))
  let x65 : Int := (x63 / 2 ^ (29 : Nat))
  let x66 : Int := ((((x65 + x28) + (x43 * (1048576 : Int))) + (x55 * (333 : Int))) + (x58 * (502512965 : Int)))
  let x67 : Int := ((x66 % 2 ^ (32 : Nat)) % 2 ^ (29 : Nat))
  let x68 : Int := (x66 / 2 ^ (29 : Nat))
  let x69 : Int := (((x68 + x29) + (x46 * (1048576 : Int))) + (x58 * (333 : Int)))
  let x70 : Int := ((x69 % 2 ^ (32 : Nat)) % 2 ^ (29 : Nat))
  let x71 : Int := (x69 / 2 ^ (29 : Nat))
  let x72 : Int := ((x71 + x30) + (x49 * (1048576 : Int)))
  let x73 : Int := ((x72 % 2 ^ (32 : Nat)) % 2 ^ (29 : Nat))
  let x74 : Int := (x72 / 2 ^ (29 : Nat))
  let x75 : Int := ((x74 + x31) + (x52 * (1048576 : Int)))
  let x76 : Int := ((x75 % 2 ^ (32 : Nat)) % 2 ^ (29 : Nat))
  let x77 : Int := (x75 / 2 ^ (29 : Nat))
  let x78 : Int := ((x77 + x32) + (x55 * (1048576 : Int)))
  let x79 : Int := ((x78 % 2 ^ (32 : Nat)) % 2 ^ (29 : Nat))
  let x80 : Int := (x78 / 2 ^ (29 : Nat))
  let x81 : Int := ((x80 + x33) + (x58 * (1048576 : Int)))
  let x82 : Int := ((x81 % 2 ^ (32 : Nat)) % 2 ^ (29 : Nat))
  let x83 : Int := (x81 / 2 ^ (29 : Nat))
  let x84 : Int := x83
  let x85 : Int := ((x61 - (485872621 : Int)) % 2 ^ (32 : Nat))
  let x86 : Int := (x85 % 2 ^ (29 : Nat))
  let x87 : Int := ((x64 - ((9640146 : Int) + (x85 / 2 ^ (31 : Nat)))) % 2 ^ (32 : Nat))
  let x88 : Int := (x87 % 2 ^ (29 : Nat))
  let x89 : Int := ((x67 - ((501691798 : Int) + (x87 / 2 ^ (31 : Nat)))) % 2 ^ (32 : Nat))
  let x90 : Int := (x89 % 2 ^ (29 : Nat))
  let x91 : Int := ((x70 - ((502512965 : Int) + (x89 / 2 ^ (31 : Nat)))) % 2 ^ (32 : Nat))
  let x92 : Int := (x91 % 2 ^ (29 : Nat))
  let x93 : Int := ((x73 - ((333 : Int) + (x91 / 2 ^ (31 : Nat)))) % 2 ^ (32 : Nat))
  let x94 : Int := (x93 % 2 ^ (29 : Nat))
  let x95 : Int := ((x76 - ((0 : Int) + (x93 / 2 ^ (31 : Nat)))) % 2 ^ (32 : Nat))
  let x96 : Int := (x95 % 2 ^ (29 : Nat))
  let x97 : Int := ((x79 - ((0 : Int) + (x95 / 2 ^ (31 : Nat)))) % 2 ^ (32 : Nat))
  let x98 : Int := (x97 % 2 ^ (29 : Nat))
  let x99 : Int := ((x82 - ((0 : Int) + (x97 / 2 ^ (31 : Nat)))) % 2 ^ (32 : Nat))
  let x100 : Int := (x99 % 2 ^ (29 : Nat))
  let x101 : Int := ((x84 - ((1048576 : Int) + (x99 / 2 ^ (31 : Nat)))) % 2 ^ (32 : Nat))
  let x102 : Int := (x101 % 2 ^ (29 : Nat))
  let x103 : Int := (x101 / 2 ^ (31 : Nat))
  let x104 : Int := (if x103 = 0 then (0 : Int) else (485872621 : Int))
  let x105 : Int := (((0 : Int) + x86) + x104)
  let x106 : Int := (x105 % 2 ^ (29 : Nat))
  let x107 : Int := (x101 / 2 ^ (31 : Nat))
  let x108 : Int := (if x107 = 0 then (0 : Int) else (9640146 : Int))
  let x109 : Int := (((x105 / 2 ^ (29 : Nat)) + x88) + x108)
  let x110 : Int := (x109 % 2 ^ (29 : Nat))
  let x111 : Int := (x101 / 2 ^ (31 : Nat))
  let x112 : Int := (if x111 = 0 then (0 : Int) else (501691798 : Int))
  let x113 : Int := (((x109 / 2 ^ (29 : Nat)) + x90) + x112)
  let x114 : Int := (x113 % 2 ^ (29 : Nat))
  let x115 : Int := (x101 / 2 ^ (31 : Nat))
  let x116 : Int := (if x115 = 0 then (0 : Int) else (502512965 : Int))
  let x117 : Int := (((x113 / 2 ^ (29 : Nat)) + x92) + x116)
  let x118 : Int := (x117 % 2 ^ (29 : Nat))
  let x119 : Int := (x101 / 2 ^ (31 : Nat))
  let x120 : Int := (if x119 = 0 then (0 : Int) else (333 : Int))
  let x121 : Int := (((x117 / 2 ^ (29 : Nat)) + x94) + x120)
  let x122 : Int := (x121 % 2 ^ (29 : Nat))
  let x123 : Int := (x101 / 2 ^ (31 : Nat))
  let x124 : Int := (if x123 = 0 then (0 : Int) else (0 : Int))
  let x125 : Int := (((x121 / 2 ^ (29 : Nat)) + x96) + x124)
  let x126 : Int := (x125 % 2 ^ (29 : Nat))
  let x127 : Int := (x101 / 2 ^ (31 : Nat))
  let x128 : Int := (if x127 = 0 then (0 : Int) else (0 : Int))
  let x129 : Int := (((x125 / 2 ^ (29 : Nat)) + x98) + x128)
  let x130 : Int := (x129 % 2 ^ (29 : Nat))
  let x131 : Int := (x101 / 2 ^ (31 : Nat))
  let x132 : Int := (if x131 = 0 then (0 : Int) else (0 : Int))
  let x133 : Int := (((x129 / 2 ^ (29 : Nat)) + x100) + x132)
  let x134 : Int := (x133 % 2 ^ (29 : Nat))
  let x135 : Int := (x101 / 2 ^ (31 : Nat))
  let x136 : Int := (if x135 = 0 then (0 : Int) else (1048576 : Int))
  let x137 : Int := (((x133 / 2 ^ (29 : Nat)) + x102) + x136)
  let x138 : Int := (x137 % 2 ^ (29 : Nat))
  [x106, x110, x114, x118, x122, x126, x130, x134, x138]

theorem montgomery_square_fn_ok (x0 x1 x2 x3 x4 x5 x6 x7 x8 : Int) : NProg.evalZ montgomery_square_nprog [x0, x1, x2, x3, x4, x5, x6, x7, x8] = montgomery_square_fn x0 x1 x2 x3 x4 x5 x6 x7 x8 :=
  (NProg.evalZ_eq_fast _ _).trans (by kernel_rfl)

def from_montgomery_post : List Itv := [⟨0, 536870911, 0⟩, ⟨0, 536870911, 0⟩, ⟨0, 536870911, 0⟩, ⟨0, 536870911, 0⟩, ⟨0, 536870911, 0⟩, ⟨0, 536870911, 0⟩, ⟨0, 536870911, 0⟩, ⟨0, 536870911, 0⟩, ⟨0, 536870911, 0⟩]

def from_montgomery_nprog : NProg := Prog.normProg Dalek.Gen.Scalar29.from_montgomery Dalek.Model.Contracts.Scalar29.pre_from_montgomery

theorem from_montgomery_norm_ok : Prog.norm Dalek.Gen.Scalar29.from_montgomery Dalek.Model.Contracts.Scalar29.pre_from_montgomery = some (from_montgomery_nprog, from_montgomery_post) :=
  Prog.norm_eq_of_post (by decide +kernel)

def from_montgomery_fn (x0 x1 x2 x3 x4 x5 x6 x7 x8 : Int) : List Int :=
  let x9 : Int := x0
  let x10 : Int := x1
  let x11 : Int := x2
  let x12 : Int := x3
  let x13 : Int := x4
  let x14 : Int := x5
  let x15 : Int := x6
  let x16 : Int := x7
  let x17 : Int := x8
  let x18 : Int := (((x9 * (307527195 : Int)) % 2 ^ (32 : Nat)) % 2 ^ (29 : Nat))
  let x19 : Int := ((x9 + (x18 * (485872621 : Int))) / 2 ^ (29 : Nat))
  let x20 : Int := ((x19 + x10) + (x18 * (9640146 : Int)))
  let x21 : Int := ((((x20 % 2 ^ (32 : Nat)) * (307527195 : Int)) % 2 ^ (32 : Nat)) % 2 ^ (29 : Nat))
  let x22 : Int := ((x20 + (x21 * (485872621 : Int))) / 2 ^ (29 : Nat))
  let x23 : Int := (((x22 + x11) + (x18 * (501691798 : Int))) + (x21 * (9640146 : Int)))
  let x24 : Int := ((((x23 % 2 ^ (32 : Nat)) * (307527195 : Int)) % 2 ^ (32 : Nat)) % 2 ^ (29 : Nat))
  let x25 : Int := ((x23 + (x24 * (485872621 : Int))) / 2 ^ (29 : Nat))
  let x26 : Int := ((((x25 + x12) + (x18 * (502512965 : Int))) + (x21 * (501691798 : Int))) + (x24 * (9640146 : Int)))
  let x27 : Int := ((((x26 % 2 ^ (32 : Nat)) * (307527195 : Int)) % 2 ^ (32 : Nat)) % 2 ^ (29 : Nat))
  let x28 : Int := ((x26 + (x27 * (485872621 : Int))) / 2 ^ (29 : Nat))
  let x29 : Int := (((((x28 + x13) + (x18 * (333 : Int))) + (x21 * (502512965 : Int))) + (x24 * (501691798 : Int))) + (x27 * (9640146 : Int)))
  let x30 : Int := ((((x29 % 2 ^ (32 : Nat)) * (307527195 : Int)) % 2 ^ (32 : Nat)) % 2 ^ (29 : Nat))
  let x31 : Int := ((x29 + (x30 * (485872621 : Int))) / 2 ^ (29 : Nat))
  let x32 : Int := (((((x31 + x14) + (x21 * (333 : Int))) + (x24 * (502512965 : Int))) + (x27 * (501691798 : Int))) + (x30 * (9640146 : Int)))
  let x33 : Int := ((((x32 % 2 ^ (32 : Nat)) * (307527195 : Int)) % 2 ^ (32 : Nat)) % 2 ^ (29 : Nat))
  let x34 : Int := ((x32 + (x33 * (485872621 : Int))) / 2 ^ (29 : Nat))
  let x35 : Int := (((((x34 + x15) + (x24 * (333 : Int))) + (x27 * (502512965 : Int))) + (x30 * (501691798 : Int))) + (x33 * (9640146 : Int)))
  let x36 : Int := ((((x35 % 2 ^ (32 : Nat)) * (307527195 : Int)) % 2 ^ (32 : Nat)) % 2 ^ (29 : Nat))
  let x37 : Int := ((x35 + (x36 * (485872621 : Int))) / 2 ^ (29 : Nat))
  let x38 : Int := (((((x37 + x16) + (x27 * (333 : Int))) + (x30 * (502512965 : Int))) + (x33 * (501691798 : Int))) + (x36 * (9640146 : Int)))
  let x39 : Int := ((((x38 % 2 ^ (32 : Nat)) * (307527195 : Int)) % 2 ^ (32 : Nat)) % 2 ^ (29 : Nat))
  let x40 : Int := ((x38 + (x39 * (485872621 : Int))) / 2 ^ (29 : Nat))
  let x41 : Int := ((((((x40 + x17) + (x18 * (1048576 : Int))) + (x30 * (333 : Int))) + (x33 * (502512965 : Int))) + (x36 * (501691798 : Int))) + (x39 * (9640146 : Int)))
  let x42 : Int := ((((x41 % 2 ^ (32 : Nat)) * (307527195 : Int)) % 2 ^ (32 : Nat)) % 2 ^ (29 : Nat))
  let x43 : Int := ((x41 + (x42 * (485872621 : Int))) / 2 ^ (29 : Nat))
  let x44 : Int := ((((((x43 + (0 : Int)) + (x21 * (1048576 : Int))) + (x33 * (333 : Int))) + (x36 * (502512965 : Int))) + (x39 * (501691798 : Int))) + (x42 * (9640146 : Int)))
  let x45 : Int := ((x44 % 2 ^ (32 : Nat)) % 2 ^ (29 : Nat))
  let x46 : Int := (x44 / 2 ^ (29 : Nat))
  let x47 : Int := (((((x46 + (0 : Int)) + (x24 * (1048576 : Int))) + (x36 * (333 : Int))) + (x39 * (502512965 : Int))) + (x42 * (501691798 : Int)))
  let x48 : Int := ((x47 % 2 ^ (32 : Nat)) % 2 ^ (29 : Nat))
  let x49 : Int := (x47 / 2 ^ (29 : Nat))
  let x50 : Int := ((((x49 + (0 : Int)) + (x27 * (1048576 : Int))) + (x39 * (333 : Int))) + (x42 * (502512965 : Int)))
  let x51 : Int := ((x50 % 2 ^ (32 : Nat)) % 2 ^ (29 : Nat))
  let x52 : Int := (x50 / 2 ^ (29 : Nat))
  let x53 : Int := (((x52 + (0 : Int)) + (x30 * (1048576 : Int))) + (x42 * (333 : Int)))
  let x54 : Int := ((x53 % 2 ^ (32 : Nat)) % 2 ^ (29 : Nat))
  let x55 : Int := (x53 / 2 ^ (29 : Nat))
  let x56 : Int := ((x55 + (0 : Int)) + (x33 * (1048576 : Int)))
  let x57 : Int := ((x56 % 2 ^ (32 : Nat)) % 2 ^ (29 : Nat))
  let x58 : Int := (x56 / 2 ^ (29 : Nat))
  let x59 : Int := ((x58 + (0 : Int)) + (x36 * (1048576 : Int)))
  let x60 : Int := ((x59 % 2 ^ (32 : Nat)) % 2 ^ (29 : Nat))
  let x61 : Int := (x59 / 2 ^ (29 : Nat))
  let x62 : Int := ((x61 + (0 : Int)) + (x39 * (1048576 : Int)))
  let x63 : Int := ((x62 % 2 ^ (32 : Nat)) % 2 ^ (29 : Nat))
  let x64 : Int := (x62 / 2 ^ (29 : Nat))
  let x65 : Int := ((x64 + (0 : Int)) + (x42 * (1048576 : Int)))
  let x66 : Int := ((x65 % 2 ^ (32 : Nat)) % 2 ^ (29 : Nat))
  let x67 : Int := (x65 / 2 ^ (29 : Nat))
  let x68 : Int := x67
  let x69 : Int := ((x45 - (485872621 : Int)) % 2 ^ (32 : Nat))
  let x70 : Int := (x69 % 2 ^ (29 : Nat))
  let x71 : Int := ((x48 - ((9640146 : Int) + (x69 / 2 ^ (31 : Nat)))) % 2 ^ (32 : Nat))
  let x72 : Int := (x71 % 2 ^ (29 : Nat))
  let x73 : Int := ((x51 - ((501691798 : Int) + (x71 / 2 ^ (31 : Nat)))) % 2 ^ (32 : Nat))
  let x74 : Int := (x73 % 2 ^ (29 : Nat))
  let x75 : Int := ((x54 - ((502512965 : Int) + (x73 / 2 ^ (31 : Nat)))) % 2 ^ (32 : Nat))
  let x76 : Int := (x75 % 2 ^ (29 : Nat))
  let x77 : Int := ((x57 - ((333 : Int) + (x75 / 2 ^ (31 : Nat)))) % 2 ^ (32 : Nat))
  let x78 : Int := (x77 % 2 ^ (29 : Nat))
  let x79 : Int := ((x60 - ((0 : Int) + (x77 / 2 ^ (31 : Nat)))) % 2 ^ (32 : Nat))
  let x80 : Int := (x79 % 2 ^ (29 : Nat))
  let x81 : Int := ((x63 - ((0 : Int) + (x79 / 2 ^ (31 : Nat)))) % 2 ^ (32 : Nat))
  let x82 : Int := (x81 % 2 ^ (29 : Nat))
  let x83 : Int := ((x66 - ((0 : Int) + (x81 / 2 ^ (31 : Nat)))) % 2 ^ (32 : Nat))
  let x84 : Int := (x83 % 2 ^ (29 : Nat))
  let x85 : Int := ((x68 - ((1048576 : Int) + (x83 / 2 ^ (31 : Nat)))) % 2 ^ (32 : Nat))
  let x86 : Int := (x85 % 2 ^ (29 : Nat))
  let x87 : Int := (x85 / 2 ^ (31 : Nat))
  let x88 : Int := (if x87 = 0 then (0 : Int) else (485872621 : Int))
  let x89 : Int := (((0 : Int) + x70) + x88)
  let x90 : Int := (x89 % 2 ^ (29 : Nat))
  let x91 : Int := (x85 / 2 ^ (31 : Nat))
  let x92 : Int := (if x91 = 0 then (0 : Int) else (9640146 : Int))
  let x93 : Int := (((x89 / 2 ^ (29 : Nat)) + x72) + x92)
  let x94 : Int := (x93 % 2 ^ (29 : Nat))
  let x95 : Int := (x85 / 2 ^ (31 : Nat))
  let x96 : Int := (if x95 = 0 then (0 : Int) else (501691798 : Int))
  let x97 : Int := (((x93 / 2 ^ (29 : Nat)) + x74) + x96)
  let x98 : Int := (x97 % 2 ^ (29 : Nat))
  let x99 : Int := (x85 / 2 ^ (31 : Nat))
  let x100 : Int := (if x99 = 0 then (0 : Int) else (502512965 : Int))
  let x101 : Int := (((x97 / 2 ^ (29 : Nat)) + x76) + x100)
  let x102 : Int := (x101 % 2 ^ (29 : Nat))
  let x103 : Int := (x85 / 2 ^ (31 : Nat))
  let x104 : Int := (if x103 = 0 then (0 : Int) else (333 : Int))
  let x105 : Int := (((x101 / 2 ^ (29 : Nat)) + x78) + x104)
  let x106 : Int := (x105 % 2 ^ (29 : Nat))
  let x107 : Int := (x85 / 2 ^ (31 : Nat))
  let x108 : Int := (if x107 = 0 then (0 : Int) else (0 : Int))
  let x109 : Int := (((x105 / 2 ^ (29 : Nat)) + x80) + x108)
  let x110 : Int := (x109 % 2 ^ (29 : Nat))
  let x111 : Int := (x85 / 2 ^ (31 : Nat))
  let x112 : Int := (if x111 = 0 then (0 : Int) else (0 : Int))
  let x113 : Int := (((x109 / 2 ^ (29 : Nat)) + x82) + x112)
  let x114 : Int := (x113 % 2 ^ (29 : Nat))
  let x115 : Int := (x85 / 2 ^ (31 : Nat))
  let x116 : Int := (if x115 = 0 then (0 : Int) else (0 : Int))
  let x117 : Int := (((x113 / 2 ^ (29 : Nat)) + x84) + x116)
  let x118 : Int := (x117 % 2 ^ (29 : Nat))
  let x119 : Int := (x85 / 2 ^ (31 : Nat))
  let x120 : Int := (if x119 = 0 then (0 : Int) else (1048576 : Int))
  let x121 : Int := (((x117 / 2 ^ (29 : Nat)) + x86) + x120)
  let x122 : Int := (x121 % 2 ^ (29 : Nat))
  [x90, x94, x98, x102, x106, x110, x114, x118, x122]

theorem from_montgomery_fn_ok (x0 x1 x2 x3 x4 x5 x6 x7 x8 : Int) : NProg.evalZ from_montgomery_nprog [x0, x1, x2, x3, x4, x5, x6, x7, x8] = from_montgomery_fn x0 x1 x2 x3 x4 x5 x6 x7 x8 :=
  (NProg.evalZ_eq_fast _ _).trans (by kernel_rfl)

end Dalek.Gen.Norm.Scalar29
