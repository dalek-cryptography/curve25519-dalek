import Dalek.Proofs.Scalar52.Compose
import Dalek.Model.FieldBytes
import Dalek.Proofs.BytesCommon
/-! # Scalar52: the byte codecs `from_bytes`, `as_bytes` and the wide reduction `from_bytes_wide`

`word` is the little-endian assembly of eight bytes into a `u64` as the translator emits it; the limb extraction
formulas are stated on words.  Both directions go limb by limb: `cut_step` turns the value of the limbs into the
value of the words, `leValZ_bytes` the whole bytes of a limb into a slice of the limb. -/
set_option exponentiation.threshold 600

namespace Dalek.Proofs.Scalar52
open Dalek.IR Dalek.Gen.Norm.Scalar52 Dalek.Gen.Consts Dalek.Model.FieldBytes Dalek.Proofs.Radix

/-- little-endian `u64` from eight bytes, in the shape produced by the translator -/
def word (b0 b1 b2 b3 b4 b5 b6 b7 : Int) : Int :=
  ((((((((0 + b0 * 1) + b1 * 256) + b2 * 65536) + b3 * 16777216) + b4 * 4294967296) + b5 * 1099511627776)
    + b6 * 281474976710656) + b7 * 72057594037927936)

theorem word_bd {b0 b1 b2 b3 b4 b5 b6 b7 : Int} (h : Lim 256 [b0, b1, b2, b3, b4, b5, b6, b7]) :
    0 ≤ word b0 b1 b2 b3 b4 b5 b6 b7 ∧ word b0 b1 b2 b3 b4 b5 b6 b7 < 2 ^ 64 := by
  simp only [Lim, word] at *
  omega

theorem Lim_split8 {B : Int} {a0 a1 a2 a3 a4 a5 a6 a7 : Int} {rest : List Int}
    (h : Lim B (a0 :: a1 :: a2 :: a3 :: a4 :: a5 :: a6 :: a7 :: rest)) :
    Lim B [a0, a1, a2, a3, a4, a5, a6, a7] ∧ Lim B rest := by
  simp only [Lim] at h ⊢
  exact ⟨⟨h.1, h.2.1, h.2.2.1, h.2.2.2.1, h.2.2.2.2.1, h.2.2.2.2.2.1, h.2.2.2.2.2.2.1, h.2.2.2.2.2.2.2.1, trivial⟩,
    h.2.2.2.2.2.2.2.2⟩

theorem Lim_split4 {B : Int} {a0 a1 a2 a3 : Int} {rest : List Int}
    (h : Lim B (a0 :: a1 :: a2 :: a3 :: rest)) : Lim B [a0, a1, a2, a3] ∧ Lim B rest := by
  simp only [Lim] at h ⊢
  exact ⟨⟨h.1, h.2.1, h.2.2.1, h.2.2.2.1, trivial⟩, h.2.2.2.2⟩

/-! ## `from_bytes`

The limbs of `from_bytes` and `from_bytes_wide` are cut out of little-endian machine words; their value turns into the
value of the words one word at a time (`Radix.cut_step`). -/

/-- the five limbs of `from_bytes` as functions of the four words -/
def limbs4 (w0 w1 w2 w3 : Int) : List Int :=
  [w0 % 2 ^ 52,
   ((w0 / 2 ^ 52) + ((w1 * 4096) % 2 ^ 64)) % 2 ^ 52,
   ((w1 / 2 ^ 40) + ((w2 * 16777216) % 2 ^ 64)) % 2 ^ 52,
   ((w2 / 2 ^ 28) + ((w3 * 68719476736) % 2 ^ 64)) % 2 ^ 52,
   w3 / 2 ^ 16]

theorem from_bytes_fn_eq (x0 x1 x2 x3 x4 x5 x6 x7 x8 x9 x10 x11 x12 x13 x14 x15 x16 x17 x18 x19 x20 x21 x22 x23 x24 x25 x26 x27 x28 x29 x30 x31 : Int) :
    from_bytes_fn x0 x1 x2 x3 x4 x5 x6 x7 x8 x9 x10 x11 x12 x13 x14 x15 x16 x17 x18 x19 x20 x21 x22 x23 x24 x25 x26 x27 x28 x29 x30 x31 = limbs4 (word x0 x1 x2 x3 x4 x5 x6 x7) (word x8 x9 x10 x11 x12 x13 x14 x15) (word x16 x17 x18 x19 x20 x21 x22 x23) (word x24 x25 x26 x27 x28 x29 x30 x31) := rfl

theorem limbs4_spec (w0 w1 w2 w3 : Int) (h0 : 0 ≤ w0 ∧ w0 < 2 ^ 64) (h1 : 0 ≤ w1 ∧ w1 < 2 ^ 64)
    (h2 : 0 ≤ w2 ∧ w2 < 2 ^ 64) (h3 : 0 ≤ w3 ∧ w3 < 2 ^ 64) :
    ∃ o0 o1 o2 o3 o4, limbs4 w0 w1 w2 w3 = [o0, o1, o2, o3, o4] ∧ Lim (2 ^ 52) [o0, o1, o2, o3] ∧
      (0 ≤ o4 ∧ o4 < 2 ^ 48) ∧
      repZ [o0, o1, o2, o3, o4] = w0 + 2 ^ 64 * (w1 + 2 ^ 64 * (w2 + 2 ^ 64 * w3)) := by
  refine ⟨_, _, _, _, _, rfl, ⟨emod_lim _ 52, emod_lim _ 52, emod_lim _ 52, emod_lim _ 52, trivial⟩, by omega, ?_⟩
  simp only [repZ]
  rw [cut_step 52 12 40 4096 w0 w1 _ (by norm_num) h0 (by norm_num),
    cut_step 40 24 28 16777216 w1 w2 _ (by norm_num) h1 (by norm_num),
    cut_step 28 36 16 68719476736 w2 w3 _ (by norm_num) h2 (by norm_num), mul_zero, add_zero,
    Int.emod_add_mul_ediv]

theorem leValZ_nil : leValZ [] = 0 := rfl

/-- eight more bytes are one more `u64` word -/
theorem leValZ_cons8 (b0 b1 b2 b3 b4 b5 b6 b7 : Int) (r : List Int) :
    leValZ (b0 :: b1 :: b2 :: b3 :: b4 :: b5 :: b6 :: b7 :: r) = word b0 b1 b2 b3 b4 b5 b6 b7 + 2 ^ 64 * leValZ r := by
  simp only [leValZ, word]; ring

theorem from_bytes_fn_spec (x0 x1 x2 x3 x4 x5 x6 x7 x8 x9 x10 x11 x12 x13 x14 x15 x16 x17 x18 x19 x20 x21 x22 x23 x24 x25 x26 x27 x28 x29 x30 x31 : Int) (h : Lim 256 [x0, x1, x2, x3, x4, x5, x6, x7, x8, x9, x10, x11, x12, x13, x14, x15, x16, x17, x18, x19, x20, x21, x22, x23, x24, x25, x26, x27, x28, x29, x30, x31]) :
    ∃ o0 o1 o2 o3 o4, from_bytes_fn x0 x1 x2 x3 x4 x5 x6 x7 x8 x9 x10 x11 x12 x13 x14 x15 x16 x17 x18 x19 x20 x21 x22 x23 x24 x25 x26 x27 x28 x29 x30 x31 = [o0, o1, o2, o3, o4] ∧ Lim (2 ^ 52) [o0, o1, o2, o3] ∧
      (0 ≤ o4 ∧ o4 < 2 ^ 48) ∧ repZ [o0, o1, o2, o3, o4] = leValZ [x0, x1, x2, x3, x4, x5, x6, x7, x8, x9, x10, x11, x12, x13, x14, x15, x16, x17, x18, x19, x20, x21, x22, x23, x24, x25, x26, x27, x28, x29, x30, x31] := by
  obtain ⟨hb0, h⟩ := Lim_split8 h
  obtain ⟨hb1, h⟩ := Lim_split8 h
  obtain ⟨hb2, h⟩ := Lim_split8 h
  obtain ⟨hb3, -⟩ := Lim_split8 h
  rw [from_bytes_fn_eq]
  simp only [leValZ_cons8, leValZ_nil, mul_zero, add_zero]
  exact limbs4_spec _ _ _ _ (word_bd hb0) (word_bd hb1) (word_bd hb2) (word_bd hb3)

/-! ## `as_bytes` -/

/-- two 52-bit limbs are thirteen bytes; the seventh takes four bits of each -/
theorem pair52 (x y : Int) (hx : 0 ≤ x ∧ x < 2 ^ 52) (R : Int) :
    x / 2 ^ 0 % 2 ^ 48 + 2 ^ 48 * ((x / 2 ^ 48 + y * 16) % 2 ^ 8 + 256 * (y / 2 ^ 4 % 2 ^ 40 + 2 ^ 40 *
      (y / 2 ^ 44 + 256 * R))) = x + 2 ^ 52 * (y + 2 ^ 52 * R) := by
  omega

theorem as_bytes_fn_spec (a0 a1 a2 a3 a4 : Int) (ha : Lim (2 ^ 52) [a0, a1, a2, a3]) (h4 : 0 ≤ a4 ∧ a4 < 2 ^ 48) :
    leValZ (as_bytes_fn a0 a1 a2 a3 a4) = repZ [a0, a1, a2, a3, a4] := by
  simp only [as_bytes_fn]
  rw [leValZ_bytes6, leValZ, leValZ_bytes5, leValZ, leValZ_bytes6, leValZ, leValZ_bytes5, leValZ, leValZ_bytes6, leValZ,
    pair52 a2 a3 ha.2.2.1, pair52 a0 a1 ha.1]
  simp only [repZ]
  omega

/-! ## `from_bytes_wide` -/

/-- `mul_internal(·, R)` with the literal limbs of `constants::R` -/
def mulR (c0 c1 c2 c3 c4 : Int) : List Int :=
  mul_internal_fn c0 c1 c2 c3 c4 4302102966953709 1049714374468698 4503599278581019 4503599627370495 17592186044415

/-- apply a 10-argument function to two 5-element lists -/
def ap55 (f : Int → Int → Int → Int → Int → Int → Int → Int → Int → Int → List Int) : List Int → List Int → List Int
  | [a0, a1, a2, a3, a4], [b0, b1, b2, b3, b4] => f a0 a1 a2 a3 a4 b0 b1 b2 b3 b4
  | _, _ => []

/-- the low five limbs (bits 0..259) of a 512-bit value given as eight words -/
def limbsLo (w0 w1 w2 w3 w4 : Int) : List Int :=
  [w0 % 2 ^ 52,
   ((w0 / 2 ^ 52) + ((w1 * 4096) % 2 ^ 64)) % 2 ^ 52,
   ((w1 / 2 ^ 40) + ((w2 * 16777216) % 2 ^ 64)) % 2 ^ 52,
   ((w2 / 2 ^ 28) + ((w3 * 68719476736) % 2 ^ 64)) % 2 ^ 52,
   ((w3 / 2 ^ 16) + ((w4 * 281474976710656) % 2 ^ 64)) % 2 ^ 52]

/-- the high five limbs (bits 260..511) -/
def limbsHi (w4 w5 w6 w7 : Int) : List Int :=
  [(w4 / 2 ^ 4) % 2 ^ 52,
   ((w4 / 2 ^ 56) + ((w5 * 256) % 2 ^ 64)) % 2 ^ 52,
   ((w5 / 2 ^ 44) + ((w6 * 1048576) % 2 ^ 64)) % 2 ^ 52,
   ((w6 / 2 ^ 32) + ((w7 * 4294967296) % 2 ^ 64)) % 2 ^ 52,
   w7 / 2 ^ 20]

/-- `from_bytes_wide = add(montgomery_mul(hi, RR), montgomery_mul(lo, R))` (structural equality, by `rfl`) -/
theorem from_bytes_wide_fn_eq (x0 x1 x2 x3 x4 x5 x6 x7 x8 x9 x10 x11 x12 x13 x14 x15 x16 x17 x18 x19 x20 x21 x22 x23 x24 x25 x26 x27 x28 x29 x30 x31 x32 x33 x34 x35 x36 x37 x38 x39 x40 x41 x42 x43 x44 x45 x46 x47 x48 x49 x50 x51 x52 x53 x54 x55 x56 x57 x58 x59 x60 x61 x62 x63 : Int) :
    from_bytes_wide_fn x0 x1 x2 x3 x4 x5 x6 x7 x8 x9 x10 x11 x12 x13 x14 x15 x16 x17 x18 x19 x20 x21 x22 x23 x24 x25 x26 x27 x28 x29 x30 x31 x32 x33 x34 x35 x36 x37 x38 x39 x40 x41 x42 x43 x44 x45 x46 x47 x48 x49 x50 x51 x52 x53 x54 x55 x56 x57 x58 x59 x60 x61 x62 x63 =
      ap55 add_fn
        (ap9 montgomery_reduce_fn (ap5 mulRR (limbsHi (word x32 x33 x34 x35 x36 x37 x38 x39) (word x40 x41 x42 x43 x44 x45 x46 x47) (word x48 x49 x50 x51 x52 x53 x54 x55) (word x56 x57 x58 x59 x60 x61 x62 x63))))
        (ap9 montgomery_reduce_fn (ap5 mulR (limbsLo (word x0 x1 x2 x3 x4 x5 x6 x7) (word x8 x9 x10 x11 x12 x13 x14 x15) (word x16 x17 x18 x19 x20 x21 x22 x23) (word x24 x25 x26 x27 x28 x29 x30 x31) (word x32 x33 x34 x35 x36 x37 x38 x39)))) := by
  kernel_rfl

theorem horner5 (l0 l1 l2 l3 l4 Q : Int) :
    l0 + 2 ^ 52 * (l1 + 2 ^ 52 * (l2 + 2 ^ 52 * (l3 + 2 ^ 52 * l4))) + 2 ^ 260 * Q
      = l0 + 2 ^ 52 * (l1 + 2 ^ 52 * (l2 + 2 ^ 52 * (l3 + 2 ^ 52 * (l4 + 2 ^ 52 * Q)))) := by
  ring

theorem limbsLoHi_spec (w0 w1 w2 w3 w4 w5 w6 w7 : Int) (h0 : 0 ≤ w0 ∧ w0 < 2 ^ 64) (h1 : 0 ≤ w1 ∧ w1 < 2 ^ 64)
    (h2 : 0 ≤ w2 ∧ w2 < 2 ^ 64) (h3 : 0 ≤ w3 ∧ w3 < 2 ^ 64) (h4 : 0 ≤ w4 ∧ w4 < 2 ^ 64) (h5 : 0 ≤ w5 ∧ w5 < 2 ^ 64)
    (h6 : 0 ≤ w6 ∧ w6 < 2 ^ 64) (h7 : 0 ≤ w7 ∧ w7 < 2 ^ 64) :
    ∃ l0 l1 l2 l3 l4 g0 g1 g2 g3 g4, limbsLo w0 w1 w2 w3 w4 = [l0, l1, l2, l3, l4] ∧
      limbsHi w4 w5 w6 w7 = [g0, g1, g2, g3, g4] ∧
      Lim (2 ^ 52) [l0, l1, l2, l3, l4] ∧ Lim (2 ^ 52) [g0, g1, g2, g3, g4] ∧
      repZ [l0, l1, l2, l3, l4] + 2 ^ 260 * repZ [g0, g1, g2, g3, g4]
        = w0 + 2 ^ 64 * (w1 + 2 ^ 64 * (w2 + 2 ^ 64 * (w3 + 2 ^ 64 * (w4 + 2 ^ 64 * (w5 + 2 ^ 64 * (w6 + 2 ^ 64 * w7)))))) := by
  refine ⟨_, _, _, _, _, _, _, _, _, _, rfl, rfl,
    ⟨emod_lim _ 52, emod_lim _ 52, emod_lim _ 52, emod_lim _ 52, emod_lim _ 52, trivial⟩,
    ⟨emod_lim _ 52, emod_lim _ 52, emod_lim _ 52, emod_lim _ 52, by omega, trivial⟩, ?_⟩
  simp only [repZ]
  rw [mul_zero, add_zero, horner5,
    cut_step 52 12 40 4096 w0 w1 _ (by norm_num) h0 (by norm_num),
    cut_step 40 24 28 16777216 w1 w2 _ (by norm_num) h1 (by norm_num),
    cut_step 28 36 16 68719476736 w2 w3 _ (by norm_num) h2 (by norm_num),
    cut_step 16 48 4 281474976710656 w3 w4 _ (by norm_num) h3 (by norm_num), cut_mid 4 52 w4,
    cut_step 56 8 44 256 w4 w5 _ (by norm_num) h4 (by norm_num),
    cut_step 44 20 32 1048576 w5 w6 _ (by norm_num) h5 (by norm_num),
    cut_step 32 32 20 4294967296 w6 w7 _ (by norm_num) h6 (by norm_num), add_zero, Int.emod_add_mul_ediv]

/-- `montgomery_reduce(mul_internal(c, R))`: the canonical representative of `c` (any 52-bit limbs `c`) -/
theorem mr_mulR_spec (c0 c1 c2 c3 c4 : Int) (hc : Lim (2 ^ 52) [c0, c1, c2, c3, c4]) :
    ∃ o0 o1 o2 o3 o4, ap9 montgomery_reduce_fn (mulR c0 c1 c2 c3 c4) = [o0, o1, o2, o3, o4] ∧
      Lim (2 ^ 52) [o0, o1, o2, o3, o4] ∧
      (0 ≤ repZ [o0, o1, o2, o3, o4] ∧ repZ [o0, o1, o2, o3, o4] < ell) ∧
      ((repZ [o0, o1, o2, o3, o4] : Int) : ZMod ell) = ((repZ [c0, c1, c2, c3, c4] : Int) : ZMod ell) := by
  obtain ⟨_, hC⟩ := repZ5_bd c0 c1 c2 c3 c4 hc
  have hR : (0 : Int) ≤ repZ [4302102966953709, 1049714374468698, 4503599278581019, 4503599627370495, 17592186044415]
      ∧ repZ [4302102966953709, 1049714374468698, 4503599278581019, 4503599627370495, 17592186044415] < ell := by
    rw [repZ_R]
    exact ⟨Int.natCast_nonneg _, by exact_mod_cast Nat.mod_lt _ (by norm_num [ell])⟩
  obtain ⟨o0, o1, o2, o3, o4, he, hl, hcan, hv⟩ := mr_mi_spec c0 c1 c2 c3 c4 _ _ _ _ _ hc R_lim_lit
    (mul_lt_of_lt_pow hC hR.1 hR.2)
  refine ⟨o0, o1, o2, o3, o4, he, hl, hcan, ?_⟩
  rw [R_zmod] at hv
  exact mul_right_cancel₀ two_pow_ne_zero hv

theorem from_bytes_wide_fn_spec (x0 x1 x2 x3 x4 x5 x6 x7 x8 x9 x10 x11 x12 x13 x14 x15 x16 x17 x18 x19 x20 x21 x22 x23 x24 x25 x26 x27 x28 x29 x30 x31 x32 x33 x34 x35 x36 x37 x38 x39 x40 x41 x42 x43 x44 x45 x46 x47 x48 x49 x50 x51 x52 x53 x54 x55 x56 x57 x58 x59 x60 x61 x62 x63 : Int) (h : Lim 256 [x0, x1, x2, x3, x4, x5, x6, x7, x8, x9, x10, x11, x12, x13, x14, x15, x16, x17, x18, x19, x20, x21, x22, x23, x24, x25, x26, x27, x28, x29, x30, x31, x32, x33, x34, x35, x36, x37, x38, x39, x40, x41, x42, x43, x44, x45, x46, x47, x48, x49, x50, x51, x52, x53, x54, x55, x56, x57, x58, x59, x60, x61, x62, x63]) :
    ∃ o0 o1 o2 o3 o4, from_bytes_wide_fn x0 x1 x2 x3 x4 x5 x6 x7 x8 x9 x10 x11 x12 x13 x14 x15 x16 x17 x18 x19 x20 x21 x22 x23 x24 x25 x26 x27 x28 x29 x30 x31 x32 x33 x34 x35 x36 x37 x38 x39 x40 x41 x42 x43 x44 x45 x46 x47 x48 x49 x50 x51 x52 x53 x54 x55 x56 x57 x58 x59 x60 x61 x62 x63 = [o0, o1, o2, o3, o4] ∧ Lim (2 ^ 52) [o0, o1, o2, o3, o4] ∧
      repZ [o0, o1, o2, o3, o4] = leValZ [x0, x1, x2, x3, x4, x5, x6, x7, x8, x9, x10, x11, x12, x13, x14, x15, x16, x17, x18, x19, x20, x21, x22, x23, x24, x25, x26, x27, x28, x29, x30, x31, x32, x33, x34, x35, x36, x37, x38, x39, x40, x41, x42, x43, x44, x45, x46, x47, x48, x49, x50, x51, x52, x53, x54, x55, x56, x57, x58, x59, x60, x61, x62, x63] % ell := by
  obtain ⟨hb0, h⟩ := Lim_split8 h
  obtain ⟨hb1, h⟩ := Lim_split8 h
  obtain ⟨hb2, h⟩ := Lim_split8 h
  obtain ⟨hb3, h⟩ := Lim_split8 h
  obtain ⟨hb4, h⟩ := Lim_split8 h
  obtain ⟨hb5, h⟩ := Lim_split8 h
  obtain ⟨hb6, h⟩ := Lim_split8 h
  obtain ⟨hb7, -⟩ := Lim_split8 h
  rw [from_bytes_wide_fn_eq]
  simp only [leValZ_cons8, leValZ_nil, mul_zero, add_zero]
  obtain ⟨l0, l1, l2, l3, l4, g0, g1, g2, g3, g4, hlo, hhi, hllo, hlhi, hval⟩ := limbsLoHi_spec _ _ _ _ _ _ _ _
    (word_bd hb0) (word_bd hb1) (word_bd hb2) (word_bd hb3) (word_bd hb4) (word_bd hb5) (word_bd hb6) (word_bd hb7)
  rw [hlo, hhi, ← hval]
  obtain ⟨p0, p1, p2, p3, p4, hep, hlp, hcp, hvp⟩ := mr_mulR_spec l0 l1 l2 l3 l4 hllo
  obtain ⟨q0, q1, q2, q3, q4, heq, hlq, hcq, hvq⟩ := mr_mulRR_spec g0 g1 g2 g3 g4 hlhi
  show ∃ o0 o1 o2 o3 o4, ap55 add_fn (ap9 montgomery_reduce_fn (mulRR g0 g1 g2 g3 g4))
    (ap9 montgomery_reduce_fn (mulR l0 l1 l2 l3 l4)) = [o0, o1, o2, o3, o4] ∧ _
  rw [hep, heq]
  obtain ⟨o0, o1, o2, o3, o4, he, hl, hv⟩ := add_fn_spec q0 q1 q2 q3 q4 p0 p1 p2 p3 p4 hlq hlp hcq.2 hcp.2
  refine ⟨o0, o1, o2, o3, o4, he, hl, ?_⟩
  rw [hv]
  apply (ZMod.intCast_eq_intCast_iff' _ _ ell).1
  push_cast
  rw [hvq, hvp]; ring

end Dalek.Proofs.Scalar52
