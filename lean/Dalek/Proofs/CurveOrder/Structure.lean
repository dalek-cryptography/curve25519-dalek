/-
Structure of the group `Ed` of the Ed25519 curve, from `#E = 8ℓ` (`Dalek.CurveOrder.card_Ed`):

* `torsion n` = `E[n]`, the kernel of multiplication by `n`;
* `E[8] = ⟨T₈⟩` has 8 elements, `E[ℓ] = ⟨B⟩` has `ℓ` elements, `E = E[8] ⊕ E[ℓ]`
  (`torsion8_eq`, `card_torsion8`, `prime_order_subgroup`, `card_torsionL`, `exists_decomp`, `decomp_unique`);
* `E[m] = ⟨(8/m)·T₈⟩` has `m` elements for `m ∣ 8` (`torsion_of_mul_eq_8`), in particular `#E[4] = 4`, `#E[2] = 2`;
* the even subgroup `2E` has `4ℓ` elements, contains `E[4]`, and `2E / E[4]` (the ristretto255 group) has `ℓ`
  elements, each coset containing exactly one `n·B`, `n < ℓ` (`card_even`, `torsion4_le_even`,
  `card_even_quotient`, `even_coset_rep`);
* the eight points of `E[8]` are the entries of the specification's `eightTorsion` (`torsion8_rep`).
-/
import Dalek.Proofs.CurveOrder

namespace Dalek.CurveOrder

open Dalek.Spec Dalek.Bridge
open Dalek.Edwards (EdPoint)

/-! ## Torsion subgroups -/

/-- `E[n]`: the points annihilated by `n` -/
def torsion (n : Nat) : AddSubgroup Ed := (nsmulAddMonoidHom n : Ed →+ Ed).ker

theorem mem_torsion {n : Nat} {Q : Ed} : Q ∈ torsion n ↔ n • Q = 0 := by
  unfold torsion
  rw [AddMonoidHom.mem_ker, nsmulAddMonoidHom_apply]

theorem zmultiples_T8_le : AddSubgroup.zmultiples T8 ≤ torsion 8 :=
  AddSubgroup.zmultiples_le_of_mem (mem_torsion.2 eight_nsmul_T8)

theorem zmultiples_Bpt_le : AddSubgroup.zmultiples Bpt ≤ torsion L :=
  AddSubgroup.zmultiples_le_of_mem (mem_torsion.2 L_nsmul_Bpt)

/-- `E[8] ∩ E[ℓ] = 0` -/
theorem eq_zero_of_torsion8_of_torsionL {Q : Ed} (h8 : 8 • Q = 0) (hL : L • Q = 0) : Q = 0 := by
  rw [← addOrderOf_dvd_iff_nsmul_eq_zero] at h8 hL
  have := Nat.dvd_gcd hL h8
  rw [coprime_L_8] at this
  exact AddMonoid.addOrderOf_eq_one_iff.1 (Nat.dvd_one.1 this)

/-- `(a, b) ↦ a + b` on `E[8] × E[ℓ]` -/
def splitMap (ab : torsion 8 × torsion L) : Ed := (ab.1 : Ed) + (ab.2 : Ed)

theorem splitMap_injective : Function.Injective splitMap := by
  rintro ⟨⟨a, ha⟩, ⟨b, hb⟩⟩ ⟨⟨a', ha'⟩, ⟨b', hb'⟩⟩ h
  unfold splitMap at h
  dsimp only at h
  rw [mem_torsion] at ha ha' hb hb'
  have hd : a - a' = b' - b := by
    rw [sub_eq_sub_iff_add_eq_add]; rw [h]; exact add_comm _ _
  have h8 : 8 • (a - a') = 0 := by rw [smul_sub, ha, ha', sub_zero]
  have hL : L • (a - a') = 0 := by rw [hd, smul_sub, hb, hb', sub_zero]
  have h0 := eq_zero_of_torsion8_of_torsionL h8 hL
  have e1 : a = a' := sub_eq_zero.1 h0
  have e2 : b' = b := sub_eq_zero.1 (hd ▸ h0)
  subst e1; subst e2; rfl

theorem card_torsion8_and_L : Nat.card (torsion 8) = 8 ∧ Nat.card (torsion L) = L := by
  have h8 : 8 ∣ Nat.card (torsion 8) := by
    have := AddSubgroup.card_dvd_of_le zmultiples_T8_le
    rwa [Nat.card_zmultiples, addOrderOf_T8] at this
  have hL : L ∣ Nat.card (torsion L) := by
    have := AddSubgroup.card_dvd_of_le zmultiples_Bpt_le
    rwa [Nat.card_zmultiples, addOrderOf_Bpt] at this
  have hle : Nat.card (torsion 8) * Nat.card (torsion L) ≤ 8 * L := by
    rw [← Nat.card_prod, ← card_Ed]
    exact Nat.card_le_card_of_injective _ splitMap_injective
  have hpa : 0 < Nat.card (torsion 8) := Nat.card_pos
  have hpb : 0 < Nat.card (torsion L) := Nat.card_pos
  obtain ⟨a, ha⟩ := h8
  obtain ⟨b, hb⟩ := hL
  rw [ha, hb] at hle ⊢
  rw [ha] at hpa
  rw [hb] at hpb
  have ha0 : 0 < a := Nat.pos_of_mul_pos_left hpa
  have hb0 : 0 < b := Nat.pos_of_mul_pos_left hpb
  have hL0 : 0 < 8 * L := Nat.mul_pos (by norm_num) prime_L.pos
  have h1 : 8 * L * (a * b) ≤ 8 * L * 1 := by
    have e : 8 * L * (a * b) = 8 * a * (L * b) := by ring
    rw [e, Nat.mul_one]; exact hle
  have hab : a * b ≤ 1 := Nat.le_of_mul_le_mul_left h1 hL0
  have ha1 : a = 1 := by
    have : a ≤ a * b := Nat.le_mul_of_pos_right a hb0
    omega
  have hb1 : b = 1 := by
    have : b ≤ a * b := Nat.le_mul_of_pos_left b ha0
    omega
  rw [ha1, hb1]
  exact ⟨Nat.mul_one 8, Nat.mul_one L⟩

/-- **`#E[8] = 8`** -/
theorem card_torsion8 : Nat.card (torsion 8) = 8 := card_torsion8_and_L.1

/-- **`#E[ℓ] = ℓ`** -/
theorem card_torsionL : Nat.card (torsion L) = L := card_torsion8_and_L.2

/-- **`E[8]` is the cyclic group generated by `T₈`.** -/
theorem torsion8_eq_zmultiples : torsion 8 = AddSubgroup.zmultiples T8 :=
  (AddSubgroup.eq_of_le_of_card_ge zmultiples_T8_le
    (by rw [card_torsion8, Nat.card_zmultiples, addOrderOf_T8])).symm

/-- **`E[ℓ]` is the cyclic group generated by the basepoint.** -/
theorem torsionL_eq_zmultiples : torsion L = AddSubgroup.zmultiples Bpt :=
  (AddSubgroup.eq_of_le_of_card_ge zmultiples_Bpt_le
    (by rw [card_torsionL, Nat.card_zmultiples, addOrderOf_Bpt])).symm

/-- membership in a cyclic subgroup of `Ed`, with a reduced natural exponent -/
theorem mem_zmultiples_iff_lt {G Q : Ed} {n : Nat} (hn : addOrderOf G = n) :
    Q ∈ AddSubgroup.zmultiples G ↔ ∃ i, i < n ∧ Q = i • G := by
  have hpos : 0 < n := hn ▸ addOrderOf_pos G
  constructor
  · intro h
    rw [← mem_multiples_iff_mem_zmultiples, AddSubmonoid.mem_multiples_iff] at h
    obtain ⟨k, hk⟩ := h
    refine ⟨k % n, Nat.mod_lt _ hpos, ?_⟩
    rw [← hk, ← hn, mod_addOrderOf_nsmul]
  · rintro ⟨i, -, rfl⟩
    exact AddSubgroup.nsmul_mem_zmultiples G i

/-- **The 8-torsion is exactly the eight multiples of `T₈`.** -/
theorem torsion8_eq (Q : Ed) : 8 • Q = 0 ↔ Q ∈ AddSubgroup.zmultiples T8 := by
  rw [← mem_torsion, torsion8_eq_zmultiples]

theorem torsion8_iff (Q : Ed) : 8 • Q = 0 ↔ ∃ i, i < 8 ∧ Q = i • T8 := by
  rw [torsion8_eq, mem_zmultiples_iff_lt addOrderOf_T8]

/-- `#{Q // 8·Q = 0} = 8` -/
theorem card_small_order : Nat.card {Q : Ed // 8 • Q = 0} = 8 := by
  exact (Nat.card_congr (Equiv.subtypeEquivRight fun Q => (mem_torsion (n := 8) (Q := Q)).symm)).trans
    card_torsion8

/-- **The prime-order subgroup**: `ℓ·Q = 0` iff `Q` is a multiple of the basepoint. -/
theorem prime_order_subgroup (Q : Ed) : L • Q = 0 ↔ Q ∈ AddSubgroup.zmultiples Bpt := by
  rw [← mem_torsion, torsionL_eq_zmultiples]

theorem prime_order_subgroup_iff (Q : Ed) : L • Q = 0 ↔ ∃ n, n < L ∧ Q = n • Bpt := by
  rw [prime_order_subgroup, mem_zmultiples_iff_lt addOrderOf_Bpt]

/-- `#{Q // ℓ·Q = 0} = ℓ` -/
theorem card_prime_order_subgroup : Nat.card {Q : Ed // L • Q = 0} = L := by
  exact (Nat.card_congr (Equiv.subtypeEquivRight fun Q => (mem_torsion (n := L) (Q := Q)).symm)).trans
    card_torsionL

/-- `8·Q` is a multiple of the basepoint, for every point `Q`. -/
theorem clear_cofactor_mem_zmultiples (Q : Ed) : 8 • Q ∈ AddSubgroup.zmultiples Bpt :=
  (prime_order_subgroup _).1 (clear_cofactor_in_prime_subgroup Q)

/-! ## `E = E[8] ⊕ E[ℓ]` -/

theorem splitMap_bijective : Function.Bijective splitMap := by
  apply splitMap_injective.bijective_of_nat_card_le
  rw [Nat.card_prod, card_torsion8, card_torsionL, card_Ed]

/-- **Every point is `n·B + i·T₈`** with `n < ℓ`, `i < 8`. -/
theorem exists_decomp (Q : Ed) : ∃ n i, n < L ∧ i < 8 ∧ Q = n • Bpt + i • T8 := by
  obtain ⟨⟨⟨a, ha⟩, ⟨b, hb⟩⟩, h⟩ := splitMap_bijective.2 Q
  obtain ⟨i, hi, rfl⟩ := (torsion8_iff a).1 (mem_torsion.1 ha)
  obtain ⟨n, hn, rfl⟩ := (prime_order_subgroup_iff b).1 (mem_torsion.1 hb)
  exact ⟨n, i, hn, hi, by rw [← h]; exact add_comm _ _⟩

/-- … and the decomposition is unique. -/
theorem decomp_unique {n i n' i' : Nat} (hn : n < L) (hi : i < 8) (hn' : n' < L) (hi' : i' < 8)
    (h : n • Bpt + i • T8 = n' • Bpt + i' • T8) : n = n' ∧ i = i' := by
  have ha : ∀ k : Nat, k • T8 ∈ torsion 8 := fun k =>
    mem_torsion.2 (by rw [smul_comm, eight_nsmul_T8, smul_zero])
  have hb : ∀ k : Nat, k • Bpt ∈ torsion L := fun k =>
    mem_torsion.2 (by rw [smul_comm, L_nsmul_Bpt, smul_zero])
  have := @splitMap_injective (⟨i • T8, ha i⟩, ⟨n • Bpt, hb n⟩) (⟨i' • T8, ha i'⟩, ⟨n' • Bpt, hb n'⟩)
    (by unfold splitMap; dsimp only; rw [add_comm, h, add_comm])
  have e1 : i • T8 = i' • T8 := congrArg (fun ab => (ab.1 : Ed)) this
  have e2 : n • Bpt = n' • Bpt := congrArg (fun ab => (ab.2 : Ed)) this
  rw [nsmul_eq_nsmul_iff_modEq, addOrderOf_T8] at e1
  rw [nsmul_eq_nsmul_iff_modEq, addOrderOf_Bpt] at e2
  unfold Nat.ModEq at e1 e2
  rw [Nat.mod_eq_of_lt hi, Nat.mod_eq_of_lt hi'] at e1
  rw [Nat.mod_eq_of_lt hn, Nat.mod_eq_of_lt hn'] at e2
  exact ⟨e2, e1⟩

/-! ## `E[m]` for `m ∣ 8` -/

/-- for `m·k = 8`: `E[m] = ⟨k·T₈⟩` and `#E[m] = m` -/
theorem torsion_of_mul_eq_8 {m k : Nat} (hmk : m * k = 8) :
    torsion m = AddSubgroup.zmultiples (k • T8) ∧ Nat.card (torsion m) = m := by
  have hm0 : 0 < m := Nat.pos_of_ne_zero (by rintro rfl; simp at hmk)
  have hk0 : k ≠ 0 := by rintro rfl; simp at hmk
  have heq : torsion m = AddSubgroup.zmultiples (k • T8) := by
    apply le_antisymm
    · intro Q hQ
      rw [mem_torsion] at hQ
      have h8 : 8 • Q = 0 := by rw [← hmk, mul_nsmul, hQ, smul_zero]
      obtain ⟨i, -, rfl⟩ := (torsion8_iff Q).1 h8
      rw [← mul_nsmul, ← addOrderOf_dvd_iff_nsmul_eq_zero, addOrderOf_T8, ← hmk, Nat.mul_comm i m] at hQ
      obtain ⟨j, rfl⟩ := Nat.dvd_of_mul_dvd_mul_left hm0 hQ
      rw [Nat.mul_comm, mul_nsmul']
      exact AddSubgroup.nsmul_mem_zmultiples _ j
    · apply AddSubgroup.zmultiples_le_of_mem
      rw [mem_torsion, ← mul_nsmul, Nat.mul_comm, hmk]
      exact eight_nsmul_T8
  refine ⟨heq, ?_⟩
  have hdvd : k ∣ addOrderOf T8 := by rw [addOrderOf_T8, ← hmk]; exact Nat.dvd_mul_left k m
  rw [heq, Nat.card_zmultiples, addOrderOf_nsmul_of_dvd hk0 hdvd, addOrderOf_T8, ← hmk]
  exact Nat.mul_div_cancel m (Nat.pos_of_ne_zero hk0)

/-- `E[4] = ⟨2·T₈⟩` -/
theorem torsion4_eq_zmultiples : torsion 4 = AddSubgroup.zmultiples (2 • T8) :=
  (torsion_of_mul_eq_8 (m := 4) (k := 2) rfl).1

/-- **`#E[4] = 4`** -/
theorem card_torsion4 : Nat.card (torsion 4) = 4 := (torsion_of_mul_eq_8 (m := 4) (k := 2) rfl).2

/-- **`#E[2] = 2`** -/
theorem card_torsion2 : Nat.card (torsion 2) = 2 := (torsion_of_mul_eq_8 (m := 2) (k := 4) rfl).2

/-! ## The even subgroup `2E` and the ristretto255 quotient `2E / E[4]` -/

/-- the even subgroup `2E = {2·R}` -/
def even : AddSubgroup Ed := (nsmulAddMonoidHom 2 : Ed →+ Ed).range

theorem mem_even {Q : Ed} : Q ∈ even ↔ ∃ R : Ed, Q = 2 • R := by
  unfold even
  rw [AddMonoidHom.mem_range]
  constructor
  · rintro ⟨R, h⟩; exact ⟨R, by rw [← h, nsmulAddMonoidHom_apply]⟩
  · rintro ⟨R, h⟩; exact ⟨R, by rw [h, nsmulAddMonoidHom_apply]⟩

/-- **`#(2E) = 4ℓ`** -/
theorem card_even : Nat.card even = 4 * L := by
  have h := AddSubgroup.card_mul_index (nsmulAddMonoidHom 2 : Ed →+ Ed).ker
  rw [AddSubgroup.index_ker, card_Ed] at h
  have h2 : Nat.card (nsmulAddMonoidHom 2 : Ed →+ Ed).ker = 2 := card_torsion2
  rw [h2] at h
  unfold even
  omega

/-- **`E[4] ⊆ 2E`** -/
theorem torsion4_le_even : torsion 4 ≤ even := by
  rw [torsion4_eq_zmultiples]
  exact AddSubgroup.zmultiples_le_of_mem (mem_even.2 ⟨T8, rfl⟩)

/-- the basepoint is in the even subgroup (as is the whole prime-order subgroup) -/
theorem torsionL_le_even : torsion L ≤ even := by
  intro Q hQ
  rw [mem_torsion] at hQ
  refine mem_even.2 ⟨((L + 1) / 2) • Q, ?_⟩
  have hodd : 2 * ((L + 1) / 2) = L + 1 := by norm_num [L]
  rw [← mul_nsmul', hodd, succ_nsmul, hQ, zero_add]

theorem Bpt_mem_even : Bpt ∈ even := torsionL_le_even (mem_torsion.2 L_nsmul_Bpt)

/-- **The ristretto255 group `2E / E[4]` has exactly `ℓ` elements.** -/
theorem card_even_quotient : Nat.card (even ⧸ (torsion 4).addSubgroupOf even) = L := by
  have h := ((torsion 4).addSubgroupOf even).index_mul_card
  rw [AddSubgroup.index_eq_card,
    Nat.card_congr (AddSubgroup.addSubgroupOfEquivOfLe torsion4_le_even).toEquiv, card_torsion4,
    card_even] at h
  omega

/-- the same as an index: `[2E : E[4]] = ℓ` -/
theorem relIndex_torsion4_even : (torsion 4).relIndex even = L := card_even_quotient

/-- **Every coset of `E[4]` in `2E` contains a multiple `n·B` of the basepoint, `n < ℓ`.** -/
theorem even_coset_rep {Q : Ed} (h : ∃ R : Ed, Q = 2 • R) :
    ∃ n, n < L ∧ ∃ T : Ed, 4 • T = 0 ∧ Q = n • Bpt + T := by
  obtain ⟨R, rfl⟩ := h
  obtain ⟨n, i, -, -, rfl⟩ := exists_decomp R
  refine ⟨(2 * n) % L, Nat.mod_lt _ prime_L.pos, 2 • (i • T8), ?_, ?_⟩
  · rw [← mul_nsmul', smul_comm, eight_nsmul_T8, smul_zero]
  · rw [mod_L_nsmul_Bpt, smul_add, mul_nsmul']

/-- … and only one (`n·B` and `m·B` differ by a 4-torsion point only if `n ≡ m (mod ℓ)`). -/
theorem even_coset_rep_unique {n m : Nat} (hn : n < L) (hm : m < L) {T T' : Ed} (hT : 4 • T = 0)
    (hT' : 4 • T' = 0) (h : n • Bpt + T = m • Bpt + T') : n = m := by
  have h4 : (4 * n) • Bpt = (4 * m) • Bpt := by
    have := congrArg (fun Q : Ed => 4 • Q) h
    simp only [smul_add, hT, hT', add_zero] at this
    rw [mul_nsmul', mul_nsmul']; exact this
  rw [nsmul_eq_nsmul_iff_modEq, addOrderOf_Bpt] at h4
  have hc : Nat.gcd L 4 = 1 := by
    have : Nat.Coprime L 2 := (Nat.coprime_primes prime_L Nat.prime_two).2 (by norm_num)
    exact Nat.Coprime.pow_right 2 this
  have := Nat.ModEq.cancel_left_of_coprime hc h4
  unfold Nat.ModEq at this
  rwa [Nat.mod_eq_of_lt hn, Nat.mod_eq_of_lt hm] at this

/-- for a point of the even subgroup, `ℓ·Q ∈ E[4]` -/
theorem L_nsmul_even_mem_torsion4 {Q : Ed} (h : ∃ R : Ed, Q = 2 • R) : 4 • (L • Q) = 0 := by
  obtain ⟨R, rfl⟩ := h
  rw [← mul_nsmul', ← mul_nsmul', show 4 * L * 2 = 8 * L by ring]
  exact eight_L_nsmul R

/-! ## `E[8]` and the specification's `eightTorsion` -/

/-- Each entry is on the curve and is the previous one plus `T₈`; the sum is compared in extended
coordinates, which need no inversion. -/
theorem eightTorsion_succ : ∀ i, i < 7 →
    onCurve (eightTorsion.getD (i + 1) Pt.zero) = true ∧
      Model.EPt.eq ((Model.EPt.ofAffine (eightTorsion.getD i Pt.zero)).add (Model.EPt.ofAffine T8pt))
        (Model.EPt.ofAffine (eightTorsion.getD (i + 1) Pt.zero)) = true := by decide +kernel

/-- `eightTorsion[i]` denotes `i·T₈` -/
theorem rep_eightTorsion : ∀ {i : Nat}, i < 8 → Rep (eightTorsion.getD i Pt.zero) (i • T8)
  | 0, _ => by rw [zero_nsmul]; exact rep_zero
  | i + 1, hi => by
    obtain ⟨hon, heq⟩ := eightTorsion_succ i (by omega)
    have ih := erep_ofAffine (rep_eightTorsion (i := i) (by omega))
    rw [succ_nsmul,
      (eq_iff (erep_add ih (erep_ofAffine rep_T8)) (erep_ofAffine (rep_toEd _ hon))).1 heq]
    exact rep_toEd _ hon

theorem canon_eightTorsion : ∀ i, i < 8 → Canon (eightTorsion.getD i Pt.zero) := by decide +kernel

/-- The table is in index order: `eightTorsion[i] = [i] eightTorsion[1]`. -/
theorem smul_T8pt_eq {i : Nat} (hi : i < 8) : Pt.smul i T8pt = eightTorsion.getD i Pt.zero :=
  Rep.unique (rep_smul rep_T8 i) (rep_eightTorsion hi) (canon_smul i _) (canon_eightTorsion i hi)

/-- **Every point of small order (`8·Q = 0`) is one of the eight entries of `eightTorsion`.** -/
theorem torsion8_rep {Q : Ed} (h : 8 • Q = 0) : ∃ i, i < 8 ∧ Rep (eightTorsion.getD i Pt.zero) Q := by
  obtain ⟨i, hi, rfl⟩ := (torsion8_iff Q).1 h
  exact ⟨i, hi, rep_eightTorsion hi⟩

/-- conversely each entry has small order -/
theorem eightTorsion_small_order {i : Nat} (hi : i < 8) {Q : Ed}
    (h : Rep (eightTorsion.getD i Pt.zero) Q) : 8 • Q = 0 := by
  have e : Q = i • T8 := by
    rw [← h.toEd_eq h.on, ← (rep_eightTorsion hi).toEd_eq h.on]
  rw [e, smul_comm, eight_nsmul_T8, smul_zero]

/-! ## Axiom audit -/

/-- info: 'Dalek.CurveOrder.torsion8_eq' depends on axioms: [propext, Classical.choice, Quot.sound] -/
#guard_msgs in #print axioms torsion8_eq

/-- info: 'Dalek.CurveOrder.card_small_order' depends on axioms: [propext, Classical.choice, Quot.sound] -/
#guard_msgs in #print axioms card_small_order

/-- info: 'Dalek.CurveOrder.prime_order_subgroup' depends on axioms: [propext, Classical.choice, Quot.sound] -/
#guard_msgs in #print axioms prime_order_subgroup

/-- info: 'Dalek.CurveOrder.card_prime_order_subgroup' depends on axioms: [propext, Classical.choice, Quot.sound] -/
#guard_msgs in #print axioms card_prime_order_subgroup

/-- info: 'Dalek.CurveOrder.exists_decomp' depends on axioms: [propext, Classical.choice, Quot.sound] -/
#guard_msgs in #print axioms exists_decomp

/-- info: 'Dalek.CurveOrder.decomp_unique' depends on axioms: [propext, Classical.choice, Quot.sound] -/
#guard_msgs in #print axioms decomp_unique

/-- info: 'Dalek.CurveOrder.card_even' depends on axioms: [propext, Classical.choice, Quot.sound] -/
#guard_msgs in #print axioms card_even

/-- info: 'Dalek.CurveOrder.card_even_quotient' depends on axioms: [propext, Classical.choice, Quot.sound] -/
#guard_msgs in #print axioms card_even_quotient

/-- info: 'Dalek.CurveOrder.even_coset_rep' depends on axioms: [propext, Classical.choice, Quot.sound] -/
#guard_msgs in #print axioms even_coset_rep

/-- info: 'Dalek.CurveOrder.torsion8_rep' depends on axioms: [propext, Classical.choice, Quot.sound] -/
#guard_msgs in #print axioms torsion8_rep

end Dalek.CurveOrder
