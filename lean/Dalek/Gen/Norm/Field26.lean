import Dalek.Model.Contracts
import Dalek.IR.NormSpec
import Dalek.IR.Tactics
/-! GENERATED by tools/GenNorm.lean from the current /repo sources; do not edit. -/
namespace Dalek.Gen.Norm.Field26
open Dalek.IR

def add_post : List Itv := [⟨0, 268435454, 0⟩, ⟨0, 134217726, 0⟩, ⟨0, 268435454, 0⟩, ⟨0, 134217726, 0⟩, ⟨0, 268435454, 0⟩, ⟨0, 134217726, 0⟩, ⟨0, 268435454, 0⟩, ⟨0, 134217726, 0⟩, ⟨0, 268435454, 0⟩, ⟨0, 134217726, 0⟩]

def add_nprog : NProg := Prog.normProg Dalek.Gen.Field26.add Dalek.Model.Contracts.Field26.pre_add

theorem add_norm_ok : Prog.norm Dalek.Gen.Field26.add Dalek.Model.Contracts.Field26.pre_add = some (add_nprog, add_post) :=
  Prog.norm_eq_of_post (by decide +kernel)

def add_fn (x0 x1 x2 x3 x4 x5 x6 x7 x8 x9 x10 x11 x12 x13 x14 x15 x16 x17 x18 x19 : Int) : List Int :=
  let x20 : Int := (x0 + x10)
  let x21 : Int := (x1 + x11)
  let x22 : Int := (x2 + x12)
  let x23 : Int := (x3 + x13)
  let x24 : Int := (x4 + x14)
  let x25 : Int := (x5 + x15)
  let x26 : Int := (x6 + x16)
  let x27 : Int := (x7 + x17)
  let x28 : Int := (x8 + x18)
  let x29 : Int := (x9 + x19)
  [x20, x21, x22, x23, x24, x25, x26, x27, x28, x29]

theorem add_fn_ok (x0 x1 x2 x3 x4 x5 x6 x7 x8 x9 x10 x11 x12 x13 x14 x15 x16 x17 x18 x19 : Int) : NProg.evalZ add_nprog [x0, x1, x2, x3, x4, x5, x6, x7, x8, x9, x10, x11, x12, x13, x14, x15, x16, x17, x18, x19] = add_fn x0 x1 x2 x3 x4 x5 x6 x7 x8 x9 x10 x11 x12 x13 x14 x15 x16 x17 x18 x19 :=
  (NProg.evalZ_eq_fast _ _).trans (by kernel_rfl)

def sub_post : List Itv := [⟨0, 67108863, 0⟩, ⟨0, 33554432, 0⟩, ⟨0, 67108863, 0⟩, ⟨0, 33554431, 0⟩, ⟨0, 67108863, 0⟩, ⟨0, 33554432, 0⟩, ⟨0, 67108863, 0⟩, ⟨0, 33554431, 0⟩, ⟨0, 67108863, 0⟩, ⟨0, 33554431, 0⟩]

def sub_nprog : NProg := Prog.normProg Dalek.Gen.Field26.sub Dalek.Model.Contracts.Field26.pre_sub

theorem sub_norm_ok : Prog.norm Dalek.Gen.Field26.sub Dalek.Model.Contracts.Field26.pre_sub = some (sub_nprog, sub_post) :=
  Prog.norm_eq_of_post (by decide +kernel)

def sub_fn (x0 x1 x2 x3 x4 x5 x6 x7 x8 x9 x10 x11 x12 x13 x14 x15 x16 x17 x18 x19 : Int) : List Int :=
  let x20 : Int := ((x0 + (1073741520 : Int)) - x10)
  let x21 : Int := ((x1 + (536870896 : Int)) - x11)
  let x22 : Int := ((x2 + (1073741808 : Int)) - x12)
  let x23 : Int := ((x3 + (536870896 : Int)) - x13)
  let x24 : Int := ((x4 + (1073741808 : Int)) - x14)
  let x25 : Int := ((x5 + (536870896 : Int)) - x15)
  let x26 : Int := ((x6 + (1073741808 : Int)) - x16)
  let x27 : Int := ((x7 + (536870896 : Int)) - x17)
  let x28 : Int := ((x8 + (1073741808 : Int)) - x18)
  let x29 : Int := ((x9 + (536870896 : Int)) - x19)
  let x30 : Int := (x21 + (x20 / 2 ^ (26 : Nat)))
  let x31 : Int := (x20 % 2 ^ (26 : Nat))
  let x32 : Int := (x25 + (x24 / 2 ^ (26 : Nat)))
  let x33 : Int := (x24 % 2 ^ (26 : Nat))
  let x34 : Int := (x22 + (x30 / 2 ^ (25 : Nat)))
  let x35 : Int := (x30 % 2 ^ (25 : Nat))
  let x36 : Int := (x26 + (x32 / 2 ^ (25 : Nat)))
  let x37 : Int := (x32 % 2 ^ (25 : Nat))
  let x38 : Int := (x23 + (x34 / 2 ^ (26 : Nat)))
  let x39 : Int := (x34 % 2 ^ (26 : Nat))
  let x40 : Int := (x27 + (x36 / 2 ^ (26 : Nat)))
  let x41 : Int := (x36 % 2 ^ (26 : Nat))
  let x42 : Int := (x33 + (x38 / 2 ^ (25 : Nat)))
  let x43 : Int := (x38 % 2 ^ (25 : Nat))
  let x44 : Int := (x28 + (x40 / 2 ^ (25 : Nat)))
  let x45 : Int := (x40 % 2 ^ (25 : Nat))
  let x46 : Int := (x37 + (x42 / 2 ^ (26 : Nat)))
  let x47 : Int := (x42 % 2 ^ (26 : Nat))
  let x48 : Int := (x29 + (x44 / 2 ^ (26 : Nat)))
  let x49 : Int := (x44 % 2 ^ (26 : Nat))
  let x50 : Int := (x31 + ((19 : Int) * (x48 / 2 ^ (25 : Nat))))
  let x51 : Int := (x48 % 2 ^ (25 : Nat))
  let x52 : Int := (x35 + (x50 / 2 ^ (26 : Nat)))
  let x53 : Int := (x50 % 2 ^ (26 : Nat))
  let x54 : Int := x53
  let x55 : Int := x52
  let x56 : Int := x39
  let x57 : Int := x43
  let x58 : Int := x47
  let x59 : Int := x46
  let x60 : Int := x41
  let x61 : Int := x45
  let x62 : Int := x49
  let x63 : Int := x51
  [x54, x55, x56, x57, x58, x59, x60, x61, x62, x63]

theorem sub_fn_ok (x0 x1 x2 x3 x4 x5 x6 x7 x8 x9 x10 x11 x12 x13 x14 x15 x16 x17 x18 x19 : Int) : NProg.evalZ sub_nprog [x0, x1, x2, x3, x4, x5, x6, x7, x8, x9, x10, x11, x12, x13, x14, x15, x16, x17, x18, x19] = sub_fn x0 x1 x2 x3 x4 x5 x6 x7 x8 x9 x10 x11 x12 x13 x14 x15 x16 x17 x18 x19 :=
  (NProg.evalZ_eq_fast _ _).trans (by kernel_rfl)

def mul_post : List Itv := [⟨0, 67108863, 0⟩, ⟨0, 33558038, 0⟩, ⟨0, 67108863, 0⟩, ⟨0, 33554431, 0⟩, ⟨0, 67108863, 0⟩, ⟨0, 33556672, 0⟩, ⟨0, 67108863, 0⟩, ⟨0, 33554431, 0⟩, ⟨0, 67108863, 0⟩, ⟨0, 33554431, 0⟩]

def mul_nprog : NProg := Prog.normProg Dalek.Gen.Field26.mul Dalek.Model.Contracts.Field26.pre_mul

theorem mul_norm_ok : Prog.norm Dalek.Gen.Field26.mul Dalek.Model.Contracts.Field26.pre_mul = some (mul_nprog, mul_post) :=
  Prog.norm_eq_of_post (by decide +kernel)

def mul_fn (x0 x1 x2 x3 x4 x5 x6 x7 x8 x9 x10 x11 x12 x13 x14 x15 x16 x17 x18 x19 : Int) : List Int :=
  let x20 : Int := ((19 : Int) * x11)
  let x21 : Int := ((19 : Int) * x12)
  let x22 : Int := ((19 : Int) * x13)
  let x23 : Int := ((19 : Int) * x14)
  let x24 : Int := ((19 : Int) * x15)
  let x25 : Int := ((19 : Int) * x16)
  let x26 : Int := ((19 : Int) * x17)
  let x27 : Int := ((19 : Int) * x18)
  let x28 : Int := ((19 : Int) * x19)
  let x29 : Int := ((2 : Int) * x1)
  let x30 : Int := ((2 : Int) * x3)
  let x31 : Int := ((2 : Int) * x5)
  let x32 : Int := ((2 : Int) * x7)
  let x33 : Int := ((2 : Int) * x9)
  let x34 : Int := ((((((((((x0 * x10) + (x29 * x28)) + (x2 * x27)) + (x30 * x26)) + (x4 * x25)) + (x31 * x24)) + (x6 * x23)) + (x32 * x22)) + (x8 * x21)) + (x33 * x20))
  let x35 : Int := ((((((((((x0 * x11) + (x1 * x10)) + (x2 * x28)) + (x3 * x27)) + (x4 * x26)) + (x5 * x25)) + (x6 * x24)) + (x7 * x23)) + (x8 * x22)) + (x9 * x21))
  let x36 : Int := ((((((((((x0 * x12) + (x29 * x11)) + (x2 * x10)) + (x30 * x28)) + (x4 * x27)) + (x31 * x26)) + (x6 * x25)) + (x32 * x24)) + (x8 * x23)) + (x33 * x22))
  let x37 : Int := ((((((((((x0 * x13) + (x1 * x12)) + (x2 * x11)) + (x3 * x10)) + (x4 * x28)) + (x5 * x27)) + (x6 * x26)) + (x7 * x25)) + (x8 * x24)) + (x9 * x23))
  let x38 : Int := ((((((((((x0 * x14) + (x29 * x13)) + (x2 * x12)) + (x30 * x11)) + (x4 * x10)) + (x31 * x28)) + (x6 * x27)) + (x32 * x26)) + (x8 * x25)) + (x33 * x24))
  let x39 : Int := ((((((((((x0 * x15) + (x1 * x14)) + (x2 * x13)) + (x3 * x12)) + (x4 * x11)) + (x5 * x10)) + (x6 * x28)) + (x7 * x27)) + (x8 * x26)) + (x9 * x25))
  let x40 : Int := ((((((((((x0 * x16) + (x29 * x15)) + (x2 * x14)) + (x30 * x13)) + (x4 * x12)) + (x31 * x11)) + (x6 * x10)) + (x32 * x28)) + (x8 * x27)) + (x33 * x26))
  let x41 : Int := ((((((((((x0 * x17) + (x1 * x16)) + (x2 * x15)) + (x3 * x14)) + (x4 * x13)) + (x5 * x12)) + (x6 * x11)) + (x7 * x10)) + (x8 * x28)) + (x9 * x27))
  let x42 : Int := ((((((((((x0 * x18) + (x29 * x17)) + (x2 * x16)) + (x30 * x15)) + (x4 * x14)) + (x31 * x13)) + (x6 * x12)) + (x32 * x11)) + (x8 * x10)) + (x33 * x28))
  let x43 : Int := ((((((((((x0 * x19) + (x1 * x18)) + (x2 * x17)) + (x3 * x16)) + (x4 * x15)) + (x5 * x14)) + (x6 * x13)) + (x7 * x12)) + (x8 * x11)) + (x9 * x10))
  let x44 : Int := (x35 + (x34 / 2 ^ (26 : Nat)))
  let x45 : Int := (x34 % 2 ^ (26 : Nat))
  let x46 : Int := (x39 + (x38 / 2 ^ (26 : Nat)))
  let x47 : Int := (x38 % 2 ^ (26 : Nat))
  let x48 : Int := (x36 + (x44 / 2 ^ (25 : Nat)))
  let x49 : Int := (x44 % 2 ^ (25 : Nat))
  let x50 : Int := (x40 + (x46 / 2 ^ (25 : Nat)))
  let x51 : Int := (x46 % 2 ^ (25 : Nat))
  let x52 : Int := (x37 + (x48 / 2 ^ (26 : Nat)))
  let x53 : Int := (x48 % 2 ^ (26 : Nat))
  let x54 : Int := (x41 + (x50 / 2 ^ (26 : Nat)))
  let x55 : Int := (x50 % 2 ^ (26 : Nat))
  let x56 : Int := (x47 + (x52 / 2 ^ (25 : Nat)))
  let x57 : Int := (x52 % 2 ^ (25 : Nat))
  let x58 : Int := (x42 + (x54 / 2 ^ (25 : Nat)))
  let x59 : Int := (x54 % 2 ^ (25 : Nat))
  let x60 : Int := (x51 + (x56 / 2 ^ (26 : Nat)))
  let x61 : Int := (x56 % 2 ^ (26 : Nat))
  let x62 : Int := (x43 + (x58 / 2 ^ (26 : Nat)))
  let x63 : Int := (x58 % 2 ^ (26 : Nat))
  let x64 : Int := (x45 + ((19 : Int) * (x62 / 2 ^ (25 : Nat))))
  let x65 : Int := (x62 % 2 ^ (25 : Nat))
  let x66 : Int := (x49 + (x64 / 2 ^ (26 : Nat)))
  let x67 : Int := (x64 % 2 ^ (26 : Nat))
  let x68 : Int := x67
  let x69 : Int := x66
  let x70 : Int := x53
  let x71 : Int := x57
  let x72 : Int := x61
  let x73 : Int := x60
  let x74 : Int := x55
  let x75 : Int := x59
  let x76 : Int := x63
  let x77 : Int := x65
  [x68, x69, x70, x71, x72, x73, x74, x75, x76, x77]

theorem mul_fn_ok (x0 x1 x2 x3 x4 x5 x6 x7 x8 x9 x10 x11 x12 x13 x14 x15 x16 x17 x18 x19 : Int) : NProg.evalZ mul_nprog [x0, x1, x2, x3, x4, x5, x6, x7, x8, x9, x10, x11, x12, x13, x14, x15, x16, x17, x18, x19] = mul_fn x0 x1 x2 x3 x4 x5 x6 x7 x8 x9 x10 x11 x12 x13 x14 x15 x16 x17 x18 x19 :=
  (NProg.evalZ_eq_fast _ _).trans (by kernel_rfl)

def neg_post : List Itv := [⟨0, 67108863, 0⟩, ⟨0, 33554432, 0⟩, ⟨0, 67108863, 0⟩, ⟨0, 33554431, 0⟩, ⟨0, 67108863, 0⟩, ⟨0, 33554432, 0⟩, ⟨0, 67108863, 0⟩, ⟨0, 33554431, 0⟩, ⟨0, 67108863, 0⟩, ⟨0, 33554431, 0⟩]

def neg_nprog : NProg :=
  ⟨10,
   [(.sub (.c 1073741520) (.v 0)),
    (.sub (.c 536870896) (.v 1)),
    (.sub (.c 1073741808) (.v 2)),
    (.sub (.c 536870896) (.v 3)),
    (.sub (.c 1073741808) (.v 4)),
    (.sub (.c 536870896) (.v 5)),
    (.sub (.c 1073741808) (.v 6)),
    (.sub (.c 536870896) (.v 7)),
    (.sub (.c 1073741808) (.v 8)),
    (.sub (.c 536870896) (.v 9)),
    (.add (.v 11) (.div2 (.v 10) 26)),
    (.mod2 (.v 10) 26),
    (.add (.v 15) (.div2 (.v 14) 26)),
    (.mod2 (.v 14) 26),
    (.add (.v 12) (.div2 (.v 20) 25)),
    (.mod2 (.v 20) 25),
    (.add (.v 16) (.div2 (.v 22) 25)),
    (.mod2 (.v 22) 25),
    (.add (.v 13) (.div2 (.v 24) 26)),
    (.mod2 (.v 24) 26),
    (.add (.v 17) (.div2 (.v 26) 26)),
    (.mod2 (.v 26) 26),
    (.add (.v 23) (.div2 (.v 28) 25)),
    (.mod2 (.v 28) 25),
    (.add (.v 18) (.div2 (.v 30) 25)),
    (.mod2 (.v 30) 25),
    (.add (.v 27) (.div2 (.v 32) 26)),
    (.mod2 (.v 32) 26),
    (.add (.v 19) (.div2 (.v 34) 26)),
    (.mod2 (.v 34) 26),
    (.add (.v 21) (.mul (.c 19) (.div2 (.v 38) 25))),
    (.mod2 (.v 38) 25),
    (.add (.v 25) (.div2 (.v 40) 26)),
    (.mod2 (.v 40) 26),
    (.v 43),
    (.v 42),
    (.v 29),
    (.v 33),
    (.v 37),
    (.v 36),
    (.v 31),
    (.v 35),
    (.v 39),
    (.v 41)],
   [44, 45, 46, 47, 48, 49, 50, 51, 52, 53]⟩

theorem neg_norm_ok : Prog.norm Dalek.Gen.Field26.neg Dalek.Model.Contracts.Field26.pre_neg = some (neg_nprog, neg_post) :=
  (Prog.normFast_eq _ _).symm.trans (by decide +kernel)

def neg_fn (x0 x1 x2 x3 x4 x5 x6 x7 x8 x9 : Int) : List Int :=
  let x10 : Int := ((1073741520 : Int) - x0)
  let x11 : Int := ((536870896 : Int) - x1)
  let x12 : Int := ((1073741808 : Int) - x2)
  let x13 : Int := ((536870896 : Int) - x3)
  let x14 : Int := ((1073741808 : Int) - x4)
  let x15 : Int := ((536870896 : Int) - x5)
  let x16 : Int := ((1073741808 : Int) - x6)
  let x17 : Int := ((536870896 : Int) - x7)
  let x18 : Int := ((1073741808 : Int) - x8)
  let x19 : Int := ((536870896 : Int) - x9)
  let x20 : Int := (x11 + (x10 / 2 ^ (26 : Nat)))
  let x21 : Int := (x10 % 2 ^ (26 : Nat))
  let x22 : Int := (x15 + (x14 / 2 ^ (26 : Nat)))
  let x23 : Int := (x14 % 2 ^ (26 : Nat))
  let x24 : Int := (x12 + (x20 / 2 ^ (25 : Nat)))
  let x25 : Int := (x20 % 2 ^ (25 : Nat))
  let x26 : Int := (x16 + (x22 / 2 ^ (25 : Nat)))
  let x27 : Int := (x22 % 2 ^ (25 : Nat))
  let x28 : Int := (x13 + (x24 / 2 ^ (26 : Nat)))
  let x29 : Int := (x24 % 2 ^ (26 : Nat))
  let x30 : Int := (x17 + (x26 / 2 ^ (26 : Nat)))
  let x31 : Int := (x26 % 2 ^ (26 : Nat))
  let x32 : Int := (x23 + (x28 / 2 ^ (25 : Nat)))
  let x33 : Int := (x28 % 2 ^ (25 : Nat))
  let x34 : Int := (x18 + (x30 / 2 ^ (25 : Nat)))
  let x35 : Int := (x30 % 2 ^ (25 : Nat))
  let x36 : Int := (x27 + (x32 / 2 ^ (26 : Nat)))
  let x37 : Int := (x32 % 2 ^ (26 : Nat))
  let x38 : Int := (x19 + (x34 / 2 ^ (26 : Nat)))
  let x39 : Int := (x34 % 2 ^ (26 : Nat))
  let x40 : Int := (x21 + ((19 : Int) * (x38 / 2 ^ (25 : Nat))))
  let x41 : Int := (x38 % 2 ^ (25 : Nat))
  let x42 : Int := (x25 + (x40 / 2 ^ (26 : Nat)))
  let x43 : Int := (x40 % 2 ^ (26 : Nat))
  let x44 : Int := x43
  let x45 : Int := x42
  let x46 : Int := x29
  let x47 : Int := x33
  let x48 : Int := x37
  let x49 : Int := x36
  let x50 : Int := x31
  let x51 : Int := x35
  let x52 : Int := x39
  let x53 : Int := x41
  [x44, x45, x46, x47, x48, x49, x50, x51, x52, x53]

theorem neg_fn_ok (x0 x1 x2 x3 x4 x5 x6 x7 x8 x9 : Int) : NProg.evalZ neg_nprog [x0, x1, x2, x3, x4, x5, x6, x7, x8, x9] = neg_fn x0 x1 x2 x3 x4 x5 x6 x7 x8 x9 :=
  (NProg.evalZ_eq_fast _ _).trans (by kernel_rfl)

def reduce_post : List Itv := [⟨0, 67108863, 0⟩, ⟨0, 33632256, 0⟩, ⟨0, 67108863, 0⟩, ⟨0, 33554431, 0⟩, ⟨0, 67108863, 0⟩, ⟨0, 33558528, 0⟩, ⟨0, 67108863, 0⟩, ⟨0, 33554431, 0⟩, ⟨0, 67108863, 0⟩, ⟨0, 33554431, 0⟩]

def reduce_nprog : NProg := Prog.normProg Dalek.Gen.Field26.reduce Dalek.Model.Contracts.Field26.pre_reduce

theorem reduce_norm_ok : Prog.norm Dalek.Gen.Field26.reduce Dalek.Model.Contracts.Field26.pre_reduce = some (reduce_nprog, reduce_post) :=
  Prog.norm_eq_of_post (by decide +kernel)

def reduce_fn (x0 x1 x2 x3 x4 x5 x6 x7 x8 x9 : Int) : List Int :=
  let x10 : Int := (x1 + (x0 / 2 ^ (26 : Nat)))
  let x11 : Int := (x0 % 2 ^ (26 : Nat))
  let x12 : Int := (x5 + (x4 / 2 ^ (26 : Nat)))
  let x13 : Int := (x4 % 2 ^ (26 : Nat))
  let x14 : Int := (x2 + (x10 / 2 ^ (25 : Nat)))
  let x15 : Int := (x10 % 2 ^ (25 : Nat))
  let x16 : Int := (x6 + (x12 / 2 ^ (25 : Nat)))
  let x17 : Int := (x12 % 2 ^ (25 : Nat))
  let x18 : Int := (x3 + (x14 / 2 ^ (26 : Nat)))
  let x19 : Int := (x14 % 2 ^ (26 : Nat))
  let x20 : Int := (x7 + (x16 / 2 ^ (26 : Nat)))
  let x21 : Int := (x16 % 2 ^ (26 : Nat))
  let x22 : Int := (x13 + (x18 / 2 ^ (25 : Nat)))
  let x23 : Int := (x18 % 2 ^ (25 : Nat))
  let x24 : Int := (x8 + (x20 / 2 ^ (25 : Nat)))
  let x25 : Int := (x20 % 2 ^ (25 : Nat))
  let x26 : Int := (x17 + (x22 / 2 ^ (26 : Nat)))
  let x27 : Int := (x22 % 2 ^ (26 : Nat))
  let x28 : Int := (x9 + (x24 / 2 ^ (26 : Nat)))
  let x29 : Int := (x24 % 2 ^ (26 : Nat))
  let x30 : Int := (x11 + ((19 : Int) * (x28 / 2 ^ (25 : Nat))))
  let x31 : Int := (x28 % 2 ^ (25 : Nat))
  let x32 : Int := (x15 + (x30 / 2 ^ (26 : Nat)))
  let x33 : Int := (x30 % 2 ^ (26 : Nat))
  let x34 : Int := x33
  let x35 : Int := x32
  let x36 : Int := x19
  let x37 : Int := x23
  let x38 : Int := x27
  let x39 : Int := x26
  let x40 : Int := x21
  let x41 : Int := x25
  let x42 : Int := x29
  let x43 : Int := x31
  [x34, x35, x36, x37, x38, x39, x40, x41, x42, x43]

theorem reduce_fn_ok (x0 x1 x2 x3 x4 x5 x6 x7 x8 x9 : Int) : NProg.evalZ reduce_nprog [x0, x1, x2, x3, x4, x5, x6, x7, x8, x9] = reduce_fn x0 x1 x2 x3 x4 x5 x6 x7 x8 x9 :=
  (NProg.evalZ_eq_fast _ _).trans (by kernel_rfl)

def from_bytes_post : List Itv := [⟨0, 67108863, 0⟩, ⟨0, 33554431, 0⟩, ⟨0, 67108863, 0⟩, ⟨0, 33554431, 0⟩, ⟨0, 67108863, 0⟩, ⟨0, 33554431, 0⟩, ⟨0, 67108863, 0⟩, ⟨0, 33554431, 0⟩, ⟨0, 67108863, 0⟩, ⟨0, 33554431, 0⟩]

def from_bytes_nprog : NProg := Prog.normProg Dalek.Gen.Field26.from_bytes Dalek.Model.Contracts.Field26.pre_from_bytes

theorem from_bytes_norm_ok : Prog.norm Dalek.Gen.Field26.from_bytes Dalek.Model.Contracts.Field26.pre_from_bytes = some (from_bytes_nprog, from_bytes_post) :=
  Prog.norm_eq_of_post (by decide +kernel)

def from_bytes_fn (x0 x1 x2 x3 x4 x5 x6 x7 x8 x9 x10 x11 x12 x13 x14 x15 x16 x17 x18 x19 x20 x21 x22 x23 x24 x25 x26 x27 x28 x29 x30 x31 : Int) : List Int :=
  let x32 : Int := (((x0 + (x1 * (256 : Int))) + (x2 * (65536 : Int))) + (x3 * (16777216 : Int)))
  let x33 : Int := (((x4 + (x5 * (256 : Int))) + (x6 * (65536 : Int))) * (64 : Int))
  let x34 : Int := (((x7 + (x8 * (256 : Int))) + (x9 * (65536 : Int))) * (32 : Int))
  let x35 : Int := (((x10 + (x11 * (256 : Int))) + (x12 * (65536 : Int))) * (8 : Int))
  let x36 : Int := (((x13 + (x14 * (256 : Int))) + (x15 * (65536 : Int))) * (4 : Int))
  let x37 : Int := (((x16 + (x17 * (256 : Int))) + (x18 * (65536 : Int))) + (x19 * (16777216 : Int)))
  let x38 : Int := (((x20 + (x21 * (256 : Int))) + (x22 * (65536 : Int))) * (128 : Int))
  let x39 : Int := (((x23 + (x24 * (256 : Int))) + (x25 * (65536 : Int))) * (32 : Int))
  let x40 : Int := (((x26 + (x27 * (256 : Int))) + (x28 * (65536 : Int))) * (16 : Int))
  let x41 : Int := ((((x29 + (x30 * (256 : Int))) + (x31 * (65536 : Int))) % 2 ^ (23 : Nat)) * (4 : Int))
  let x42 : Int := (x33 + (x32 / 2 ^ (26 : Nat)))
  let x43 : Int := (x32 % 2 ^ (26 : Nat))
  let x44 : Int := (x37 + (x36 / 2 ^ (26 : Nat)))
  let x45 : Int := x36
  let x46 : Int := (x34 + (x42 / 2 ^ (25 : Nat)))
  let x47 : Int := (x42 % 2 ^ (25 : Nat))
  let x48 : Int := (x38 + (x44 / 2 ^ (25 : Nat)))
  let x49 : Int := (x44 % 2 ^ (25 : Nat))
  let x50 : Int := (x35 + (x46 / 2 ^ (26 : Nat)))
  let x51 : Int := (x46 % 2 ^ (26 : Nat))
  let x52 : Int := (x39 + (x48 / 2 ^ (26 : Nat)))
  let x53 : Int := (x48 % 2 ^ (26 : Nat))
  let x54 : Int := (x45 + (x50 / 2 ^ (25 : Nat)))
  let x55 : Int := (x50 % 2 ^ (25 : Nat))
  let x56 : Int := (x40 + (x52 / 2 ^ (25 : Nat)))
  let x57 : Int := (x52 % 2 ^ (25 : Nat))
  let x58 : Int := (x49 + (x54 / 2 ^ (26 : Nat)))
  let x59 : Int := x54
  let x60 : Int := (x41 + (x56 / 2 ^ (26 : Nat)))
  let x61 : Int := (x56 % 2 ^ (26 : Nat))
  let x62 : Int := (x43 + ((19 : Int) * (x60 / 2 ^ (25 : Nat))))
  let x63 : Int := x60
  let x64 : Int := (x47 + (x62 / 2 ^ (26 : Nat)))
  let x65 : Int := x62
  let x66 : Int := x65
  let x67 : Int := x64
  let x68 : Int := x51
  let x69 : Int := x55
  let x70 : Int := x59
  let x71 : Int := x58
  let x72 : Int := x53
  let x73 : Int := x57
  let x74 : Int := x61
  let x75 : Int := x63
  [x66, x67, x68, x69, x70, x71, x72, x73, x74, x75]

theorem from_bytes_fn_ok (x0 x1 x2 x3 x4 x5 x6 x7 x8 x9 x10 x11 x12 x13 x14 x15 x16 x17 x18 x19 x20 x21 x22 x23 x24 x25 x26 x27 x28 x29 x30 x31 : Int) : NProg.evalZ from_bytes_nprog [x0, x1, x2, x3, x4, x5, x6, x7, x8, x9, x10, x11, x12, x13, x14, x15, x16, x17, x18, x19, x20, x21, x22, x23, x24, x25, x26, x27, x28, x29, x30, x31] = from_bytes_fn x0 x1 x2 x3 x4 x5 x6 x7 x8 x9 x10 x11 x12 x13 x14 x15 x16 x17 x18 x19 x20 x21 x22 x23 x24 x25 x26 x27 x28 x29 x30 x31 :=
  (NProg.evalZ_eq_fast _ _).trans (by kernel_rfl)

def as_bytes_post : List Itv := [⟨0, 255, 0⟩, ⟨0, 255, 0⟩, ⟨0, 255, 0⟩, ⟨0, 255, 0⟩, ⟨0, 255, 0⟩, ⟨0, 255, 0⟩, ⟨0, 255, 0⟩, ⟨0, 255, 0⟩, ⟨0, 255, 0⟩, ⟨0, 255, 0⟩, ⟨0, 255, 0⟩, ⟨0, 255, 0⟩, ⟨0, 255, 0⟩, ⟨0, 255, 0⟩, ⟨0, 255, 0⟩, ⟨0, 255, 0⟩, ⟨0, 255, 0⟩, ⟨0, 255, 0⟩, ⟨0, 255, 0⟩, ⟨0, 255, 0⟩, ⟨0, 255, 0⟩, ⟨0, 255, 0⟩, ⟨0, 255, 0⟩, ⟨0, 255, 0⟩, ⟨0, 255, 0⟩, ⟨0, 255, 0⟩, ⟨0, 255, 0⟩, ⟨0, 255, 0⟩, ⟨0, 255, 0⟩, ⟨0, 255, 0⟩, ⟨0, 255, 0⟩, ⟨0, 127, 0⟩]

def as_bytes_nprog : NProg := Prog.normProg Dalek.Gen.Field26.as_bytes Dalek.Model.Contracts.Field26.pre_as_bytes

theorem as_bytes_norm_ok : Prog.norm Dalek.Gen.Field26.as_bytes Dalek.Model.Contracts.Field26.pre_as_bytes = some (as_bytes_nprog, as_bytes_post) :=
  Prog.norm_eq_of_post (by decide +kernel)

def as_bytes_fn (x0 x1 x2 x3 x4 x5 x6 x7 x8 x9 : Int) : List Int :=
  let x10 : Int := x0
  let x11 : Int := x1
  let x12 : Int := x2
  let x13 : Int := x3
  let x14 : Int := x4
  let x15 : Int := x5
  let x16 : Int := x6
  let x17 : Int := x7
  let x18 : Int := x8
  let x19 : Int := x9
  let x20 : Int := (x11 + (x10 / 2 ^ (26 : Nat)))
  let x21 : Int := (x10 % 2 ^ (26 : Nat))
  let x22 : Int := (x15 + (x14 / 2 ^ (26 : Nat)))
  let x23 : Int := (x14 % 2 ^ (26 : Nat))
  let x24 : Int := (x12 + (x20 / 2 ^ (25 : Nat)))
  let x25 : Int := (x20 % 2 ^ (25 : Nat))
  let x26 : Int := (x16 + (x22 / 2 ^ (25 : Nat)))
  let x27 : Int := (x22 % 2 ^ (25 : Nat))
  let x28 : Int := (x13 + (x24 / 2 ^ (26 : Nat)))
  let x29 : Int := (x24 % 2 ^ (26 : Nat))
  let x30 : Int := (x17 + (x26 / 2 ^ (26 : Nat)))
  let x31 : Int := (x26 % 2 ^ (26 : Nat))
  let x32 : Int := (x23 + (x28 / 2 ^ (25 : Nat)))
  let x33 : Int := (x28 % 2 ^ (25 : Nat))
  let x34 : Int := (x18 + (x30 / 2 ^ (25 : Nat)))
  let x35 : Int := (x30 % 2 ^ (25 : Nat))
  let x36 : Int := (x27 + (x32 / 2 ^ (26 : Nat)))
  let x37 : Int := (x32 % 2 ^ (26 : Nat))
  let x38 : Int := (x19 + (x34 / 2 ^ (26 : Nat)))
  let x39 : Int := (x34 % 2 ^ (26 : Nat))
  let x40 : Int := (x21 + ((19 : Int) * (x38 / 2 ^ (25 : Nat))))
  let x41 : Int := (x38 % 2 ^ (25 : Nat))
  let x42 : Int := (x25 + (x40 / 2 ^ (26 : Nat)))
  let x43 : Int := (x40 % 2 ^ (26 : Nat))
  let x44 : Int := x43
  let x45 : Int := x42
  let x46 : Int := x29
  let x47 : Int := x33
  let x48 : Int := x37
  let x49 : Int := x36
  let x50 : Int := x31
  let x51 : Int := x35
  let x52 : Int := x39
  let x53 : Int := x41
  let x54 : Int := ((x44 + (19 : Int)) / 2 ^ (26 : Nat))
  let x55 : Int := ((x45 + x54) / 2 ^ (25 : Nat))
  let x56 : Int := ((x46 + x55) / 2 ^ (26 : Nat))
  let x57 : Int := ((x47 + x56) / 2 ^ (25 : Nat))
  let x58 : Int := ((x48 + x57) / 2 ^ (26 : Nat))
  let x59 : Int := ((x49 + x58) / 2 ^ (25 : Nat))
  let x60 : Int := ((x50 + x59) / 2 ^ (26 : Nat))
  let x61 : Int := ((x51 + x60) / 2 ^ (25 : Nat))
  let x62 : Int := ((x52 + x61) / 2 ^ (26 : Nat))
  let x63 : Int := ((x53 + x62) / 2 ^ (25 : Nat))
  let x64 : Int := (x44 + ((19 : Int) * x63))
  let x65 : Int := (x45 + (x64 / 2 ^ (26 : Nat)))
  let x66 : Int := (x64 % 2 ^ (26 : Nat))
  let x67 : Int := (x46 + (x65 / 2 ^ (25 : Nat)))
  let x68 : Int := (x65 % 2 ^ (25 : Nat))
  let x69 : Int := (x47 + (x67 / 2 ^ (26 : Nat)))
  let x70 : Int := (x67 % 2 ^ (26 : Nat))
  let x71 : Int := (x48 + (x69 / 2 ^ (25 : Nat)))
  let x72 : Int := (x69 % 2 ^ (25 : Nat))
  let x73 : Int := (x49 + (x71 / 2 ^ (26 : Nat)))
  let x74 : Int := (x71 % 2 ^ (26 : Nat))
  let x75 : Int := (x50 + (x73 / 2 ^ (25 : Nat)))
  let x76 : Int := (x73 % 2 ^ (25 : Nat))
  let x77 : Int := (x51 + (x75 / 2 ^ (26 : Nat)))
  let x78 : Int := (x75 % 2 ^ (26 : Nat))
  let x79 : Int := (x52 + (x77 / 2 ^ (25 : Nat)))
  let x80 : Int := (x77 % 2 ^ (25 : Nat))
  let x81 : Int := (x53 + (x79 / 2 ^ (26 : Nat)))
  let x82 : Int := (x79 % 2 ^ (26 : Nat))
  let x83 : Int := (x81 % 2 ^ (25 : Nat))
  let x84 : Int := ((x66 / 2 ^ (0 : Nat)) % 2 ^ (8 : Nat))
  let x85 : Int := ((x66 / 2 ^ (8 : Nat)) % 2 ^ (8 : Nat))
  let x86 : Int := ((x66 / 2 ^ (16 : Nat)) % 2 ^ (8 : Nat))
  let x87 : Int := (((x66 / 2 ^ (24 : Nat)) + (x68 * (4 : Int))) % 2 ^ (8 : Nat))
  let x88 : Int := ((x68 / 2 ^ (6 : Nat)) % 2 ^ (8 : Nat))
  let x89 : Int := ((x68 / 2 ^ (14 : Nat)) % 2 ^ (8 : Nat))
  let x90 : Int := (((x68 / 2 ^ (22 : Nat)) + (x70 * (8 : Int))) % 2 ^ (8 : Nat))
  let x91 : Int := ((x70 / 2 ^ (5 : Nat)) % 2 ^ (8 : Nat))
  let x92 : Int := ((x70 / 2 ^ (13 : Nat)) % 2 ^ (8 : Nat))
  let x93 : Int := (((x70 / 2 ^ (21 : Nat)) + (x72 * (32 : Int))) % 2 ^ (8 : Nat))
  let x94 : Int := ((x72 / 2 ^ (3 : Nat)) % 2 ^ (8 : Nat))
  let x95 : Int := ((x72 / 2 ^ (11 : Nat)) % 2 ^ (8 : Nat))
  let x96 : Int := (((x72 / 2 ^ (19 : Nat)) + (x74 * (64 : Int))) % 2 ^ (8 : Nat))
  let x97 : Int := ((x74 / 2 ^ (2 : Nat)) % 2 ^ (8 : Nat))
  let x98 : Int := ((x74 / 2 ^ (10 : Nat)) % 2 ^ (8 : Nat))
  let x99 : Int := (x74 / 2 ^ (18 : Nat))
  let x100 : Int := ((x76 / 2 ^ (0 : Nat)) % 2 ^ (8 : Nat))
  let x101 : Int := ((x76 / 2 ^ (8 : Nat)) % 2 ^ (8 : Nat))
  let x102 : Int := ((x76 / 2 ^ (16 : Nat)) % 2 ^ (8 : Nat))
  let x103 : Int := (((x76 / 2 ^ (24 : Nat)) + (x78 * (2 : Int))) % 2 ^ (8 : Nat))
  let x104 : Int := ((x78 / 2 ^ (7 : Nat)) % 2 ^ (8 : Nat))
  let x105 : Int := ((x78 / 2 ^ (15 : Nat)) % 2 ^ (8 : Nat))
  let x106 : Int := (((x78 / 2 ^ (23 : Nat)) + (x80 * (8 : Int))) % 2 ^ (8 : Nat))
  let x107 : Int := ((x80 / 2 ^ (5 : Nat)) % 2 ^ (8 : Nat))
  let x108 : Int := ((x80 / 2 ^ (13 : Nat)) % 2 ^ (8 : Nat))
  let x109 : Int := (((x80 / 2 ^ (21 : Nat)) + (x82 * (16 : Int))) % 2 ^ (8 : Nat))
  let x110 : Int := ((x82 / 2 ^ (4 : Nat)) % 2 ^ (8 : Nat))
  let x111 : Int := ((x82 / 2 ^ (12 : Nat)) % 2 ^ (8 : Nat))
  let x112 : Int := (((x82 / 2 ^ (20 : Nat)) + (x83 * (64 : Int))) % 2 ^ (8 : Nat))
  let x113 : Int := ((x83 / 2 ^ (2 : Nat)) % 2 ^ (8 : Nat))
  let x114 : Int := ((x83 / 2 ^ (10 : Nat)) % 2 ^ (8 : Nat))
  let x115 : Int := (x83 / 2 ^ (18 : Nat))
  [x84, x85, x86, x87, x88, x89, x90, x91, x92, x93, x94, x95, x96, x97, x98, x99, x100, x101, x102, x103, x104, x105, x106, x107, x108, x109, x110, x111, x112, x113, x114, x115]

theorem as_bytes_fn_ok (x0 x1 x2 x3 x4 x5 x6 x7 x8 x9 : Int) : NProg.evalZ as_bytes_nprog [x0, x1, x2, x3, x4, x5, x6, x7, x8, x9] = as_bytes_fn x0 x1 x2 x3 x4 x5 x6 x7 x8 x9 :=
  (NProg.evalZ_eq_fast _ _).trans (by kernel_rfl)

def square_inner_post : List Itv := [⟨0, 6330057773734566348, 0⟩, ⟨0, 3914975482354856920, 1⟩, ⟨0, 4957274158979963316, 0⟩, ⟨0, 2999786408557617640, 1⟩, ⟨0, 3584490544225360284, 0⟩, ⟨0, 2084597334760378360, 1⟩, ⟨0, 2211706929470757252, 0⟩, ⟨0, 1169408260963139080, 1⟩, ⟨0, 838923314716154220, 0⟩, ⟨0, 254219187165899800, 1⟩]

def square_inner_nprog : NProg := Prog.normProg Dalek.Gen.Field26.square_inner Dalek.Model.Contracts.Field26.pre_square_inner

theorem square_inner_norm_ok : Prog.norm Dalek.Gen.Field26.square_inner Dalek.Model.Contracts.Field26.pre_square_inner = some (square_inner_nprog, square_inner_post) :=
  Prog.norm_eq_of_post (by decide +kernel)

def square_inner_fn (x0 x1 x2 x3 x4 x5 x6 x7 x8 x9 : Int) : List Int :=
  let x10 : Int := ((2 : Int) * x0)
  let x11 : Int := ((2 : Int) * x1)
  let x12 : Int := ((2 : Int) * x2)
  let x13 : Int := ((2 : Int) * x3)
  let x14 : Int := ((2 : Int) * x4)
  let x15 : Int := ((2 : Int) * x5)
  let x16 : Int := ((2 : Int) * x6)
  let x17 : Int := ((2 : Int) * x7)
  let x18 : Int := ((19 : Int) * x5)
  let x19 : Int := ((19 : Int) * x6)
  let x20 : Int := ((19 : Int) * x7)
  let x21 : Int := ((19 : Int) * x8)
  let x22 : Int := ((19 : Int) * x9)
  let x23 : Int := ((((x0 * x0) + (x12 * x21)) + (x14 * x19)) + ((((x11 * x22) + (x13 * x20)) + (x5 * x18)) * (2 : Int)))
  let x24 : Int := ((((x10 * x1) + (x13 * x21)) + (x15 * x19)) + (((x2 * x22) + (x4 * x20)) * (2 : Int)))
  let x25 : Int := (((((x10 * x2) + (x11 * x1)) + (x14 * x21)) + (x6 * x19)) + (((x13 * x22) + (x15 * x20)) * (2 : Int)))
  let x26 : Int := ((((x10 * x3) + (x11 * x2)) + (x15 * x21)) + (((x4 * x22) + (x6 * x20)) * (2 : Int)))
  let x27 : Int := (((((x10 * x4) + (x11 * x13)) + (x2 * x2)) + (x16 * x21)) + (((x15 * x22) + (x7 * x20)) * (2 : Int)))
  let x28 : Int := (((((x10 * x5) + (x11 * x4)) + (x12 * x3)) + (x17 * x21)) + ((x6 * x22) * (2 : Int)))
  let x29 : Int := ((((((x10 * x6) + (x11 * x15)) + (x12 * x4)) + (x13 * x3)) + (x8 * x21)) + ((x17 * x22) * (2 : Int)))
  let x30 : Int := (((((x10 * x7) + (x11 * x6)) + (x12 * x5)) + (x13 * x4)) + ((x8 * x22) * (2 : Int)))
  let x31 : Int := ((((((x10 * x8) + (x11 * x17)) + (x12 * x6)) + (x13 * x15)) + (x4 * x4)) + ((x9 * x22) * (2 : Int)))
  let x32 : Int := (((((x10 * x9) + (x11 * x8)) + (x12 * x7)) + (x13 * x6)) + (x14 * x5))
  [x23, x24, x25, x26, x27, x28, x29, x30, x31, x32]

theorem square_inner_fn_ok (x0 x1 x2 x3 x4 x5 x6 x7 x8 x9 : Int) : NProg.evalZ square_inner_nprog [x0, x1, x2, x3, x4, x5, x6, x7, x8, x9] = square_inner_fn x0 x1 x2 x3 x4 x5 x6 x7 x8 x9 :=
  (NProg.evalZ_eq_fast _ _).trans (by kernel_rfl)

def square_post : List Itv := [⟨0, 67108863, 0⟩, ⟨0, 33556577, 0⟩, ⟨0, 67108863, 0⟩, ⟨0, 33554431, 0⟩, ⟨0, 67108863, 0⟩, ⟨0, 33555764, 0⟩, ⟨0, 67108863, 0⟩, ⟨0, 33554431, 0⟩, ⟨0, 67108863, 0⟩, ⟨0, 33554431, 0⟩]

def square_nprog : NProg := Prog.normProg Dalek.Gen.Field26.square Dalek.Model.Contracts.Field26.pre_square

theorem square_norm_ok : Prog.norm Dalek.Gen.Field26.square Dalek.Model.Contracts.Field26.pre_square = some (square_nprog, square_post) :=
  Prog.norm_eq_of_post (by decide +kernel)

def square_fn (x0 x1 x2 x3 x4 x5 x6 x7 x8 x9 : Int) : List Int :=
  let x10 : Int := ((2 : Int) * x0)
  let x11 : Int := ((2 : Int) * x1)
  let x12 : Int := ((2 : Int) * x2)
  let x13 : Int := ((2 : Int) * x3)
  let x14 : Int := ((2 : Int) * x4)
  let x15 : Int := ((2 : Int) * x5)
  let x16 : Int := ((2 : Int) * x6)
  let x17 : Int := ((2 : Int) * x7)
  let x18 : Int := ((19 : Int) * x5)
  let x19 : Int := ((19 : Int) * x6)
  let x20 : Int := ((19 : Int) * x7)
  let x21 : Int := ((19 : Int) * x8)
  let x22 : Int := ((19 : Int) * x9)
  let x23 : Int := ((((x0 * x0) + (x12 * x21)) + (x14 * x19)) + ((((x11 * x22) + (x13 * x20)) + (x5 * x18)) * (2 : Int)))
  let x24 : Int := ((((x10 * x1) + (x13 * x21)) + (x15 * x19)) + (((x2 * x22) + (x4 * x20)) * (2 : Int)))
  let x25 : Int := (((((x10 * x2) + (x11 * x1)) + (x14 * x21)) + (x6 * x19)) + (((x13 * x22) + (x15 * x20)) * (2 : Int)))
  let x26 : Int := ((((x10 * x3) + (x11 * x2)) + (x15 * x21)) + (((x4 * x22) + (x6 * x20)) * (2 : Int)))
  let x27 : Int := (((((x10 * x4) + (x11 * x13)) + (x2 * x2)) + (x16 * x21)) + (((x15 * x22) + (x7 * x20)) * (2 : Int)))
  let x28 : Int := (((((x10 * x5) + (x11 * x4)) + (x12 * x3)) + (x17 * x21)) + ((x6 * x22) * (2 : Int)))
  let x29 : Int := ((((((x10 * x6) + (x11 * x15)) + (x12 * x4)) + (x13 * x3)) + (x8 * x21)) + ((x17 * x22) * (2 : Int)))
  let x30 : Int := (((((x10 * x7) + (x11 * x6)) + (x12 * x5)) + (x13 * x4)) + ((x8 * x22) * (2 : Int)))
  let x31 : Int := ((((((x10 * x8) + (x11 * x17)) + (x12 * x6)) + (x13 * x15)) + (x4 * x4)) + ((x9 * x22) * (2 : Int)))
  let x32 : Int := (((((x10 * x9) + (x11 * x8)) + (x12 * x7)) + (x13 * x6)) + (x14 * x5))
  let x33 : Int := (x24 + (x23 / 2 ^ (26 : Nat)))
  let x34 : Int := (x23 % 2 ^ (26 : Nat))
  let x35 : Int := (x28 + (x27 / 2 ^ (26 : Nat)))
  let x36 : Int := (x27 % 2 ^ (26 : Nat))
  let x37 : Int := (x25 + (x33 / 2 ^ (25 : Nat)))
  let x38 : Int := (x33 % 2 ^ (25 : Nat))
  let x39 : Int := (x29 + (x35 / 2 ^ (25 : Nat)))
  let x40 : Int := (x35 % 2 ^ (25 : Nat))
  let x41 : Int := (x26 + (x37 / 2 ^ (26 : Nat)))
  let x42 : Int := (x37 % 2 ^ (26 : Nat))
  let x43 : Int := (x30 + (x39 / 2 ^ (26 : Nat)))
  let x44 : Int := (x39 % 2 ^ (26 : Nat))
  let x45 : Int := (x36 + (x41 / 2 ^ (25 : Nat)))
  let x46 : Int := (x41 % 2 ^ (25 : Nat))
  let x47 : Int := (x31 + (x43 / 2 ^ (25 : Nat)))
  let x48 : Int := (x43 % 2 ^ (25 : Nat))
  let x49 : Int := (x40 + (x45 / 2 ^ (26 : Nat)))
  let x50 : Int := (x45 % 2 ^ (26 : Nat))
  let x51 : Int := (x32 + (x47 / 2 ^ (26 : Nat)))
  let x52 : Int := (x47 % 2 ^ (26 : Nat))
  let x53 : Int := (x34 + ((19 : Int) * (x51 / 2 ^ (25 : Nat))))
  let x54 : Int := (x51 % 2 ^ (25 : Nat))
  let x55 : Int := (x38 + (x53 / 2 ^ (26 : Nat)))
  let x56 : Int := (x53 % 2 ^ (26 : Nat))
  let x57 : Int := x56
  let x58 : Int := x55
  let x59 : Int := x42
  let x60 : Int := x46
  let x61 : Int := x50
  let x62 : Int := x49
  let x63 : Int := x44
  let x64 : Int := x48
  let x65 : Int := x52
  let x66 : Int := x54
  [x57, x58, x59, x60, x61, x62, x63, x64, x65, x66]

theorem square_fn_ok (x0 x1 x2 x3 x4 x5 x6 x7 x8 x9 : Int) : NProg.evalZ square_nprog [x0, x1, x2, x3, x4, x5, x6, x7, x8, x9] = square_fn x0 x1 x2 x3 x4 x5 x6 x7 x8 x9 :=
  (NProg.evalZ_eq_fast _ _).trans (by kernel_rfl)

def square2_post : List Itv := [⟨0, 67108863, 0⟩, ⟨0, 33558722, 0⟩, ⟨0, 67108863, 0⟩, ⟨0, 33554431, 0⟩, ⟨0, 67108863, 0⟩, ⟨0, 33557096, 0⟩, ⟨0, 67108863, 0⟩, ⟨0, 33554431, 0⟩, ⟨0, 67108863, 0⟩, ⟨0, 33554431, 0⟩]

def square2_nprog : NProg := Prog.normProg Dalek.Gen.Field26.square2 Dalek.Model.Contracts.Field26.pre_square2

theorem square2_norm_ok : Prog.norm Dalek.Gen.Field26.square2 Dalek.Model.Contracts.Field26.pre_square2 = some (square2_nprog, square2_post) :=
  Prog.norm_eq_of_post (by decide +kernel)

def square2_fn (x0 x1 x2 x3 x4 x5 x6 x7 x8 x9 : Int) : List Int :=
  let x10 : Int := ((2 : Int) * x0)
  let x11 : Int := ((2 : Int) * x1)
  let x12 : Int := ((2 : Int) * x2)
  let x13 : Int := ((2 : Int) * x3)
  let x14 : Int := ((2 : Int) * x4)
  let x15 : Int := ((2 : Int) * x5)
  let x16 : Int := ((2 : Int) * x6)
  let x17 : Int := ((2 : Int) * x7)
  let x18 : Int := ((19 : Int) * x5)
  let x19 : Int := ((19 : Int) * x6)
  let x20 : Int := ((19 : Int) * x7)
  let x21 : Int := ((19 : Int) * x8)
  let x22 : Int := ((19 : Int) * x9)
  let x23 : Int := ((((x0 * x0) + (x12 * x21)) + (x14 * x19)) + ((((x11 * x22) + (x13 * x20)) + (x5 * x18)) * (2 : Int)))
  let x24 : Int := ((((x10 * x1) + (x13 * x21)) + (x15 * x19)) + (((x2 * x22) + (x4 * x20)) * (2 : Int)))
  let x25 : Int := (((((x10 * x2) + (x11 * x1)) + (x14 * x21)) + (x6 * x19)) + (((x13 * x22) + (x15 * x20)) * (2 : Int)))
  let x26 : Int := ((((x10 * x3) + (x11 * x2)) + (x15 * x21)) + (((x4 * x22) + (x6 * x20)) * (2 : Int)))
  let x27 : Int := (((((x10 * x4) + (x11 * x13)) + (x2 * x2)) + (x16 * x21)) + (((x15 * x22) + (x7 * x20)) * (2 : Int)))
  let x28 : Int := (((((x10 * x5) + (x11 * x4)) + (x12 * x3)) + (x17 * x21)) + ((x6 * x22) * (2 : Int)))
  let x29 : Int := ((((((x10 * x6) + (x11 * x15)) + (x12 * x4)) + (x13 * x3)) + (x8 * x21)) + ((x17 * x22) * (2 : Int)))
  let x30 : Int := (((((x10 * x7) + (x11 * x6)) + (x12 * x5)) + (x13 * x4)) + ((x8 * x22) * (2 : Int)))
  let x31 : Int := ((((((x10 * x8) + (x11 * x17)) + (x12 * x6)) + (x13 * x15)) + (x4 * x4)) + ((x9 * x22) * (2 : Int)))
  let x32 : Int := (((((x10 * x9) + (x11 * x8)) + (x12 * x7)) + (x13 * x6)) + (x14 * x5))
  let x33 : Int := (x23 + x23)
  let x34 : Int := (x24 + x24)
  let x35 : Int := (x25 + x25)
  let x36 : Int := (x26 + x26)
  let x37 : Int := (x27 + x27)
  let x38 : Int := (x28 + x28)
  let x39 : Int := (x29 + x29)
  let x40 : Int := (x30 + x30)
  let x41 : Int := (x31 + x31)
  let x42 : Int := (x32 + x32)
  let x43 : Int := (x34 + (x33 / 2 ^ (26 : Nat)))
  let x44 : Int := (x33 % 2 ^ (26 : Nat))
  let x45 : Int := (x38 + (x37 / 2 ^ (26 : Nat)))
  let x46 : Int := (x37 % 2 ^ (26 : Nat))
  let x47 : Int := (x35 + (x43 / 2 ^ (25 : Nat)))
  let x48 : Int := (x43 % 2 ^ (25 : Nat))
  let x49 : Int := (x39 + (x45 / 2 ^ (25 : Nat)))
  let x50 : Int := (x45 % 2 ^ (25 : Nat))
  let x51 : Int := (x36 + (x47 / 2 ^ (26 : Nat)))
  let x52 : Int := (x47 % 2 ^ (26 : Nat))
  let x53 : Int := (x40 + (x49 / 2 ^ (26 : Nat)))
  let x54 : Int := (x49 % 2 ^ (26 : Nat))
  let x55 : Int := (x46 + (x51 / 2 ^ (25 : Nat)))
  let x56 : Int := (x51 % 2 ^ (25 : Nat))
  let x57 : Int := (x41 + (x53 / 2 ^ (25 : Nat)))
  let x58 : Int := (x53 % 2 ^ (25 : Nat))
  let x59 : Int := (x50 + (x55 / 2 ^ (26 : Nat)))
  let x60 : Int := (x55 % 2 ^ (26 : Nat))
  let x61 : Int := (x42 + (x57 / 2 ^ (26 : Nat)))
  let x62 : Int := (x57 % 2 ^ (26 : Nat))
  let x63 : Int := (x44 + ((19 : Int) * (x61 / 2 ^ (25 : Nat))))
  let x64 : Int := (x61 % 2 ^ (25 : Nat))
  let x65 : Int := (x48 + (x63 / 2 ^ (26 : Nat)))
  let x66 : Int := (x63 % 2 ^ (26 : Nat))
  let x67 : Int := x66
  let x68 : Int := x65
  let x69 : Int := x52
  let x70 : Int := x56
  let x71 : Int := x60
  let x72 : Int := x59
  let x73 : Int := x54
  let x74 : Int := x58
  let x75 : Int := x62
  let x76 : Int := x64
  [x67, x68, x69, x70, x71, x72, x73, x74, x75, x76]

theorem square2_fn_ok (x0 x1 x2 x3 x4 x5 x6 x7 x8 x9 : Int) : NProg.evalZ square2_nprog [x0, x1, x2, x3, x4, x5, x6, x7, x8, x9] = square2_fn x0 x1 x2 x3 x4 x5 x6 x7 x8 x9 :=
  (NProg.evalZ_eq_fast _ _).trans (by kernel_rfl)

def pow2k_body_post : List Itv := [⟨0, 67108863, 0⟩, ⟨0, 33556577, 0⟩, ⟨0, 67108863, 0⟩, ⟨0, 33554431, 0⟩, ⟨0, 67108863, 0⟩, ⟨0, 33555764, 0⟩, ⟨0, 67108863, 0⟩, ⟨0, 33554431, 0⟩, ⟨0, 67108863, 0⟩, ⟨0, 33554431, 0⟩]

def pow2k_body_nprog : NProg := Prog.normProg Dalek.Gen.Field26.pow2k_body Dalek.Model.Contracts.Field26.pre_pow2k_body

theorem pow2k_body_norm_ok : Prog.norm Dalek.Gen.Field26.pow2k_body Dalek.Model.Contracts.Field26.pre_pow2k_body = some (pow2k_body_nprog, pow2k_body_post) :=
  Prog.norm_eq_of_post (by decide +kernel)

def pow2k_body_fn (x0 x1 x2 x3 x4 x5 x6 x7 x8 x9 : Int) : List Int :=
  let x10 : Int := ((2 : Int) * x0)
  let x11 : Int := ((2 : Int) * x1)
  let x12 : Int := ((2 : Int) * x2)
  let x13 : Int := ((2 : Int) * x3)
  let x14 : Int := ((2 : Int) * x4)
  let x15 : Int := ((2 : Int) * x5)
  let x16 : Int := ((2 : Int) * x6)
  let x17 : Int := ((2 : Int) * x7)
  let x18 : Int := ((19 : Int) * x5)
  let x19 : Int := ((19 : Int) * x6)
  let x20 : Int := ((19 : Int) * x7)
  let x21 : Int := ((19 : Int) * x8)
  let x22 : Int := ((19 : Int) * x9)
  let x23 : Int := ((((x0 * x0) + (x12 * x21)) + (x14 * x19)) + ((((x11 * x22) + (x13 * x20)) + (x5 * x18)) * (2 : Int)))
  let x24 : Int := ((((x10 * x1) + (x13 * x21)) + (x15 * x19)) + (((x2 * x22) + (x4 * x20)) * (2 : Int)))
  let x25 : Int := (((((x10 * x2) + (x11 * x1)) + (x14 * x21)) + (x6 * x19)) + (((x13 * x22) + (x15 * x20)) * (2 : Int)))
  let x26 : Int := ((((x10 * x3) + (x11 * x2)) + (x15 * x21)) + (((x4 * x22) + (x6 * x20)) * (2 : Int)))
  let x27 : Int := (((((x10 * x4) + (x11 * x13)) + (x2 * x2)) + (x16 * x21)) + (((x15 * x22) + (x7 * x20)) * (2 : Int)))
  let x28 : Int := (((((x10 * x5) + (x11 * x4)) + (x12 * x3)) + (x17 * x21)) + ((x6 * x22) * (2 : Int)))
  let x29 : Int := ((((((x10 * x6) + (x11 * x15)) + (x12 * x4)) + (x13 * x3)) + (x8 * x21)) + ((x17 * x22) * (2 : Int)))
  let x30 : Int := (((((x10 * x7) + (x11 * x6)) + (x12 * x5)) + (x13 * x4)) + ((x8 * x22) * (2 : Int)))
  let x31 : Int := ((((((x10 * x8) + (x11 * x17)) + (x12 * x6)) + (x13 * x15)) + (x4 * x4)) + ((x9 * x22) * (2 : Int)))
  let x32 : Int := (((((x10 * x9) + (x11 * x8)) + (x12 * x7)) + (x13 * x6)) + (x14 * x5))
  let x33 : Int := (x24 + (x23 / 2 ^ (26 : Nat)))
  let x34 : Int := (x23 % 2 ^ (26 : Nat))
  let x35 : Int := (x28 + (x27 / 2 ^ (26 : Nat)))
  let x36 : Int := (x27 % 2 ^ (26 : Nat))
  let x37 : Int := (x25 + (x33 / 2 ^ (25 : Nat)))
  let x38 : Int := (x33 % 2 ^ (25 : Nat))
  let x39 : Int := (x29 + (x35 / 2 ^ (25 : Nat)))
  let x40 : Int := (x35 % 2 ^ (25 : Nat))
  let x41 : Int := (x26 + (x37 / 2 ^ (26 : Nat)))
  let x42 : Int := (x37 % 2 ^ (26 : Nat))
  let x43 : Int := (x30 + (x39 / 2 ^ (26 : Nat)))
  let x44 : Int := (x39 % 2 ^ (26 : Nat))
  let x45 : Int := (x36 + (x41 / 2 ^ (25 : Nat)))
  let x46 : Int := (x41 % 2 ^ (25 : Nat))
  let x47 : Int := (x31 + (x43 / 2 ^ (25 : Nat)))
  let x48 : Int := (x43 % 2 ^ (25 : Nat))
  let x49 : Int := (x40 + (x45 / 2 ^ (26 : Nat)))
  let x50 : Int := (x45 % 2 ^ (26 : Nat))
  let x51 : Int := (x32 + (x47 / 2 ^ (26 : Nat)))
  let x52 : Int := (x47 % 2 ^ (26 : Nat))
  let x53 : Int := (x34 + ((19 : Int) * (x51 / 2 ^ (25 : Nat))))
  let x54 : Int := (x51 % 2 ^ (25 : Nat))
  let x55 : Int := (x38 + (x53 / 2 ^ (26 : Nat)))
  let x56 : Int := (x53 % 2 ^ (26 : Nat))
  let x57 : Int := x56
  let x58 : Int := x55
  let x59 : Int := x42
  let x60 : Int := x46
  let x61 : Int := x50
  let x62 : Int := x49
  let x63 : Int := x44
  let x64 : Int := x48
  let x65 : Int := x52
  let x66 : Int := x54
  [x57, x58, x59, x60, x61, x62, x63, x64, x65, x66]

theorem pow2k_body_fn_ok (x0 x1 x2 x3 x4 x5 x6 x7 x8 x9 : Int) : NProg.evalZ pow2k_body_nprog [x0, x1, x2, x3, x4, x5, x6, x7, x8, x9] = pow2k_body_fn x0 x1 x2 x3 x4 x5 x6 x7 x8 x9 :=
  (NProg.evalZ_eq_fast _ _).trans (by kernel_rfl)

end Dalek.Gen.Norm.Field26
