/-
The JSON array reader of `Dalek.Model.Serde` (`nextElem`, `readElems`, `endSeqAndEnd`, `jsonDe`)
against an explicit description of the accepted texts (helpers for property C16):

  `arrayText w0 w1 t0 pads toks w2 w3 = w0 [ w1 t0 (p.1 , p.2 t)* w2 ] w3`

where the `w`s / `p`s are whitespace and `t0`, `toks` are number tokens.

* `jsonDe_arrayText` (evaluation): on every such text made of DIGIT-STRING tokens, `jsonDe ty` answers
  `ofOption (validate ty bytes)` if there are exactly `ty.len` tokens and each is an accepted `u8` token
  (`TokOK`: no leading zero, value ≤ 255), and `.err` otherwise (too few / too many elements, element > 255,
  leading zero).
* `jsonDe_ok_inv` (inversion): if `jsonDe ty x = .ok v` then `x` is such a text (or, for the
  `deserialize_bytes` types, a JSON string).
-/
import Dalek.Proofs.SerdeJson

namespace Dalek.Proofs.Serde
open Dalek.Spec Dalek.Model.Serde

/-! ## Texts -/

/-- every pad consists of whitespace -/
def PadsWs (pads : List (List UInt8 × List UInt8)) : Prop := ∀ p ∈ pads, AllWs p.1 ∧ AllWs p.2

theorem padsWs_nil : PadsWs [] := fun _ h => (by cases h)

theorem padsWs_cons {p : List UInt8 × List UInt8} {ps : List (List UInt8 × List UInt8)} :
    PadsWs (p :: ps) ↔ (AllWs p.1 ∧ AllWs p.2) ∧ PadsWs ps := by
  unfold PadsWs; simp

theorem padsWs_drop {pads : List (List UInt8 × List UInt8)} (h : PadsWs pads) (k : Nat) :
    PadsWs (pads.drop k) := fun p hp => h p (List.mem_of_mem_drop hp)

/-- the elements after the first one: `ws* , ws* token` each -/
def restText : List (List UInt8 × List UInt8) → List (List UInt8) → List UInt8
  | p :: ps, t :: ts => p.1 ++ 0x2c :: (p.2 ++ (t ++ restText ps ts))
  | [], _ => []
  | _ :: _, [] => []

/-- `ws* [ ws* t0 (ws* , ws* t)* ws* ] ws*` -/
def arrayText (w0 w1 t0 : List UInt8) (pads : List (List UInt8 × List UInt8))
    (toks : List (List UInt8)) (w2 w3 : List UInt8) : List UInt8 :=
  w0 ++ 0x5b :: (w1 ++ (t0 ++ (restText pads toks ++ (w2 ++ 0x5d :: w3))))

theorem restText_nil_left (toks : List (List UInt8)) : restText [] toks = [] := by
  cases toks <;> rfl

theorem restText_nil_right (pads : List (List UInt8 × List UInt8)) : restText pads [] = [] := by
  cases pads <;> rfl

theorem contB_ws_append {w r : List UInt8} (hw : AllWs w) (hr : contB r = false) :
    contB (w ++ r) = false := by
  cases w with
  | nil => exact hr
  | cons c w' => exact contB_of_isWs (allWs_cons.1 hw).1

theorem contB_tail {w2 w3 : List UInt8} (hw : AllWs w2) : contB (w2 ++ 0x5d :: w3) = false :=
  contB_ws_append hw (contB_rbracket w3)

theorem contB_restText {pads : List (List UInt8 × List UInt8)} (hp : PadsWs pads)
    (toks : List (List UInt8)) {r : List UInt8} (hr : contB r = false) :
    contB (restText pads toks ++ r) = false := by
  cases pads with
  | nil => rw [restText_nil_left]; exact hr
  | cons p ps =>
    cases toks with
    | nil => rw [restText_nil_right]; exact hr
    | cons t ts =>
      simp only [restText, List.append_assoc, List.cons_append]
      exact contB_ws_append (padsWs_cons.1 hp).1.1 (contB_comma _)

/-! ## `nextElem` -/

theorem isWs_comma : isWs 0x2c = false := by decide
theorem isWs_lbracket : isWs 0x5b = false := by decide
theorem isWs_rbracket : isWs 0x5d = false := by decide
theorem isWs_quote : isWs 0x22 = false := by decide

theorem skipWs_digits {t : List UInt8} (ht : IsDigits t) (r : List UInt8) :
    skipWs (t ++ r) = t ++ r := by
  obtain ⟨hne, hd⟩ := ht
  obtain ⟨c, t', rfl⟩ := List.exists_cons_of_ne_nil hne
  exact skipWs_cons_of_not_ws (isDigit_not_ws (hd c (by simp))) _

theorem nextElem_skip {w : List UInt8} (hw : AllWs w) (first : Bool) (s : List UInt8) :
    nextElem first (w ++ s) = nextElem first s := by
  unfold nextElem; rw [skipWs_append_of_allWs hw]

theorem nextElem_true_tok {t : List UInt8} (ht : IsDigits t) (r : List UInt8) :
    nextElem true (t ++ r) = parseU8 (t ++ r) := by
  unfold nextElem
  rw [skipWs_digits ht]
  obtain ⟨c, t', rfl⟩ := List.exists_cons_of_ne_nil ht.1
  simp

theorem nextElem_false_comma (s : List UInt8) : nextElem false (0x2c :: s) = parseU8 (skipWs s) := by
  unfold nextElem
  rw [skipWs_cons_of_not_ws isWs_comma]
  simp

theorem nextElem_false_tok {w w' t : List UInt8} (hw : AllWs w) (hw' : AllWs w') (ht : IsDigits t)
    (r : List UInt8) : nextElem false (w ++ 0x2c :: (w' ++ (t ++ r))) = parseU8 (t ++ r) := by
  rw [nextElem_skip hw, nextElem_false_comma, skipWs_append_of_allWs hw', skipWs_digits ht]

theorem nextElem_false_rbracket (s : List UInt8) : nextElem false (0x5d :: s) = none := by
  unfold nextElem
  rw [skipWs_cons_of_not_ws isWs_rbracket]
  simp

theorem nextElem_true_rbracket (s : List UInt8) : nextElem true (0x5d :: s) = none := by
  unfold nextElem
  rw [skipWs_cons_of_not_ws isWs_rbracket]
  have : (0x5d : UInt8) ≠ 0x30 := by decide
  simp only [if_true]
  rw [parseU8_cons _ _ this]
  have hd : isDigit (0x5d : UInt8) = false := by decide
  simp [hd]

theorem nextElem_true_inv {s r : List UInt8} {u : UInt8} (h : nextElem true s = some (u, r)) :
    ∃ w t, AllWs w ∧ s = w ++ (t ++ r) ∧ IsDigits t ∧ TokOK t ∧ u = tokByte t ∧ contB r = false := by
  obtain ⟨w, hw, hs, -⟩ := skipWs_spec s
  unfold nextElem at h
  cases hk : skipWs s with
  | nil => rw [hk] at h; simp at h
  | cons c s' =>
    rw [hk] at h hs
    simp only [if_true] at h
    obtain ⟨t, h1, h2, h3, h4, h5⟩ := parseU8_some h
    exact ⟨w, t, hw, by rw [hs, h1], h2, h3, h4, h5⟩

theorem nextElem_false_inv {s r : List UInt8} {u : UInt8} (h : nextElem false s = some (u, r)) :
    ∃ w w' t, AllWs w ∧ AllWs w' ∧ s = w ++ 0x2c :: (w' ++ (t ++ r)) ∧ IsDigits t ∧ TokOK t ∧
      u = tokByte t ∧ contB r = false := by
  obtain ⟨w, hw, hs, -⟩ := skipWs_spec s
  unfold nextElem at h
  cases hk : skipWs s with
  | nil => rw [hk] at h; simp at h
  | cons c s' =>
    rw [hk] at h hs
    by_cases hc : c = 0x2c
    · subst hc
      simp only [Bool.false_eq_true, if_false, beq_self_eq_true, if_true] at h
      obtain ⟨w', hw', hs', -⟩ := skipWs_spec s'
      obtain ⟨t, h1, h2, h3, h4, h5⟩ := parseU8_some h
      refine ⟨w, w', t, hw, hw', ?_, h2, h3, h4, h5⟩
      rw [hs, hs', h1]
    · simp [hc] at h

/-! ## `readElems` -/

theorem readElems_succ (n : Nat) (first : Bool) (s : List UInt8) :
    readElems (n + 1) first s =
      match nextElem first s with
      | some (v, r) => (readElems n false r).map fun (vs, r') => (v :: vs, r')
      | none => none := rfl

/-- **Evaluation of `readElems`** on `k ≤ |toks|` further elements. -/
theorem readElems_restText (k : Nat) :
    ∀ (pads : List (List UInt8 × List UInt8)) (toks : List (List UInt8)) (r : List UInt8),
      pads.length = toks.length → k ≤ toks.length → PadsWs pads → (∀ t ∈ toks, IsDigits t) →
      contB r = false →
      readElems k false (restText pads toks ++ r) =
        if ∀ t ∈ toks.take k, TokOK t then
          some ((toks.take k).map tokByte, restText (pads.drop k) (toks.drop k) ++ r)
        else none := by
  induction k with
  | zero => intro pads toks r _ _ _ _ _; simp [readElems]
  | succ k ih =>
    intro pads toks r hlen hk hp hd hr
    cases toks with
    | nil => simp at hk
    | cons t ts =>
      cases pads with
      | nil => simp at hlen
      | cons p ps =>
        have hp' := padsWs_cons.1 hp
        have ht : IsDigits t := hd t (by simp)
        have hcr : contB (restText ps ts ++ r) = false := contB_restText hp'.2 ts hr
        have hnd : NoDigitHead (restText ps ts ++ r) := noDigitHead_of_contB hcr
        rw [readElems_succ]
        simp only [restText, List.append_assoc, List.cons_append]
        rw [nextElem_false_tok hp'.1.1 hp'.1.2 ht, parseU8_tok ht hnd]
        by_cases htok : TokOK t
        · rw [if_pos ⟨htok, hcr⟩]
          simp only
          rw [ih ps ts r (by simpa using hlen) (by simpa using hk) hp'.2
            (fun t' ht' => hd t' (List.mem_cons_of_mem _ ht')) hr]
          by_cases hall : ∀ t' ∈ ts.take k, TokOK t'
          · have : ∀ t' ∈ (t :: ts).take (k + 1), TokOK t' := by
              intro t' ht'
              rw [List.take_succ_cons] at ht'
              rcases List.mem_cons.1 ht' with rfl | ht'
              · exact htok
              · exact hall t' ht'
            rw [if_pos hall, if_pos this]
            simp
          · have : ¬ ∀ t' ∈ (t :: ts).take (k + 1), TokOK t' := by
              intro h; apply hall
              intro t' ht'
              exact h t' (by rw [List.take_succ_cons]; exact List.mem_cons_of_mem _ ht')
            rw [if_neg hall, if_neg this]
            rfl
        · have h1 : ¬ (TokOK t ∧ contB (restText ps ts ++ r) = false) := fun h => htok h.1
          have h2 : ¬ ∀ t' ∈ (t :: ts).take (k + 1), TokOK t' := by
            intro h; exact htok (h t (by simp))
          rw [if_neg h1, if_neg h2]

/-- Too few elements: if fewer than `k` elements are present and the text then continues with
something `nextElem` refuses (e.g. `]`), `readElems k` fails. -/
theorem readElems_short :
    ∀ (toks : List (List UInt8)) (pads : List (List UInt8 × List UInt8)) (k : Nat) (r : List UInt8),
      pads.length = toks.length → toks.length < k → PadsWs pads → (∀ t ∈ toks, IsDigits t) →
      contB r = false → nextElem false r = none →
      readElems k false (restText pads toks ++ r) = none := by
  intro toks
  induction toks with
  | nil =>
    intro pads k r _ hk _ _ _ hr
    obtain ⟨k', rfl⟩ : ∃ k', k = k' + 1 := ⟨k - 1, by simp at hk; omega⟩
    rw [restText_nil_right, List.nil_append, readElems_succ, hr]
  | cons t ts ih =>
    intro pads k r hlen hk hp hd hcr hr
    obtain ⟨k', rfl⟩ : ∃ k', k = k' + 1 := ⟨k - 1, by omega⟩
    cases pads with
    | nil => simp at hlen
    | cons p ps =>
      have hp' := padsWs_cons.1 hp
      have ht : IsDigits t := hd t (by simp)
      have hcr' : contB (restText ps ts ++ r) = false := contB_restText hp'.2 ts hcr
      rw [readElems_succ]
      simp only [restText, List.append_assoc, List.cons_append]
      rw [nextElem_false_tok hp'.1.1 hp'.1.2 ht, parseU8_tok ht (noDigitHead_of_contB hcr')]
      by_cases htok : TokOK t ∧ contB (restText ps ts ++ r) = false
      · rw [if_pos htok]
        simp only
        rw [ih ps k' r (by simpa using hlen) (by simp at hk; omega) hp'.2
          (fun t' ht' => hd t' (List.mem_cons_of_mem _ ht')) hcr hr]
        rfl
      · rw [if_neg htok]

/-- **Inversion of `readElems`.** -/
theorem readElems_inv (k : Nat) :
    ∀ (s r : List UInt8) (bs : List UInt8), readElems k false s = some (bs, r) →
      ∃ (pads : List (List UInt8 × List UInt8)) (toks : List (List UInt8)),
        pads.length = k ∧ toks.length = k ∧ PadsWs pads ∧ (∀ t ∈ toks, IsDigits t ∧ TokOK t) ∧
        s = restText pads toks ++ r ∧ bs = toks.map tokByte ∧ (k ≠ 0 → contB r = false) := by
  induction k with
  | zero =>
    intro s r bs h
    simp only [readElems, Option.some.injEq, Prod.mk.injEq] at h
    obtain ⟨rfl, rfl⟩ := h
    exact ⟨[], [], rfl, rfl, padsWs_nil, fun _ h => (by cases h), by simp [restText], rfl,
      fun h => absurd rfl h⟩
  | succ k ih =>
    intro s r bs h
    rw [readElems_succ] at h
    cases hne : nextElem false s with
    | none => rw [hne] at h; cases h
    | some q =>
      obtain ⟨u, r1⟩ := q
      rw [hne] at h
      simp only [Option.map_eq_some_iff] at h
      obtain ⟨⟨vs, r'⟩, hre, heq⟩ := h
      simp only [Prod.mk.injEq] at heq
      obtain ⟨rfl, rfl⟩ := heq
      obtain ⟨w, w', t, hw, hw', hs, htd, htok, hu, hc1⟩ := nextElem_false_inv hne
      obtain ⟨pads, toks, hl1, hl2, hp, htoks, hs', hbs, hc⟩ := ih r1 r' vs hre
      refine ⟨(w, w') :: pads, t :: toks, by simp [hl1], by simp [hl2],
        padsWs_cons.2 ⟨⟨hw, hw'⟩, hp⟩, ?_, ?_, ?_, ?_⟩
      · intro t' ht'
        rcases List.mem_cons.1 ht' with rfl | ht'
        · exact ⟨htd, htok⟩
        · exact htoks t' ht'
      · rw [hs, hs']; simp [restText]
      · rw [hbs, hu]; rfl
      · intro _
        by_cases hk : k = 0
        · subst hk
          have : toks = [] := List.length_eq_zero_iff.1 hl2
          subst this
          rw [restText_nil_right, List.nil_append] at hs'
          rw [← hs']; exact hc1
        · exact hc hk

/-! ## `endSeqAndEnd` -/

theorem endSeqAndEnd_tail {w2 w3 : List UInt8} (h2 : AllWs w2) (h3 : AllWs w3) :
    endSeqAndEnd (w2 ++ 0x5d :: w3) = true := by
  unfold endSeqAndEnd
  rw [skipWs_append_of_allWs h2, skipWs_cons_of_not_ws isWs_rbracket]
  simp [skipWs_of_allWs h3]

theorem endSeqAndEnd_more {p : List UInt8 × List UInt8} {ps : List (List UInt8 × List UInt8)}
    {t : List UInt8} {ts : List (List UInt8)} (hp : AllWs p.1) (r : List UInt8) :
    endSeqAndEnd (restText (p :: ps) (t :: ts) ++ r) = false := by
  unfold endSeqAndEnd
  simp only [restText, List.append_assoc, List.cons_append]
  rw [skipWs_append_of_allWs hp, skipWs_cons_of_not_ws isWs_comma]
  simp

theorem endSeqAndEnd_inv {s : List UInt8} (h : endSeqAndEnd s = true) :
    ∃ w2 w3, AllWs w2 ∧ AllWs w3 ∧ s = w2 ++ 0x5d :: w3 := by
  obtain ⟨w, hw, hs, -⟩ := skipWs_spec s
  unfold endSeqAndEnd at h
  cases hk : skipWs s with
  | nil => rw [hk] at h; simp at h
  | cons c s' =>
    rw [hk] at h hs
    simp only [Bool.and_eq_true, beq_iff_eq] at h
    obtain ⟨rfl, h3⟩ := h
    exact ⟨w, s', hw, (skipWs_isEmpty_iff s').1 h3, hs⟩

/-! ## `jsonDe` -/

theorem ty_len_pos (ty : Ty) : ∃ n, ty.len = n + 1 := by
  cases ty <;> first | exact ⟨31, rfl⟩ | exact ⟨63, rfl⟩

theorem ofOption_eq_ok {o : Option (List UInt8)} {v : List UInt8} :
    ofOption o = .ok v ↔ o = some v := by
  cases o <;> simp [ofOption]

theorem ofOption_ne_skip (o : Option (List UInt8)) : ofOption o ≠ .skip := by
  cases o <;> simp [ofOption]

/-- what `jsonDe` does with the result of `readElems` -/
def finishArr (ty : Ty) : Option (List UInt8 × List UInt8) → DeResult
  | none => .err
  | some (bytes, rest) => if endSeqAndEnd rest then ofOption (validate ty bytes) else .err

/-- what `jsonDe` does with the result of `readRawString` -/
def finishStr (ty : Ty) : Option (Option (List UInt8 × List UInt8)) → DeResult
  | none => .err
  | some none => .skip
  | some (some (bytes, rest)) => if (skipWs rest).isEmpty then ofOption (validate ty bytes) else .err

/-- `jsonDe` dispatches on the first non-blank byte. -/
theorem jsonDe_eq (ty : Ty) (x : List UInt8) :
    jsonDe ty x =
      match skipWs x with
      | [] => .err
      | c :: body =>
        if c = 0x5b then finishArr ty (readElems ty.len true body)
        else if c = 0x22 ∧ ty.bytesStyle = true then finishStr ty (readRawString body []) else .err := by
  unfold jsonDe
  cases skipWs x with
  | nil => rfl
  | cons c body =>
    simp only [beq_iff_eq, Bool.and_eq_true]
    split
    · cases readElems ty.len true body with
      | none => rfl
      | some q => simp only [finishArr]; cases validate ty q.1 <;> simp [ofOption]
    · split
      · rcases readRawString body [] with _ | _ | q
        · rfl
        · rfl
        · simp only [finishStr]; cases validate ty q.1 <;> simp [ofOption]
      · rfl

theorem finishArr_ok {ty : Ty} {o : Option (List UInt8 × List UInt8)} {v : List UInt8}
    (h : finishArr ty o = .ok v) :
    ∃ bytes rest, o = some (bytes, rest) ∧ endSeqAndEnd rest = true ∧ validate ty bytes = some v := by
  rcases o with _ | ⟨bytes, rest⟩
  · cases h
  · simp only [finishArr] at h
    split at h
    · exact ⟨_, _, rfl, ‹_›, ofOption_eq_ok.1 h⟩
    · cases h

theorem finishStr_ok {ty : Ty} {o : Option (Option (List UInt8 × List UInt8))} {v : List UInt8}
    (h : finishStr ty o = .ok v) :
    ∃ b rest, o = some (some (b, rest)) ∧ (skipWs rest).isEmpty = true ∧ validate ty b = some v := by
  rcases o with _ | _ | ⟨b, rest⟩
  · cases h
  · cases h
  · simp only [finishStr] at h
    split at h
    · exact ⟨_, _, rfl, ‹_›, ofOption_eq_ok.1 h⟩
    · cases h

theorem finishArr_ne_skip (ty : Ty) (o : Option (List UInt8 × List UInt8)) : finishArr ty o ≠ .skip := by
  rcases o with _ | ⟨bytes, rest⟩
  · nofun
  · simp only [finishArr]
    split
    · exact ofOption_ne_skip _
    · nofun

theorem finishStr_skip {ty : Ty} {o : Option (Option (List UInt8 × List UInt8))}
    (h : finishStr ty o = .skip) : o = some none := by
  rcases o with _ | _ | ⟨b, rest⟩
  · cases h
  · rfl
  · simp only [finishStr] at h
    split at h
    · exact absurd h (ofOption_ne_skip _)
    · cases h

theorem finishArr_some (ty : Ty) (bytes rest : List UInt8) :
    finishArr ty (some (bytes, rest)) =
      if endSeqAndEnd rest then ofOption (validate ty bytes) else .err := rfl

theorem jsonDe_lbracket (ty : Ty) {w0 : List UInt8} (h0 : AllWs w0) (body : List UInt8) :
    jsonDe ty (w0 ++ 0x5b :: body) = finishArr ty (readElems ty.len true body) := by
  rw [jsonDe_eq, skipWs_append_of_allWs h0, skipWs_cons_of_not_ws isWs_lbracket]
  exact if_pos rfl

/-- **Evaluation of `jsonDe` on array texts of digit-string tokens.**  Exactly `ty.len` elements, each an
accepted `u8` token, are required; then the native validity rule decides. -/
theorem jsonDe_arrayText (ty : Ty) {w0 w1 t0 : List UInt8} {pads : List (List UInt8 × List UInt8)}
    {toks : List (List UInt8)} {w2 w3 : List UInt8}
    (h0 : AllWs w0) (h1 : AllWs w1) (h2 : AllWs w2) (h3 : AllWs w3) (hp : PadsWs pads)
    (hlen : pads.length = toks.length) (ht0 : IsDigits t0) (ht : ∀ t ∈ toks, IsDigits t) :
    jsonDe ty (arrayText w0 w1 t0 pads toks w2 w3) =
      if toks.length + 1 = ty.len ∧ ∀ t ∈ t0 :: toks, TokOK t then
        ofOption (validate ty ((t0 :: toks).map tokByte))
      else .err := by
  obtain ⟨n, hn⟩ := ty_len_pos ty
  unfold arrayText
  rw [jsonDe_lbracket ty h0, hn, readElems_succ, nextElem_skip h1, nextElem_true_tok ht0]
  have htail : contB (w2 ++ 0x5d :: w3) = false := contB_tail h2
  have hcr : contB (restText pads toks ++ (w2 ++ 0x5d :: w3)) = false := contB_restText hp toks htail
  rw [parseU8_tok ht0 (noDigitHead_of_contB hcr)]
  by_cases htok0 : TokOK t0
  · rw [if_pos ⟨htok0, hcr⟩]
    simp only
    rcases Nat.lt_or_ge toks.length n with hlt | hge
    · -- too few elements
      rw [readElems_short toks pads n _ hlen hlt hp ht htail
        (by rw [nextElem_skip h2, nextElem_false_rbracket])]
      have : ¬ (toks.length + 1 = n + 1 ∧ ∀ t ∈ t0 :: toks, TokOK t) := by
        rintro ⟨h, -⟩; omega
      rw [if_neg this]; rfl
    · rw [readElems_restText n pads toks _ hlen hge hp ht htail]
      by_cases hall : ∀ t ∈ toks.take n, TokOK t
      · rw [if_pos hall]
        simp only [Option.map_some]
        rcases Nat.eq_or_lt_of_le hge with heq | hgt
        · -- exactly `ty.len` elements
          have htake : toks.take n = toks := by rw [heq]; exact List.take_length
          have hdropt : toks.drop n = [] := by rw [heq]; exact List.drop_length
          rw [htake] at hall
          rw [htake, hdropt, restText_nil_right, List.nil_append, finishArr_some,
            endSeqAndEnd_tail h2 h3, if_pos rfl]
          have : toks.length + 1 = n + 1 ∧ ∀ t ∈ t0 :: toks, TokOK t := by
            refine ⟨by omega, ?_⟩
            intro t htm
            rcases List.mem_cons.1 htm with rfl | htm
            · exact htok0
            · exact hall t htm
          rw [if_pos this]
          rfl
        · -- too many elements
          have hd1 : toks.drop n ≠ [] := by
            intro h
            have := congrArg List.length h
            simp at this; omega
          have hd2 : pads.drop n ≠ [] := by
            intro h
            have := congrArg List.length h
            simp at this; omega
          obtain ⟨t, ts, hts⟩ := List.exists_cons_of_ne_nil hd1
          obtain ⟨p, ps, hps⟩ := List.exists_cons_of_ne_nil hd2
          have hpw : AllWs p.1 := ((padsWs_drop hp n) p (by rw [hps]; simp)).1
          rw [hts, hps, finishArr_some, endSeqAndEnd_more hpw]
          have : ¬ (toks.length + 1 = n + 1 ∧ ∀ t ∈ t0 :: toks, TokOK t) := by
            rintro ⟨h, -⟩; omega
          rw [if_neg this]
          simp
      · rw [if_neg hall]
        have : ¬ (toks.length + 1 = n + 1 ∧ ∀ t ∈ t0 :: toks, TokOK t) := by
          rintro ⟨-, h⟩
          exact hall fun t htm => h t (List.mem_cons_of_mem _ (List.mem_of_mem_take htm))
        rw [if_neg this]; rfl
  · have h1 : ¬ (TokOK t0 ∧ contB (restText pads toks ++ (w2 ++ 0x5d :: w3)) = false) :=
      fun h => htok0 h.1
    have h2' : ¬ (toks.length + 1 = n + 1 ∧ ∀ t ∈ t0 :: toks, TokOK t) := by
      rintro ⟨-, h⟩; exact htok0 (h t0 (by simp))
    rw [if_neg h1, if_neg h2']
    rfl

/-- The empty array is rejected by every type. -/
theorem jsonDe_empty_array (ty : Ty) {w0 w1 : List UInt8} (h0 : AllWs w0) (h1 : AllWs w1)
    (w3 : List UInt8) : jsonDe ty (w0 ++ 0x5b :: (w1 ++ 0x5d :: w3)) = .err := by
  obtain ⟨n, hn⟩ := ty_len_pos ty
  rw [jsonDe_lbracket ty h0, hn, readElems_succ, nextElem_skip h1, nextElem_true_rbracket]
  rfl

/-- The JSON-string form accepted by `deserialize_bytes` (types `vk`, `sk` only): optional whitespace,
`"`, a body that `readRawString` (serde_json's `parse_str_raw`) unescapes to `b` up to the closing quote,
then only whitespace. -/
def IsJsonStringOf (b x : List UInt8) : Prop :=
  ∃ w0 body rest, AllWs w0 ∧ AllWs rest ∧ x = w0 ++ 0x22 :: body ∧
    readRawString body [] = some (some (b, rest))

/-- **Inversion of `jsonDe`**: an accepted input is an array text of exactly `ty.len` accepted `u8`
tokens whose bytes pass the native validity rule — or, for the `deserialize_bytes` types, a JSON
string. -/
theorem jsonDe_ok_inv {ty : Ty} {x v : List UInt8} (h : jsonDe ty x = .ok v) :
    (∃ w0 w1 t0 pads toks w2 w3, AllWs w0 ∧ AllWs w1 ∧ AllWs w2 ∧ AllWs w3 ∧ PadsWs pads ∧
        pads.length = toks.length ∧ toks.length + 1 = ty.len ∧
        (∀ t ∈ t0 :: toks, IsDigits t ∧ TokOK t) ∧
        x = arrayText w0 w1 t0 pads toks w2 w3 ∧ validate ty ((t0 :: toks).map tokByte) = some v) ∨
    (ty.bytesStyle = true ∧ ∃ b, IsJsonStringOf b x ∧ validate ty b = some v) := by
  obtain ⟨n, hn⟩ := ty_len_pos ty
  obtain ⟨w0, h0, hx, -⟩ := skipWs_spec x
  rw [jsonDe_eq] at h
  cases hk : skipWs x with
  | nil => rw [hk] at h; cases h
  | cons c body =>
    rw [hk] at h hx
    simp only at h
    split at h
    · left
      rename_i hc
      subst hc
      obtain ⟨bytes, rest, hre, hend, hval⟩ := finishArr_ok h
      rw [hn, readElems_succ] at hre
      cases hne : nextElem true body with
      | none => rw [hne] at hre; cases hre
      | some q =>
        obtain ⟨u, r1⟩ := q
        rw [hne] at hre
        simp only [Option.map_eq_some_iff] at hre
        obtain ⟨⟨vs, r'⟩, hre', heq⟩ := hre
        simp only [Prod.mk.injEq] at heq
        obtain ⟨rfl, rfl⟩ := heq
        obtain ⟨w1, t0, h1, hb, htd, htok, hu, -⟩ := nextElem_true_inv hne
        obtain ⟨pads, toks, hl1, hl2, hp, htoks, hs', hbs, -⟩ := readElems_inv n r1 r' vs hre'
        obtain ⟨w2, w3, h2, h3, hr⟩ := endSeqAndEnd_inv hend
        refine ⟨w0, w1, t0, pads, toks, w2, w3, h0, h1, h2, h3, hp, by rw [hl1, hl2],
          by rw [hl2, hn], ?_, ?_, ?_⟩
        · intro t htm
          rcases List.mem_cons.1 htm with rfl | htm
          · exact ⟨htd, htok⟩
          · exact htoks t htm
        · unfold arrayText; rw [hx, hb, hs', hr]
        · rw [List.map_cons, ← hu, ← hbs]; exact hval
    · right
      split at h
      · rename_i hq
        obtain ⟨rfl, hbs⟩ := hq
        obtain ⟨b, rest, hrs, hend, hval⟩ := finishStr_ok h
        exact ⟨hbs, b, ⟨w0, body, rest, h0, (skipWs_isEmpty_iff rest).1 hend, hx, hrs⟩, hval⟩
      · cases h

/-- **Evaluation of `jsonDe` on JSON strings** (the `deserialize_bytes` types). -/
theorem jsonDe_string {ty : Ty} (hty : ty.bytesStyle = true) {b x : List UInt8}
    (h : IsJsonStringOf b x) : jsonDe ty x = ofOption (validate ty b) := by
  obtain ⟨w0, body, rest, h0, hr, rfl, hrs⟩ := h
  rw [jsonDe_eq, skipWs_append_of_allWs h0, skipWs_cons_of_not_ws isWs_quote]
  simp [hty, hrs, finishStr, (skipWs_isEmpty_iff rest).2 hr]

end Dalek.Proofs.Serde
