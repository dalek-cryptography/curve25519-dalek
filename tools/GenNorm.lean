import Dalek.Model.Contracts
/-! `lake env lean --run ../tools/GenNorm.lean <outdir>`
Second translator stage (untrusted: everything it prints is re-checked by the kernel).
For every kernel registered in `Dalek.Model.Contracts.kernels` it evaluates the analyser/normaliser
`Prog.norm prog pre` and prints, into `<outdir>/<Module>.lean` (one module per backend),
  * `def <k>_post : List Itv`, the output intervals, as a literal,
  * `def <k>_nprog : NProg := Prog.normProg <gen prog> <pre>` (the normal form is named, not written out; for the
    kernels in `literalNormalForm` it is written out as well, and `<k>_norm_ok` compares the whole result of the analyser,
    evaluated as `Prog.normFast`, with it),
  * `theorem <k>_norm_ok : Prog.norm <gen prog> <pre> = some (<k>_nprog, <k>_post)`, by one kernel evaluation of the
    interval half of the analyser (`Prog.post`, `Prog.norm_eq_of_post`),
  * the shallow function `def <k>_fn (x0 … : Int) : List Int` (let-bound SSA), the text the value proofs work on, and
    `theorem <k>_fn_ok … : NProg.evalZ <k>_nprog [x0,…] = <k>_fn x0 … := (NProg.evalZ_eq_fast _ _).trans (by kernel_rfl)`
    (the kernel unfolds `Prog.normProg` and `NProg.evalZFast`, which keep the locals newest first: `Dalek/IR/LimbNf.lean`).
If the analysis fails (possible overflow / translation stub) it prints
  `theorem <k>_norm_FAILS : Prog.norm … = none := by decide +kernel` and no function: downstream proofs
then fail to compile, which is the signal the check acts on. -/
open Dalek.IR

partial def neStr : NE → String
  | .v i => s!"(.v {i})"
  | .c n => s!"(.c {n})"
  | .add a b => s!"(.add {neStr a} {neStr b})"
  | .sub a b => s!"(.sub {neStr a} {neStr b})"
  | .mul a b => s!"(.mul {neStr a} {neStr b})"
  | .div2 a k => s!"(.div2 {neStr a} {k})"
  | .mod2 a k => s!"(.mod2 {neStr a} {k})"
  | .sel c a b => s!"(.sel {neStr c} {neStr a} {neStr b})"
  | .band a b => s!"(.band {neStr a} {neStr b})"
  | .bor a b => s!"(.bor {neStr a} {neStr b})"
  | .bxor a b => s!"(.bxor {neStr a} {neStr b})"

/-- shallow Lean term over Int variables x<i> -/
partial def neTerm : NE → String
  | .v i => s!"x{i}"
  | .c n => s!"({n} : Int)"
  | .add a b => s!"({neTerm a} + {neTerm b})"
  | .sub a b => s!"({neTerm a} - {neTerm b})"
  | .mul a b => s!"({neTerm a} * {neTerm b})"
  -- the exponent carries its type: with `2 ^ k` alone instance resolution is retried for every operator and its cost
  -- grows with the number of enclosing `let`s
  | .div2 a k => s!"({neTerm a} / 2 ^ ({k} : Nat))"
  | .mod2 a k => s!"({neTerm a} % 2 ^ ({k} : Nat))"
  | .sel c a b => s!"(if {neTerm c} = 0 then {neTerm a} else {neTerm b})"
  | .band a b => s!"(((({neTerm a}).toNat &&& ({neTerm b}).toNat : Nat) : Int))"
  | .bor a b => s!"(((({neTerm a}).toNat ||| ({neTerm b}).toNat : Nat) : Int))"
  | .bxor a b => s!"(((({neTerm a}).toNat ^^^ ({neTerm b}).toNat : Nat) : Int))"

def itvStr (t : Itv) : String := s!"⟨{t.lo}, {t.hi}, {t.tz}⟩"

def listStr (xs : List String) : String := "[" ++ String.intercalate ", " xs ++ "]"

/-- Kernels whose normal form is also printed: DESIGN.md's table of seeded changes cites `neg_norm_ok` and
`mul_internal_norm_ok` as the obligations such changes break, and there the statement should show what is compared. -/
def literalNormalForm (kname : String) : Bool := kname == "neg" || kname == "mul_internal"

def emitKernel (_modName kname progRef preRef : String) (p : Prog) (pre : List Itv) : String := Id.run do
  let mut s := ""
  match p.norm pre with
  | none =>
    s := s ++ s!"theorem {kname}_norm_FAILS : Prog.norm {progRef} {preRef} = none := by decide +kernel\n\n"
  | some (q, post) =>
    s := s ++ s!"def {kname}_post : List Itv := {listStr (post.map itvStr)}\n\n"
    if literalNormalForm kname then
      s := s ++ s!"def {kname}_nprog : NProg :=\n  ⟨{q.nIn},\n   [" ++
        String.intercalate ",\n    " (q.body.map neStr) ++ s!"],\n   {listStr (q.outs.map toString)}⟩\n\n"
      s := s ++ s!"theorem {kname}_norm_ok : Prog.norm {progRef} {preRef} = some ({kname}_nprog, {kname}_post) :=\n  (Prog.normFast_eq _ _).symm.trans (by decide +kernel)\n\n"
    else
      s := s ++ s!"def {kname}_nprog : NProg := Prog.normProg {progRef} {preRef}\n\n"
      s := s ++ s!"theorem {kname}_norm_ok : Prog.norm {progRef} {preRef} = some ({kname}_nprog, {kname}_post) :=\n  Prog.norm_eq_of_post (by decide +kernel)\n\n"
    let ins := (List.range q.nIn).map (fun i => s!"x{i}")
    let binder := if q.nIn = 0 then "" else "(" ++ String.intercalate " " ins ++ " : Int) "
    let mut body := ""
    let mut idx := q.nIn
    for e in q.body do
      body := body ++ s!"  let x{idx} : Int := {neTerm e}\n"
      idx := idx + 1
    s := s ++ s!"def {kname}_fn {binder}: List Int :=\n{body}  {listStr (q.outs.map (fun i => s!"x{i}"))}\n\n"
    s := s ++ s!"theorem {kname}_fn_ok {binder}: NProg.evalZ {kname}_nprog {listStr ins} = {kname}_fn {String.intercalate " " ins} :=\n  (NProg.evalZ_eq_fast _ _).trans (by kernel_rfl)\n\n"
  return s

def writeIfChanged (path : String) (s : String) : IO Unit := do
  let old ← (try some <$> IO.FS.readFile path catch _ => pure none)
  if old != some s then IO.FS.writeFile path s

def main (args : List String) : IO UInt32 := do
  let outdir := args.headD "Dalek/Gen/Norm"
  IO.FS.createDirAll outdir
  let ks := Dalek.Model.Contracts.kernels
  let mods := (ks.map (·.1)).eraseDups
  for m in mods do
    let mut s := s!"import Dalek.Model.Contracts\nimport Dalek.IR.NormSpec\nimport Dalek.IR.Tactics\n/-! GENERATED by tools/GenNorm.lean from the current /repo sources; do not edit. -/\nnamespace Dalek.Gen.Norm.{m}\nopen Dalek.IR\n\n"
    for (m', k, p, pre) in ks do
      if m' == m then
        s := s ++ emitKernel m k s!"Dalek.Gen.{m}.{k}" s!"Dalek.Model.Contracts.{m}.pre_{k}" p pre
    writeIfChanged s!"{outdir}/{m}.lean" (s ++ s!"end Dalek.Gen.Norm.{m}\n")
  writeIfChanged s!"{outdir}/All.lean" (String.intercalate "\n" (mods.map (fun m => s!"import Dalek.Gen.Norm.{m}")) ++ "\n")
  return 0
