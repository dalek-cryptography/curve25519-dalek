import Dalek.Proofs.AlgRefine51
import Dalek.Props.C01.Field26
import Dalek.Props.C01.Bytes26
/-!
# The serial u32 backend satisfies `BackendSpec` (instantiation of `Dalek.Proofs.AlgRefine` from the C01 theorems)

The registered contract of the u32 `add` (`pre_add`: both operands with one spare bit) is narrower than what the
formulas need (`Z2 + Txy2d` has a first operand of excess factor 2.008); `add26_wide_spec` re-proves the value
theorem for two spare bits per operand: the analyser returns the SAME normal form `add_nprog` there, so
`add_fn_ok` / `add_correct` apply unchanged.
-/
namespace Dalek.Proofs.AlgRefine
open Dalek.IR Dalek.Model.AlgBounds Dalek.Proofs.AlgBoundsSound Dalek.Proofs
open Dalek.Model.Contracts (ub rep l2625 l2625f)
open Dalek.Model.FieldBytes (natToLeN leVal val26N)
open Dalek.Props.C01

/-- the value in `ZMod p` of a 10-limb radix-2^25.5 vector -/
noncomputable def v26 (l : List Nat) : Fp := ((val26N l : Nat) : Fp)

theorem v26_eq (l : List Nat) : v26 l = Field26.val26 l := (Bytes26.val26_eq l).symm

/-- the documented contracts of the u32 kernels (`add`: two spare bits per operand, see above) -/
def C26 : Contract where
  red := l2625f 1004 1000
  preAddA := l2625 2
  preAddB := l2625 2
  preSubA := l2625 2
  preSubB := l2625 2
  preMulA := l2625f 565 100
  preMulB := l2625f 336 100
  preNeg := l2625 2
  preSq := l2625f 336 100
  preSq2 := l2625f 336 100
  postSq2 := l2625f 1004 1000
  prePow := l2625f 336 100
  preBytes := l2625 2

theorem len10 {a : List Nat} {I : List Itv} (h : EnvIn a I) (hI : I.length = 10) : a.length = 10 := by
  rw [EnvIn_length h]; exact hI

theorem add26_wide_norm :
    (Prog.norm Dalek.Gen.Field26.add (l2625 2 ++ l2625 2)).map (·.1) = some Dalek.Gen.Norm.Field26.add_nprog := by
  decide +kernel

section
open Dalek.Proofs.Field26 Dalek.Gen.Norm.Field26
open Dalek.Props.C01.Field26 hiding toZ_cons toZ_nil
variable (a0 a1 a2 a3 a4 a5 a6 a7 a8 a9 b0 b1 b2 b3 b4 b5 b6 b7 b8 b9 : Nat)

theorem add26_wide_spec (hin : EnvIn [a0, a1, a2, a3, a4, a5, a6, a7, a8, a9, b0, b1, b2, b3, b4, b5, b6, b7, b8, b9] (l2625 2 ++ l2625 2)) :
    ∃ out, Dalek.Gen.Field26.add.evalC [a0, a1, a2, a3, a4, a5, a6, a7, a8, a9, b0, b1, b2, b3, b4, b5, b6, b7, b8, b9] = some out ∧
      Dalek.Gen.Field26.add.evalW [a0, a1, a2, a3, a4, a5, a6, a7, a8, a9, b0, b1, b2, b3, b4, b5, b6, b7, b8, b9] = out ∧
      val26 out = val26 [a0, a1, a2, a3, a4, a5, a6, a7, a8, a9] + val26 [b0, b1, b2, b3, b4, b5, b6, b7, b8, b9] := by
  have hn := add26_wide_norm
  cases hq : Prog.norm Dalek.Gen.Field26.add (l2625 2 ++ l2625 2) with
  | none => rw [hq] at hn; cases hn
  | some qp =>
    obtain ⟨q, post⟩ := qp
    rw [hq] at hn
    simp only [Option.map_some, Option.some.injEq] at hn
    subst hn
    obtain ⟨out, hC, hW, _, hZ⟩ := Prog.norm_sound _ _ _ _ hq _ hin
    refine ⟨out, hC, hW, ?_⟩
    have h := add_correct a0 a1 a2 a3 a4 a5 a6 a7 a8 a9 b0 b1 b2 b3 b4 b5 b6 b7 b8 b9
    rw [← add_fn_ok] at h
    simp only [toZ_cons, toZ_nil] at hZ
    rw [hZ] at h
    simpa [val26, toZ_cons, toZ_nil] using h

end

theorem spec26 : BackendSpec B26 C26 v26 where
  add := by
    intro a b ha hb
    obtain ⟨a0, a1, a2, a3, a4, a5, a6, a7, a8, a9, rfl⟩ := list_of_length_10 a (len10 ha rfl)
    obtain ⟨b0, b1, b2, b3, b4, b5, b6, b7, b8, b9, rfl⟩ := list_of_length_10 b (len10 hb rfl)
    obtain ⟨out, hC, hW, hv⟩ := add26_wide_spec a0 a1 a2 a3 a4 a5 a6 a7 a8 a9 b0 b1 b2 b3 b4 b5 b6 b7 b8 b9
      (EnvIn_append _ _ ha hb)
    subst hW
    exact ⟨hC, by rw [v26_eq, v26_eq, v26_eq]; exact hv⟩
  sub := by
    intro a b ha hb
    obtain ⟨a0, a1, a2, a3, a4, a5, a6, a7, a8, a9, rfl⟩ := list_of_length_10 a (len10 ha rfl)
    obtain ⟨b0, b1, b2, b3, b4, b5, b6, b7, b8, b9, rfl⟩ := list_of_length_10 b (len10 hb rfl)
    obtain ⟨out, hC, hW, hp, hv⟩ := Field26.sub_spec a0 a1 a2 a3 a4 a5 a6 a7 a8 a9 b0 b1 b2 b3 b4 b5 b6 b7 b8 b9
      (EnvIn_append _ _ ha hb)
    subst hW
    exact ⟨hC, hp, by rw [v26_eq, v26_eq, v26_eq]; exact hv⟩
  mul := by
    intro a b ha hb
    obtain ⟨a0, a1, a2, a3, a4, a5, a6, a7, a8, a9, rfl⟩ := list_of_length_10 a (len10 ha rfl)
    obtain ⟨b0, b1, b2, b3, b4, b5, b6, b7, b8, b9, rfl⟩ := list_of_length_10 b (len10 hb rfl)
    obtain ⟨out, hC, hW, hp, hv⟩ := Field26.mul_spec a0 a1 a2 a3 a4 a5 a6 a7 a8 a9 b0 b1 b2 b3 b4 b5 b6 b7 b8 b9
      (EnvIn_append _ _ ha hb)
    subst hW
    exact ⟨hC, hp, by rw [v26_eq, v26_eq, v26_eq]; exact hv⟩
  neg := by
    intro a ha
    obtain ⟨a0, a1, a2, a3, a4, a5, a6, a7, a8, a9, rfl⟩ := list_of_length_10 a (len10 ha rfl)
    obtain ⟨out, hC, hW, hp, hv⟩ := Field26.neg_spec a0 a1 a2 a3 a4 a5 a6 a7 a8 a9 ha
    subst hW
    refine ⟨?_, hp, by rw [v26_eq, v26_eq]; exact hv⟩
    show (Dalek.Gen.Field26.neg.evalC _).bind _ = _
    rw [hC]; rfl
  square := by
    intro a ha
    obtain ⟨a0, a1, a2, a3, a4, a5, a6, a7, a8, a9, rfl⟩ := list_of_length_10 a (len10 ha rfl)
    obtain ⟨out, hC, hW, hp, hv⟩ := Field26.square_spec a0 a1 a2 a3 a4 a5 a6 a7 a8 a9 ha
    subst hW
    refine ⟨?_, hp, by rw [v26_eq, v26_eq, ← pow_two]; exact hv⟩
    show (Dalek.Gen.Field26.square.evalC _).bind _ = _
    rw [hC]; rfl
  square2 := by
    intro a ha
    obtain ⟨a0, a1, a2, a3, a4, a5, a6, a7, a8, a9, rfl⟩ := list_of_length_10 a (len10 ha rfl)
    obtain ⟨out, hC, hW, hp, hv⟩ := Field26.square2_spec a0 a1 a2 a3 a4 a5 a6 a7 a8 a9 ha
    subst hW
    refine ⟨?_, hp, by rw [v26_eq, v26_eq, ← pow_two]; exact hv⟩
    show (Dalek.Gen.Field26.square2.evalC _).bind _ = _
    rw [hC]; rfl
  pow := by
    intro k a ha
    obtain ⟨h1, h2, h3⟩ := Pow2k.Field26.pow2k_spec (k + 1) (by omega) a ha
    simp only [Pow2k.Field26.pow2kC, Pow2k.Field26.pow2kW, iterC_eq, iterW_eq] at h1 h2 h3
    exact ⟨h1, h2, by rw [v26_eq, v26_eq]; exact h3⟩
  const := consts_val_of_table (f := val26N) (by decide +kernel)
  bytes := by
    intro a ha
    obtain ⟨h1, h2⟩ := Bytes26.as_bytes_canonical a ha
    refine ⟨?_, ?_⟩
    · show Dalek.Gen.Field26.as_bytes.evalC a = some (Dalek.Gen.Field26.as_bytes.evalW a)
      rw [h1, h2]
    · show Dalek.Gen.Field26.as_bytes.evalW a = enc (v26 a)
      rw [h2, v26, enc_natCast]
  choice := by
    intro c
    simp [v26, val26N]

end Dalek.Proofs.AlgRefine
