/-
Concrete facts about the field `ZMod (2^255 - 19)` used by the curve25519-dalek proofs:
`p ≡ 5 (mod 8)`, `sqrtM1 ^ 2 = -1`, the Edwards `d` constant (`d * 121666 = -121665`, `d` is a
non-square, `-1` is a square), `2 ≠ 0`, and Fermat inversion.

All big-number computations are kernel evaluations (`decide +kernel`) of closed `Nat` terms,
transferred to `ZMod` through the `powMod` bridge of `Dalek.Proofs.Primes`.
-/
import Dalek.Proofs.Primes
import Mathlib.NumberTheory.LegendreSymbol.Basic
import Mathlib.FieldTheory.Finite.Basic

namespace Dalek.FieldFacts

open Dalek.Primes
open Dalek.Spec (powMod)

/-! ## Generic bridge helpers -/

/-- `m - 1` is `-1` in `ZMod m`. -/
theorem natCast_pred_eq_neg_one {m : Nat} (hm : 1 ≤ m) : ((m - 1 : Nat) : ZMod m) = -1 := by
  rw [Nat.cast_sub hm, ZMod.natCast_self, Nat.cast_one, zero_sub]

/-- To prove `a ^ e = -1` in `ZMod m`, evaluate `powMod m a e = m - 1` on naturals. -/
theorem zmod_pow_eq_neg_one_of_powMod {a e m : Nat} (hm : 1 ≤ m) (h : powMod m a e = m - 1) :
    (a : ZMod m) ^ e = -1 := by
  rw [← natCast_pred_eq_neg_one hm]
  exact zmod_pow_eq_of_powMod (by rw [h, Nat.mod_eq_of_lt (by omega)])

/-- A natural-number cast is zero in `ZMod m` when `a % m = 0` (kernel-checkable). -/
theorem natCast_eq_zero_of_mod {a m : Nat} (h : a % m = 0) : (a : ZMod m) = 0 :=
  (ZMod.natCast_eq_zero_iff a m).2 (Nat.dvd_of_mod_eq_zero h)

theorem natCast_ne_zero_of_mod {a m : Nat} (h : a % m ≠ 0) : (a : ZMod m) ≠ 0 := fun h0 =>
  h (Nat.mod_eq_zero_of_dvd ((ZMod.natCast_eq_zero_iff a m).1 h0))

/-! ## The field `ZMod (2^255 - 19)` -/

/-- `p ≡ 5 (mod 8)` (so square roots are computed by the Atkin / `(p+3)/8` method). -/
theorem p_mod_8 : (2 ^ 255 - 19) % 8 = 5 := by norm_num

theorem p_pos : 1 ≤ 2 ^ 255 - 19 := by norm_num

/-- `p` is odd: `(p - 1) / 2 = p / 2`. -/
theorem p_half : (2 ^ 255 - 19 - 1) / 2 = (2 ^ 255 - 19) / 2 := by norm_num

theorem p_sub_one : 2 ^ 255 - 19 - 1 = 2 ^ 255 - 20 := by norm_num
theorem p_sub_two : 2 ^ 255 - 19 - 2 = 2 ^ 255 - 21 := by norm_num

/-- Natural-number value of `sqrt(-1)` (the constant `SQRT_M1` of curve25519-dalek). -/
def sqrtM1Nat : Nat :=
  19681161376707505956807079304988542015446066515923890162744021073123829784752

/-- Natural-number value of the Edwards `d` constant `-121665/121666`. -/
def dNat : Nat :=
  37095705934669439343138083508754565189542113879843219016388785533085940283555

/-- `sqrt(-1)` in the field. -/
def sqrtM1 : ZMod (2 ^ 255 - 19) :=
  19681161376707505956807079304988542015446066515923890162744021073123829784752

/-- The Edwards curve constant `d = -121665/121666`. -/
def d : ZMod (2 ^ 255 - 19) :=
  37095705934669439343138083508754565189542113879843219016388785533085940283555

theorem sqrtM1_eq_cast : sqrtM1 = ((sqrtM1Nat : Nat) : ZMod (2 ^ 255 - 19)) := by
  simp only [sqrtM1, sqrtM1Nat, Nat.cast_ofNat]

theorem d_eq_cast : d = ((dNat : Nat) : ZMod (2 ^ 255 - 19)) := by
  simp only [d, dNat, Nat.cast_ofNat]

/-- `sqrtM1 ^ 2 = -1`. -/
theorem sqrtM1_sq : sqrtM1 ^ 2 = -1 := by
  rw [sqrtM1_eq_cast]
  exact zmod_pow_eq_neg_one_of_powMod p_pos (by decide +kernel)

theorem sqrtM1_mul_self : sqrtM1 * sqrtM1 = -1 := by
  rw [← pow_two, sqrtM1_sq]

/-- `-1` is a square in the field. -/
theorem isSquare_neg_one : IsSquare (-1 : ZMod (2 ^ 255 - 19)) :=
  ⟨sqrtM1, sqrtM1_mul_self.symm⟩

/-- `d * 121666 = -121665`, i.e. `d = -121665/121666`. -/
theorem d_mul : d * 121666 = -121665 := by
  rw [eq_neg_iff_add_eq_zero, d_eq_cast]
  have h : ((dNat * 121666 + 121665 : Nat) : ZMod (2 ^ 255 - 19)) = 0 :=
    natCast_eq_zero_of_mod (by decide +kernel)
  simpa using h

theorem d_ne_zero : d ≠ 0 := by
  rw [d_eq_cast]
  exact natCast_ne_zero_of_mod (by decide +kernel)

/-- Euler's criterion value for `d`: `d ^ ((p-1)/2) = -1`. -/
theorem d_pow_half : d ^ ((2 ^ 255 - 19 - 1) / 2) = -1 := by
  rw [d_eq_cast]
  exact zmod_pow_eq_neg_one_of_powMod p_pos (by decide +kernel)

theorem two_ne_zero_p : (2 : ZMod (2 ^ 255 - 19)) ≠ 0 := by
  have h : ((2 : Nat) : ZMod (2 ^ 255 - 19)) ≠ 0 := natCast_ne_zero_of_mod (by decide +kernel)
  simpa using h

theorem neg_one_ne_one_p : (-1 : ZMod (2 ^ 255 - 19)) ≠ 1 := by
  intro h
  apply two_ne_zero_p
  have : (1 : ZMod (2 ^ 255 - 19)) + 1 = 0 := by
    nth_rewrite 1 [← h]
    exact neg_add_cancel 1
  rw [← this]; norm_num

/-- Euler's criterion, negative direction. -/
theorem not_isSquare_of_pow_half {a : ZMod (2 ^ 255 - 19)} (h : a ^ ((2 ^ 255 - 19) / 2) = -1) :
    ¬ IsSquare a := by
  have ha : a ≠ 0 := by
    rintro rfl
    rw [zero_pow (by norm_num)] at h
    exact two_ne_zero_p (by linear_combination (2 : ZMod (2 ^ 255 - 19)) * h)
  rw [ZMod.euler_criterion (2 ^ 255 - 19) ha, h]
  exact neg_one_ne_one_p

/-- `d` is not a square in the field. -/
theorem d_not_isSquare : ¬ IsSquare d :=
  not_isSquare_of_pow_half (by rw [← p_half]; exact d_pow_half)

/-- In a prime field the product of two non-squares is a square. -/
theorem isSquare_mul_of_not_isSquare {a b : ZMod (2 ^ 255 - 19)} (ha : ¬ IsSquare a) (hb : ¬ IsSquare b) :
    IsSquare (a * b) := by
  have ha0 : a ≠ 0 := by rintro rfl; exact ha ⟨0, by simp⟩
  have hb0 : b ≠ 0 := by rintro rfl; exact hb ⟨0, by simp⟩
  rw [ZMod.euler_criterion (2 ^ 255 - 19) ha0] at ha
  rw [ZMod.euler_criterion (2 ^ 255 - 19) hb0] at hb
  rw [ZMod.euler_criterion (2 ^ 255 - 19) (mul_ne_zero ha0 hb0), mul_pow]
  rcases ZMod.pow_div_two_eq_neg_one_or_one (2 ^ 255 - 19) ha0 with h | h
  · exact absurd h ha
  rcases ZMod.pow_div_two_eq_neg_one_or_one (2 ^ 255 - 19) hb0 with h' | h'
  · exact absurd h' hb
  rw [h, h']; ring

/-- Fermat's little theorem. -/
theorem pow_p_sub_one {a : ZMod (2 ^ 255 - 19)} (ha : a ≠ 0) : a ^ (2 ^ 255 - 19 - 1) = 1 :=
  ZMod.pow_card_sub_one_eq_one ha

/-- Fermat inversion: `a ^ (p - 2) = a⁻¹` (for nonzero `a`). -/
theorem pow_p_sub_two {a : ZMod (2 ^ 255 - 19)} (ha : a ≠ 0) : a ^ (2 ^ 255 - 19 - 2) = a⁻¹ := by
  apply eq_inv_of_mul_eq_one_left
  rw [← pow_succ]
  exact pow_p_sub_one ha

/-- `0 ^ (p - 2) = 0`. -/
theorem zero_pow_p_sub_two : (0 : ZMod (2 ^ 255 - 19)) ^ (2 ^ 255 - 19 - 2) = 0 :=
  zero_pow (by norm_num)

/-- Fermat inversion, total version (`0⁻¹ = 0`). -/
theorem pow_p_sub_two' (a : ZMod (2 ^ 255 - 19)) : a ^ (2 ^ 255 - 19 - 2) = a⁻¹ := by
  by_cases ha : a = 0
  · subst ha; rw [zero_pow_p_sub_two, inv_zero]
  · exact pow_p_sub_two ha

/-- Same with the exponent written `2^255 - 21` (the addition chain of `FieldElement::invert`). -/
theorem pow_inv_exponent (a : ZMod (2 ^ 255 - 19)) : a ^ (2 ^ 255 - 21) = a⁻¹ := by
  rw [← p_sub_two]; exact pow_p_sub_two' a

theorem pow_fermat_exponent {a : ZMod (2 ^ 255 - 19)} (ha : a ≠ 0) : a ^ (2 ^ 255 - 20) = 1 := by
  rw [← p_sub_one]; exact pow_p_sub_one ha

end Dalek.FieldFacts
