import Dalek.Props.C12.Consts
import Dalek.Props.C17.Consts
import Dalek.Proofs.Bridge.Scalar
import Dalek.Proofs.Bridge.FastEdwards
import Dalek.Proofs.Bridge.Order
/-!
# Lifting the C12 checker results to `ZMod p` and to the group of the curve

`Dalek/Props/C12/Consts.lean` proves `check… = true` for executable checkers over `Nat`.  Here the most
important of them are given their mathematical meaning:

* field constants as elements of `Fp = ZMod (2^255-19)`;
* soundness of the table checkers (`basepointTable_sound`, `oddTable_sound`, `cachedTable_sound`), for ANY
  table literal, in terms of scalar multiples `n • Bpt` in the commutative group `Ed = EdPoint edParams`
  (`Bpt` = the Ed25519 basepoint, of order `l`: `Dalek.Bridge.addOrderOf_Bpt`);
* their instances for the eight shipped tables.

The chain "entry `j+1` from entry `j` by one addition, row `i+1` from row `i` by eight doublings" of the
checker is justified by `erep_add`, `erep_mulByPow2` (the extended-coordinate formulas compute the group law).
-/
namespace Dalek.Proofs.ConstLift
open Dalek.Spec Dalek.Model Dalek.Model.ConstCheck Dalek.Bridge Dalek.FieldFacts
open Dalek.Gen.Consts

/-! ## Field constants in `Fp` -/

theorem cast_P_sub_one : ((P - 1 : Nat) : Fp) = -1 := natCast_pred_eq_neg_one (m := P) (by norm_num)

/-- `SQRT_M1² = -1` in the field (u64 literal) -/
theorem SQRT_M1_u64_sq : ((val51 U64.SQRT_M1 : Nat) : Fp) ^ 2 = -1 := by
  have h := congrArg (Nat.cast : Nat → Fp) Dalek.Props.C12.SQRT_M1_u64_sq
  rw [cast_mod_P, Nat.cast_mul, cast_P_sub_one] at h
  rw [sq, h]

/-- `SQRT_M1² = -1` in the field (u32 literal) -/
theorem SQRT_M1_u32_sq : ((val26 U32.SQRT_M1 : Nat) : Fp) ^ 2 = -1 := by
  have h := congrArg (Nat.cast : Nat → Fp) Dalek.Props.C12.SQRT_M1_u32_sq
  rw [cast_mod_P, Nat.cast_mul, cast_P_sub_one] at h
  rw [sq, h]

/-- the u64 / u32 literals `EDWARDS_D` denote the curve parameter `d` of `edParams` -/
theorem EDWARDS_D_u64_eq : ((val51 U64.EDWARDS_D : Nat) : Fp) = d := by
  have h : val51 U64.EDWARDS_D = D := by decide +kernel
  rw [h, cast_D]

theorem EDWARDS_D_u32_eq : ((val26 U32.EDWARDS_D : Nat) : Fp) = d := by
  have h : val26 U32.EDWARDS_D = D := by decide +kernel
  rw [h, cast_D]

/-- `d · 121666 = -121665` for the u64 literal, in the field -/
theorem EDWARDS_D_u64_mul : ((val51 U64.EDWARDS_D : Nat) : Fp) * 121666 = -121665 := by
  rw [EDWARDS_D_u64_eq]; exact d_mul

/-- `EDWARDS_D2 = 2d` -/
theorem EDWARDS_D2_u64_eq : ((val51 U64.EDWARDS_D2 : Nat) : Fp) = 2 * d := by
  have h : val51 U64.EDWARDS_D2 = EPt.D2 := by decide +kernel
  rw [h, cast_D2]

theorem EDWARDS_D2_u32_eq : ((val26 U32.EDWARDS_D2 : Nat) : Fp) = 2 * d := by
  have h : val26 U32.EDWARDS_D2 = EPt.D2 := by decide +kernel
  rw [h, cast_D2]

/-! ## The basepoint literal -/

/-- `ED25519_BASEPOINT_POINT` (u64) is an extended-coordinates representation of `Bpt` -/
theorem basepoint_u64_rep : ERep (decodePt val51 U64.ED25519_BASEPOINT_POINT) Bpt :=
  (EPt.ext (by decide +kernel) (by decide +kernel) (by decide +kernel) (by decide +kernel) :
    EPt.basepoint = decodePt val51 U64.ED25519_BASEPOINT_POINT) ▸ erep_basepoint

/-- `ED25519_BASEPOINT_POINT` (u32) is an extended-coordinates representation of `Bpt` -/
theorem basepoint_u32_rep : ERep (decodePt val26 U32.ED25519_BASEPOINT_POINT) Bpt :=
  (EPt.ext (by decide +kernel) (by decide +kernel) (by decide +kernel) (by decide +kernel) :
    EPt.basepoint = decodePt val26 U32.ED25519_BASEPOINT_POINT) ▸ erep_basepoint

/-! ## Affine Niels tables -/

/-- the literal `e = [y_plus_x, y_minus_x, xy2d]` denotes (via `val`) the affine Niels form
`(y + x, y - x, 2 d x y)` of the curve point `Q` -/
def NielsRep (val : List Nat → Nat) (e : List (List Nat)) (Q : Ed) : Prop :=
  ∃ ypx ymx xy2d, e = [ypx, ymx, xy2d] ∧
    ((val ypx : Nat) : Fp) = Q.y + Q.x ∧
    ((val ymx : Nat) : Fp) = Q.y - Q.x ∧
    ((val xy2d : Nat) : Fp) = 2 * d * Q.x * Q.y

theorem nielsOk_sound {val : List Nat → Nat} {e : List (List Nat)} {p : EPt} {Q : Ed}
    (hp : ERep p Q) (h : nielsOk val e p = true) : NielsRep val e Q := by
  unfold nielsOk at h
  split at h
  · rename_i ypx ymx xy2d
    simp only [Bool.and_eq_true, beq_iff_eq] at h
    obtain ⟨⟨⟨-, h1⟩, h2⟩, h3⟩ := h
    obtain ⟨hZ, hx, hy, hT⟩ := hp
    have c1 := congrArg (Nat.cast : Nat → Fp) h1
    have c2 := congrArg (Nat.cast : Nat → Fp) h2
    have c3 := congrArg (Nat.cast : Nat → Fp) h3
    rw [cast_fmul, cast_fadd] at c1
    rw [cast_fmul, cast_fsub] at c2
    rw [cast_fmul, cast_fmul, cast_D2] at c3
    refine ⟨ypx, ymx, xy2d, rfl, ?_, ?_, ?_⟩
    · rw [hx, hy, ← add_div, eq_div_iff hZ]; exact c1
    · rw [hx, hy, ← sub_div, eq_div_iff hZ]; exact c2
    · rw [hx, hy]
      field_simp
      linear_combination (p.Z : Fp) * c3 - 2 * d * hT
  · exact absurd h (by simp)

theorem rowFails_sound {val : List Nat → Nat} {i : Nat} {base : EPt} {Qb : Ed} (hb : ERep base Qb) :
    ∀ (es : List (List (List Nat))) (j : Nat) (cur : EPt), ERep cur ((j + 1) • Qb) →
      rowFails (nielsOk val) i base es j cur = [] →
      ∀ (k : Nat) (e : List (List Nat)), es[k]? = some e → NielsRep val e ((j + k + 1) • Qb)
  | [], _, _, _, _, k, e, hk => by simp at hk
  | e0 :: es, j, cur, hc, h, k, e, hk => by
    simp only [rowFails] at h
    split at h
    · rename_i hok
      cases k with
      | zero =>
        simp only [List.getElem?_cons_zero, Option.some.injEq] at hk
        subst hk
        simpa using nielsOk_sound hc hok
      | succ k =>
        simp only [List.getElem?_cons_succ] at hk
        have hc' : ERep (cur.add base) ((j + 1 + 1) • Qb) := by
          have := erep_add hc hb
          rwa [← succ_nsmul] at this
        have := rowFails_sound hb es (j + 1) (cur.add base) hc' h k e hk
        have e1 : j + 1 + k + 1 = j + (k + 1) + 1 := by omega
        rwa [e1] at this
    · exact absurd h (by simp)

theorem tableFails_sound {val : List Nat → Nat} :
    ∀ (rs : List (List (List (List Nat)))) (i : Nat) (base : EPt), ERep base (256 ^ i • Bpt) →
      tableFails (nielsOk val) rs i base = [] →
      ∀ (a : Nat) (r : List (List (List Nat))), rs[a]? = some r →
      ∀ (k : Nat) (e : List (List Nat)), r[k]? = some e →
        NielsRep val e ((k + 1) • 256 ^ (i + a) • Bpt)
  | [], _, _, _, _, a, r, ha => by simp at ha
  | r0 :: rs, i, base, hb, h, a, r, ha => by
    simp only [tableFails, List.append_eq_nil_iff] at h
    obtain ⟨hrow, hrest⟩ := h
    cases a with
    | zero =>
      simp only [List.getElem?_cons_zero, Option.some.injEq] at ha
      subst ha
      intro k e hk
      have := rowFails_sound hb r0 0 base (by simpa using hb) hrow k e hk
      simpa using this
    | succ a =>
      simp only [List.getElem?_cons_succ] at ha
      have hb' : ERep (EPt.mulByPow2 8 base) (256 ^ (i + 1) • Bpt) := by
        have := erep_mulByPow2 hb 8
        have e1 : (2 ^ 8 : Nat) • 256 ^ i • Bpt = 256 ^ (i + 1) • Bpt := by
          rw [← mul_nsmul, show 256 ^ i * 2 ^ 8 = 256 ^ (i + 1) by ring]
        rwa [e1] at this
      intro k e hk
      have := tableFails_sound rs (i + 1) (EPt.mulByPow2 8 base) hb' hrest a r ha k e hk
      have e2 : i + 1 + a = i + (a + 1) := by omega
      rwa [e2] at this

theorem getD_getD_eq {α} [Inhabited α] (t : List (List α)) (i j : Nat) (r : List α) (e : α)
    (hr : t[i]? = some r) (he : r[j]? = some e) (dflt : α) : (t.getD i []).getD j dflt = e := by
  simp [List.getD, hr, he]

/-- **Soundness of `checkBasepointTable`**: if the check succeeds for a table literal `t`, then for every
`i < 32`, `j < 8` the entry `t[i][j]` is the affine Niels form of `((j+1)·256^i) • Bpt`. -/
theorem basepointTable_sound {val : List Nat → Nat} {t : List (List (List (List Nat)))}
    (h : checkBasepointTable val t = true) (i j : Nat) (hi : i < 32) (hj : j < 8) :
    NielsRep val ((t.getD i []).getD j []) (((j + 1) * 256 ^ i) • Bpt) := by
  simp only [checkBasepointTable, Bool.and_eq_true, beq_iff_eq, List.all_eq_true,
    List.isEmpty_iff] at h
  obtain ⟨⟨hlen, hrows⟩, hf⟩ := h
  have hi' : i < t.length := by omega
  have hr : t[i]? = some t[i] := List.getElem?_eq_getElem hi'
  have hrl : t[i].length = 8 := hrows _ (List.getElem_mem hi')
  have hj' : j < t[i].length := by omega
  have he : t[i][j]? = some t[i][j] := List.getElem?_eq_getElem hj'
  have hb0 : ERep EPt.basepoint (256 ^ 0 • Bpt) := by simpa using erep_basepoint
  have := tableFails_sound t 0 EPt.basepoint hb0 hf i _ hr j _ he
  rw [getD_getD_eq t i j _ _ hr he]
  have e1 : (j + 1) • 256 ^ (0 + i) • Bpt = ((j + 1) * 256 ^ i) • Bpt := by
    rw [Nat.zero_add, ← mul_nsmul, Nat.mul_comm]
  rwa [e1] at this

/-! ## Odd-multiples tables (serial and vector) -/

theorem oddFails_sound {α} {ok : α → EPt → Bool} {R : α → Ed → Prop}
    (hok : ∀ e p Q, ERep p Q → ok e p = true → R e Q)
    {twoB : EPt} {Q1 Q2 : Ed} (h2 : ERep twoB Q2) :
    ∀ (es : List α) (i : Nat) (cur : EPt), ERep cur (Q1 + i • Q2) →
      oddFails ok twoB es i cur = [] →
      ∀ (k : Nat) (e : α), es[k]? = some e → R e (Q1 + (i + k) • Q2)
  | [], _, _, _, _, k, e, hk => by simp at hk
  | e0 :: es, i, cur, hc, h, k, e, hk => by
    simp only [oddFails] at h
    split at h
    · rename_i hok0
      cases k with
      | zero =>
        simp only [List.getElem?_cons_zero, Option.some.injEq] at hk
        subst hk
        simpa using hok _ _ _ hc hok0
      | succ k =>
        simp only [List.getElem?_cons_succ] at hk
        have hc' : ERep (cur.add twoB) (Q1 + (i + 1) • Q2) := by
          have := erep_add hc h2
          rwa [add_assoc, ← succ_nsmul] at this
        have := oddFails_sound hok h2 es (i + 1) (cur.add twoB) hc' h k e hk
        have e1 : i + 1 + k = i + (k + 1) := by omega
        rwa [e1] at this
    · exact absurd h (by simp)

theorem odd_nsmul (k : Nat) : Bpt + (0 + k) • (2 • Bpt) = (2 * k + 1) • Bpt := by
  rw [Nat.zero_add, ← mul_nsmul, add_comm, succ_nsmul, Nat.mul_comm]

/-- **Soundness of `checkOddTable`**: entry `i < 64` is the affine Niels form of `(2i+1) • Bpt`. -/
theorem oddTable_sound {val : List Nat → Nat} {t : List (List (List Nat))}
    (h : checkOddTable val t = true) (i : Nat) (hi : i < 64) :
    NielsRep val (t.getD i []) ((2 * i + 1) • Bpt) := by
  simp only [checkOddTable, Bool.and_eq_true, beq_iff_eq, List.isEmpty_iff] at h
  obtain ⟨hlen, hf⟩ := h
  have hi' : i < t.length := by omega
  have hr : t[i]? = some t[i] := List.getElem?_eq_getElem hi'
  have h2 : ERep (EPt.double EPt.basepoint) (2 • Bpt) := erep_double' erep_basepoint
  have hc : ERep EPt.basepoint (Bpt + 0 • (2 • Bpt)) := by simpa using erep_basepoint
  have := oddFails_sound (R := NielsRep val) (fun e p Q hp hk => nielsOk_sound hp hk) h2
    t 0 EPt.basepoint hc hf i _ hr
  rw [odd_nsmul] at this
  have e1 : t.getD i [] = t[i] := by simp [List.getD, hr]
  rwa [e1]

/-- the four lanes of the vector literal `e` are a `CachedPoint` of `Q`:
`(A, B, C, D) = c · (y - x, y + x, 2, 2 d x y)` for some `c ≠ 0` -/
def CachedRep (lane : List (List Nat) → Nat → Nat) (e : List (List Nat)) (Q : Ed) : Prop :=
  ∃ c : Fp, c ≠ 0 ∧
    ((lane e 0 : Nat) : Fp) = c * (Q.y - Q.x) ∧
    ((lane e 1 : Nat) : Fp) = c * (Q.y + Q.x) ∧
    ((lane e 2 : Nat) : Fp) = c * 2 ∧
    ((lane e 3 : Nat) : Fp) = c * (2 * d * Q.x * Q.y)

theorem cachedOk_sound {lane : List (List Nat) → Nat → Nat} {e : List (List Nat)} {p : EPt} {Q : Ed}
    (hp : ERep p Q) (h : cachedOk lane e p = true) : CachedRep lane e Q := by
  simp only [cachedOk, cachedOf, List.map, proj4Eq, Bool.and_eq_true, beq_iff_eq, bne_iff_ne,
    ne_eq] at h
  obtain ⟨⟨⟨⟨⟨⟨⟨ha2, -⟩, -⟩, h02⟩, -⟩, h12⟩, -⟩, h23⟩ := h
  obtain ⟨hZ, hx, hy, hT⟩ := hp
  have two_ne : (2 : Fp) ≠ 0 := two_ne_zero_p
  have c02 := congrArg (Nat.cast : Nat → Fp) h02
  have c12 := congrArg (Nat.cast : Nat → Fp) h12
  have c23 := congrArg (Nat.cast : Nat → Fp) h23
  simp only [cast_fmul, cast_fadd, cast_fsub, cast_mod_P, cast_D2] at c02 c12 c23
  have hc : ((lane e 2 : Nat) : Fp) ≠ 0 := by
    intro h0
    apply ha2
    rw [Nat.mod_mod]
    exact (cast_eq_zero_iff _).1 h0
  have hX : (p.X : Fp) = Q.x * (p.Z : Fp) := by rw [hx, div_mul_cancel₀ _ hZ]
  have hY : (p.Y : Fp) = Q.y * (p.Z : Fp) := by rw [hy, div_mul_cancel₀ _ hZ]
  have hT' : (p.T : Fp) = Q.x * Q.y * (p.Z : Fp) := by
    have : (p.Z : Fp) * (p.T : Fp) = (p.Z : Fp) * (Q.x * Q.y * (p.Z : Fp)) := by
      rw [← hT, hX, hY]; ring
    exact mul_left_cancel₀ hZ this
  have half : ∀ {a b : Fp}, 2 * a = b → a = b / 2 := by
    intro a b h; rw [← h, mul_div_cancel_left₀ _ two_ne]
  refine ⟨((lane e 2 : Nat) : Fp) / 2, div_ne_zero hc two_ne, ?_, ?_, ?_, ?_⟩
  · have h : 2 * ((lane e 0 : Nat) : Fp) = ((lane e 2 : Nat) : Fp) * (Q.y - Q.x) := by
      apply mul_right_cancel₀ hZ
      rw [hX, hY] at c02
      linear_combination c02
    rw [half h]; ring
  · have h : 2 * ((lane e 1 : Nat) : Fp) = ((lane e 2 : Nat) : Fp) * (Q.y + Q.x) := by
      apply mul_right_cancel₀ hZ
      rw [hX, hY] at c12
      linear_combination c12
    rw [half h]; ring
  · rw [div_mul_cancel₀ _ two_ne]
  · have h : 2 * ((lane e 3 : Nat) : Fp) = ((lane e 2 : Nat) : Fp) * (2 * d * Q.x * Q.y) := by
      apply mul_right_cancel₀ hZ
      rw [hT'] at c23
      linear_combination -c23
    rw [half h]; ring

/-- **Soundness of `checkCachedTable`**: entry `i < 64` of a vector table is a `CachedPoint` of
`(2i+1) • Bpt`. -/
theorem cachedTable_sound {lane : List (List Nat) → Nat → Nat} {t : List (List (List Nat))}
    (h : checkCachedTable lane t = true) (i : Nat) (hi : i < 64) :
    CachedRep lane (t.getD i []) ((2 * i + 1) • Bpt) := by
  simp only [checkCachedTable, Bool.and_eq_true, beq_iff_eq, List.isEmpty_iff] at h
  obtain ⟨hlen, hf⟩ := h
  have hi' : i < t.length := by omega
  have hr : t[i]? = some t[i] := List.getElem?_eq_getElem hi'
  have h2 : ERep (EPt.double EPt.basepoint) (2 • Bpt) := erep_double' erep_basepoint
  have hc : ERep EPt.basepoint (Bpt + 0 • (2 • Bpt)) := by simpa using erep_basepoint
  have := oddFails_sound (R := CachedRep lane) (fun e p Q hp hk => cachedOk_sound hp hk) h2
    t 0 EPt.basepoint hc hf i _ hr
  rw [odd_nsmul] at this
  have e1 : t.getD i [] = t[i] := by simp [List.getD, hr]
  rwa [e1]

/-! ## The shipped tables -/

/-- u64 `ED25519_BASEPOINT_TABLE[i][j]` is the affine Niels form of `((j+1)·256^i) • B` in the group `Ed` -/
theorem ED25519_BASEPOINT_TABLE_u64 (i j : Nat) (hi : i < 32) (hj : j < 8) :
    NielsRep val51 ((U64.ED25519_BASEPOINT_TABLE.getD i []).getD j []) (((j + 1) * 256 ^ i) • Bpt) :=
  basepointTable_sound Dalek.Props.C12.ED25519_BASEPOINT_TABLE_u64_ok i j hi hj

/-- u32 `ED25519_BASEPOINT_TABLE[i][j]` is the affine Niels form of `((j+1)·256^i) • B` -/
theorem ED25519_BASEPOINT_TABLE_u32 (i j : Nat) (hi : i < 32) (hj : j < 8) :
    NielsRep val26 ((U32.ED25519_BASEPOINT_TABLE.getD i []).getD j []) (((j + 1) * 256 ^ i) • Bpt) :=
  basepointTable_sound Dalek.Props.C12.ED25519_BASEPOINT_TABLE_u32_ok i j hi hj

/-- u64 `AFFINE_ODD_MULTIPLES_OF_BASEPOINT[i]` is the affine Niels form of `(2i+1) • B` -/
theorem AFFINE_ODD_MULTIPLES_OF_BASEPOINT_u64 (i : Nat) (hi : i < 64) :
    NielsRep val51 (U64.AFFINE_ODD_MULTIPLES_OF_BASEPOINT.getD i []) ((2 * i + 1) • Bpt) :=
  oddTable_sound Dalek.Props.C12.AFFINE_ODD_MULTIPLES_OF_BASEPOINT_u64_ok i hi

/-- u32 `AFFINE_ODD_MULTIPLES_OF_BASEPOINT[i]` is the affine Niels form of `(2i+1) • B` -/
theorem AFFINE_ODD_MULTIPLES_OF_BASEPOINT_u32 (i : Nat) (hi : i < 64) :
    NielsRep val26 (U32.AFFINE_ODD_MULTIPLES_OF_BASEPOINT.getD i []) ((2 * i + 1) • Bpt) :=
  oddTable_sound Dalek.Props.C12.AFFINE_ODD_MULTIPLES_OF_BASEPOINT_u32_ok i hi

/-- AVX2 `BASEPOINT_ODD_LOOKUP_TABLE[i]` is a `CachedPoint` of `(2i+1) • B` -/
theorem BASEPOINT_ODD_LOOKUP_TABLE_avx2 (i : Nat) (hi : i < 64) :
    CachedRep laneAvx2 (Avx2.BASEPOINT_ODD_LOOKUP_TABLE.getD i []) ((2 * i + 1) • Bpt) :=
  cachedTable_sound Dalek.Props.C12.BASEPOINT_ODD_LOOKUP_TABLE_avx2_ok i hi

/-- IFMA `BASEPOINT_ODD_LOOKUP_TABLE[i]` is a `CachedPoint` of `(2i+1) • B` -/
theorem BASEPOINT_ODD_LOOKUP_TABLE_ifma (i : Nat) (hi : i < 64) :
    CachedRep laneIfma (Ifma.BASEPOINT_ODD_LOOKUP_TABLE.getD i []) ((2 * i + 1) • Bpt) :=
  cachedTable_sound Dalek.Props.C12.BASEPOINT_ODD_LOOKUP_TABLE_ifma_ok i hi

/-- non-vacuity: the `NielsRep` predicate pins the three field values down (they are functions of `Q`) -/
example (val : List Nat → Nat) (e : List (List Nat)) (Q : Ed) (h : NielsRep val e Q) :
    ((val (e.getD 0 []) : Nat) : Fp) + ((val (e.getD 1 []) : Nat) : Fp) = 2 * Q.y := by
  obtain ⟨a, b, c, rfl, h1, h2, -⟩ := h
  simp only [List.getD_cons_zero, List.getD_cons_succ]
  rw [h1, h2]; ring

/-! ## Torsion -/

/-- a normalised extended literal (`extOk`) represents the curve point with affine coordinates `(X, Y)` -/
theorem extOk_rep {p : EPt} (h : extOk p = true) :
    ∃ Q : Ed, ERep p Q ∧ Q.x = (p.X : Fp) ∧ Q.y = (p.Y : Fp) := by
  simp only [extOk, Bool.and_eq_true, beq_iff_eq] at h
  obtain ⟨⟨hZ, hT⟩, hon⟩ := h
  refine ⟨toEd ⟨p.X, p.Y⟩ hon, ⟨?_, ?_, ?_, ?_⟩, rfl, rfl⟩
  · rw [hZ]; simp
  · rw [hZ]; simp [toEd]
  · rw [hZ]; simp [toEd]
  · rw [hZ, hT, cast_fmul]; simp

theorem torsionFails_extOk {val : List Nat → Nat} {canon : List Nat → Bool} {t1 : EPt} :
    ∀ (es : List (List (List Nat))) (i : Nat) (cur : EPt),
      torsionFails val canon t1 es i cur = [] →
      ∀ (k : Nat) (e : List (List Nat)), es[k]? = some e → extOk (decodePt val e) = true
  | [], _, _, _, k, e, hk => by simp at hk
  | e0 :: es, i, cur, h, k, e, hk => by
    simp only [torsionFails] at h
    split at h
    · rename_i hok
      cases k with
      | zero =>
        simp only [List.getElem?_cons_zero, Option.some.injEq] at hk
        subst hk
        simp only [Bool.and_eq_true] at hok
        exact hok.1.1.1.2
      | succ k =>
        simp only [List.getElem?_cons_succ] at hk
        exact torsionFails_extOk es (i + 1) (cur.add t1) h k e hk
    · exact absurd h (by simp)

theorem torsionFails_sound {val : List Nat → Nat} {canon : List Nat → Bool} {t1 : EPt} {Q1 : Ed}
    (h1 : ERep t1 Q1) :
    ∀ (es : List (List (List Nat))) (i : Nat) (cur : EPt), ERep cur (i • Q1) →
      torsionFails val canon t1 es i cur = [] →
      ∀ (k : Nat) (e : List (List Nat)), es[k]? = some e → ERep (decodePt val e) ((i + k) • Q1)
  | [], _, _, _, _, k, e, hk => by simp at hk
  | e0 :: es, i, cur, hc, h, k, e, hk => by
    simp only [torsionFails] at h
    split at h
    · rename_i hok
      cases k with
      | zero =>
        simp only [List.getElem?_cons_zero, Option.some.injEq] at hk
        subst hk
        simp only [Bool.and_eq_true] at hok
        obtain ⟨Q, hQ, -, -⟩ := extOk_rep hok.1.1.1.2
        have : Q = i • Q1 := (eq_iff hQ hc).1 hok.1.1.2
        rw [this] at hQ
        simpa using hQ
      | succ k =>
        simp only [List.getElem?_cons_succ] at hk
        have hc' : ERep (cur.add t1) ((i + 1) • Q1) := by
          have := erep_add hc h1
          rwa [← succ_nsmul] at this
        have := torsionFails_sound h1 es (i + 1) (cur.add t1) hc' h k e hk
        have e1 : i + 1 + k = i + (k + 1) := by omega
        rwa [e1] at this
    · exact absurd h (by simp)

/-- **Soundness of `checkEightTorsion`**: there is a point `T₁` of the curve of order exactly 8 such that
the `i`-th literal (`i < 8`) is an extended-coordinates representation of `i • T₁`. -/
theorem eightTorsion_sound {val : List Nat → Nat} {canon : List Nat → Bool}
    {t : List (List (List Nat))} (h : checkEightTorsion val canon t = true) :
    ∃ T1 : Ed, addOrderOf T1 = 8 ∧ ∀ i, i < 8 → ERep (decodePt val (t.getD i [])) (i • T1) := by
  simp only [checkEightTorsion, Bool.and_eq_true, beq_iff_eq, List.isEmpty_iff, List.all_eq_true,
    Bool.not_eq_true'] at h
  obtain ⟨⟨⟨⟨⟨⟨hlen, hf⟩, -⟩, h8⟩, h4⟩, -⟩, -⟩ := h
  have hget : ∀ i, i < 8 → t[i]? = some (t.getD i []) := by
    intro i hi
    have hi' : i < t.length := by omega
    simp [List.getD, List.getElem?_eq_getElem hi']
  obtain ⟨T1, hT1, -, -⟩ := extOk_rep (torsionFails_extOk t 0 EPt.zero hf 1 _ (hget 1 (by omega)))
  have hall := torsionFails_sound hT1 t 0 EPt.zero (by simpa using erep_zero) hf
  refine ⟨T1, ?_, ?_⟩
  · have e8 : (8 : Nat) = 2 ^ (2 + 1) := by norm_num
    rw [e8]
    apply addOrderOf_eq_prime_pow
    · intro h0
      have := (isIdentity_iff_E (erep_mulByPow2 hT1 2)).2 h0
      rw [this] at h4
      exact absurd h4 (by simp)
    · have hmem : decodePt val (t.getD 1 []) ∈ t.map (decodePt val) := by
        have h1 : 1 < t.length := by omega
        have : t.getD 1 [] = t[1] := by simp [List.getD, List.getElem?_eq_getElem h1]
        rw [this]
        exact List.mem_map_of_mem (List.getElem_mem h1)
      have := h8 _ hmem
      exact (isIdentity_iff_E (erep_mulByPow2 hT1 3)).1 this
  · intro i hi
    have := hall i _ (hget i hi)
    simpa using this

/-- the shipped `EIGHT_TORSION` arrays: `T[i] = i • T₁` with `T₁` of order exactly 8 -/
theorem EIGHT_TORSION_u64 :
    ∃ T1 : Ed, addOrderOf T1 = 8 ∧
      ∀ i, i < 8 → ERep (decodePt val51 (U64.EIGHT_TORSION.getD i [])) (i • T1) := by
  have h := Dalek.Props.C12.EIGHT_TORSION_ok
  rw [Bool.and_eq_true] at h
  exact eightTorsion_sound h.1

theorem EIGHT_TORSION_u32 :
    ∃ T1 : Ed, addOrderOf T1 = 8 ∧
      ∀ i, i < 8 → ERep (decodePt val26 (U32.EIGHT_TORSION.getD i [])) (i • T1) := by
  have h := Dalek.Props.C12.EIGHT_TORSION_ok
  rw [Bool.and_eq_true] at h
  exact eightTorsion_sound h.2

/-! ## C17: the multiplicative generator -/

theorem l_minus_one_eq :
    L - 1 = 2 ^ 2 * 3 * 11 * 198211423230930754013084525763697 *
      276602624281642239937218680557139826668747 := by decide +kernel

/-- **`MULTIPLICATIVE_GENERATOR` is a primitive root modulo `l`**: its multiplicative order in `ZMod l` is
`l - 1`. -/
theorem MULTIPLICATIVE_GENERATOR_order : orderOf ((ffG : Nat) : Fl) = L - 1 := by
  have hg := Dalek.Props.C17.MULTIPLICATIVE_GENERATOR_ok
  simp only [checkGenerator, Bool.and_eq_true, beq_iff_eq, bne_iff_ne, ne_eq,
    List.all_eq_true] at hg
  obtain ⟨⟨-, hpow⟩, hall⟩ := hg
  have one_lt : 1 < L := by norm_num
  have hne : ∀ q e, (q, e) ∈ lMinusOneFactors → ((ffG : Nat) : Fl) ^ ((L - 1) / q) ≠ 1 := by
    intro q e hmem h1
    have := (hall (q, e) hmem).2
    apply this
    have hc : ((spow ffG ((L - 1) / q) : Nat) : Fl) = ((1 : Nat) : Fl) := by
      rw [cast_spow, h1]; simp
    exact (castL_inj_of_lt (spow_lt _ _) one_lt).1 hc
  apply orderOf_eq_of_pow_and_pow_div_prime (by norm_num)
  · rw [← cast_spow, hpow]; simp
  · intro q hq hdvd
    rw [l_minus_one_eq] at hdvd
    have hprimes := Dalek.Props.C17.l_minus_one_factors_prime
    rcases (Nat.Prime.dvd_mul hq).1 hdvd with hd | hd
    · rcases (Nat.Prime.dvd_mul hq).1 hd with hd | hd
      · rcases (Nat.Prime.dvd_mul hq).1 hd with hd | hd
        · rcases (Nat.Prime.dvd_mul hq).1 hd with hd | hd
          · have : q = 2 := (Nat.prime_dvd_prime_iff_eq hq Nat.prime_two).1 (hq.dvd_of_dvd_pow hd)
            subst this
            exact hne 2 2 (by simp [lMinusOneFactors])
          · have : q = 3 := (Nat.prime_dvd_prime_iff_eq hq (hprimes (3, 1) (by simp [lMinusOneFactors]))).1 hd
            subst this
            exact hne 3 1 (by simp [lMinusOneFactors])
        · have : q = 11 := (Nat.prime_dvd_prime_iff_eq hq (hprimes (11, 1) (by simp [lMinusOneFactors]))).1 hd
          subst this
          exact hne 11 1 (by simp [lMinusOneFactors])
      · have : q = 198211423230930754013084525763697 :=
          (Nat.prime_dvd_prime_iff_eq hq
            (hprimes (198211423230930754013084525763697, 1) (by simp [lMinusOneFactors]))).1 hd
        subst this
        exact hne _ 1 (by simp [lMinusOneFactors])
    · have : q = 276602624281642239937218680557139826668747 :=
        (Nat.prime_dvd_prime_iff_eq hq
          (hprimes (276602624281642239937218680557139826668747, 1) (by simp [lMinusOneFactors]))).1 hd
      subst this
      exact hne _ 1 (by simp [lMinusOneFactors])

end Dalek.Proofs.ConstLift
