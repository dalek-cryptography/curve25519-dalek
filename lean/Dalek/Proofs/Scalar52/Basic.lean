import Dalek.IR.LimbSound
import Dalek.Gen.Consts
import Dalek.Gen.Norm.Scalar52
import Dalek.Proofs.LimbTac
import Mathlib.Tactic.NormNum
/-!
# Scalar52: radix-2^52 values, constants, `sub` and `add` of the translated serial-u64 scalar kernels

Method.  The shallow functions `k_fn` (generated) are first shown, BY `rfl`, to be equal to a hand-written
let-chain with names of our own (`*_fn_eq`); for the kernels that inline `Scalar52::sub` the chain ends in a call
of the generated `sub_fn`, so its specification is proved once.  The value statements are then linear integer
arithmetic (`omega`), one limb at a time.  No proof refers to an SSA name of the generated code; a semantic change
of the source (including a change of the constant `L`) breaks the `rfl`.
-/
set_option exponentiation.threshold 600

namespace Dalek.Proofs.Scalar52
open Dalek.IR Dalek.Gen.Norm.Scalar52 Dalek.Gen.Consts

/-- the group order `l` -/
abbrev ell : Nat := 2 ^ 252 + 27742317777372353535851937790883648493

theorem ell_eq : ell = 7237005577332262213973186563042994240857116359379907606001950938285454250989 := by
  norm_num [ell]

theorem ell_eqZ : (ell : Int) = 7237005577332262213973186563042994240857116359379907606001950938285454250989 := by
  rw [ell_eq]; rfl

/-- value of a little-endian radix-2^52 limb vector (any length) -/
def val52 : List Nat → Nat
  | [] => 0
  | x :: xs => x + 2 ^ 52 * val52 xs

theorem toZ_nil : toZ [] = [] := rfl

/-- the same over `Int` -/
def repZ : List Int → Int
  | [] => 0
  | x :: xs => x + 2 ^ 52 * repZ xs

theorem repZ_toZ : ∀ l : List Nat, repZ (toZ l) = (val52 l : Int)
  | [] => rfl
  | x :: xs => by
    rw [toZ_cons, repZ, val52, repZ_toZ xs]; push_cast; rfl

/-- every entry in `[0, B)` -/
def Lim (B : Int) : List Int → Prop
  | [] => True
  | x :: xs => (0 ≤ x ∧ x < B) ∧ Lim B xs

theorem lim_of_envIn (h : Nat) (B : Int) (hB : (h : Int) < B) :
    ∀ (n : Nat) (xs : List Nat), EnvIn xs (Dalek.Model.Contracts.rep n (Dalek.Model.Contracts.ub h)) → Lim B (toZ xs)
  | 0, [], _ => trivial
  | 0, _ :: _, he => by simp [Dalek.Model.Contracts.rep, EnvIn] at he
  | n + 1, [], he => by simp [Dalek.Model.Contracts.rep, List.replicate_succ, EnvIn] at he
  | n + 1, x :: xs, he => by
    simp only [Dalek.Model.Contracts.rep, List.replicate_succ, EnvIn] at he
    rw [toZ_cons]
    refine ⟨⟨Int.natCast_nonneg x, ?_⟩, lim_of_envIn h B hB n xs he.2⟩
    have := he.1.2.1
    simp only [Dalek.Model.Contracts.ub] at this
    omega

/-- residues modulo `B` are in `[0, B)` -/
theorem lim_map_emod {B : Int} (hB : 0 < B) : ∀ l : List Int, Lim B (l.map (· % B))
  | [] => trivial
  | x :: xs => ⟨⟨Int.emod_nonneg x hB.ne', Int.emod_lt_of_pos x hB⟩, lim_map_emod hB xs⟩

/-- inputs inside `rep n Scalar52.lim` are `< 2^52` -/
theorem lim52_of_envIn {n : Nat} {xs : List Nat} (h : EnvIn xs (Dalek.Model.Contracts.rep n Dalek.Model.Contracts.Scalar52.lim)) :
    Lim (2 ^ 52) (toZ xs) :=
  lim_of_envIn _ _ (by norm_num) n xs h

/-- the `montgomery_reduce` input bound `5·(2^52-1)^2`, plus one -/
abbrev W1 : Int := 101412048018258307083739982725126

theorem limW_of_envIn {n : Nat} {xs : List Nat} (h : EnvIn xs (Dalek.Model.Contracts.rep n Dalek.Model.Contracts.Scalar52.wide)) :
    Lim W1 (toZ xs) :=
  lim_of_envIn _ _ (by norm_num [W1]) n xs h

/-! ## the constants (facts about the REGENERATED literals) -/

theorem val52_L : val52 U64.L = ell := by decide +kernel
theorem val52_R : val52 U64.R = 2 ^ 260 % ell := by decide +kernel
theorem val52_RR : val52 U64.RR = (2 ^ 260) ^ 2 % ell := by decide +kernel
theorem lfactor_spec : U64.LFACTOR * U64.L.getD 0 0 % 2 ^ 52 = 2 ^ 52 - 1 := by decide +kernel
theorem L_lim : EnvIn U64.L (Dalek.Model.Contracts.rep 5 Dalek.Model.Contracts.Scalar52.lim) := by decide +kernel
theorem R_lim : EnvIn U64.R (Dalek.Model.Contracts.rep 5 Dalek.Model.Contracts.Scalar52.lim) := by decide +kernel
theorem RR_lim : EnvIn U64.RR (Dalek.Model.Contracts.rep 5 Dalek.Model.Contracts.Scalar52.lim) := by decide +kernel

/-! ## `sub` -/

/-- one limb of the borrow chain `borrow = a[i].wrapping_sub(b[i] + (borrow >> 63))` -/
theorem sub_limb {a b c w : Int} (ha : 0 ≤ a ∧ a < 2 ^ 52) (hb : 0 ≤ b ∧ b < 2 ^ 52) (hc : 0 ≤ c ∧ c ≤ 1)
    (hw : w = (a - (b + c)) % 2 ^ 64) :
    (0 ≤ w / 2 ^ 63 ∧ w / 2 ^ 63 ≤ 1) ∧ w % 2 ^ 52 + b + c = a + 2 ^ 52 * (w / 2 ^ 63) := by
  omega

/-- limb-free end of `sub`: `D = A - B` with a borrow `m` out of the top, then `O = D + (m ≠ 0 ? L : 0)` with a
carry `k` out of the top, everything in `[0, M)` -/
theorem sub_final {M L A B D O m k : Int} (hA : 0 ≤ A ∧ A < M) (hB : 0 ≤ B ∧ B < M)
    (hD : 0 ≤ D ∧ D < M) (hO : 0 ≤ O ∧ O < M) (hm : 0 ≤ m ∧ m ≤ 1)
    (hd : D + B = A + M * m) (ho : O + M * k = D + (if m = 0 then 0 else L)) :
    O = (A - B + (if A < B then L else 0)) % M := by
  have e : A - B + (if A < B then L else 0) = O + M * (k - m) := by
    rcases (by omega : m = 0 ∨ m = 1) with rfl | rfl
    · rw [if_neg (by omega)]; rw [if_pos rfl] at ho; linear_combination -ho - hd
    · rw [if_pos (by omega)]; rw [if_neg one_ne_zero] at ho; linear_combination -ho - hd
  rw [e, Int.add_mul_emod_self_left, Int.emod_eq_of_lt hO.1 hO.2]

/-- the Montgomery quotient `R = (N + n·l) / M` of `N < M·l` by a factor `n < M` is below `2l` -/
theorem lt_two_ell {M R N n : Int} (h : M * R = N + n * ell) (hN0 : 0 ≤ N) (hN : N < M * ell)
    (hn0 : 0 ≤ n) (hn : n < M) : 0 ≤ R ∧ R < 2 * ell := by
  have hl : (0 : Int) < ell := by norm_num [ell]
  have hM : 0 < M := lt_of_le_of_lt hn0 hn
  have h1 : n * ell < M * ell := mul_lt_mul_of_pos_right hn hl
  have h0 : 0 ≤ n * ell := mul_nonneg hn0 hl.le
  constructor
  · exact nonneg_of_mul_nonneg_right (by rw [h]; exact add_nonneg hN0 h0) hM
  · refine lt_of_mul_lt_mul_left ?_ hM.le
    rw [h]; linarith

theorem repZ5_bd (a0 a1 a2 a3 a4 : Int) (h : Lim (2 ^ 52) [a0, a1, a2, a3, a4]) :
    0 ≤ repZ [a0, a1, a2, a3, a4] ∧ repZ [a0, a1, a2, a3, a4] < 2 ^ 260 := by
  simp only [Lim, repZ] at *
  omega

/-- `sub_fn` is the borrow chain followed by the conditional addition of the literal `L`
(structural equality, checked by `rfl`). -/
theorem sub_fn_eq (a0 a1 a2 a3 a4 b0 b1 b2 b3 b4 : Int) : sub_fn a0 a1 a2 a3 a4 b0 b1 b2 b3 b4 =
    (let B : Int := 2 ^ 52
     let M : Int := 2 ^ 64
     let S : Int := 2 ^ 63
     let w0 := (a0 - (b0 + 0)) % M
     let w1 := (a1 - (b1 + w0 / S)) % M
     let w2 := (a2 - (b2 + w1 / S)) % M
     let w3 := (a3 - (b3 + w2 / S)) % M
     let w4 := (a4 - (b4 + w3 / S)) % M
     let m := w4 / S
     let t0 := (0 + w0 % B) + (if m = 0 then 0 else 671914833335277)
     let t1 := (t0 / B + w1 % B) + (if m = 0 then 0 else 3916664325105025)
     let t2 := (t1 / B + w2 % B) + (if m = 0 then 0 else 1367801)
     let t3 := (t2 / B + w3 % B) + (if m = 0 then 0 else 0)
     let t4 := (t3 / B + w4 % B) + (if m = 0 then 0 else 17592186044416)
     [t0 % B, t1 % B, t2 % B, t3 % B, t4 % B]) := rfl

/-- the powers `B = 2^52`, `M = 2^64`, `S = 2^63` are variables of the statement (a numeral power in each
hypothesis makes the statement slow to elaborate) -/
theorem sub_core (B M S : Int) (hB : B = 2 ^ 52) (hM : M = 2 ^ 64) (hS : S = 2 ^ 63)
    (a0 a1 a2 a3 a4 b0 b1 b2 b3 b4 w0 w1 w2 w3 w4 m t0 t1 t2 t3 t4 : Int)
    (ha : Lim B [a0, a1, a2, a3, a4]) (hb : Lim B [b0, b1, b2, b3, b4])
    (hw0 : w0 = (a0 - (b0 + 0)) % M)
    (hw1 : w1 = (a1 - (b1 + w0 / S)) % M)
    (hw2 : w2 = (a2 - (b2 + w1 / S)) % M)
    (hw3 : w3 = (a3 - (b3 + w2 / S)) % M)
    (hw4 : w4 = (a4 - (b4 + w3 / S)) % M)
    (hmdef : m = w4 / S)
    (E0 : t0 = (0 + w0 % B) + (if m = 0 then 0 else 671914833335277))
    (E1 : t1 = (t0 / B + w1 % B) + (if m = 0 then 0 else 3916664325105025))
    (E2 : t2 = (t1 / B + w2 % B) + (if m = 0 then 0 else 1367801))
    (E3 : t3 = (t2 / B + w3 % B) + (if m = 0 then 0 else 0))
    (E4 : t4 = (t3 / B + w4 % B) + (if m = 0 then 0 else 17592186044416)) :
    Lim B [t0 % B, t1 % B, t2 % B, t3 % B, t4 % B] ∧
    repZ [t0 % B, t1 % B, t2 % B, t3 % B, t4 % B] = (repZ [a0, a1, a2, a3, a4] - repZ [b0, b1, b2, b3, b4]
        + (if repZ [a0, a1, a2, a3, a4] < repZ [b0, b1, b2, b3, b4] then (ell : Int) else 0)) % 2 ^ 260 := by
  subst hB hM hS
  have hlo := lim_map_emod (B := 2 ^ 52) (by norm_num) [t0, t1, t2, t3, t4]
  have hld := lim_map_emod (B := 2 ^ 52) (by norm_num) [w0, w1, w2, w3, w4]
  refine ⟨hlo, ?_⟩
  have hm : (0 ≤ m ∧ m ≤ 1) ∧ repZ [w0 % 2 ^ 52, w1 % 2 ^ 52, w2 % 2 ^ 52, w3 % 2 ^ 52, w4 % 2 ^ 52]
      + repZ [b0, b1, b2, b3, b4] = repZ [a0, a1, a2, a3, a4] + 2 ^ 260 * m := by
    obtain ⟨ha0, ha1, ha2, ha3, ha4, -⟩ := ha
    obtain ⟨hb0, hb1, hb2, hb3, hb4, -⟩ := hb
    obtain ⟨c0, h0⟩ := sub_limb ha0 hb0 ⟨le_rfl, zero_le_one⟩ hw0
    obtain ⟨c1, h1⟩ := sub_limb ha1 hb1 c0 hw1
    obtain ⟨c2, h2⟩ := sub_limb ha2 hb2 c1 hw2
    obtain ⟨c3, h3⟩ := sub_limb ha3 hb3 c2 hw3
    obtain ⟨c4, h4⟩ := sub_limb ha4 hb4 c3 hw4
    rw [hmdef]
    refine ⟨c4, ?_⟩
    simp only [repZ]
    linear_combination 1 * h0 + 2 ^ 52 * h1 + 2 ^ 104 * h2 + 2 ^ 156 * h3 + 2 ^ 208 * h4
  have ho : repZ [t0 % 2 ^ 52, t1 % 2 ^ 52, t2 % 2 ^ 52, t3 % 2 ^ 52, t4 % 2 ^ 52] + 2 ^ 260 * (t4 / 2 ^ 52)
      = repZ [w0 % 2 ^ 52, w1 % 2 ^ 52, w2 % 2 ^ 52, w3 % 2 ^ 52, w4 % 2 ^ 52] + (if m = 0 then 0 else (ell : Int)) := by
    rw [ell_eqZ]
    simp only [repZ]
    have D0 := Int.emod_add_mul_ediv t0 (2 ^ 52)
    have D1 := Int.emod_add_mul_ediv t1 (2 ^ 52)
    have D2 := Int.emod_add_mul_ediv t2 (2 ^ 52)
    have D3 := Int.emod_add_mul_ediv t3 (2 ^ 52)
    have D4 := Int.emod_add_mul_ediv t4 (2 ^ 52)
    by_cases hm0 : m = 0
    · simp only [if_pos hm0] at E0 E1 E2 E3 E4 ⊢
      linear_combination 1 * (D0 + E0) + 2 ^ 52 * (D1 + E1) + 2 ^ 104 * (D2 + E2) + 2 ^ 156 * (D3 + E3) + 2 ^ 208 * (D4 + E4)
    · simp only [if_neg hm0] at E0 E1 E2 E3 E4 ⊢
      linear_combination 1 * (D0 + E0) + 2 ^ 52 * (D1 + E1) + 2 ^ 104 * (D2 + E2) + 2 ^ 156 * (D3 + E3) + 2 ^ 208 * (D4 + E4)
  exact sub_final (repZ5_bd _ _ _ _ _ ha) (repZ5_bd _ _ _ _ _ hb) (repZ5_bd _ _ _ _ _ hld) (repZ5_bd _ _ _ _ _ hlo)
    hm.1 hm.2 ho

/-- `sub` on arbitrary 52-bit limb vectors: `a - b`, plus `l` if that is negative, modulo `2^260`. -/
theorem sub_fn_spec (a0 a1 a2 a3 a4 b0 b1 b2 b3 b4 : Int)
    (ha : Lim (2 ^ 52) [a0, a1, a2, a3, a4]) (hb : Lim (2 ^ 52) [b0, b1, b2, b3, b4]) :
    ∃ o0 o1 o2 o3 o4, sub_fn a0 a1 a2 a3 a4 b0 b1 b2 b3 b4 = [o0, o1, o2, o3, o4] ∧
      Lim (2 ^ 52) [o0, o1, o2, o3, o4] ∧
      repZ [o0, o1, o2, o3, o4] = (repZ [a0, a1, a2, a3, a4] - repZ [b0, b1, b2, b3, b4]
        + (if repZ [a0, a1, a2, a3, a4] < repZ [b0, b1, b2, b3, b4] then (ell : Int) else 0)) % 2 ^ 260 := by
  rw [sub_fn_eq]
  extract_lets B M S w0 w1 w2 w3 w4 m t0 t1 t2 t3 t4
  exact ⟨_, _, _, _, _, rfl, sub_core B M S rfl rfl rfl a0 a1 a2 a3 a4 b0 b1 b2 b3 b4 w0 w1 w2 w3 w4 m t0 t1 t2 t3 t4
    ha hb rfl rfl rfl rfl rfl rfl rfl rfl rfl rfl rfl⟩

/-- `Lim (2^52)` and `repZ` of the literal `L` -/
theorem L_literal : toZ U64.L = [671914833335277, 3916664325105025, 1367801, 0, 17592186044416] := rfl

/-- `sub(r, L)` for `r < 2l`: the canonical representative `r mod l`
(the tail of `add` and of `montgomery_reduce`). -/
theorem sub_fn_L_spec (r0 r1 r2 r3 r4 : Int) (hr : Lim (2 ^ 52) [r0, r1, r2, r3, r4])
    (h2 : repZ [r0, r1, r2, r3, r4] < 2 * ell) :
    ∃ o0 o1 o2 o3 o4, sub_fn r0 r1 r2 r3 r4 671914833335277 3916664325105025 1367801 0 17592186044416
        = [o0, o1, o2, o3, o4] ∧ Lim (2 ^ 52) [o0, o1, o2, o3, o4] ∧
      repZ [o0, o1, o2, o3, o4] = repZ [r0, r1, r2, r3, r4] % ell := by
  obtain ⟨o0, o1, o2, o3, o4, he, hl, hv⟩ := sub_fn_spec r0 r1 r2 r3 r4 671914833335277 3916664325105025 1367801 0
    17592186044416 hr (by simp only [Lim]; norm_num)
  refine ⟨o0, o1, o2, o3, o4, he, hl, ?_⟩
  rw [hv]
  have hL : repZ [671914833335277, 3916664325105025, 1367801, 0, 17592186044416] = (ell : Int) := by
    rw [ell_eqZ]; simp only [repZ]; norm_num
  rw [hL]
  have h0 : 0 ≤ repZ [r0, r1, r2, r3, r4] := by simp only [Lim, repZ] at hr ⊢; omega
  generalize repZ [r0, r1, r2, r3, r4] = R at *
  rw [ell_eqZ] at *
  split_ifs <;> omega

/-- `sub` on canonical inputs is subtraction modulo `l`. -/
theorem sub_fn_canon (a0 a1 a2 a3 a4 b0 b1 b2 b3 b4 : Int)
    (ha : Lim (2 ^ 52) [a0, a1, a2, a3, a4]) (hb : Lim (2 ^ 52) [b0, b1, b2, b3, b4])
    (hal : repZ [a0, a1, a2, a3, a4] < ell) (hbl : repZ [b0, b1, b2, b3, b4] < ell) :
    ∃ o0 o1 o2 o3 o4, sub_fn a0 a1 a2 a3 a4 b0 b1 b2 b3 b4 = [o0, o1, o2, o3, o4] ∧
      Lim (2 ^ 52) [o0, o1, o2, o3, o4] ∧
      repZ [o0, o1, o2, o3, o4] = (repZ [a0, a1, a2, a3, a4] - repZ [b0, b1, b2, b3, b4]) % ell := by
  obtain ⟨o0, o1, o2, o3, o4, he, hl, hv⟩ := sub_fn_spec a0 a1 a2 a3 a4 b0 b1 b2 b3 b4 ha hb
  refine ⟨o0, o1, o2, o3, o4, he, hl, ?_⟩
  rw [hv]
  have h0 : 0 ≤ repZ [a0, a1, a2, a3, a4] := by simp only [Lim, repZ] at ha ⊢; omega
  have h1 : 0 ≤ repZ [b0, b1, b2, b3, b4] := by simp only [Lim, repZ] at hb ⊢; omega
  generalize repZ [a0, a1, a2, a3, a4] = A at *
  generalize repZ [b0, b1, b2, b3, b4] = B at *
  rw [ell_eqZ] at *
  split_ifs <;> omega

/-! ## `add` -/

/-- `add_fn` is the carry chain followed by `sub(·, L)` (structural equality, by `rfl`). -/
theorem add_fn_eq (a0 a1 a2 a3 a4 b0 b1 b2 b3 b4 : Int) :
    add_fn a0 a1 a2 a3 a4 b0 b1 b2 b3 b4 =
      (let s0 := (a0 + b0) + 0
       let s1 := (a1 + b1) + s0 / 2 ^ 52
       let s2 := (a2 + b2) + s1 / 2 ^ 52
       let s3 := (a3 + b3) + s2 / 2 ^ 52
       let s4 := (a4 + b4) + s3 / 2 ^ 52
       sub_fn (s0 % 2 ^ 52) (s1 % 2 ^ 52) (s2 % 2 ^ 52) (s3 % 2 ^ 52) (s4 % 2 ^ 52)
         671914833335277 3916664325105025 1367801 0 17592186044416) := rfl

theorem add_fn_spec (a0 a1 a2 a3 a4 b0 b1 b2 b3 b4 : Int)
    (ha : Lim (2 ^ 52) [a0, a1, a2, a3, a4]) (hb : Lim (2 ^ 52) [b0, b1, b2, b3, b4])
    (hal : repZ [a0, a1, a2, a3, a4] < ell) (hbl : repZ [b0, b1, b2, b3, b4] < ell) :
    ∃ o0 o1 o2 o3 o4, add_fn a0 a1 a2 a3 a4 b0 b1 b2 b3 b4 = [o0, o1, o2, o3, o4] ∧
      Lim (2 ^ 52) [o0, o1, o2, o3, o4] ∧
      repZ [o0, o1, o2, o3, o4] = (repZ [a0, a1, a2, a3, a4] + repZ [b0, b1, b2, b3, b4]) % ell := by
  rw [add_fn_eq]
  extract_lets s0 s1 s2 s3 s4
  have hs : repZ [s0 % 2 ^ 52, s1 % 2 ^ 52, s2 % 2 ^ 52, s3 % 2 ^ 52, s4 % 2 ^ 52]
      = repZ [a0, a1, a2, a3, a4] + repZ [b0, b1, b2, b3, b4] := by
    simp only [Lim, repZ] at *
    rw [ell_eqZ] at *
    have e0 : s0 = (a0 + b0) + 0 := rfl
    have e1 : s1 = (a1 + b1) + s0 / 2 ^ 52 := rfl
    have e2 : s2 = (a2 + b2) + s1 / 2 ^ 52 := rfl
    have e3 : s3 = (a3 + b3) + s2 / 2 ^ 52 := rfl
    have e4 : s4 = (a4 + b4) + s3 / 2 ^ 52 := rfl
    clear_value s0 s1 s2 s3 s4
    omega
  obtain ⟨o0, o1, o2, o3, o4, he, hl, hv⟩ := sub_fn_L_spec (s0 % 2 ^ 52) (s1 % 2 ^ 52) (s2 % 2 ^ 52) (s3 % 2 ^ 52)
    (s4 % 2 ^ 52) (by simp only [Lim, and_true]; omega) (by rw [hs]; omega)
  exact ⟨o0, o1, o2, o3, o4, he, hl, by rw [hv, hs]⟩

end Dalek.Proofs.Scalar52
