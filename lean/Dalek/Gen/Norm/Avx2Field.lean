import Dalek.Model.Contracts
import Dalek.IR.NormSpec
import Dalek.IR.Tactics
/-! GENERATED by tools/GenNorm.lean from the current /repo sources; do not edit. -/
namespace Dalek.Gen.Norm.Avx2Field
open Dalek.IR

def new_post : List Itv := [⟨0, 67108996, 0⟩, ⟨0, 67108996, 0⟩, ⟨0, 33554431, 0⟩, ⟨0, 33554431, 0⟩, ⟨0, 67108996, 0⟩, ⟨0, 67108996, 0⟩, ⟨0, 33554431, 0⟩, ⟨0, 33554431, 0⟩, ⟨0, 67108870, 0⟩, ⟨0, 67108870, 0⟩, ⟨0, 33554431, 0⟩, ⟨0, 33554431, 0⟩, ⟨0, 67108870, 0⟩, ⟨0, 67108870, 0⟩, ⟨0, 33554431, 0⟩, ⟨0, 33554431, 0⟩, ⟨0, 67108870, 0⟩, ⟨0, 67108870, 0⟩, ⟨0, 33554431, 0⟩, ⟨0, 33554431, 0⟩, ⟨0, 67108870, 0⟩, ⟨0, 67108870, 0⟩, ⟨0, 33554431, 0⟩, ⟨0, 33554431, 0⟩, ⟨0, 67108870, 0⟩, ⟨0, 67108870, 0⟩, ⟨0, 33554431, 0⟩, ⟨0, 33554431, 0⟩, ⟨0, 67108870, 0⟩, ⟨0, 67108870, 0⟩, ⟨0, 33554431, 0⟩, ⟨0, 33554431, 0⟩, ⟨0, 67108870, 0⟩, ⟨0, 67108870, 0⟩, ⟨0, 33554431, 0⟩, ⟨0, 33554431, 0⟩, ⟨0, 67108870, 0⟩, ⟨0, 67108870, 0⟩, ⟨0, 33554431, 0⟩, ⟨0, 33554431, 0⟩]

def new_nprog : NProg := Prog.normProg Dalek.Gen.Avx2Field.new Dalek.Model.Contracts.Avx2Field.pre_new

theorem new_norm_ok : Prog.norm Dalek.Gen.Avx2Field.new Dalek.Model.Contracts.Avx2Field.pre_new = some (new_nprog, new_post) :=
  Prog.norm_eq_of_post (by decide +kernel)

def new_fn (x0 x1 x2 x3 x4 x5 x6 x7 x8 x9 x10 x11 x12 x13 x14 x15 x16 x17 x18 x19 : Int) : List Int :=
  let x20 : Int := (x0 % 2 ^ (26 : Nat))
  let x21 : Int := (x0 / 2 ^ (26 : Nat))
  let x22 : Int := (x5 % 2 ^ (26 : Nat))
  let x23 : Int := (x5 / 2 ^ (26 : Nat))
  let x24 : Int := (x10 % 2 ^ (26 : Nat))
  let x25 : Int := (x10 / 2 ^ (26 : Nat))
  let x26 : Int := (x15 % 2 ^ (26 : Nat))
  let x27 : Int := (x15 / 2 ^ (26 : Nat))
  let x28 : Int := (x1 % 2 ^ (26 : Nat))
  let x29 : Int := (x1 / 2 ^ (26 : Nat))
  let x30 : Int := (x6 % 2 ^ (26 : Nat))
  let x31 : Int := (x6 / 2 ^ (26 : Nat))
  let x32 : Int := (x11 % 2 ^ (26 : Nat))
  let x33 : Int := (x11 / 2 ^ (26 : Nat))
  let x34 : Int := (x16 % 2 ^ (26 : Nat))
  let x35 : Int := (x16 / 2 ^ (26 : Nat))
  let x36 : Int := (x2 % 2 ^ (26 : Nat))
  let x37 : Int := (x2 / 2 ^ (26 : Nat))
  let x38 : Int := (x7 % 2 ^ (26 : Nat))
  let x39 : Int := (x7 / 2 ^ (26 : Nat))
  let x40 : Int := (x12 % 2 ^ (26 : Nat))
  let x41 : Int := (x12 / 2 ^ (26 : Nat))
  let x42 : Int := (x17 % 2 ^ (26 : Nat))
  let x43 : Int := (x17 / 2 ^ (26 : Nat))
  let x44 : Int := (x3 % 2 ^ (26 : Nat))
  let x45 : Int := (x3 / 2 ^ (26 : Nat))
  let x46 : Int := (x8 % 2 ^ (26 : Nat))
  let x47 : Int := (x8 / 2 ^ (26 : Nat))
  let x48 : Int := (x13 % 2 ^ (26 : Nat))
  let x49 : Int := (x13 / 2 ^ (26 : Nat))
  let x50 : Int := (x18 % 2 ^ (26 : Nat))
  let x51 : Int := (x18 / 2 ^ (26 : Nat))
  let x52 : Int := (x4 % 2 ^ (26 : Nat))
  let x53 : Int := (x4 / 2 ^ (26 : Nat))
  let x54 : Int := (x9 % 2 ^ (26 : Nat))
  let x55 : Int := (x9 / 2 ^ (26 : Nat))
  let x56 : Int := (x14 % 2 ^ (26 : Nat))
  let x57 : Int := (x14 / 2 ^ (26 : Nat))
  let x58 : Int := (x19 % 2 ^ (26 : Nat))
  let x59 : Int := (x19 / 2 ^ (26 : Nat))
  let x60 : Int := (x20 / 2 ^ (26 : Nat))
  let x61 : Int := (x22 / 2 ^ (26 : Nat))
  let x62 : Int := (x21 / 2 ^ (25 : Nat))
  let x63 : Int := (x23 / 2 ^ (25 : Nat))
  let x64 : Int := (x24 / 2 ^ (26 : Nat))
  let x65 : Int := (x26 / 2 ^ (26 : Nat))
  let x66 : Int := (x25 / 2 ^ (25 : Nat))
  let x67 : Int := (x27 / 2 ^ (25 : Nat))
  let x68 : Int := (x20 + (0 : Int))
  let x69 : Int := (x22 + (0 : Int))
  let x70 : Int := ((x21 % 2 ^ (25 : Nat)) + x60)
  let x71 : Int := ((x23 % 2 ^ (25 : Nat)) + x61)
  let x72 : Int := (x24 + (0 : Int))
  let x73 : Int := (x26 + (0 : Int))
  let x74 : Int := ((x25 % 2 ^ (25 : Nat)) + x64)
  let x75 : Int := ((x27 % 2 ^ (25 : Nat)) + x65)
  let x76 : Int := (x28 / 2 ^ (26 : Nat))
  let x77 : Int := (x30 / 2 ^ (26 : Nat))
  let x78 : Int := (x29 / 2 ^ (25 : Nat))
  let x79 : Int := (x31 / 2 ^ (25 : Nat))
  let x80 : Int := (x32 / 2 ^ (26 : Nat))
  let x81 : Int := (x34 / 2 ^ (26 : Nat))
  let x82 : Int := (x33 / 2 ^ (25 : Nat))
  let x83 : Int := (x35 / 2 ^ (25 : Nat))
  let x84 : Int := (x28 + x62)
  let x85 : Int := (x30 + x63)
  let x86 : Int := ((x29 % 2 ^ (25 : Nat)) + x76)
  let x87 : Int := ((x31 % 2 ^ (25 : Nat)) + x77)
  let x88 : Int := (x32 + x66)
  let x89 : Int := (x34 + x67)
  let x90 : Int := ((x33 % 2 ^ (25 : Nat)) + x80)
  let x91 : Int := ((x35 % 2 ^ (25 : Nat)) + x81)
  let x92 : Int := (x36 / 2 ^ (26 : Nat))
  let x93 : Int := (x38 / 2 ^ (26 : Nat))
  let x94 : Int := (x37 / 2 ^ (25 : Nat))
  let x95 : Int := (x39 / 2 ^ (25 : Nat))
  let x96 : Int := (x40 / 2 ^ (26 : Nat))
  let x97 : Int := (x42 / 2 ^ (26 : Nat))
  let x98 : Int := (x41 / 2 ^ (25 : Nat))
  let x99 : Int := (x43 / 2 ^ (25 : Nat))
  let x100 : Int := (x36 + x78)
  let x101 : Int := (x38 + x79)
  let x102 : Int := ((x37 % 2 ^ (25 : Nat)) + x92)
  let x103 : Int := ((x39 % 2 ^ (25 : Nat)) + x93)
  let x104 : Int := (x40 + x82)
  let x105 : Int := (x42 + x83)
  let x106 : Int := ((x41 % 2 ^ (25 : Nat)) + x96)
  let x107 : Int := ((x43 % 2 ^ (25 : Nat)) + x97)
  let x108 : Int := (x44 / 2 ^ (26 : Nat))
  let x109 : Int := (x46 / 2 ^ (26 : Nat))
  let x110 : Int := (x45 / 2 ^ (25 : Nat))
  let x111 : Int := (x47 / 2 ^ (25 : Nat))
  let x112 : Int := (x48 / 2 ^ (26 : Nat))
  let x113 : Int := (x50 / 2 ^ (26 : Nat))
  let x114 : Int := (x49 / 2 ^ (25 : Nat))
  let x115 : Int := (x51 / 2 ^ (25 : Nat))
  let x116 : Int := (x44 + x94)
  let x117 : Int := (x46 + x95)
  let x118 : Int := ((x45 % 2 ^ (25 : Nat)) + x108)
  let x119 : Int := ((x47 % 2 ^ (25 : Nat)) + x109)
  let x120 : Int := (x48 + x98)
  let x121 : Int := (x50 + x99)
  let x122 : Int := ((x49 % 2 ^ (25 : Nat)) + x112)
  let x123 : Int := ((x51 % 2 ^ (25 : Nat)) + x113)
  let x124 : Int := (x52 / 2 ^ (26 : Nat))
  let x125 : Int := (x54 / 2 ^ (26 : Nat))
  let x126 : Int := (x53 / 2 ^ (25 : Nat))
  let x127 : Int := (x55 / 2 ^ (25 : Nat))
  let x128 : Int := (x56 / 2 ^ (26 : Nat))
  let x129 : Int := (x58 / 2 ^ (26 : Nat))
  let x130 : Int := (x57 / 2 ^ (25 : Nat))
  let x131 : Int := (x59 / 2 ^ (25 : Nat))
  let x132 : Int := (x52 + x110)
  let x133 : Int := (x54 + x111)
  let x134 : Int := ((x53 % 2 ^ (25 : Nat)) + x124)
  let x135 : Int := ((x55 % 2 ^ (25 : Nat)) + x125)
  let x136 : Int := (x56 + x114)
  let x137 : Int := (x58 + x115)
  let x138 : Int := ((x57 % 2 ^ (25 : Nat)) + x128)
  let x139 : Int := ((x59 % 2 ^ (25 : Nat)) + x129)
  let x140 : Int := (x126 * (19 : Int))
  let x141 : Int := (x127 * (19 : Int))
  let x142 : Int := (x130 * (19 : Int))
  let x143 : Int := (x131 * (19 : Int))
  let x144 : Int := (x68 + x140)
  let x145 : Int := (x69 + x141)
  let x146 : Int := (x70 + (x140 / 2 ^ (32 : Nat)))
  let x147 : Int := (x71 + (x141 / 2 ^ (32 : Nat)))
  let x148 : Int := (x72 + x142)
  let x149 : Int := (x73 + x143)
  let x150 : Int := (x74 + (x142 / 2 ^ (32 : Nat)))
  let x151 : Int := (x75 + (x143 / 2 ^ (32 : Nat)))
  [x144, x145, x146, x147, x148, x149, x150, x151, x84, x85, x86, x87, x88, x89, x90, x91, x100, x101, x102, x103, x104, x105, x106, x107, x116, x117, x118, x119, x120, x121, x122, x123, x132, x133, x134, x135, x136, x137, x138, x139]

theorem new_fn_ok (x0 x1 x2 x3 x4 x5 x6 x7 x8 x9 x10 x11 x12 x13 x14 x15 x16 x17 x18 x19 : Int) : NProg.evalZ new_nprog [x0, x1, x2, x3, x4, x5, x6, x7, x8, x9, x10, x11, x12, x13, x14, x15, x16, x17, x18, x19] = new_fn x0 x1 x2 x3 x4 x5 x6 x7 x8 x9 x10 x11 x12 x13 x14 x15 x16 x17 x18 x19 :=
  (NProg.evalZ_eq_fast _ _).trans (by kernel_rfl)

def split_post : List Itv := [⟨0, 288230380379570175, 0⟩, ⟨0, 288230380379570175, 0⟩, ⟨0, 288230380379570175, 0⟩, ⟨0, 288230380379570175, 0⟩, ⟨0, 288230380379570175, 0⟩, ⟨0, 288230380379570175, 0⟩, ⟨0, 288230380379570175, 0⟩, ⟨0, 288230380379570175, 0⟩, ⟨0, 288230380379570175, 0⟩, ⟨0, 288230380379570175, 0⟩, ⟨0, 288230380379570175, 0⟩, ⟨0, 288230380379570175, 0⟩, ⟨0, 288230380379570175, 0⟩, ⟨0, 288230380379570175, 0⟩, ⟨0, 288230380379570175, 0⟩, ⟨0, 288230380379570175, 0⟩, ⟨0, 288230380379570175, 0⟩, ⟨0, 288230380379570175, 0⟩, ⟨0, 288230380379570175, 0⟩, ⟨0, 288230380379570175, 0⟩]

def split_nprog : NProg := Prog.normProg Dalek.Gen.Avx2Field.split Dalek.Model.Contracts.Avx2Field.pre_split

theorem split_norm_ok : Prog.norm Dalek.Gen.Avx2Field.split Dalek.Model.Contracts.Avx2Field.pre_split = some (split_nprog, split_post) :=
  Prog.norm_eq_of_post (by decide +kernel)

def split_fn (x0 x1 x2 x3 x4 x5 x6 x7 x8 x9 x10 x11 x12 x13 x14 x15 x16 x17 x18 x19 x20 x21 x22 x23 x24 x25 x26 x27 x28 x29 x30 x31 x32 x33 x34 x35 x36 x37 x38 x39 : Int) : List Int :=
  let x40 : Int := x0
  let x41 : Int := x1
  let x42 : Int := x2
  let x43 : Int := x3
  let x44 : Int := x4
  let x45 : Int := x5
  let x46 : Int := x6
  let x47 : Int := x7
  let x48 : Int := (x40 + (x42 * (67108864 : Int)))
  let x49 : Int := (x41 + (x43 * (67108864 : Int)))
  let x50 : Int := (x44 + (x46 * (67108864 : Int)))
  let x51 : Int := (x45 + (x47 * (67108864 : Int)))
  let x52 : Int := x8
  let x53 : Int := x9
  let x54 : Int := x10
  let x55 : Int := x11
  let x56 : Int := x12
  let x57 : Int := x13
  let x58 : Int := x14
  let x59 : Int := x15
  let x60 : Int := (x52 + (x54 * (67108864 : Int)))
  let x61 : Int := (x53 + (x55 * (67108864 : Int)))
  let x62 : Int := (x56 + (x58 * (67108864 : Int)))
  let x63 : Int := (x57 + (x59 * (67108864 : Int)))
  let x64 : Int := x16
  let x65 : Int := x17
  let x66 : Int := x18
  let x67 : Int := x19
  let x68 : Int := x20
  let x69 : Int := x21
  let x70 : Int := x22
  let x71 : Int := x23
  let x72 : Int := (x64 + (x66 * (67108864 : Int)))
  let x73 : Int := (x65 + (x67 * (67108864 : Int)))
  let x74 : Int := (x68 + (x70 * (67108864 : Int)))
  let x75 : Int := (x69 + (x71 * (67108864 : Int)))
  let x76 : Int := x24
  let x77 : Int := x25
  let x78 : Int := x26
  let x79 : Int := x27
  let x80 : Int := x28
  let x81 : Int := x29
  let x82 : Int := x30
  let x83 : Int := x31
  let x84 : Int := (x76 + (x78 * (67108864 : Int)))
  let x85 : Int := (x77 + (x79 * (67108864 : Int)))
  let x86 : Int := (x80 + (x82 * (67108864 : Int)))
  let x87 : Int := (x81 + (x83 * (67108864 : Int)))
  let x88 : Int := x32
  let x89 : Int := x33
  let x90 : Int := x34
  let x91 : Int := x35
  let x92 : Int := x36
  let x93 : Int := x37
  let x94 : Int := x38
  let x95 : Int := x39
  let x96 : Int := (x88 + (x90 * (67108864 : Int)))
  let x97 : Int := (x89 + (x91 * (67108864 : Int)))
  let x98 : Int := (x92 + (x94 * (67108864 : Int)))
  let x99 : Int := (x93 + (x95 * (67108864 : Int)))
  [x48, x60, x72, x84, x96, x49, x61, x73, x85, x97, x50, x62, x74, x86, x98, x51, x63, x75, x87, x99]

theorem split_fn_ok (x0 x1 x2 x3 x4 x5 x6 x7 x8 x9 x10 x11 x12 x13 x14 x15 x16 x17 x18 x19 x20 x21 x22 x23 x24 x25 x26 x27 x28 x29 x30 x31 x32 x33 x34 x35 x36 x37 x38 x39 : Int) : NProg.evalZ split_nprog [x0, x1, x2, x3, x4, x5, x6, x7, x8, x9, x10, x11, x12, x13, x14, x15, x16, x17, x18, x19, x20, x21, x22, x23, x24, x25, x26, x27, x28, x29, x30, x31, x32, x33, x34, x35, x36, x37, x38, x39] = split_fn x0 x1 x2 x3 x4 x5 x6 x7 x8 x9 x10 x11 x12 x13 x14 x15 x16 x17 x18 x19 x20 x21 x22 x23 x24 x25 x26 x27 x28 x29 x30 x31 x32 x33 x34 x35 x36 x37 x38 x39 :=
  (NProg.evalZ_eq_fast _ _).trans (by kernel_rfl)

def negate_lazy_post : List Itv := [⟨134181, 134217690, 0⟩, ⟨134181, 134217690, 0⟩, ⟨67108, 67108862, 0⟩, ⟨67108, 67108862, 0⟩, ⟨134181, 134217690, 0⟩, ⟨134181, 134217690, 0⟩, ⟨67108, 67108862, 0⟩, ⟨67108, 67108862, 0⟩, ⟨134217, 134217726, 0⟩, ⟨134217, 134217726, 0⟩, ⟨67108, 67108862, 0⟩, ⟨67108, 67108862, 0⟩, ⟨134217, 134217726, 0⟩, ⟨134217, 134217726, 0⟩, ⟨67108, 67108862, 0⟩, ⟨67108, 67108862, 0⟩, ⟨134217, 134217726, 0⟩, ⟨134217, 134217726, 0⟩, ⟨67108, 67108862, 0⟩, ⟨67108, 67108862, 0⟩, ⟨134217, 134217726, 0⟩, ⟨134217, 134217726, 0⟩, ⟨67108, 67108862, 0⟩, ⟨67108, 67108862, 0⟩, ⟨134217, 134217726, 0⟩, ⟨134217, 134217726, 0⟩, ⟨67108, 67108862, 0⟩, ⟨67108, 67108862, 0⟩, ⟨134217, 134217726, 0⟩, ⟨134217, 134217726, 0⟩, ⟨67108, 67108862, 0⟩, ⟨67108, 67108862, 0⟩, ⟨134217, 134217726, 0⟩, ⟨134217, 134217726, 0⟩, ⟨67108, 67108862, 0⟩, ⟨67108, 67108862, 0⟩, ⟨134217, 134217726, 0⟩, ⟨134217, 134217726, 0⟩, ⟨67108, 67108862, 0⟩, ⟨67108, 67108862, 0⟩]

def negate_lazy_nprog : NProg := Prog.normProg Dalek.Gen.Avx2Field.negate_lazy Dalek.Model.Contracts.Avx2Field.pre_negate_lazy

theorem negate_lazy_norm_ok : Prog.norm Dalek.Gen.Avx2Field.negate_lazy Dalek.Model.Contracts.Avx2Field.pre_negate_lazy = some (negate_lazy_nprog, negate_lazy_post) :=
  Prog.norm_eq_of_post (by decide +kernel)

def negate_lazy_fn (x0 x1 x2 x3 x4 x5 x6 x7 x8 x9 x10 x11 x12 x13 x14 x15 x16 x17 x18 x19 x20 x21 x22 x23 x24 x25 x26 x27 x28 x29 x30 x31 x32 x33 x34 x35 x36 x37 x38 x39 : Int) : List Int :=
  let x40 : Int := ((134217690 : Int) - x0)
  let x41 : Int := ((134217690 : Int) - x1)
  let x42 : Int := ((67108862 : Int) - x2)
  let x43 : Int := ((67108862 : Int) - x3)
  let x44 : Int := ((134217690 : Int) - x4)
  let x45 : Int := ((134217690 : Int) - x5)
  let x46 : Int := ((67108862 : Int) - x6)
  let x47 : Int := ((67108862 : Int) - x7)
  let x48 : Int := ((134217726 : Int) - x8)
  let x49 : Int := ((134217726 : Int) - x9)
  let x50 : Int := ((67108862 : Int) - x10)
  let x51 : Int := ((67108862 : Int) - x11)
  let x52 : Int := ((134217726 : Int) - x12)
  let x53 : Int := ((134217726 : Int) - x13)
  let x54 : Int := ((67108862 : Int) - x14)
  let x55 : Int := ((67108862 : Int) - x15)
  let x56 : Int := ((134217726 : Int) - x16)
  let x57 : Int := ((134217726 : Int) - x17)
  let x58 : Int := ((67108862 : Int) - x18)
  let x59 : Int := ((67108862 : Int) - x19)
  let x60 : Int := ((134217726 : Int) - x20)
  let x61 : Int := ((134217726 : Int) - x21)
  let x62 : Int := ((67108862 : Int) - x22)
  let x63 : Int := ((67108862 : Int) - x23)
  let x64 : Int := ((134217726 : Int) - x24)
  let x65 : Int := ((134217726 : Int) - x25)
  let x66 : Int := ((67108862 : Int) - x26)
  let x67 : Int := ((67108862 : Int) - x27)
  let x68 : Int := ((134217726 : Int) - x28)
  let x69 : Int := ((134217726 : Int) - x29)
  let x70 : Int := ((67108862 : Int) - x30)
  let x71 : Int := ((67108862 : Int) - x31)
  let x72 : Int := ((134217726 : Int) - x32)
  let x73 : Int := ((134217726 : Int) - x33)
  let x74 : Int := ((67108862 : Int) - x34)
  let x75 : Int := ((67108862 : Int) - x35)
  let x76 : Int := ((134217726 : Int) - x36)
  let x77 : Int := ((134217726 : Int) - x37)
  let x78 : Int := ((67108862 : Int) - x38)
  let x79 : Int := ((67108862 : Int) - x39)
  [x40, x41, x42, x43, x44, x45, x46, x47, x48, x49, x50, x51, x52, x53, x54, x55, x56, x57, x58, x59, x60, x61, x62, x63, x64, x65, x66, x67, x68, x69, x70, x71, x72, x73, x74, x75, x76, x77, x78, x79]

theorem negate_lazy_fn_ok (x0 x1 x2 x3 x4 x5 x6 x7 x8 x9 x10 x11 x12 x13 x14 x15 x16 x17 x18 x19 x20 x21 x22 x23 x24 x25 x26 x27 x28 x29 x30 x31 x32 x33 x34 x35 x36 x37 x38 x39 : Int) : NProg.evalZ negate_lazy_nprog [x0, x1, x2, x3, x4, x5, x6, x7, x8, x9, x10, x11, x12, x13, x14, x15, x16, x17, x18, x19, x20, x21, x22, x23, x24, x25, x26, x27, x28, x29, x30, x31, x32, x33, x34, x35, x36, x37, x38, x39] = negate_lazy_fn x0 x1 x2 x3 x4 x5 x6 x7 x8 x9 x10 x11 x12 x13 x14 x15 x16 x17 x18 x19 x20 x21 x22 x23 x24 x25 x26 x27 x28 x29 x30 x31 x32 x33 x34 x35 x36 x37 x38 x39 :=
  (NProg.evalZ_eq_fast _ _).trans (by kernel_rfl)

def diff_sum_post : List Itv := [⟨66645776, 201789604, 0⟩, ⟨0, 135143828, 0⟩, ⟨33322906, 100894818, 0⟩, ⟨0, 67571912, 0⟩, ⟨66645776, 201789604, 0⟩, ⟨0, 135143828, 0⟩, ⟨33322906, 100894818, 0⟩, ⟨0, 67571912, 0⟩, ⟨66645812, 201789640, 0⟩, ⟨0, 135143828, 0⟩, ⟨33322906, 100894818, 0⟩, ⟨0, 67571912, 0⟩, ⟨66645812, 201789640, 0⟩, ⟨0, 135143828, 0⟩, ⟨33322906, 100894818, 0⟩, ⟨0, 67571912, 0⟩, ⟨66645812, 201789640, 0⟩, ⟨0, 135143828, 0⟩, ⟨33322906, 100894818, 0⟩, ⟨0, 67571912, 0⟩, ⟨66645812, 201789640, 0⟩, ⟨0, 135143828, 0⟩, ⟨33322906, 100894818, 0⟩, ⟨0, 67571912, 0⟩, ⟨66645812, 201789640, 0⟩, ⟨0, 135143828, 0⟩, ⟨33322906, 100894818, 0⟩, ⟨0, 67571912, 0⟩, ⟨66645812, 201789640, 0⟩, ⟨0, 135143828, 0⟩, ⟨33322906, 100894818, 0⟩, ⟨0, 67571912, 0⟩, ⟨66645812, 201789640, 0⟩, ⟨0, 135143828, 0⟩, ⟨33322906, 100894818, 0⟩, ⟨0, 67571912, 0⟩, ⟨66645812, 201789640, 0⟩, ⟨0, 135143828, 0⟩, ⟨33322906, 100894818, 0⟩, ⟨0, 67571912, 0⟩]

def diff_sum_nprog : NProg := Prog.normProg Dalek.Gen.Avx2Field.diff_sum Dalek.Model.Contracts.Avx2Field.pre_diff_sum

theorem diff_sum_norm_ok : Prog.norm Dalek.Gen.Avx2Field.diff_sum Dalek.Model.Contracts.Avx2Field.pre_diff_sum = some (diff_sum_nprog, diff_sum_post) :=
  Prog.norm_eq_of_post (by decide +kernel)

def diff_sum_fn (x0 x1 x2 x3 x4 x5 x6 x7 x8 x9 x10 x11 x12 x13 x14 x15 x16 x17 x18 x19 x20 x21 x22 x23 x24 x25 x26 x27 x28 x29 x30 x31 x32 x33 x34 x35 x36 x37 x38 x39 : Int) : List Int :=
  let x40 : Int := ((134217690 : Int) - x0)
  let x41 : Int := ((134217690 : Int) - x1)
  let x42 : Int := ((67108862 : Int) - x2)
  let x43 : Int := ((67108862 : Int) - x3)
  let x44 : Int := ((134217690 : Int) - x4)
  let x45 : Int := ((134217690 : Int) - x5)
  let x46 : Int := ((67108862 : Int) - x6)
  let x47 : Int := ((67108862 : Int) - x7)
  let x48 : Int := ((134217726 : Int) - x8)
  let x49 : Int := ((134217726 : Int) - x9)
  let x50 : Int := ((67108862 : Int) - x10)
  let x51 : Int := ((67108862 : Int) - x11)
  let x52 : Int := ((134217726 : Int) - x12)
  let x53 : Int := ((134217726 : Int) - x13)
  let x54 : Int := ((67108862 : Int) - x14)
  let x55 : Int := ((67108862 : Int) - x15)
  let x56 : Int := ((134217726 : Int) - x16)
  let x57 : Int := ((134217726 : Int) - x17)
  let x58 : Int := ((67108862 : Int) - x18)
  let x59 : Int := ((67108862 : Int) - x19)
  let x60 : Int := ((134217726 : Int) - x20)
  let x61 : Int := ((134217726 : Int) - x21)
  let x62 : Int := ((67108862 : Int) - x22)
  let x63 : Int := ((67108862 : Int) - x23)
  let x64 : Int := ((134217726 : Int) - x24)
  let x65 : Int := ((134217726 : Int) - x25)
  let x66 : Int := ((67108862 : Int) - x26)
  let x67 : Int := ((67108862 : Int) - x27)
  let x68 : Int := ((134217726 : Int) - x28)
  let x69 : Int := ((134217726 : Int) - x29)
  let x70 : Int := ((67108862 : Int) - x30)
  let x71 : Int := ((67108862 : Int) - x31)
  let x72 : Int := ((134217726 : Int) - x32)
  let x73 : Int := ((134217726 : Int) - x33)
  let x74 : Int := ((67108862 : Int) - x34)
  let x75 : Int := ((67108862 : Int) - x35)
  let x76 : Int := ((134217726 : Int) - x36)
  let x77 : Int := ((134217726 : Int) - x37)
  let x78 : Int := ((67108862 : Int) - x38)
  let x79 : Int := ((67108862 : Int) - x39)
  let x80 : Int := (x1 + x40)
  let x81 : Int := (x0 + x1)
  let x82 : Int := (x3 + x42)
  let x83 : Int := (x2 + x3)
  let x84 : Int := (x5 + x44)
  let x85 : Int := (x4 + x5)
  let x86 : Int := (x7 + x46)
  let x87 : Int := (x6 + x7)
  let x88 : Int := (x9 + x48)
  let x89 : Int := (x8 + x9)
  let x90 : Int := (x11 + x50)
  let x91 : Int := (x10 + x11)
  let x92 : Int := (x13 + x52)
  let x93 : Int := (x12 + x13)
  let x94 : Int := (x15 + x54)
  let x95 : Int := (x14 + x15)
  let x96 : Int := (x17 + x56)
  let x97 : Int := (x16 + x17)
  let x98 : Int := (x19 + x58)
  let x99 : Int := (x18 + x19)
  let x100 : Int := (x21 + x60)
  let x101 : Int := (x20 + x21)
  let x102 : Int := (x23 + x62)
  let x103 : Int := (x22 + x23)
  let x104 : Int := (x25 + x64)
  let x105 : Int := (x24 + x25)
  let x106 : Int := (x27 + x66)
  let x107 : Int := (x26 + x27)
  let x108 : Int := (x29 + x68)
  let x109 : Int := (x28 + x29)
  let x110 : Int := (x31 + x70)
  let x111 : Int := (x30 + x31)
  let x112 : Int := (x33 + x72)
  let x113 : Int := (x32 + x33)
  let x114 : Int := (x35 + x74)
  let x115 : Int := (x34 + x35)
  let x116 : Int := (x37 + x76)
  let x117 : Int := (x36 + x37)
  let x118 : Int := (x39 + x78)
  let x119 : Int := (x38 + x39)
  [x80, x81, x82, x83, x84, x85, x86, x87, x88, x89, x90, x91, x92, x93, x94, x95, x96, x97, x98, x99, x100, x101, x102, x103, x104, x105, x106, x107, x108, x109, x110, x111, x112, x113, x114, x115, x116, x117, x118, x119]

theorem diff_sum_fn_ok (x0 x1 x2 x3 x4 x5 x6 x7 x8 x9 x10 x11 x12 x13 x14 x15 x16 x17 x18 x19 x20 x21 x22 x23 x24 x25 x26 x27 x28 x29 x30 x31 x32 x33 x34 x35 x36 x37 x38 x39 : Int) : NProg.evalZ diff_sum_nprog [x0, x1, x2, x3, x4, x5, x6, x7, x8, x9, x10, x11, x12, x13, x14, x15, x16, x17, x18, x19, x20, x21, x22, x23, x24, x25, x26, x27, x28, x29, x30, x31, x32, x33, x34, x35, x36, x37, x38, x39] = diff_sum_fn x0 x1 x2 x3 x4 x5 x6 x7 x8 x9 x10 x11 x12 x13 x14 x15 x16 x17 x18 x19 x20 x21 x22 x23 x24 x25 x26 x27 x28 x29 x30 x31 x32 x33 x34 x35 x36 x37 x38 x39 :=
  (NProg.evalZ_eq_fast _ _).trans (by kernel_rfl)

def reduce_post : List Itv := [⟨0, 67111276, 0⟩, ⟨0, 67111276, 0⟩, ⟨0, 33554494, 0⟩, ⟨0, 33554494, 0⟩, ⟨0, 67111276, 0⟩, ⟨0, 67111276, 0⟩, ⟨0, 33554494, 0⟩, ⟨0, 33554494, 0⟩, ⟨0, 67108990, 0⟩, ⟨0, 67108990, 0⟩, ⟨0, 33554494, 0⟩, ⟨0, 33554494, 0⟩, ⟨0, 67108990, 0⟩, ⟨0, 67108990, 0⟩, ⟨0, 33554494, 0⟩, ⟨0, 33554494, 0⟩, ⟨0, 67108990, 0⟩, ⟨0, 67108990, 0⟩, ⟨0, 33554494, 0⟩, ⟨0, 33554494, 0⟩, ⟨0, 67108990, 0⟩, ⟨0, 67108990, 0⟩, ⟨0, 33554494, 0⟩, ⟨0, 33554494, 0⟩, ⟨0, 67108990, 0⟩, ⟨0, 67108990, 0⟩, ⟨0, 33554494, 0⟩, ⟨0, 33554494, 0⟩, ⟨0, 67108990, 0⟩, ⟨0, 67108990, 0⟩, ⟨0, 33554494, 0⟩, ⟨0, 33554494, 0⟩, ⟨0, 67108990, 0⟩, ⟨0, 67108990, 0⟩, ⟨0, 33554494, 0⟩, ⟨0, 33554494, 0⟩, ⟨0, 67108990, 0⟩, ⟨0, 67108990, 0⟩, ⟨0, 33554494, 0⟩, ⟨0, 33554494, 0⟩]

def reduce_nprog : NProg := Prog.normProg Dalek.Gen.Avx2Field.reduce Dalek.Model.Contracts.Avx2Field.pre_reduce

theorem reduce_norm_ok : Prog.norm Dalek.Gen.Avx2Field.reduce Dalek.Model.Contracts.Avx2Field.pre_reduce = some (reduce_nprog, reduce_post) :=
  Prog.norm_eq_of_post (by decide +kernel)

def reduce_fn (x0 x1 x2 x3 x4 x5 x6 x7 x8 x9 x10 x11 x12 x13 x14 x15 x16 x17 x18 x19 x20 x21 x22 x23 x24 x25 x26 x27 x28 x29 x30 x31 x32 x33 x34 x35 x36 x37 x38 x39 : Int) : List Int :=
  let x40 : Int := (x0 / 2 ^ (26 : Nat))
  let x41 : Int := (x1 / 2 ^ (26 : Nat))
  let x42 : Int := (x2 / 2 ^ (25 : Nat))
  let x43 : Int := (x3 / 2 ^ (25 : Nat))
  let x44 : Int := (x4 / 2 ^ (26 : Nat))
  let x45 : Int := (x5 / 2 ^ (26 : Nat))
  let x46 : Int := (x6 / 2 ^ (25 : Nat))
  let x47 : Int := (x7 / 2 ^ (25 : Nat))
  let x48 : Int := ((x0 % 2 ^ (26 : Nat)) + (0 : Int))
  let x49 : Int := ((x1 % 2 ^ (26 : Nat)) + (0 : Int))
  let x50 : Int := ((x2 % 2 ^ (25 : Nat)) + x40)
  let x51 : Int := ((x3 % 2 ^ (25 : Nat)) + x41)
  let x52 : Int := ((x4 % 2 ^ (26 : Nat)) + (0 : Int))
  let x53 : Int := ((x5 % 2 ^ (26 : Nat)) + (0 : Int))
  let x54 : Int := ((x6 % 2 ^ (25 : Nat)) + x44)
  let x55 : Int := ((x7 % 2 ^ (25 : Nat)) + x45)
  let x56 : Int := (x8 / 2 ^ (26 : Nat))
  let x57 : Int := (x9 / 2 ^ (26 : Nat))
  let x58 : Int := (x10 / 2 ^ (25 : Nat))
  let x59 : Int := (x11 / 2 ^ (25 : Nat))
  let x60 : Int := (x12 / 2 ^ (26 : Nat))
  let x61 : Int := (x13 / 2 ^ (26 : Nat))
  let x62 : Int := (x14 / 2 ^ (25 : Nat))
  let x63 : Int := (x15 / 2 ^ (25 : Nat))
  let x64 : Int := ((x8 % 2 ^ (26 : Nat)) + x42)
  let x65 : Int := ((x9 % 2 ^ (26 : Nat)) + x43)
  let x66 : Int := ((x10 % 2 ^ (25 : Nat)) + x56)
  let x67 : Int := ((x11 % 2 ^ (25 : Nat)) + x57)
  let x68 : Int := ((x12 % 2 ^ (26 : Nat)) + x46)
  let x69 : Int := ((x13 % 2 ^ (26 : Nat)) + x47)
  let x70 : Int := ((x14 % 2 ^ (25 : Nat)) + x60)
  let x71 : Int := ((x15 % 2 ^ (25 : Nat)) + x61)
  let x72 : Int := (x16 / 2 ^ (26 : Nat))
  let x73 : Int := (x17 / 2 ^ (26 : Nat))
  let x74 : Int := (x18 / 2 ^ (25 : Nat))
  let x75 : Int := (x19 / 2 ^ (25 : Nat))
  let x76 : Int := (x20 / 2 ^ (26 : Nat))
  let x77 : Int := (x21 / 2 ^ (26 : Nat))
  let x78 : Int := (x22 / 2 ^ (25 : Nat))
  let x79 : Int := (x23 / 2 ^ (25 : Nat))
  let x80 : Int := ((x16 % 2 ^ (26 : Nat)) + x58)
  let x81 : Int := ((x17 % 2 ^ (26 : Nat)) + x59)
  let x82 : Int := ((x18 % 2 ^ (25 : Nat)) + x72)
  let x83 : Int := ((x19 % 2 ^ (25 : Nat)) + x73)
  let x84 : Int := ((x20 % 2 ^ (26 : Nat)) + x62)
  let x85 : Int := ((x21 % 2 ^ (26 : Nat)) + x63)
  let x86 : Int := ((x22 % 2 ^ (25 : Nat)) + x76)
  let x87 : Int := ((x23 % 2 ^ (25 : Nat)) + x77)
  let x88 : Int := (x24 / 2 ^ (26 : Nat))
  let x89 : Int := (x25 / 2 ^ (26 : Nat))
  let x90 : Int := (x26 / 2 ^ (25 : Nat))
  let x91 : Int := (x27 / 2 ^ (25 : Nat))
  let x92 : Int := (x28 / 2 ^ (26 : Nat))
  let x93 : Int := (x29 / 2 ^ (26 : Nat))
  let x94 : Int := (x30 / 2 ^ (25 : Nat))
  let x95 : Int := (x31 / 2 ^ (25 : Nat))
  let x96 : Int := ((x24 % 2 ^ (26 : Nat)) + x74)
  let x97 : Int := ((x25 % 2 ^ (26 : Nat)) + x75)
  let x98 : Int := ((x26 % 2 ^ (25 : Nat)) + x88)
  let x99 : Int := ((x27 % 2 ^ (25 : Nat)) + x89)
  let x100 : Int := ((x28 % 2 ^ (26 : Nat)) + x78)
  let x101 : Int := ((x29 % 2 ^ (26 : Nat)) + x79)
  let x102 : Int := ((x30 % 2 ^ (25 : Nat)) + x92)
  let x103 : Int := ((x31 % 2 ^ (25 : Nat)) + x93)
  let x104 : Int := (x32 / 2 ^ (26 : Nat))
  let x105 : Int := (x33 / 2 ^ (26 : Nat))
  let x106 : Int := (x34 / 2 ^ (25 : Nat))
  let x107 : Int := (x35 / 2 ^ (25 : Nat))
  let x108 : Int := (x36 / 2 ^ (26 : Nat))
  let x109 : Int := (x37 / 2 ^ (26 : Nat))
  let x110 : Int := (x38 / 2 ^ (25 : Nat))
  let x111 : Int := (x39 / 2 ^ (25 : Nat))
  let x112 : Int := ((x32 % 2 ^ (26 : Nat)) + x90)
  let x113 : Int := ((x33 % 2 ^ (26 : Nat)) + x91)
  let x114 : Int := ((x34 % 2 ^ (25 : Nat)) + x104)
  let x115 : Int := ((x35 % 2 ^ (25 : Nat)) + x105)
  let x116 : Int := ((x36 % 2 ^ (26 : Nat)) + x94)
  let x117 : Int := ((x37 % 2 ^ (26 : Nat)) + x95)
  let x118 : Int := ((x38 % 2 ^ (25 : Nat)) + x108)
  let x119 : Int := ((x39 % 2 ^ (25 : Nat)) + x109)
  let x120 : Int := (x106 * (19 : Int))
  let x121 : Int := (x107 * (19 : Int))
  let x122 : Int := (x110 * (19 : Int))
  let x123 : Int := (x111 * (19 : Int))
  let x124 : Int := (x48 + x120)
  let x125 : Int := (x49 + x121)
  let x126 : Int := (x50 + (x120 / 2 ^ (32 : Nat)))
  let x127 : Int := (x51 + (x121 / 2 ^ (32 : Nat)))
  let x128 : Int := (x52 + x122)
  let x129 : Int := (x53 + x123)
  let x130 : Int := (x54 + (x122 / 2 ^ (32 : Nat)))
  let x131 : Int := (x55 + (x123 / 2 ^ (32 : Nat)))
  [x124, x125, x126, x127, x128, x129, x130, x131, x64, x65, x66, x67, x68, x69, x70, x71, x80, x81, x82, x83, x84, x85, x86, x87, x96, x97, x98, x99, x100, x101, x102, x103, x112, x113, x114, x115, x116, x117, x118, x119]

theorem reduce_fn_ok (x0 x1 x2 x3 x4 x5 x6 x7 x8 x9 x10 x11 x12 x13 x14 x15 x16 x17 x18 x19 x20 x21 x22 x23 x24 x25 x26 x27 x28 x29 x30 x31 x32 x33 x34 x35 x36 x37 x38 x39 : Int) : NProg.evalZ reduce_nprog [x0, x1, x2, x3, x4, x5, x6, x7, x8, x9, x10, x11, x12, x13, x14, x15, x16, x17, x18, x19, x20, x21, x22, x23, x24, x25, x26, x27, x28, x29, x30, x31, x32, x33, x34, x35, x36, x37, x38, x39] = reduce_fn x0 x1 x2 x3 x4 x5 x6 x7 x8 x9 x10 x11 x12 x13 x14 x15 x16 x17 x18 x19 x20 x21 x22 x23 x24 x25 x26 x27 x28 x29 x30 x31 x32 x33 x34 x35 x36 x37 x38 x39 :=
  (NProg.evalZ_eq_fast _ _).trans (by kernel_rfl)

def neg_post : List Itv := [⟨0, 67109148, 0⟩, ⟨0, 67109148, 0⟩, ⟨0, 33554446, 0⟩, ⟨0, 33554446, 0⟩, ⟨0, 67109148, 0⟩, ⟨0, 67109148, 0⟩, ⟨0, 33554446, 0⟩, ⟨0, 33554446, 0⟩, ⟨0, 67108878, 0⟩, ⟨0, 67108878, 0⟩, ⟨0, 33554446, 0⟩, ⟨0, 33554446, 0⟩, ⟨0, 67108878, 0⟩, ⟨0, 67108878, 0⟩, ⟨0, 33554446, 0⟩, ⟨0, 33554446, 0⟩, ⟨0, 67108878, 0⟩, ⟨0, 67108878, 0⟩, ⟨0, 33554446, 0⟩, ⟨0, 33554446, 0⟩, ⟨0, 67108878, 0⟩, ⟨0, 67108878, 0⟩, ⟨0, 33554446, 0⟩, ⟨0, 33554446, 0⟩, ⟨0, 67108878, 0⟩, ⟨0, 67108878, 0⟩, ⟨0, 33554446, 0⟩, ⟨0, 33554446, 0⟩, ⟨0, 67108878, 0⟩, ⟨0, 67108878, 0⟩, ⟨0, 33554446, 0⟩, ⟨0, 33554446, 0⟩, ⟨0, 67108878, 0⟩, ⟨0, 67108878, 0⟩, ⟨0, 33554446, 0⟩, ⟨0, 33554446, 0⟩, ⟨0, 67108878, 0⟩, ⟨0, 67108878, 0⟩, ⟨0, 33554446, 0⟩, ⟨0, 33554446, 0⟩]

def neg_nprog : NProg :=
  ⟨40,
   [(.sub (.c 1073741520) (.v 0)),
    (.sub (.c 1073741520) (.v 1)),
    (.sub (.c 536870896) (.v 2)),
    (.sub (.c 536870896) (.v 3)),
    (.sub (.c 1073741520) (.v 4)),
    (.sub (.c 1073741520) (.v 5)),
    (.sub (.c 536870896) (.v 6)),
    (.sub (.c 536870896) (.v 7)),
    (.sub (.c 1073741808) (.v 8)),
    (.sub (.c 1073741808) (.v 9)),
    (.sub (.c 536870896) (.v 10)),
    (.sub (.c 536870896) (.v 11)),
    (.sub (.c 1073741808) (.v 12)),
    (.sub (.c 1073741808) (.v 13)),
    (.sub (.c 536870896) (.v 14)),
    (.sub (.c 536870896) (.v 15)),
    (.sub (.c 1073741808) (.v 16)),
    (.sub (.c 1073741808) (.v 17)),
    (.sub (.c 536870896) (.v 18)),
    (.sub (.c 536870896) (.v 19)),
    (.sub (.c 1073741808) (.v 20)),
    (.sub (.c 1073741808) (.v 21)),
    (.sub (.c 536870896) (.v 22)),
    (.sub (.c 536870896) (.v 23)),
    (.sub (.c 1073741808) (.v 24)),
    (.sub (.c 1073741808) (.v 25)),
    (.sub (.c 536870896) (.v 26)),
    (.sub (.c 536870896) (.v 27)),
    (.sub (.c 1073741808) (.v 28)),
    (.sub (.c 1073741808) (.v 29)),
    (.sub (.c 536870896) (.v 30)),
    (.sub (.c 536870896) (.v 31)),
    (.sub (.c 1073741808) (.v 32)),
    (.sub (.c 1073741808) (.v 33)),
    (.sub (.c 536870896) (.v 34)),
    (.sub (.c 536870896) (.v 35)),
    (.sub (.c 1073741808) (.v 36)),
    (.sub (.c 1073741808) (.v 37)),
    (.sub (.c 536870896) (.v 38)),
    (.sub (.c 536870896) (.v 39)),
    (.div2 (.v 40) 26),
    (.div2 (.v 41) 26),
    (.div2 (.v 42) 25),
    (.div2 (.v 43) 25),
    (.div2 (.v 44) 26),
    (.div2 (.v 45) 26),
    (.div2 (.v 46) 25),
    (.div2 (.v 47) 25),
    (.add (.mod2 (.v 40) 26) (.c 0)),
    (.add (.mod2 (.v 41) 26) (.c 0)),
    (.add (.mod2 (.v 42) 25) (.v 80)),
    (.add (.mod2 (.v 43) 25) (.v 81)),
    (.add (.mod2 (.v 44) 26) (.c 0)),
    (.add (.mod2 (.v 45) 26) (.c 0)),
    (.add (.mod2 (.v 46) 25) (.v 84)),
    (.add (.mod2 (.v 47) 25) (.v 85)),
    (.div2 (.v 48) 26),
    (.div2 (.v 49) 26),
    (.div2 (.v 50) 25),
    (.div2 (.v 51) 25),
    (.div2 (.v 52) 26),
    (.div2 (.v 53) 26),
    (.div2 (.v 54) 25),
    (.div2 (.v 55) 25),
    (.add (.mod2 (.v 48) 26) (.v 82)),
    (.add (.mod2 (.v 49) 26) (.v 83)),
    (.add (.mod2 (.v 50) 25) (.v 96)),
    (.add (.mod2 (.v 51) 25) (.v 97)),
    (.add (.mod2 (.v 52) 26) (.v 86)),
    (.add (.mod2 (.v 53) 26) (.v 87)),
    (.add (.mod2 (.v 54) 25) (.v 100)),
    (.add (.mod2 (.v 55) 25) (.v 101)),
    (.div2 (.v 56) 26),
    (.div2 (.v 57) 26),
    (.div2 (.v 58) 25),
    (.div2 (.v 59) 25),
    (.div2 (.v 60) 26),
    (.div2 (.v 61) 26),
    (.div2 (.v 62) 25),
    (.div2 (.v 63) 25),
    (.add (.mod2 (.v 56) 26) (.v 98)),
    (.add (.mod2 (.v 57) 26) (.v 99)),
    (.add (.mod2 (.v 58) 25) (.v 112)),
    (.add (.mod2 (.v 59) 25) (.v 113)),
    (.add (.mod2 (.v 60) 26) (.v 102)),
    (.add (.mod2 (.v 61) 26) (.v 103)),
    (.add (.mod2 (.v 62) 25) (.v 116)),
    (.add (.mod2 (.v 63) 25) (.v 117)),
    (.div2 (.v 64) 26),
    (.div2 (.v 65) 26),
    (.div2 (.v 66) 25),
    (.div2 (.v 67) 25),
    (.div2 (.v 68) 26),
    (.div2 (.v 69) 26),
    (.div2 (.v 70) 25),
    (.div2 (.v 71) 25),
    (.add (.mod2 (.v 64) 26) (.v 114)),
    (.add (.mod2 (.v 65) 26) (.v 115)),
    (.add (.mod2 (.v 66) 25) (.v 128)),
    (.add (.mod2 (.v 67) 25) (.v 129)),
    (.add (.mod2 (.v 68) 26) (.v 118)),
    (.add (.mod2 (.v 69) 26) (.v 119)),
    (.add (.mod2 (.v 70) 25) (.v 132)),
    (.add (.mod2 (.v 71) 25) (.v 133)),
    (.div2 (.v 72) 26),
    (.div2 (.v 73) 26),
    (.div2 (.v 74) 25),
    (.div2 (.v 75) 25),
    (.div2 (.v 76) 26),
    (.div2 (.v 77) 26),
    (.div2 (.v 78) 25),
    (.div2 (.v 79) 25),
    (.add (.mod2 (.v 72) 26) (.v 130)),
    (.add (.mod2 (.v 73) 26) (.v 131)),
    (.add (.mod2 (.v 74) 25) (.v 144)),
    (.add (.mod2 (.v 75) 25) (.v 145)),
    (.add (.mod2 (.v 76) 26) (.v 134)),
    (.add (.mod2 (.v 77) 26) (.v 135)),
    (.add (.mod2 (.v 78) 25) (.v 148)),
    (.add (.mod2 (.v 79) 25) (.v 149)),
    (.mul (.v 146) (.c 19)),
    (.mul (.v 147) (.c 19)),
    (.mul (.v 150) (.c 19)),
    (.mul (.v 151) (.c 19)),
    (.add (.v 88) (.v 160)),
    (.add (.v 89) (.v 161)),
    (.add (.v 90) (.div2 (.v 160) 32)),
    (.add (.v 91) (.div2 (.v 161) 32)),
    (.add (.v 92) (.v 162)),
    (.add (.v 93) (.v 163)),
    (.add (.v 94) (.div2 (.v 162) 32)),
    (.add (.v 95) (.div2 (.v 163) 32))],
   [164, 165, 166, 167, 168, 169, 170, 171, 104, 105, 106, 107, 108, 109, 110, 111, 120, 121, 122, 123, 124, 125, 126, 127, 136, 137, 138, 139, 140, 141, 142, 143, 152, 153, 154, 155, 156, 157, 158, 159]⟩

theorem neg_norm_ok : Prog.norm Dalek.Gen.Avx2Field.neg Dalek.Model.Contracts.Avx2Field.pre_neg = some (neg_nprog, neg_post) :=
  (Prog.normFast_eq _ _).symm.trans (by decide +kernel)

def neg_fn (x0 x1 x2 x3 x4 x5 x6 x7 x8 x9 x10 x11 x12 x13 x14 x15 x16 x17 x18 x19 x20 x21 x22 x23 x24 x25 x26 x27 x28 x29 x30 x31 x32 x33 x34 x35 x36 x37 x38 x39 : Int) : List Int :=
  let x40 : Int := ((1073741520 : Int) - x0)
  let x41 : Int := ((1073741520 : Int) - x1)
  let x42 : Int := ((536870896 : Int) - x2)
  let x43 : Int := ((536870896 : Int) - x3)
  let x44 : Int := ((1073741520 : Int) - x4)
  let x45 : Int := ((1073741520 : Int) - x5)
  let x46 : Int := ((536870896 : Int) - x6)
  let x47 : Int := ((536870896 : Int) - x7)
  let x48 : Int := ((1073741808 : Int) - x8)
  let x49 : Int := ((1073741808 : Int) - x9)
  let x50 : Int := ((536870896 : Int) - x10)
  let x51 : Int := ((536870896 : Int) - x11)
  let x52 : Int := ((1073741808 : Int) - x12)
  let x53 : Int := ((1073741808 : Int) - x13)
  let x54 : Int := ((536870896 : Int) - x14)
  let x55 : Int := ((536870896 : Int) - x15)
  let x56 : Int := ((1073741808 : Int) - x16)
  let x57 : Int := ((1073741808 : Int) - x17)
  let x58 : Int := ((536870896 : Int) - x18)
  let x59 : Int := ((536870896 : Int) - x19)
  let x60 : Int := ((1073741808 : Int) - x20)
  let x61 : Int := ((1073741808 : Int) - x21)
  let x62 : Int := ((536870896 : Int) - x22)
  let x63 : Int := ((536870896 : Int) - x23)
  let x64 : Int := ((1073741808 : Int) - x24)
  let x65 : Int := ((1073741808 : Int) - x25)
  let x66 : Int := ((536870896 : Int) - x26)
  let x67 : Int := ((536870896 : Int) - x27)
  let x68 : Int := ((1073741808 : Int) - x28)
  let x69 : Int := ((1073741808 : Int) - x29)
  let x70 : Int := ((536870896 : Int) - x30)
  let x71 : Int := ((536870896 : Int) - x31)
  let x72 : Int := ((1073741808 : Int) - x32)
  let x73 : Int := ((1073741808 : Int) - x33)
  let x74 : Int := ((536870896 : Int) - x34)
  let x75 : Int := ((536870896 : Int) - x35)
  let x76 : Int := ((1073741808 : Int) - x36)
  let x77 : Int := ((1073741808 : Int) - x37)
  let x78 : Int := ((536870896 : Int) - x38)
  let x79 : Int := ((536870896 : Int) - x39)
  let x80 : Int := (x40 / 2 ^ (26 : Nat))
  let x81 : Int := (x41 / 2 ^ (26 : Nat))
  let x82 : Int := (x42 / 2 ^ (25 : Nat))
  let x83 : Int := (x43 / 2 ^ (25 : Nat))
  let x84 : Int := (x44 / 2 ^ (26 : Nat))
  let x85 : Int := (x45 / 2 ^ (26 : Nat))
  let x86 : Int := (x46 / 2 ^ (25 : Nat))
  let x87 : Int := (x47 / 2 ^ (25 : Nat))
  let x88 : Int := ((x40 % 2 ^ (26 : Nat)) + (0 : Int))
  let x89 : Int := ((x41 % 2 ^ (26 : Nat)) + (0 : Int))
  let x90 : Int := ((x42 % 2 ^ (25 : Nat)) + x80)
  let x91 : Int := ((x43 % 2 ^ (25 : Nat)) + x81)
  let x92 : Int := ((x44 % 2 ^ (26 : Nat)) + (0 : Int))
  let x93 : Int := ((x45 % 2 ^ (26 : Nat)) + (0 : Int))
  let x94 : Int := ((x46 % 2 ^ (25 : Nat)) + x84)
  let x95 : Int := ((x47 % 2 ^ (25 : Nat)) + x85)
  let x96 : Int := (x48 / 2 ^ (26 : Nat))
  let x97 : Int := (x49 / 2 ^ (26 : Nat))
  let x98 : Int := (x50 / 2 ^ (25 : Nat))
  let x99 : Int := (x51 / 2 ^ (25 : Nat))
  let x100 : Int := (x52 / 2 ^ (26 : Nat))
  let x101 : Int := (x53 / 2 ^ (26 : Nat))
  let x102 : Int := (x54 / 2 ^ (25 : Nat))
  let x103 : Int := (x55 / 2 ^ (25 : Nat))
  let x104 : Int := ((x48 % 2 ^ (26 : Nat)) + x82)
  let x105 : Int := ((x49 % 2 ^ (26 : Nat)) + x83)
  let x106 : Int := ((x50 % 2 ^ (25 : Nat)) + x96)
  let x107 : Int := ((x51 % 2 ^ (25 : Nat)) + x97)
  let x108 : Int := ((x52 % 2 ^ (26 : Nat)) + x86)
  let x109 : Int := ((x53 % 2 ^ (26 : Nat)) + x87)
  let x110 : Int := ((x54 % 2 ^ (25 : Nat)) + x100)
  let x111 : Int := ((x55 % 2 ^ (25 : Nat)) + x101)
  let x112 : Int := (x56 / 2 ^ (26 : Nat))
  let x113 : Int := (x57 / 2 ^ (26 : Nat))
  let x114 : Int := (x58 / 2 ^ (25 : Nat))
  let x115 : Int := (x59 / 2 ^ (25 : Nat))
  let x116 : Int := (x60 / 2 ^ (26 : Nat))
  let x117 : Int := (x61 / 2 ^ (26 : Nat))
  let x118 : Int := (x62 / 2 ^ (25 : Nat))
  let x119 : Int := (x63 / 2 ^ (25 : Nat))
  let x120 : Int := ((x56 % 2 ^ (26 : Nat)) + x98)
  let x121 : Int := ((x57 % 2 ^ (26 : Nat)) + x99)
  let x122 : Int := ((x58 % 2 ^ (25 : Nat)) + x112)
  let x123 : Int := ((x59 % 2 ^ (25 : Nat)) + x113)
  let x124 : Int := ((x60 % 2 ^ (26 : Nat)) + x102)
  let x125 : Int := ((x61 % 2 ^ (26 : Nat)) + x103)
  let x126 : Int := ((x62 % 2 ^ (25 : Nat)) + x116)
  let x127 : Int := ((x63 % 2 ^ (25 : Nat)) + x117)
  let x128 : Int := (x64 / 2 ^ (26 : Nat))
  let x129 : Int := (x65 / 2 ^ (26 : Nat))
  let x130 : Int := (x66 / 2 ^ (25 : Nat))
  let x131 : Int := (x67 / 2 ^ (25 : Nat))
  let x132 : Int := (x68 / 2 ^ (26 : Nat))
  let x133 : Int := (x69 / 2 ^ (26 : Nat))
  let x134 : Int := (x70 / 2 ^ (25 : Nat))
  let x135 : Int := (x71 / 2 ^ (25 : Nat))
  let x136 : Int := ((x64 % 2 ^ (26 : Nat)) + x114)
  let x137 : Int := ((x65 % 2 ^ (26 : Nat)) + x115)
  let x138 : Int := ((x66 % 2 ^ (25 : Nat)) + x128)
  let x139 : Int := ((x67 % 2 ^ (25 : Nat)) + x129)
  let x140 : Int := ((x68 % 2 ^ (26 : Nat)) + x118)
  let x141 : Int := ((x69 % 2 ^ (26 : Nat)) + x119)
  let x142 : Int := ((x70 % 2 ^ (25 : Nat)) + x132)
  let x143 : Int := ((x71 % 2 ^ (25 : Nat)) + x133)
  let x144 : Int := (x72 / 2 ^ (26 : Nat))
  let x145 : Int := (x73 / 2 ^ (26 : Nat))
  let x146 : Int := (x74 / 2 ^ (25 : Nat))
  let x147 : Int := (x75 / 2 ^ (25 : Nat))
  let x148 : Int := (x76 / 2 ^ (26 : Nat))
  let x149 : Int := (x77 / 2 ^ (26 : Nat))
  let x150 : Int := (x78 / 2 ^ (25 : Nat))
  let x151 : Int := (x79 / 2 ^ (25 : Nat))
  let x152 : Int := ((x72 % 2 ^ (26 : Nat)) + x130)
  let x153 : Int := ((x73 % 2 ^ (26 : Nat)) + x131)
  let x154 : Int := ((x74 % 2 ^ (25 : Nat)) + x144)
  let x155 : Int := ((x75 % 2 ^ (25 : Nat)) + x145)
  let x156 : Int := ((x76 % 2 ^ (26 : Nat)) + x134)
  let x157 : Int := ((x77 % 2 ^ (26 : Nat)) + x135)
  let x158 : Int := ((x78 % 2 ^ (25 : Nat)) + x148)
  let x159 : Int := ((x79 % 2 ^ (25 : Nat)) + x149)
  let x160 : Int := (x146 * (19 : Int))
  let x161 : Int := (x147 * (19 : Int))
  let x162 : Int := (x150 * (19 : Int))
  let x163 : Int := (x151 * (19 : Int))
  let x164 : Int := (x88 + x160)
  let x165 : Int := (x89 + x161)
  let x166 : Int := (x90 + (x160 / 2 ^ (32 : Nat)))
  let x167 : Int := (x91 + (x161 / 2 ^ (32 : Nat)))
  let x168 : Int := (x92 + x162)
  let x169 : Int := (x93 + x163)
  let x170 : Int := (x94 + (x162 / 2 ^ (32 : Nat)))
  let x171 : Int := (x95 + (x163 / 2 ^ (32 : Nat)))
  [x164, x165, x166, x167, x168, x169, x170, x171, x104, x105, x106, x107, x108, x109, x110, x111, x120, x121, x122, x123, x124, x125, x126, x127, x136, x137, x138, x139, x140, x141, x142, x143, x152, x153, x154, x155, x156, x157, x158, x159]

theorem neg_fn_ok (x0 x1 x2 x3 x4 x5 x6 x7 x8 x9 x10 x11 x12 x13 x14 x15 x16 x17 x18 x19 x20 x21 x22 x23 x24 x25 x26 x27 x28 x29 x30 x31 x32 x33 x34 x35 x36 x37 x38 x39 : Int) : NProg.evalZ neg_nprog [x0, x1, x2, x3, x4, x5, x6, x7, x8, x9, x10, x11, x12, x13, x14, x15, x16, x17, x18, x19, x20, x21, x22, x23, x24, x25, x26, x27, x28, x29, x30, x31, x32, x33, x34, x35, x36, x37, x38, x39] = neg_fn x0 x1 x2 x3 x4 x5 x6 x7 x8 x9 x10 x11 x12 x13 x14 x15 x16 x17 x18 x19 x20 x21 x22 x23 x24 x25 x26 x27 x28 x29 x30 x31 x32 x33 x34 x35 x36 x37 x38 x39 :=
  (NProg.evalZ_eq_fast _ _).trans (by kernel_rfl)

def add_post : List Itv := [⟨0, 4294967294, 0⟩, ⟨0, 4294967294, 0⟩, ⟨0, 4294967294, 0⟩, ⟨0, 4294967294, 0⟩, ⟨0, 4294967294, 0⟩, ⟨0, 4294967294, 0⟩, ⟨0, 4294967294, 0⟩, ⟨0, 4294967294, 0⟩, ⟨0, 4294967294, 0⟩, ⟨0, 4294967294, 0⟩, ⟨0, 4294967294, 0⟩, ⟨0, 4294967294, 0⟩, ⟨0, 4294967294, 0⟩, ⟨0, 4294967294, 0⟩, ⟨0, 4294967294, 0⟩, ⟨0, 4294967294, 0⟩, ⟨0, 4294967294, 0⟩, ⟨0, 4294967294, 0⟩, ⟨0, 4294967294, 0⟩, ⟨0, 4294967294, 0⟩, ⟨0, 4294967294, 0⟩, ⟨0, 4294967294, 0⟩, ⟨0, 4294967294, 0⟩, ⟨0, 4294967294, 0⟩, ⟨0, 4294967294, 0⟩, ⟨0, 4294967294, 0⟩, ⟨0, 4294967294, 0⟩, ⟨0, 4294967294, 0⟩, ⟨0, 4294967294, 0⟩, ⟨0, 4294967294, 0⟩, ⟨0, 4294967294, 0⟩, ⟨0, 4294967294, 0⟩, ⟨0, 4294967294, 0⟩, ⟨0, 4294967294, 0⟩, ⟨0, 4294967294, 0⟩, ⟨0, 4294967294, 0⟩, ⟨0, 4294967294, 0⟩, ⟨0, 4294967294, 0⟩, ⟨0, 4294967294, 0⟩, ⟨0, 4294967294, 0⟩]

def add_nprog : NProg := Prog.normProg Dalek.Gen.Avx2Field.add Dalek.Model.Contracts.Avx2Field.pre_add

theorem add_norm_ok : Prog.norm Dalek.Gen.Avx2Field.add Dalek.Model.Contracts.Avx2Field.pre_add = some (add_nprog, add_post) :=
  Prog.norm_eq_of_post (by decide +kernel)

def add_fn (x0 x1 x2 x3 x4 x5 x6 x7 x8 x9 x10 x11 x12 x13 x14 x15 x16 x17 x18 x19 x20 x21 x22 x23 x24 x25 x26 x27 x28 x29 x30 x31 x32 x33 x34 x35 x36 x37 x38 x39 x40 x41 x42 x43 x44 x45 x46 x47 x48 x49 x50 x51 x52 x53 x54 x55 x56 x57 x58 x59 x60 x61 x62 x63 x64 x65 x66 x67 x68 x69 x70 x71 x72 x73 x74 x75 x76 x77 x78 x79 : Int) : List Int :=
  let x80 : Int := (x0 + x40)
  let x81 : Int := (x1 + x41)
  let x82 : Int := (x2 + x42)
  let x83 : Int := (x3 + x43)
  let x84 : Int := (x4 + x44)
  let x85 : Int := (x5 + x45)
  let x86 : Int := (x6 + x46)
  let x87 : Int := (x7 + x47)
  let x88 : Int := (x8 + x48)
  let x89 : Int := (x9 + x49)
  let x90 : Int := (x10 + x50)
  let x91 : Int := (x11 + x51)
  let x92 : Int := (x12 + x52)
  let x93 : Int := (x13 + x53)
  let x94 : Int := (x14 + x54)
  let x95 : Int := (x15 + x55)
  let x96 : Int := (x16 + x56)
  let x97 : Int := (x17 + x57)
  let x98 : Int := (x18 + x58)
  let x99 : Int := (x19 + x59)
  let x100 : Int := (x20 + x60)
  let x101 : Int := (x21 + x61)
  let x102 : Int := (x22 + x62)
  let x103 : Int := (x23 + x63)
  let x104 : Int := (x24 + x64)
  let x105 : Int := (x25 + x65)
  let x106 : Int := (x26 + x66)
  let x107 : Int := (x27 + x67)
  let x108 : Int := (x28 + x68)
  let x109 : Int := (x29 + x69)
  let x110 : Int := (x30 + x70)
  let x111 : Int := (x31 + x71)
  let x112 : Int := (x32 + x72)
  let x113 : Int := (x33 + x73)
  let x114 : Int := (x34 + x74)
  let x115 : Int := (x35 + x75)
  let x116 : Int := (x36 + x76)
  let x117 : Int := (x37 + x77)
  let x118 : Int := (x38 + x78)
  let x119 : Int := (x39 + x79)
  [x80, x81, x82, x83, x84, x85, x86, x87, x88, x89, x90, x91, x92, x93, x94, x95, x96, x97, x98, x99, x100, x101, x102, x103, x104, x105, x106, x107, x108, x109, x110, x111, x112, x113, x114, x115, x116, x117, x118, x119]

theorem add_fn_ok (x0 x1 x2 x3 x4 x5 x6 x7 x8 x9 x10 x11 x12 x13 x14 x15 x16 x17 x18 x19 x20 x21 x22 x23 x24 x25 x26 x27 x28 x29 x30 x31 x32 x33 x34 x35 x36 x37 x38 x39 x40 x41 x42 x43 x44 x45 x46 x47 x48 x49 x50 x51 x52 x53 x54 x55 x56 x57 x58 x59 x60 x61 x62 x63 x64 x65 x66 x67 x68 x69 x70 x71 x72 x73 x74 x75 x76 x77 x78 x79 : Int) : NProg.evalZ add_nprog [x0, x1, x2, x3, x4, x5, x6, x7, x8, x9, x10, x11, x12, x13, x14, x15, x16, x17, x18, x19, x20, x21, x22, x23, x24, x25, x26, x27, x28, x29, x30, x31, x32, x33, x34, x35, x36, x37, x38, x39, x40, x41, x42, x43, x44, x45, x46, x47, x48, x49, x50, x51, x52, x53, x54, x55, x56, x57, x58, x59, x60, x61, x62, x63, x64, x65, x66, x67, x68, x69, x70, x71, x72, x73, x74, x75, x76, x77, x78, x79] = add_fn x0 x1 x2 x3 x4 x5 x6 x7 x8 x9 x10 x11 x12 x13 x14 x15 x16 x17 x18 x19 x20 x21 x22 x23 x24 x25 x26 x27 x28 x29 x30 x31 x32 x33 x34 x35 x36 x37 x38 x39 x40 x41 x42 x43 x44 x45 x46 x47 x48 x49 x50 x51 x52 x53 x54 x55 x56 x57 x58 x59 x60 x61 x62 x63 x64 x65 x66 x67 x68 x69 x70 x71 x72 x73 x74 x75 x76 x77 x78 x79 :=
  (NProg.evalZ_eq_fast _ _).trans (by kernel_rfl)

def mul_consts_post : List Itv := [⟨0, 67108863, 0⟩, ⟨0, 67108863, 0⟩, ⟨0, 33632274, 0⟩, ⟨0, 33632274, 0⟩, ⟨0, 67108863, 0⟩, ⟨0, 67108863, 0⟩, ⟨0, 33632274, 0⟩, ⟨0, 33632274, 0⟩, ⟨0, 67108863, 0⟩, ⟨0, 67108863, 0⟩, ⟨0, 33554431, 0⟩, ⟨0, 33554431, 0⟩, ⟨0, 67108863, 0⟩, ⟨0, 67108863, 0⟩, ⟨0, 33554431, 0⟩, ⟨0, 33554431, 0⟩, ⟨0, 67108863, 0⟩, ⟨0, 67108863, 0⟩, ⟨0, 33558528, 0⟩, ⟨0, 33558528, 0⟩, ⟨0, 67108863, 0⟩, ⟨0, 67108863, 0⟩, ⟨0, 33558528, 0⟩, ⟨0, 33558528, 0⟩, ⟨0, 67108863, 0⟩, ⟨0, 67108863, 0⟩, ⟨0, 33554431, 0⟩, ⟨0, 33554431, 0⟩, ⟨0, 67108863, 0⟩, ⟨0, 67108863, 0⟩, ⟨0, 33554431, 0⟩, ⟨0, 33554431, 0⟩, ⟨0, 67108863, 0⟩, ⟨0, 67108863, 0⟩, ⟨0, 33554431, 0⟩, ⟨0, 33554431, 0⟩, ⟨0, 67108863, 0⟩, ⟨0, 67108863, 0⟩, ⟨0, 33554431, 0⟩, ⟨0, 33554431, 0⟩]

def mul_consts_nprog : NProg := Prog.normProg Dalek.Gen.Avx2Field.mul_consts Dalek.Model.Contracts.Avx2Field.pre_mul_consts

theorem mul_consts_norm_ok : Prog.norm Dalek.Gen.Avx2Field.mul_consts Dalek.Model.Contracts.Avx2Field.pre_mul_consts = some (mul_consts_nprog, mul_consts_post) :=
  Prog.norm_eq_of_post (by decide +kernel)

def mul_consts_fn (x0 x1 x2 x3 x4 x5 x6 x7 x8 x9 x10 x11 x12 x13 x14 x15 x16 x17 x18 x19 x20 x21 x22 x23 x24 x25 x26 x27 x28 x29 x30 x31 x32 x33 x34 x35 x36 x37 x38 x39 x40 x41 x42 x43 : Int) : List Int :=
  let x44 : Int := (x0 * x40)
  let x45 : Int := (x1 * x41)
  let x46 : Int := (x4 * x42)
  let x47 : Int := (x5 * x43)
  let x48 : Int := (x2 * x40)
  let x49 : Int := (x3 * x41)
  let x50 : Int := (x6 * x42)
  let x51 : Int := (x7 * x43)
  let x52 : Int := (x8 * x40)
  let x53 : Int := (x9 * x41)
  let x54 : Int := (x12 * x42)
  let x55 : Int := (x13 * x43)
  let x56 : Int := (x10 * x40)
  let x57 : Int := (x11 * x41)
  let x58 : Int := (x14 * x42)
  let x59 : Int := (x15 * x43)
  let x60 : Int := (x16 * x40)
  let x61 : Int := (x17 * x41)
  let x62 : Int := (x20 * x42)
  let x63 : Int := (x21 * x43)
  let x64 : Int := (x18 * x40)
  let x65 : Int := (x19 * x41)
  let x66 : Int := (x22 * x42)
  let x67 : Int := (x23 * x43)
  let x68 : Int := (x24 * x40)
  let x69 : Int := (x25 * x41)
  let x70 : Int := (x28 * x42)
  let x71 : Int := (x29 * x43)
  let x72 : Int := (x26 * x40)
  let x73 : Int := (x27 * x41)
  let x74 : Int := (x30 * x42)
  let x75 : Int := (x31 * x43)
  let x76 : Int := (x32 * x40)
  let x77 : Int := (x33 * x41)
  let x78 : Int := (x36 * x42)
  let x79 : Int := (x37 * x43)
  let x80 : Int := (x34 * x40)
  let x81 : Int := (x35 * x41)
  let x82 : Int := (x38 * x42)
  let x83 : Int := (x39 * x43)
  let x84 : Int := (x48 + (x44 / 2 ^ (26 : Nat)))
  let x85 : Int := (x49 + (x45 / 2 ^ (26 : Nat)))
  let x86 : Int := (x50 + (x46 / 2 ^ (26 : Nat)))
  let x87 : Int := (x51 + (x47 / 2 ^ (26 : Nat)))
  let x88 : Int := (x44 % 2 ^ (26 : Nat))
  let x89 : Int := (x45 % 2 ^ (26 : Nat))
  let x90 : Int := (x46 % 2 ^ (26 : Nat))
  let x91 : Int := (x47 % 2 ^ (26 : Nat))
  let x92 : Int := (x64 + (x60 / 2 ^ (26 : Nat)))
  let x93 : Int := (x65 + (x61 / 2 ^ (26 : Nat)))
  let x94 : Int := (x66 + (x62 / 2 ^ (26 : Nat)))
  let x95 : Int := (x67 + (x63 / 2 ^ (26 : Nat)))
  let x96 : Int := (x60 % 2 ^ (26 : Nat))
  let x97 : Int := (x61 % 2 ^ (26 : Nat))
  let x98 : Int := (x62 % 2 ^ (26 : Nat))
  let x99 : Int := (x63 % 2 ^ (26 : Nat))
  let x100 : Int := (x52 + (x84 / 2 ^ (25 : Nat)))
  let x101 : Int := (x53 + (x85 / 2 ^ (25 : Nat)))
  let x102 : Int := (x54 + (x86 / 2 ^ (25 : Nat)))
  let x103 : Int := (x55 + (x87 / 2 ^ (25 : Nat)))
  let x104 : Int := (x84 % 2 ^ (25 : Nat))
  let x105 : Int := (x85 % 2 ^ (25 : Nat))
  let x106 : Int := (x86 % 2 ^ (25 : Nat))
  let x107 : Int := (x87 % 2 ^ (25 : Nat))
  let x108 : Int := (x68 + (x92 / 2 ^ (25 : Nat)))
  let x109 : Int := (x69 + (x93 / 2 ^ (25 : Nat)))
  let x110 : Int := (x70 + (x94 / 2 ^ (25 : Nat)))
  let x111 : Int := (x71 + (x95 / 2 ^ (25 : Nat)))
  let x112 : Int := (x92 % 2 ^ (25 : Nat))
  let x113 : Int := (x93 % 2 ^ (25 : Nat))
  let x114 : Int := (x94 % 2 ^ (25 : Nat))
  let x115 : Int := (x95 % 2 ^ (25 : Nat))
  let x116 : Int := (x56 + (x100 / 2 ^ (26 : Nat)))
  let x117 : Int := (x57 + (x101 / 2 ^ (26 : Nat)))
  let x118 : Int := (x58 + (x102 / 2 ^ (26 : Nat)))
  let x119 : Int := (x59 + (x103 / 2 ^ (26 : Nat)))
  let x120 : Int := (x100 % 2 ^ (26 : Nat))
  let x121 : Int := (x101 % 2 ^ (26 : Nat))
  let x122 : Int := (x102 % 2 ^ (26 : Nat))
  let x123 : Int := (x103 % 2 ^ (26 : Nat))
  let x124 : Int := (x72 + (x108 / 2 ^ (26 : Nat)))
  let x125 : Int := (x73 + (x109 / 2 ^ (26 : Nat)))
  let x126 : Int := (x74 + (x110 / 2 ^ (26 : Nat)))
  let x127 : Int := (x75 + (x111 / 2 ^ (26 : Nat)))
  let x128 : Int := (x108 % 2 ^ (26 : Nat))
  let x129 : Int := (x109 % 2 ^ (26 : Nat))
  let x130 : Int := (x110 % 2 ^ (26 : Nat))
  let x131 : Int := (x111 % 2 ^ (26 : Nat))
  let x132 : Int := (x96 + (x116 / 2 ^ (25 : Nat)))
  let x133 : Int := (x97 + (x117 / 2 ^ (25 : Nat)))
  let x134 : Int := (x98 + (x118 / 2 ^ (25 : Nat)))
  let x135 : Int := (x99 + (x119 / 2 ^ (25 : Nat)))
  let x136 : Int := (x116 % 2 ^ (25 : Nat))
  let x137 : Int := (x117 % 2 ^ (25 : Nat))
  let x138 : Int := (x118 % 2 ^ (25 : Nat))
  let x139 : Int := (x119 % 2 ^ (25 : Nat))
  let x140 : Int := (x76 + (x124 / 2 ^ (25 : Nat)))
  let x141 : Int := (x77 + (x125 / 2 ^ (25 : Nat)))
  let x142 : Int := (x78 + (x126 / 2 ^ (25 : Nat)))
  let x143 : Int := (x79 + (x127 / 2 ^ (25 : Nat)))
  let x144 : Int := (x124 % 2 ^ (25 : Nat))
  let x145 : Int := (x125 % 2 ^ (25 : Nat))
  let x146 : Int := (x126 % 2 ^ (25 : Nat))
  let x147 : Int := (x127 % 2 ^ (25 : Nat))
  let x148 : Int := (x112 + (x132 / 2 ^ (26 : Nat)))
  let x149 : Int := (x113 + (x133 / 2 ^ (26 : Nat)))
  let x150 : Int := (x114 + (x134 / 2 ^ (26 : Nat)))
  let x151 : Int := (x115 + (x135 / 2 ^ (26 : Nat)))
  let x152 : Int := (x132 % 2 ^ (26 : Nat))
  let x153 : Int := (x133 % 2 ^ (26 : Nat))
  let x154 : Int := (x134 % 2 ^ (26 : Nat))
  let x155 : Int := (x135 % 2 ^ (26 : Nat))
  let x156 : Int := (x80 + (x140 / 2 ^ (26 : Nat)))
  let x157 : Int := (x81 + (x141 / 2 ^ (26 : Nat)))
  let x158 : Int := (x82 + (x142 / 2 ^ (26 : Nat)))
  let x159 : Int := (x83 + (x143 / 2 ^ (26 : Nat)))
  let x160 : Int := (x140 % 2 ^ (26 : Nat))
  let x161 : Int := (x141 % 2 ^ (26 : Nat))
  let x162 : Int := (x142 % 2 ^ (26 : Nat))
  let x163 : Int := (x143 % 2 ^ (26 : Nat))
  let x164 : Int := (x156 / 2 ^ (25 : Nat))
  let x165 : Int := (x157 / 2 ^ (25 : Nat))
  let x166 : Int := (x158 / 2 ^ (25 : Nat))
  let x167 : Int := (x159 / 2 ^ (25 : Nat))
  let x168 : Int := (x156 % 2 ^ (25 : Nat))
  let x169 : Int := (x157 % 2 ^ (25 : Nat))
  let x170 : Int := (x158 % 2 ^ (25 : Nat))
  let x171 : Int := (x159 % 2 ^ (25 : Nat))
  let x172 : Int := (x164 % 2 ^ (26 : Nat))
  let x173 : Int := (x165 % 2 ^ (26 : Nat))
  let x174 : Int := (x166 % 2 ^ (26 : Nat))
  let x175 : Int := (x167 % 2 ^ (26 : Nat))
  let x176 : Int := (x164 / 2 ^ (26 : Nat))
  let x177 : Int := (x165 / 2 ^ (26 : Nat))
  let x178 : Int := (x166 / 2 ^ (26 : Nat))
  let x179 : Int := (x167 / 2 ^ (26 : Nat))
  let x180 : Int := (x172 * (19 : Int))
  let x181 : Int := (x173 * (19 : Int))
  let x182 : Int := (x174 * (19 : Int))
  let x183 : Int := (x175 * (19 : Int))
  let x184 : Int := (x176 * (19 : Int))
  let x185 : Int := (x177 * (19 : Int))
  let x186 : Int := (x178 * (19 : Int))
  let x187 : Int := (x179 * (19 : Int))
  let x188 : Int := (x88 + x180)
  let x189 : Int := (x89 + x181)
  let x190 : Int := (x90 + x182)
  let x191 : Int := (x91 + x183)
  let x192 : Int := (x104 + x184)
  let x193 : Int := (x105 + x185)
  let x194 : Int := (x106 + x186)
  let x195 : Int := (x107 + x187)
  let x196 : Int := (x192 + (x188 / 2 ^ (26 : Nat)))
  let x197 : Int := (x193 + (x189 / 2 ^ (26 : Nat)))
  let x198 : Int := (x194 + (x190 / 2 ^ (26 : Nat)))
  let x199 : Int := (x195 + (x191 / 2 ^ (26 : Nat)))
  let x200 : Int := (x188 % 2 ^ (26 : Nat))
  let x201 : Int := (x189 % 2 ^ (26 : Nat))
  let x202 : Int := (x190 % 2 ^ (26 : Nat))
  let x203 : Int := (x191 % 2 ^ (26 : Nat))
  let x204 : Int := x200
  let x205 : Int := x201
  let x206 : Int := x196
  let x207 : Int := x197
  let x208 : Int := x202
  let x209 : Int := x203
  let x210 : Int := x198
  let x211 : Int := x199
  let x212 : Int := x120
  let x213 : Int := x121
  let x214 : Int := x136
  let x215 : Int := x137
  let x216 : Int := x122
  let x217 : Int := x123
  let x218 : Int := x138
  let x219 : Int := x139
  let x220 : Int := x152
  let x221 : Int := x153
  let x222 : Int := x148
  let x223 : Int := x149
  let x224 : Int := x154
  let x225 : Int := x155
  let x226 : Int := x150
  let x227 : Int := x151
  let x228 : Int := x128
  let x229 : Int := x129
  let x230 : Int := x144
  let x231 : Int := x145
  let x232 : Int := x130
  let x233 : Int := x131
  let x234 : Int := x146
  let x235 : Int := x147
  let x236 : Int := x160
  let x237 : Int := x161
  let x238 : Int := x168
  let x239 : Int := x169
  let x240 : Int := x162
  let x241 : Int := x163
  let x242 : Int := x170
  let x243 : Int := x171
  [x204, x205, x206, x207, x208, x209, x210, x211, x212, x213, x214, x215, x216, x217, x218, x219, x220, x221, x222, x223, x224, x225, x226, x227, x228, x229, x230, x231, x232, x233, x234, x235, x236, x237, x238, x239, x240, x241, x242, x243]

theorem mul_consts_fn_ok (x0 x1 x2 x3 x4 x5 x6 x7 x8 x9 x10 x11 x12 x13 x14 x15 x16 x17 x18 x19 x20 x21 x22 x23 x24 x25 x26 x27 x28 x29 x30 x31 x32 x33 x34 x35 x36 x37 x38 x39 x40 x41 x42 x43 : Int) : NProg.evalZ mul_consts_nprog [x0, x1, x2, x3, x4, x5, x6, x7, x8, x9, x10, x11, x12, x13, x14, x15, x16, x17, x18, x19, x20, x21, x22, x23, x24, x25, x26, x27, x28, x29, x30, x31, x32, x33, x34, x35, x36, x37, x38, x39, x40, x41, x42, x43] = mul_consts_fn x0 x1 x2 x3 x4 x5 x6 x7 x8 x9 x10 x11 x12 x13 x14 x15 x16 x17 x18 x19 x20 x21 x22 x23 x24 x25 x26 x27 x28 x29 x30 x31 x32 x33 x34 x35 x36 x37 x38 x39 x40 x41 x42 x43 :=
  (NProg.evalZ_eq_fast _ _).trans (by kernel_rfl)

def square_and_negate_D_post : List Itv := [⟨0, 67108863, 0⟩, ⟨0, 67108863, 0⟩, ⟨0, 33555951, 0⟩, ⟨0, 33555951, 0⟩, ⟨0, 67108863, 0⟩, ⟨0, 67108863, 0⟩, ⟨0, 33555951, 0⟩, ⟨37392, 33593343, 0⟩, ⟨0, 67108863, 0⟩, ⟨0, 67108863, 0⟩, ⟨0, 33554431, 0⟩, ⟨0, 33554431, 0⟩, ⟨0, 67108863, 0⟩, ⟨0, 67108863, 0⟩, ⟨0, 33554431, 0⟩, ⟨0, 33554431, 0⟩, ⟨0, 67108863, 0⟩, ⟨0, 67108863, 0⟩, ⟨0, 33555375, 0⟩, ⟨0, 33555375, 0⟩, ⟨0, 67108863, 0⟩, ⟨0, 67108863, 0⟩, ⟨0, 33555375, 0⟩, ⟨1104, 33556479, 0⟩, ⟨0, 67108863, 0⟩, ⟨0, 67108863, 0⟩, ⟨0, 33554431, 0⟩, ⟨0, 33554431, 0⟩, ⟨0, 67108863, 0⟩, ⟨0, 67108863, 0⟩, ⟨0, 33554431, 0⟩, ⟨0, 33554431, 0⟩, ⟨0, 67108863, 0⟩, ⟨0, 67108863, 0⟩, ⟨0, 33554431, 0⟩, ⟨0, 33554431, 0⟩, ⟨0, 67108863, 0⟩, ⟨0, 67108863, 0⟩, ⟨0, 33554431, 0⟩, ⟨0, 33554431, 0⟩]

def square_and_negate_D_nprog : NProg := Prog.normProg Dalek.Gen.Avx2Field.square_and_negate_D Dalek.Model.Contracts.Avx2Field.pre_square_and_negate_D

theorem square_and_negate_D_norm_ok : Prog.norm Dalek.Gen.Avx2Field.square_and_negate_D Dalek.Model.Contracts.Avx2Field.pre_square_and_negate_D = some (square_and_negate_D_nprog, square_and_negate_D_post) :=
  Prog.norm_eq_of_post (by decide +kernel)

def square_and_negate_D_fn (x0 x1 x2 x3 x4 x5 x6 x7 x8 x9 x10 x11 x12 x13 x14 x15 x16 x17 x18 x19 x20 x21 x22 x23 x24 x25 x26 x27 x28 x29 x30 x31 x32 x33 x34 x35 x36 x37 x38 x39 : Int) : List Int :=
  let x40 : Int := (x0 * (2 : Int))
  let x41 : Int := (x1 * (2 : Int))
  let x42 : Int := (x4 * (2 : Int))
  let x43 : Int := (x5 * (2 : Int))
  let x44 : Int := (x2 * (2 : Int))
  let x45 : Int := (x3 * (2 : Int))
  let x46 : Int := (x6 * (2 : Int))
  let x47 : Int := (x7 * (2 : Int))
  let x48 : Int := (x8 * (2 : Int))
  let x49 : Int := (x9 * (2 : Int))
  let x50 : Int := (x12 * (2 : Int))
  let x51 : Int := (x13 * (2 : Int))
  let x52 : Int := (x10 * (2 : Int))
  let x53 : Int := (x11 * (2 : Int))
  let x54 : Int := (x14 * (2 : Int))
  let x55 : Int := (x15 * (2 : Int))
  let x56 : Int := (x16 * (2 : Int))
  let x57 : Int := (x17 * (2 : Int))
  let x58 : Int := (x20 * (2 : Int))
  let x59 : Int := (x21 * (2 : Int))
  let x60 : Int := (x18 * (2 : Int))
  let x61 : Int := (x19 * (2 : Int))
  let x62 : Int := (x22 * (2 : Int))
  let x63 : Int := (x23 * (2 : Int))
  let x64 : Int := (x24 * (2 : Int))
  let x65 : Int := (x25 * (2 : Int))
  let x66 : Int := (x28 * (2 : Int))
  let x67 : Int := (x29 * (2 : Int))
  let x68 : Int := (x26 * (2 : Int))
  let x69 : Int := (x27 * (2 : Int))
  let x70 : Int := (x30 * (2 : Int))
  let x71 : Int := (x31 * (2 : Int))
  let x72 : Int := ((19 : Int) * x18)
  let x73 : Int := ((19 : Int) * x19)
  let x74 : Int := ((19 : Int) * x22)
  let x75 : Int := ((19 : Int) * x23)
  let x76 : Int := ((19 : Int) * x24)
  let x77 : Int := ((19 : Int) * x25)
  let x78 : Int := ((19 : Int) * x28)
  let x79 : Int := ((19 : Int) * x29)
  let x80 : Int := ((19 : Int) * x26)
  let x81 : Int := ((19 : Int) * x27)
  let x82 : Int := ((19 : Int) * x30)
  let x83 : Int := ((19 : Int) * x31)
  let x84 : Int := ((19 : Int) * x32)
  let x85 : Int := ((19 : Int) * x33)
  let x86 : Int := ((19 : Int) * x36)
  let x87 : Int := ((19 : Int) * x37)
  let x88 : Int := ((19 : Int) * x34)
  let x89 : Int := ((19 : Int) * x35)
  let x90 : Int := ((19 : Int) * x38)
  let x91 : Int := ((19 : Int) * x39)
  let x92 : Int := ((((x0 * x0) + (x48 * x84)) + (x56 * x76)) + ((((x44 * x88) + (x52 * x80)) + (x18 * x72)) * (2 : Int)))
  let x93 : Int := ((((x1 * x1) + (x49 * x85)) + (x57 * x77)) + ((((x45 * x89) + (x53 * x81)) + (x19 * x73)) * (2 : Int)))
  let x94 : Int := ((((x4 * x4) + (x50 * x86)) + (x58 * x78)) + ((((x46 * x90) + (x54 * x82)) + (x22 * x74)) * (2 : Int)))
  let x95 : Int := ((((x5 * x5) + (x51 * x87)) + (x59 * x79)) + ((((x47 * x91) + (x55 * x83)) + (x23 * x75)) * (2 : Int)))
  let x96 : Int := ((((x40 * x2) + (x52 * x84)) + (x60 * x76)) + (((x8 * x88) + (x16 * x80)) * (2 : Int)))
  let x97 : Int := ((((x41 * x3) + (x53 * x85)) + (x61 * x77)) + (((x9 * x89) + (x17 * x81)) * (2 : Int)))
  let x98 : Int := ((((x42 * x6) + (x54 * x86)) + (x62 * x78)) + (((x12 * x90) + (x20 * x82)) * (2 : Int)))
  let x99 : Int := ((((x43 * x7) + (x55 * x87)) + (x63 * x79)) + (((x13 * x91) + (x21 * x83)) * (2 : Int)))
  let x100 : Int := (((((x40 * x8) + (x44 * x2)) + (x56 * x84)) + (x24 * x76)) + (((x52 * x88) + (x60 * x80)) * (2 : Int)))
  let x101 : Int := (((((x41 * x9) + (x45 * x3)) + (x57 * x85)) + (x25 * x77)) + (((x53 * x89) + (x61 * x81)) * (2 : Int)))
  let x102 : Int := (((((x42 * x12) + (x46 * x6)) + (x58 * x86)) + (x28 * x78)) + (((x54 * x90) + (x62 * x82)) * (2 : Int)))
  let x103 : Int := (((((x43 * x13) + (x47 * x7)) + (x59 * x87)) + (x29 * x79)) + (((x55 * x91) + (x63 * x83)) * (2 : Int)))
  let x104 : Int := ((((x40 * x10) + (x44 * x8)) + (x60 * x84)) + (((x16 * x88) + (x24 * x80)) * (2 : Int)))
  let x105 : Int := ((((x41 * x11) + (x45 * x9)) + (x61 * x85)) + (((x17 * x89) + (x25 * x81)) * (2 : Int)))
  let x106 : Int := ((((x42 * x14) + (x46 * x12)) + (x62 * x86)) + (((x20 * x90) + (x28 * x82)) * (2 : Int)))
  let x107 : Int := ((((x43 * x15) + (x47 * x13)) + (x63 * x87)) + (((x21 * x91) + (x29 * x83)) * (2 : Int)))
  let x108 : Int := (((((x40 * x16) + (x44 * x52)) + (x8 * x8)) + (x64 * x84)) + (((x60 * x88) + (x26 * x80)) * (2 : Int)))
  let x109 : Int := (((((x41 * x17) + (x45 * x53)) + (x9 * x9)) + (x65 * x85)) + (((x61 * x89) + (x27 * x81)) * (2 : Int)))
  let x110 : Int := (((((x42 * x20) + (x46 * x54)) + (x12 * x12)) + (x66 * x86)) + (((x62 * x90) + (x30 * x82)) * (2 : Int)))
  let x111 : Int := (((((x43 * x21) + (x47 * x55)) + (x13 * x13)) + (x67 * x87)) + (((x63 * x91) + (x31 * x83)) * (2 : Int)))
  let x112 : Int := (((((x40 * x18) + (x44 * x16)) + (x48 * x10)) + (x68 * x84)) + ((x24 * x88) * (2 : Int)))
  let x113 : Int := (((((x41 * x19) + (x45 * x17)) + (x49 * x11)) + (x69 * x85)) + ((x25 * x89) * (2 : Int)))
  let x114 : Int := (((((x42 * x22) + (x46 * x20)) + (x50 * x14)) + (x70 * x86)) + ((x28 * x90) * (2 : Int)))
  let x115 : Int := (((((x43 * x23) + (x47 * x21)) + (x51 * x15)) + (x71 * x87)) + ((x29 * x91) * (2 : Int)))
  let x116 : Int := ((((((x40 * x24) + (x44 * x60)) + (x48 * x16)) + (x52 * x10)) + (x32 * x84)) + ((x68 * x88) * (2 : Int)))
  let x117 : Int := ((((((x41 * x25) + (x45 * x61)) + (x49 * x17)) + (x53 * x11)) + (x33 * x85)) + ((x69 * x89) * (2 : Int)))
  let x118 : Int := ((((((x42 * x28) + (x46 * x62)) + (x50 * x20)) + (x54 * x14)) + (x36 * x86)) + ((x70 * x90) * (2 : Int)))
  let x119 : Int := ((((((x43 * x29) + (x47 * x63)) + (x51 * x21)) + (x55 * x15)) + (x37 * x87)) + ((x71 * x91) * (2 : Int)))
  let x120 : Int := (((((x40 * x26) + (x44 * x24)) + (x48 * x18)) + (x52 * x16)) + ((x32 * x88) * (2 : Int)))
  let x121 : Int := (((((x41 * x27) + (x45 * x25)) + (x49 * x19)) + (x53 * x17)) + ((x33 * x89) * (2 : Int)))
  let x122 : Int := (((((x42 * x30) + (x46 * x28)) + (x50 * x22)) + (x54 * x20)) + ((x36 * x90) * (2 : Int)))
  let x123 : Int := (((((x43 * x31) + (x47 * x29)) + (x51 * x23)) + (x55 * x21)) + ((x37 * x91) * (2 : Int)))
  let x124 : Int := ((((((x40 * x32) + (x44 * x68)) + (x48 * x24)) + (x52 * x60)) + (x16 * x16)) + ((x34 * x88) * (2 : Int)))
  let x125 : Int := ((((((x41 * x33) + (x45 * x69)) + (x49 * x25)) + (x53 * x61)) + (x17 * x17)) + ((x35 * x89) * (2 : Int)))
  let x126 : Int := ((((((x42 * x36) + (x46 * x70)) + (x50 * x28)) + (x54 * x62)) + (x20 * x20)) + ((x38 * x90) * (2 : Int)))
  let x127 : Int := ((((((x43 * x37) + (x47 * x71)) + (x51 * x29)) + (x55 * x63)) + (x21 * x21)) + ((x39 * x91) * (2 : Int)))
  let x128 : Int := (((((x40 * x34) + (x44 * x32)) + (x48 * x26)) + (x52 * x24)) + (x56 * x18))
  let x129 : Int := (((((x41 * x35) + (x45 * x33)) + (x49 * x27)) + (x53 * x25)) + (x57 * x19))
  let x130 : Int := (((((x42 * x38) + (x46 * x36)) + (x50 * x30)) + (x54 * x28)) + (x58 * x22))
  let x131 : Int := (((((x43 * x39) + (x47 * x37)) + (x51 * x31)) + (x55 * x29)) + (x59 * x23))
  let x132 : Int := ((9223369425514659840 : Int) - x92)
  let x133 : Int := ((9223369425514659840 : Int) - x93)
  let x134 : Int := ((9223369425514659840 : Int) - x94)
  let x135 : Int := ((9223369425514659840 : Int) - x95)
  let x136 : Int := ((4611685880988434432 : Int) - x96)
  let x137 : Int := ((4611685880988434432 : Int) - x97)
  let x138 : Int := ((4611685880988434432 : Int) - x98)
  let x139 : Int := ((4611685880988434432 : Int) - x99)
  let x140 : Int := ((9223371899415822336 : Int) - x100)
  let x141 : Int := ((9223371899415822336 : Int) - x101)
  let x142 : Int := ((9223371899415822336 : Int) - x102)
  let x143 : Int := ((9223371899415822336 : Int) - x103)
  let x144 : Int := ((4611685880988434432 : Int) - x104)
  let x145 : Int := ((4611685880988434432 : Int) - x105)
  let x146 : Int := ((4611685880988434432 : Int) - x106)
  let x147 : Int := ((4611685880988434432 : Int) - x107)
  let x148 : Int := ((9223371899415822336 : Int) - x108)
  let x149 : Int := ((9223371899415822336 : Int) - x109)
  let x150 : Int := ((9223371899415822336 : Int) - x110)
  let x151 : Int := ((9223371899415822336 : Int) - x111)
  let x152 : Int := ((4611685880988434432 : Int) - x112)
  let x153 : Int := ((4611685880988434432 : Int) - x113)
  let x154 : Int := ((4611685880988434432 : Int) - x114)
  let x155 : Int := ((4611685880988434432 : Int) - x115)
  let x156 : Int := ((9223371899415822336 : Int) - x116)
  let x157 : Int := ((9223371899415822336 : Int) - x117)
  let x158 : Int := ((9223371899415822336 : Int) - x118)
  let x159 : Int := ((9223371899415822336 : Int) - x119)
  let x160 : Int := ((4611685880988434432 : Int) - x120)
  let x161 : Int := ((4611685880988434432 : Int) - x121)
  let x162 : Int := ((4611685880988434432 : Int) - x122)
  let x163 : Int := ((4611685880988434432 : Int) - x123)
  let x164 : Int := ((9223371899415822336 : Int) - x124)
  let x165 : Int := ((9223371899415822336 : Int) - x125)
  let x166 : Int := ((9223371899415822336 : Int) - x126)
  let x167 : Int := ((9223371899415822336 : Int) - x127)
  let x168 : Int := ((4611685880988434432 : Int) - x128)
  let x169 : Int := ((4611685880988434432 : Int) - x129)
  let x170 : Int := ((4611685880988434432 : Int) - x130)
  let x171 : Int := ((4611685880988434432 : Int) - x131)
  let x172 : Int := (x96 + (x92 / 2 ^ (26 : Nat)))
  let x173 : Int := (x97 + (x93 / 2 ^ (26 : Nat)))
  let x174 : Int := (x98 + (x94 / 2 ^ (26 : Nat)))
  let x175 : Int := (x139 + (x135 / 2 ^ (26 : Nat)))
  let x176 : Int := (x92 % 2 ^ (26 : Nat))
  let x177 : Int := (x93 % 2 ^ (26 : Nat))
  let x178 : Int := (x94 % 2 ^ (26 : Nat))
  let x179 : Int := (x135 % 2 ^ (26 : Nat))
  let x180 : Int := (x112 + (x108 / 2 ^ (26 : Nat)))
  let x181 : Int := (x113 + (x109 / 2 ^ (26 : Nat)))
  let x182 : Int := (x114 + (x110 / 2 ^ (26 : Nat)))
  let x183 : Int := (x155 + (x151 / 2 ^ (26 : Nat)))
  let x184 : Int := (x108 % 2 ^ (26 : Nat))
  let x185 : Int := (x109 % 2 ^ (26 : Nat))
  let x186 : Int := (x110 % 2 ^ (26 : Nat))
  let x187 : Int := (x151 % 2 ^ (26 : Nat))
  let x188 : Int := (x100 + (x172 / 2 ^ (25 : Nat)))
  let x189 : Int := (x101 + (x173 / 2 ^ (25 : Nat)))
  let x190 : Int := (x102 + (x174 / 2 ^ (25 : Nat)))
  let x191 : Int := (x143 + (x175 / 2 ^ (25 : Nat)))
  let x192 : Int := (x172 % 2 ^ (25 : Nat))
  let x193 : Int := (x173 % 2 ^ (25 : Nat))
  let x194 : Int := (x174 % 2 ^ (25 : Nat))
  let x195 : Int := (x175 % 2 ^ (25 : Nat))
  let x196 : Int := (x116 + (x180 / 2 ^ (25 : Nat)))
  let x197 : Int := (x117 + (x181 / 2 ^ (25 : Nat)))
  let x198 : Int := (x118 + (x182 / 2 ^ (25 : Nat)))
  let x199 : Int := (x159 + (x183 / 2 ^ (25 : Nat)))
  let x200 : Int := (x180 % 2 ^ (25 : Nat))
  let x201 : Int := (x181 % 2 ^ (25 : Nat))
  let x202 : Int := (x182 % 2 ^ (25 : Nat))
  let x203 : Int := (x183 % 2 ^ (25 : Nat))
  let x204 : Int := (x104 + (x188 / 2 ^ (26 : Nat)))
  let x205 : Int := (x105 + (x189 / 2 ^ (26 : Nat)))
  let x206 : Int := (x106 + (x190 / 2 ^ (26 : Nat)))
  let x207 : Int := (x147 + (x191 / 2 ^ (26 : Nat)))
  let x208 : Int := (x188 % 2 ^ (26 : Nat))
  let x209 : Int := (x189 % 2 ^ (26 : Nat))
  let x210 : Int := (x190 % 2 ^ (26 : Nat))
  let x211 : Int := (x191 % 2 ^ (26 : Nat))
  let x212 : Int := (x120 + (x196 / 2 ^ (26 : Nat)))
  let x213 : Int := (x121 + (x197 / 2 ^ (26 : Nat)))
  let x214 : Int := (x122 + (x198 / 2 ^ (26 : Nat)))
  let x215 : Int := (x163 + (x199 / 2 ^ (26 : Nat)))
  let x216 : Int := (x196 % 2 ^ (26 : Nat))
  let x217 : Int := (x197 % 2 ^ (26 : Nat))
  let x218 : Int := (x198 % 2 ^ (26 : Nat))
  let x219 : Int := (x199 % 2 ^ (26 : Nat))
  let x220 : Int := (x184 + (x204 / 2 ^ (25 : Nat)))
  let x221 : Int := (x185 + (x205 / 2 ^ (25 : Nat)))
  let x222 : Int := (x186 + (x206 / 2 ^ (25 : Nat)))
  let x223 : Int := (x187 + (x207 / 2 ^ (25 : Nat)))
  let x224 : Int := (x204 % 2 ^ (25 : Nat))
  let x225 : Int := (x205 % 2 ^ (25 : Nat))
  let x226 : Int := (x206 % 2 ^ (25 : Nat))
  let x227 : Int := (x207 % 2 ^ (25 : Nat))
  let x228 : Int := (x124 + (x212 / 2 ^ (25 : Nat)))
  let x229 : Int := (x125 + (x213 / 2 ^ (25 : Nat)))
  let x230 : Int := (x126 + (x214 / 2 ^ (25 : Nat)))
  let x231 : Int := (x167 + (x215 / 2 ^ (25 : Nat)))
  let x232 : Int := (x212 % 2 ^ (25 : Nat))
  let x233 : Int := (x213 % 2 ^ (25 : Nat))
  let x234 : Int := (x214 % 2 ^ (25 : Nat))
  let x235 : Int := (x215 % 2 ^ (25 : Nat))
  let x236 : Int := (x200 + (x220 / 2 ^ (26 : Nat)))
  let x237 : Int := (x201 + (x221 / 2 ^ (26 : Nat)))
  let x238 : Int := (x202 + (x222 / 2 ^ (26 : Nat)))
  let x239 : Int := (x203 + (x223 / 2 ^ (26 : Nat)))
  let x240 : Int := (x220 % 2 ^ (26 : Nat))
  let x241 : Int := (x221 % 2 ^ (26 : Nat))
  let x242 : Int := (x222 % 2 ^ (26 : Nat))
  let x243 : Int := (x223 % 2 ^ (26 : Nat))
  let x244 : Int := (x128 + (x228 / 2 ^ (26 : Nat)))
  let x245 : Int := (x129 + (x229 / 2 ^ (26 : Nat)))
  let x246 : Int := (x130 + (x230 / 2 ^ (26 : Nat)))
  let x247 : Int := (x171 + (x231 / 2 ^ (26 : Nat)))
  let x248 : Int := (x228 % 2 ^ (26 : Nat))
  let x249 : Int := (x229 % 2 ^ (26 : Nat))
  let x250 : Int := (x230 % 2 ^ (26 : Nat))
  let x251 : Int := (x231 % 2 ^ (26 : Nat))
  let x252 : Int := (x244 / 2 ^ (25 : Nat))
  let x253 : Int := (x245 / 2 ^ (25 : Nat))
  let x254 : Int := (x246 / 2 ^ (25 : Nat))
  let x255 : Int := (x247 / 2 ^ (25 : Nat))
  let x256 : Int := (x244 % 2 ^ (25 : Nat))
  let x257 : Int := (x245 % 2 ^ (25 : Nat))
  let x258 : Int := (x246 % 2 ^ (25 : Nat))
  let x259 : Int := (x247 % 2 ^ (25 : Nat))
  let x260 : Int := (x252 % 2 ^ (26 : Nat))
  let x261 : Int := (x253 % 2 ^ (26 : Nat))
  let x262 : Int := (x254 % 2 ^ (26 : Nat))
  let x263 : Int := (x255 % 2 ^ (26 : Nat))
  let x264 : Int := (x252 / 2 ^ (26 : Nat))
  let x265 : Int := (x253 / 2 ^ (26 : Nat))
  let x266 : Int := (x254 / 2 ^ (26 : Nat))
  let x267 : Int := (x255 / 2 ^ (26 : Nat))
  let x268 : Int := (x260 * (19 : Int))
  let x269 : Int := (x261 * (19 : Int))
  let x270 : Int := (x262 * (19 : Int))
  let x271 : Int := (x263 * (19 : Int))
  let x272 : Int := (x264 * (19 : Int))
  let x273 : Int := (x265 * (19 : Int))
  let x274 : Int := (x266 * (19 : Int))
  let x275 : Int := (x267 * (19 : Int))
  let x276 : Int := (x176 + x268)
  let x277 : Int := (x177 + x269)
  let x278 : Int := (x178 + x270)
  let x279 : Int := (x179 + x271)
  let x280 : Int := (x192 + x272)
  let x281 : Int := (x193 + x273)
  let x282 : Int := (x194 + x274)
  let x283 : Int := (x195 + x275)
  let x284 : Int := (x280 + (x276 / 2 ^ (26 : Nat)))
  let x285 : Int := (x281 + (x277 / 2 ^ (26 : Nat)))
  let x286 : Int := (x282 + (x278 / 2 ^ (26 : Nat)))
  let x287 : Int := (x283 + (x279 / 2 ^ (26 : Nat)))
  let x288 : Int := (x276 % 2 ^ (26 : Nat))
  let x289 : Int := (x277 % 2 ^ (26 : Nat))
  let x290 : Int := (x278 % 2 ^ (26 : Nat))
  let x291 : Int := (x279 % 2 ^ (26 : Nat))
  let x292 : Int := x288
  let x293 : Int := x289
  let x294 : Int := x284
  let x295 : Int := x285
  let x296 : Int := x290
  let x297 : Int := x291
  let x298 : Int := x286
  let x299 : Int := x287
  let x300 : Int := x208
  let x301 : Int := x209
  let x302 : Int := x224
  let x303 : Int := x225
  let x304 : Int := x210
  let x305 : Int := x211
  let x306 : Int := x226
  let x307 : Int := x227
  let x308 : Int := x240
  let x309 : Int := x241
  let x310 : Int := x236
  let x311 : Int := x237
  let x312 : Int := x242
  let x313 : Int := x243
  let x314 : Int := x238
  let x315 : Int := x239
  let x316 : Int := x216
  let x317 : Int := x217
  let x318 : Int := x232
  let x319 : Int := x233
  let x320 : Int := x218
  let x321 : Int := x219
  let x322 : Int := x234
  let x323 : Int := x235
  let x324 : Int := x248
  let x325 : Int := x249
  let x326 : Int := x256
  let x327 : Int := x257
  let x328 : Int := x250
  let x329 : Int := x251
  let x330 : Int := x258
  let x331 : Int := x259
  [x292, x293, x294, x295, x296, x297, x298, x299, x300, x301, x302, x303, x304, x305, x306, x307, x308, x309, x310, x311, x312, x313, x314, x315, x316, x317, x318, x319, x320, x321, x322, x323, x324, x325, x326, x327, x328, x329, x330, x331]

theorem square_and_negate_D_fn_ok (x0 x1 x2 x3 x4 x5 x6 x7 x8 x9 x10 x11 x12 x13 x14 x15 x16 x17 x18 x19 x20 x21 x22 x23 x24 x25 x26 x27 x28 x29 x30 x31 x32 x33 x34 x35 x36 x37 x38 x39 : Int) : NProg.evalZ square_and_negate_D_nprog [x0, x1, x2, x3, x4, x5, x6, x7, x8, x9, x10, x11, x12, x13, x14, x15, x16, x17, x18, x19, x20, x21, x22, x23, x24, x25, x26, x27, x28, x29, x30, x31, x32, x33, x34, x35, x36, x37, x38, x39] = square_and_negate_D_fn x0 x1 x2 x3 x4 x5 x6 x7 x8 x9 x10 x11 x12 x13 x14 x15 x16 x17 x18 x19 x20 x21 x22 x23 x24 x25 x26 x27 x28 x29 x30 x31 x32 x33 x34 x35 x36 x37 x38 x39 :=
  (NProg.evalZ_eq_fast _ _).trans (by kernel_rfl)

def mul_post : List Itv := [⟨0, 67108863, 0⟩, ⟨0, 67108863, 0⟩, ⟨0, 33558060, 0⟩, ⟨0, 33558060, 0⟩, ⟨0, 67108863, 0⟩, ⟨0, 67108863, 0⟩, ⟨0, 33558060, 0⟩, ⟨0, 33558060, 0⟩, ⟨0, 67108863, 0⟩, ⟨0, 67108863, 0⟩, ⟨0, 33554431, 0⟩, ⟨0, 33554431, 0⟩, ⟨0, 67108863, 0⟩, ⟨0, 67108863, 0⟩, ⟨0, 33554431, 0⟩, ⟨0, 33554431, 0⟩, ⟨0, 67108863, 0⟩, ⟨0, 67108863, 0⟩, ⟨0, 33556676, 0⟩, ⟨0, 33556676, 0⟩, ⟨0, 67108863, 0⟩, ⟨0, 67108863, 0⟩, ⟨0, 33556676, 0⟩, ⟨0, 33556676, 0⟩, ⟨0, 67108863, 0⟩, ⟨0, 67108863, 0⟩, ⟨0, 33554431, 0⟩, ⟨0, 33554431, 0⟩, ⟨0, 67108863, 0⟩, ⟨0, 67108863, 0⟩, ⟨0, 33554431, 0⟩, ⟨0, 33554431, 0⟩, ⟨0, 67108863, 0⟩, ⟨0, 67108863, 0⟩, ⟨0, 33554431, 0⟩, ⟨0, 33554431, 0⟩, ⟨0, 67108863, 0⟩, ⟨0, 67108863, 0⟩, ⟨0, 33554431, 0⟩, ⟨0, 33554431, 0⟩]

def mul_nprog : NProg := Prog.normProg Dalek.Gen.Avx2Field.mul Dalek.Model.Contracts.Avx2Field.pre_mul

theorem mul_norm_ok : Prog.norm Dalek.Gen.Avx2Field.mul Dalek.Model.Contracts.Avx2Field.pre_mul = some (mul_nprog, mul_post) :=
  Prog.norm_eq_of_post (by decide +kernel)

def mul_fn (x0 x1 x2 x3 x4 x5 x6 x7 x8 x9 x10 x11 x12 x13 x14 x15 x16 x17 x18 x19 x20 x21 x22 x23 x24 x25 x26 x27 x28 x29 x30 x31 x32 x33 x34 x35 x36 x37 x38 x39 x40 x41 x42 x43 x44 x45 x46 x47 x48 x49 x50 x51 x52 x53 x54 x55 x56 x57 x58 x59 x60 x61 x62 x63 x64 x65 x66 x67 x68 x69 x70 x71 x72 x73 x74 x75 x76 x77 x78 x79 : Int) : List Int :=
  let x80 : Int := ((19 : Int) * x42)
  let x81 : Int := ((19 : Int) * x43)
  let x82 : Int := ((19 : Int) * x46)
  let x83 : Int := ((19 : Int) * x47)
  let x84 : Int := ((19 : Int) * x48)
  let x85 : Int := ((19 : Int) * x49)
  let x86 : Int := ((19 : Int) * x52)
  let x87 : Int := ((19 : Int) * x53)
  let x88 : Int := ((19 : Int) * x50)
  let x89 : Int := ((19 : Int) * x51)
  let x90 : Int := ((19 : Int) * x54)
  let x91 : Int := ((19 : Int) * x55)
  let x92 : Int := ((19 : Int) * x56)
  let x93 : Int := ((19 : Int) * x57)
  let x94 : Int := ((19 : Int) * x60)
  let x95 : Int := ((19 : Int) * x61)
  let x96 : Int := ((19 : Int) * x58)
  let x97 : Int := ((19 : Int) * x59)
  let x98 : Int := ((19 : Int) * x62)
  let x99 : Int := ((19 : Int) * x63)
  let x100 : Int := ((19 : Int) * x64)
  let x101 : Int := ((19 : Int) * x65)
  let x102 : Int := ((19 : Int) * x68)
  let x103 : Int := ((19 : Int) * x69)
  let x104 : Int := ((19 : Int) * x66)
  let x105 : Int := ((19 : Int) * x67)
  let x106 : Int := ((19 : Int) * x70)
  let x107 : Int := ((19 : Int) * x71)
  let x108 : Int := ((19 : Int) * x72)
  let x109 : Int := ((19 : Int) * x73)
  let x110 : Int := ((19 : Int) * x76)
  let x111 : Int := ((19 : Int) * x77)
  let x112 : Int := ((19 : Int) * x74)
  let x113 : Int := ((19 : Int) * x75)
  let x114 : Int := ((19 : Int) * x78)
  let x115 : Int := ((19 : Int) * x79)
  let x116 : Int := (x2 + x2)
  let x117 : Int := (x3 + x3)
  let x118 : Int := (x6 + x6)
  let x119 : Int := (x7 + x7)
  let x120 : Int := (x10 + x10)
  let x121 : Int := (x11 + x11)
  let x122 : Int := (x14 + x14)
  let x123 : Int := (x15 + x15)
  let x124 : Int := (x18 + x18)
  let x125 : Int := (x19 + x19)
  let x126 : Int := (x22 + x22)
  let x127 : Int := (x23 + x23)
  let x128 : Int := (x26 + x26)
  let x129 : Int := (x27 + x27)
  let x130 : Int := (x30 + x30)
  let x131 : Int := (x31 + x31)
  let x132 : Int := (x34 + x34)
  let x133 : Int := (x35 + x35)
  let x134 : Int := (x38 + x38)
  let x135 : Int := (x39 + x39)
  let x136 : Int := ((((((((((x0 * x40) + (x116 * x112)) + (x8 * x108)) + (x120 * x104)) + (x16 * x100)) + (x124 * x96)) + (x24 * x92)) + (x128 * x88)) + (x32 * x84)) + (x132 * x80))
  let x137 : Int := ((((((((((x1 * x41) + (x117 * x113)) + (x9 * x109)) + (x121 * x105)) + (x17 * x101)) + (x125 * x97)) + (x25 * x93)) + (x129 * x89)) + (x33 * x85)) + (x133 * x81))
  let x138 : Int := ((((((((((x4 * x44) + (x118 * x114)) + (x12 * x110)) + (x122 * x106)) + (x20 * x102)) + (x126 * x98)) + (x28 * x94)) + (x130 * x90)) + (x36 * x86)) + (x134 * x82))
  let x139 : Int := ((((((((((x5 * x45) + (x119 * x115)) + (x13 * x111)) + (x123 * x107)) + (x21 * x103)) + (x127 * x99)) + (x29 * x95)) + (x131 * x91)) + (x37 * x87)) + (x135 * x83))
  let x140 : Int := ((((((((((x0 * x42) + (x2 * x40)) + (x8 * x112)) + (x10 * x108)) + (x16 * x104)) + (x18 * x100)) + (x24 * x96)) + (x26 * x92)) + (x32 * x88)) + (x34 * x84))
  let x141 : Int := ((((((((((x1 * x43) + (x3 * x41)) + (x9 * x113)) + (x11 * x109)) + (x17 * x105)) + (x19 * x101)) + (x25 * x97)) + (x27 * x93)) + (x33 * x89)) + (x35 * x85))
  let x142 : Int := ((((((((((x4 * x46) + (x6 * x44)) + (x12 * x114)) + (x14 * x110)) + (x20 * x106)) + (x22 * x102)) + (x28 * x98)) + (x30 * x94)) + (x36 * x90)) + (x38 * x86))
  let x143 : Int := ((((((((((x5 * x47) + (x7 * x45)) + (x13 * x115)) + (x15 * x111)) + (x21 * x107)) + (x23 * x103)) + (x29 * x99)) + (x31 * x95)) + (x37 * x91)) + (x39 * x87))
  let x144 : Int := ((((((((((x0 * x48) + (x116 * x42)) + (x8 * x40)) + (x120 * x112)) + (x16 * x108)) + (x124 * x104)) + (x24 * x100)) + (x128 * x96)) + (x32 * x92)) + (x132 * x88))
  let x145 : Int := ((((((((((x1 * x49) + (x117 * x43)) + (x9 * x41)) + (x121 * x113)) + (x17 * x109)) + (x125 * x105)) + (x25 * x101)) + (x129 * x97)) + (x33 * x93)) + (x133 * x89))
  let x146 : Int := ((((((((((x4 * x52) + (x118 * x46)) + (x12 * x44)) + (x122 * x114)) + (x20 * x110)) + (x126 * x106)) + (x28 * x102)) + (x130 * x98)) + (x36 * x94)) + (x134 * x90))
  let x147 : Int := ((((((((((x5 * x53) + (x119 * x47)) + (x13 * x45)) + (x123 * x115)) + (x21 * x111)) + (x127 * x107)) + (x29 * x103)) + (x131 * x99)) + (x37 * x95)) + (x135 * x91))
  let x148 : Int := ((((((((((x0 * x50) + (x2 * x48)) + (x8 * x42)) + (x10 * x40)) + (x16 * x112)) + (x18 * x108)) + (x24 * x104)) + (x26 * x100)) + (x32 * x96)) + (x34 * x92))
  let x149 : Int := ((((((((((x1 * x51) + (x3 * x49)) + (x9 * x43)) + (x11 * x41)) + (x17 * x113)) + (x19 * x109)) + (x25 * x105)) + (x27 * x101)) + (x33 * x97)) + (x35 * x93))
  let x150 : Int := ((((((((((x4 * x54) + (x6 * x52)) + (x12 * x46)) + (x14 * x44)) + (x20 * x114)) + (x22 * x110)) + (x28 * x106)) + (x30 * x102)) + (x36 * x98)) + (x38 * x94))
  let x151 : Int := ((((((((((x5 * x55) + (x7 * x53)) + (x13 * x47)) + (x15 * x45)) + (x21 * x115)) + (x23 * x111)) + (x29 * x107)) + (x31 * x103)) + (x37 * x99)) + (x39 * x95))
  let x152 : Int := ((((((((((x0 * x56) + (x116 * x50)) + (x8 * x48)) + (x120 * x42)) + (x16 * x40)) + (x124 * x112)) + (x24 * x108)) + (x128 * x104)) + (x32 * x100)) + (x132 * x96))
  let x153 : Int := ((((((((((x1 * x57) + (x117 * x51)) + (x9 * x49)) + (x121 * x43)) + (x17 * x41)) + (x125 * x113)) + (x25 * x109)) + (x129 * x105)) + (x33 * x101)) + (x133 * x97))
  let x154 : Int := ((((((((((x4 * x60) + (x118 * x54)) + (x12 * x52)) + (x122 * x46)) + (x20 * x44)) + (x126 * x114)) + (x28 * x110)) + (x130 * x106)) + (x36 * x102)) + (x134 * x98))
  let x155 : Int := ((((((((((x5 * x61) + (x119 * x55)) + (x13 * x53)) + (x123 * x47)) + (x21 * x45)) + (x127 * x115)) + (x29 * x111)) + (x131 * x107)) + (x37 * x103)) + (x135 * x99))
  let x156 : Int := ((((((((((x0 * x58) + (x2 * x56)) + (x8 * x50)) + (x10 * x48)) + (x16 * x42)) + (x18 * x40)) + (x24 * x112)) + (x26 * x108)) + (x32 * x104)) + (x34 * x100))
  let x157 : Int := ((((((((((x1 * x59) + (x3 * x57)) + (x9 * x51)) + (x11 * x49)) + (x17 * x43)) + (x19 * x41)) + (x25 * x113)) + (x27 * x109)) + (x33 * x105)) + (x35 * x101))
  let x158 : Int := ((((((((((x4 * x62) + (x6 * x60)) + (x12 * x54)) + (x14 * x52)) + (x20 * x46)) + (x22 * x44)) + (x28 * x114)) + (x30 * x110)) + (x36 * x106)) + (x38 * x102))
  let x159 : Int := ((((((((((x5 * x63) + (x7 * x61)) + (x13 * x55)) + (x15 * x53)) + (x21 * x47)) + (x23 * x45)) + (x29 * x115)) + (x31 * x111)) + (x37 * x107)) + (x39 * x103))
  let x160 : Int := ((((((((((x0 * x64) + (x116 * x58)) + (x8 * x56)) + (x120 * x50)) + (x16 * x48)) + (x124 * x42)) + (x24 * x40)) + (x128 * x112)) + (x32 * x108)) + (x132 * x104))
  let x161 : Int := ((((((((((x1 * x65) + (x117 * x59)) + (x9 * x57)) + (x121 * x51)) + (x17 * x49)) + (x125 * x43)) + (x25 * x41)) + (x129 * x113)) + (x33 * x109)) + (x133 * x105))
  let x162 : Int := ((((((((((x4 * x68) + (x118 * x62)) + (x12 * x60)) + (x122 * x54)) + (x20 * x52)) + (x126 * x46)) + (x28 * x44)) + (x130 * x114)) + (x36 * x110)) + (x134 * x106))
  let x163 : Int := ((((((((((x5 * x69) + (x119 * x63)) + (x13 * x61)) + (x123 * x55)) + (x21 * x53)) + (x127 * x47)) + (x29 * x45)) + (x131 * x115)) + (x37 * x111)) + (x135 * x107))
  let x164 : Int := ((((((((((x0 * x66) + (x2 * x64)) + (x8 * x58)) + (x10 * x56)) + (x16 * x50)) + (x18 * x48)) + (x24 * x42)) + (x26 * x40)) + (x32 * x112)) + (x34 * x108))
  let x165 : Int := ((((((((((x1 * x67) + (x3 * x65)) + (x9 * x59)) + (x11 * x57)) + (x17 * x51)) + (x19 * x49)) + (x25 * x43)) + (x27 * x41)) + (x33 * x113)) + (x35 * x109))
  let x166 : Int := ((((((((((x4 * x70) + (x6 * x68)) + (x12 * x62)) + (x14 * x60)) + (x20 * x54)) + (x22 * x52)) + (x28 * x46)) + (x30 * x44)) + (x36 * x114)) + (x38 * x110))
  let x167 : Int := ((((((((((x5 * x71) + (x7 * x69)) + (x13 * x63)) + (x15 * x61)) + (x21 * x55)) + (x23 * x53)) + (x29 * x47)) + (x31 * x45)) + (x37 * x115)) + (x39 * x111))
  let x168 : Int := ((((((((((x0 * x72) + (x116 * x66)) + (x8 * x64)) + (x120 * x58)) + (x16 * x56)) + (x124 * x50)) + (x24 * x48)) + (x128 * x42)) + (x32 * x40)) + (x132 * x112))
  let x169 : Int := ((((((((((x1 * x73) + (x117 * x67)) + (x9 * x65)) + (x121 * x59)) + (x17 * x57)) + (x125 * x51)) + (x25 * x49)) + (x129 * x43)) + (x33 * x41)) + (x133 * x113))
  let x170 : Int := ((((((((((x4 * x76) + (x118 * x70)) + (x12 * x68)) + (x122 * x62)) + (x20 * x60)) + (x126 * x54)) + (x28 * x52)) + (x130 * x46)) + (x36 * x44)) + (x134 * x114))
  let x171 : Int := ((((((((((x5 * x77) + (x119 * x71)) + (x13 * x69)) + (x123 * x63)) + (x21 * x61)) + (x127 * x55)) + (x29 * x53)) + (x131 * x47)) + (x37 * x45)) + (x135 * x115))
  let x172 : Int := ((((((((((x0 * x74) + (x2 * x72)) + (x8 * x66)) + (x10 * x64)) + (x16 * x58)) + (x18 * x56)) + (x24 * x50)) + (x26 * x48)) + (x32 * x42)) + (x34 * x40))
  let x173 : Int := ((((((((((x1 * x75) + (x3 * x73)) + (x9 * x67)) + (x11 * x65)) + (x17 * x59)) + (x19 * x57)) + (x25 * x51)) + (x27 * x49)) + (x33 * x43)) + (x35 * x41))
  let x174 : Int := ((((((((((x4 * x78) + (x6 * x76)) + (x12 * x70)) + (x14 * x68)) + (x20 * x62)) + (x22 * x60)) + (x28 * x54)) + (x30 * x52)) + (x36 * x46)) + (x38 * x44))
  let x175 : Int := ((((((((((x5 * x79) + (x7 * x77)) + (x13 * x71)) + (x15 * x69)) + (x21 * x63)) + (x23 * x61)) + (x29 * x55)) + (x31 * x53)) + (x37 * x47)) + (x39 * x45))
  let x176 : Int := (x140 + (x136 / 2 ^ (26 : Nat)))
  let x177 : Int := (x141 + (x137 / 2 ^ (26 : Nat)))
  let x178 : Int := (x142 + (x138 / 2 ^ (26 : Nat)))
  let x179 : Int := (x143 + (x139 / 2 ^ (26 : Nat)))
  let x180 : Int := (x136 % 2 ^ (26 : Nat))
  let x181 : Int := (x137 % 2 ^ (26 : Nat))
  let x182 : Int := (x138 % 2 ^ (26 : Nat))
  let x183 : Int := (x139 % 2 ^ (26 : Nat))
  let x184 : Int := (x156 + (x152 / 2 ^ (26 : Nat)))
  let x185 : Int := (x157 + (x153 / 2 ^ (26 : Nat)))
  let x186 : Int := (x158 + (x154 / 2 ^ (26 : Nat)))
  let x187 : Int := (x159 + (x155 / 2 ^ (26 : Nat)))
  let x188 : Int := (x152 % 2 ^ (26 : Nat))
  let x189 : Int := (x153 % 2 ^ (26 : Nat))
  let x190 : Int := (x154 % 2 ^ (26 : Nat))
  let x191 : Int := (x155 % 2 ^ (26 : Nat))
  let x192 : Int := (x144 + (x176 / 2 ^ (25 : Nat)))
  let x193 : Int := (x145 + (x177 / 2 ^ (25 : Nat)))
  let x194 : Int := (x146 + (x178 / 2 ^ (25 : Nat)))
  let x195 : Int := (x147 + (x179 / 2 ^ (25 : Nat)))
  let x196 : Int := (x176 % 2 ^ (25 : Nat))
  let x197 : Int := (x177 % 2 ^ (25 : Nat))
  let x198 : Int := (x178 % 2 ^ (25 : Nat))
  let x199 : Int := (x179 % 2 ^ (25 : Nat))
  let x200 : Int := (x160 + (x184 / 2 ^ (25 : Nat)))
  let x201 : Int := (x161 + (x185 / 2 ^ (25 : Nat)))
  let x202 : Int := (x162 + (x186 / 2 ^ (25 : Nat)))
  let x203 : Int := (x163 + (x187 / 2 ^ (25 : Nat)))
  let x204 : Int := (x184 % 2 ^ (25 : Nat))
  let x205 : Int := (x185 % 2 ^ (25 : Nat))
  let x206 : Int := (x186 % 2 ^ (25 : Nat))
  let x207 : Int := (x187 % 2 ^ (25 : Nat))
  let x208 : Int := (x148 + (x192 / 2 ^ (26 : Nat)))
  let x209 : Int := (x149 + (x193 / 2 ^ (26 : Nat)))
  let x210 : Int := (x150 + (x194 / 2 ^ (26 : Nat)))
  let x211 : Int := (x151 + (x195 / 2 ^ (26 : Nat)))
  let x212 : Int := (x192 % 2 ^ (26 : Nat))
  let x213 : Int := (x193 % 2 ^ (26 : Nat))
  let x214 : Int := (x194 % 2 ^ (26 : Nat))
  let x215 : Int := (x195 % 2 ^ (26 : Nat))
  let x216 : Int := (x164 + (x200 / 2 ^ (26 : Nat)))
  let x217 : Int := (x165 + (x201 / 2 ^ (26 : Nat)))
  let x218 : Int := (x166 + (x202 / 2 ^ (26 : Nat)))
  let x219 : Int := (x167 + (x203 / 2 ^ (26 : Nat)))
  let x220 : Int := (x200 % 2 ^ (26 : Nat))
  let x221 : Int := (x201 % 2 ^ (26 : Nat))
  let x222 : Int := (x202 % 2 ^ (26 : Nat))
  let x223 : Int := (x203 % 2 ^ (26 : Nat))
  let x224 : Int := (x188 + (x208 / 2 ^ (25 : Nat)))
  let x225 : Int := (x189 + (x209 / 2 ^ (25 : Nat)))
  let x226 : Int := (x190 + (x210 / 2 ^ (25 : Nat)))
  let x227 : Int := (x191 + (x211 / 2 ^ (25 : Nat)))
  let x228 : Int := (x208 % 2 ^ (25 : Nat))
  let x229 : Int := (x209 % 2 ^ (25 : Nat))
  let x230 : Int := (x210 % 2 ^ (25 : Nat))
  let x231 : Int := (x211 % 2 ^ (25 : Nat))
  let x232 : Int := (x168 + (x216 / 2 ^ (25 : Nat)))
  let x233 : Int := (x169 + (x217 / 2 ^ (25 : Nat)))
  let x234 : Int := (x170 + (x218 / 2 ^ (25 : Nat)))
  let x235 : Int := (x171 + (x219 / 2 ^ (25 : Nat)))
  let x236 : Int := (x216 % 2 ^ (25 : Nat))
  let x237 : Int := (x217 % 2 ^ (25 : Nat))
  let x238 : Int := (x218 % 2 ^ (25 : Nat))
  let x239 : Int := (x219 % 2 ^ (25 : Nat))
  let x240 : Int := (x204 + (x224 / 2 ^ (26 : Nat)))
  let x241 : Int := (x205 + (x225 / 2 ^ (26 : Nat)))
  let x242 : Int := (x206 + (x226 / 2 ^ (26 : Nat)))
  let x243 : Int := (x207 + (x227 / 2 ^ (26 : Nat)))
  let x244 : Int := (x224 % 2 ^ (26 : Nat))
  let x245 : Int := (x225 % 2 ^ (26 : Nat))
  let x246 : Int := (x226 % 2 ^ (26 : Nat))
  let x247 : Int := (x227 % 2 ^ (26 : Nat))
  let x248 : Int := (x172 + (x232 / 2 ^ (26 : Nat)))
  let x249 : Int := (x173 + (x233 / 2 ^ (26 : Nat)))
  let x250 : Int := (x174 + (x234 / 2 ^ (26 : Nat)))
  let x251 : Int := (x175 + (x235 / 2 ^ (26 : Nat)))
  let x252 : Int := (x232 % 2 ^ (26 : Nat))
  let x253 : Int := (x233 % 2 ^ (26 : Nat))
  let x254 : Int := (x234 % 2 ^ (26 : Nat))
  let x255 : Int := (x235 % 2 ^ (26 : Nat))
  let x256 : Int := (x248 / 2 ^ (25 : Nat))
  let x257 : Int := (x249 / 2 ^ (25 : Nat))
  let x258 : Int := (x250 / 2 ^ (25 : Nat))
  let x259 : Int := (x251 / 2 ^ (25 : Nat))
  let x260 : Int := (x248 % 2 ^ (25 : Nat))
  let x261 : Int := (x249 % 2 ^ (25 : Nat))
  let x262 : Int := (x250 % 2 ^ (25 : Nat))
  let x263 : Int := (x251 % 2 ^ (25 : Nat))
  let x264 : Int := (x256 % 2 ^ (26 : Nat))
  let x265 : Int := (x257 % 2 ^ (26 : Nat))
  let x266 : Int := (x258 % 2 ^ (26 : Nat))
  let x267 : Int := (x259 % 2 ^ (26 : Nat))
  let x268 : Int := (x256 / 2 ^ (26 : Nat))
  let x269 : Int := (x257 / 2 ^ (26 : Nat))
  let x270 : Int := (x258 / 2 ^ (26 : Nat))
  let x271 : Int := (x259 / 2 ^ (26 : Nat))
  let x272 : Int := (x264 * (19 : Int))
  let x273 : Int := (x265 * (19 : Int))
  let x274 : Int := (x266 * (19 : Int))
  let x275 : Int := (x267 * (19 : Int))
  let x276 : Int := (x268 * (19 : Int))
  let x277 : Int := (x269 * (19 : Int))
  let x278 : Int := (x270 * (19 : Int))
  let x279 : Int := (x271 * (19 : Int))
  let x280 : Int := (x180 + x272)
  let x281 : Int := (x181 + x273)
  let x282 : Int := (x182 + x274)
  let x283 : Int := (x183 + x275)
  let x284 : Int := (x196 + x276)
  let x285 : Int := (x197 + x277)
  let x286 : Int := (x198 + x278)
  let x287 : Int := (x199 + x279)
  let x288 : Int := (x284 + (x280 / 2 ^ (26 : Nat)))
  let x289 : Int := (x285 + (x281 / 2 ^ (26 : Nat)))
  let x290 : Int := (x286 + (x282 / 2 ^ (26 : Nat)))
  let x291 : Int := (x287 + (x283 / 2 ^ (26 : Nat)))
  let x292 : Int := (x280 % 2 ^ (26 : Nat))
  let x293 : Int := (x281 % 2 ^ (26 : Nat))
  let x294 : Int := (x282 % 2 ^ (26 : Nat))
  let x295 : Int := (x283 % 2 ^ (26 : Nat))
  let x296 : Int := x292
  let x297 : Int := x293
  let x298 : Int := x288
  let x299 : Int := x289
  let x300 : Int := x294
  let x301 : Int := x295
  let x302 : Int := x290
  let x303 : Int := x291
  let x304 : Int := x212
  let x305 : Int := x213
  let x306 : Int := x228
  let x307 : Int := x229
  let x308 : Int := x214
  let x309 : Int := x215
  let x310 : Int := x230
  let x311 : Int := x231
  let x312 : Int := x244
  let x313 : Int := x245
  let x314 : Int := x240
  let x315 : Int := x241
  let x316 : Int := x246
  let x317 : Int := x247
  let x318 : Int := x242
  let x319 : Int := x243
  let x320 : Int := x220
  let x321 : Int := x221
  let x322 : Int := x236
  let x323 : Int := x237
  let x324 : Int := x222
  let x325 : Int := x223
  let x326 : Int := x238
  let x327 : Int := x239
  let x328 : Int := x252
  let x329 : Int := x253
  let x330 : Int := x260
  let x331 : Int := x261
  let x332 : Int := x254
  let x333 : Int := x255
  let x334 : Int := x262
  let x335 : Int := x263
  [x296, x297, x298, x299, x300, x301, x302, x303, x304, x305, x306, x307, x308, x309, x310, x311, x312, x313, x314, x315, x316, x317, x318, x319, x320, x321, x322, x323, x324, x325, x326, x327, x328, x329, x330, x331, x332, x333, x334, x335]

theorem mul_fn_ok (x0 x1 x2 x3 x4 x5 x6 x7 x8 x9 x10 x11 x12 x13 x14 x15 x16 x17 x18 x19 x20 x21 x22 x23 x24 x25 x26 x27 x28 x29 x30 x31 x32 x33 x34 x35 x36 x37 x38 x39 x40 x41 x42 x43 x44 x45 x46 x47 x48 x49 x50 x51 x52 x53 x54 x55 x56 x57 x58 x59 x60 x61 x62 x63 x64 x65 x66 x67 x68 x69 x70 x71 x72 x73 x74 x75 x76 x77 x78 x79 : Int) : NProg.evalZ mul_nprog [x0, x1, x2, x3, x4, x5, x6, x7, x8, x9, x10, x11, x12, x13, x14, x15, x16, x17, x18, x19, x20, x21, x22, x23, x24, x25, x26, x27, x28, x29, x30, x31, x32, x33, x34, x35, x36, x37, x38, x39, x40, x41, x42, x43, x44, x45, x46, x47, x48, x49, x50, x51, x52, x53, x54, x55, x56, x57, x58, x59, x60, x61, x62, x63, x64, x65, x66, x67, x68, x69, x70, x71, x72, x73, x74, x75, x76, x77, x78, x79] = mul_fn x0 x1 x2 x3 x4 x5 x6 x7 x8 x9 x10 x11 x12 x13 x14 x15 x16 x17 x18 x19 x20 x21 x22 x23 x24 x25 x26 x27 x28 x29 x30 x31 x32 x33 x34 x35 x36 x37 x38 x39 x40 x41 x42 x43 x44 x45 x46 x47 x48 x49 x50 x51 x52 x53 x54 x55 x56 x57 x58 x59 x60 x61 x62 x63 x64 x65 x66 x67 x68 x69 x70 x71 x72 x73 x74 x75 x76 x77 x78 x79 :=
  (NProg.evalZ_eq_fast _ _).trans (by kernel_rfl)

def reduce64_post : List Itv := [⟨0, 67108863, 0⟩, ⟨0, 67108863, 0⟩, ⟨0, 33710079, 0⟩, ⟨0, 33710079, 0⟩, ⟨0, 67108863, 0⟩, ⟨0, 67108863, 0⟩, ⟨0, 33710079, 0⟩, ⟨0, 33710079, 0⟩, ⟨0, 67108863, 0⟩, ⟨0, 67108863, 0⟩, ⟨0, 33554431, 0⟩, ⟨0, 33554431, 0⟩, ⟨0, 67108863, 0⟩, ⟨0, 67108863, 0⟩, ⟨0, 33554431, 0⟩, ⟨0, 33554431, 0⟩, ⟨0, 67108863, 0⟩, ⟨0, 67108863, 0⟩, ⟨0, 33562623, 0⟩, ⟨0, 33562623, 0⟩, ⟨0, 67108863, 0⟩, ⟨0, 67108863, 0⟩, ⟨0, 33562623, 0⟩, ⟨0, 33562623, 0⟩, ⟨0, 67108863, 0⟩, ⟨0, 67108863, 0⟩, ⟨0, 33554431, 0⟩, ⟨0, 33554431, 0⟩, ⟨0, 67108863, 0⟩, ⟨0, 67108863, 0⟩, ⟨0, 33554431, 0⟩, ⟨0, 33554431, 0⟩, ⟨0, 67108863, 0⟩, ⟨0, 67108863, 0⟩, ⟨0, 33554431, 0⟩, ⟨0, 33554431, 0⟩, ⟨0, 67108863, 0⟩, ⟨0, 67108863, 0⟩, ⟨0, 33554431, 0⟩, ⟨0, 33554431, 0⟩]

def reduce64_nprog : NProg := Prog.normProg Dalek.Gen.Avx2Field.reduce64 Dalek.Model.Contracts.Avx2Field.pre_reduce64

theorem reduce64_norm_ok : Prog.norm Dalek.Gen.Avx2Field.reduce64 Dalek.Model.Contracts.Avx2Field.pre_reduce64 = some (reduce64_nprog, reduce64_post) :=
  Prog.norm_eq_of_post (by decide +kernel)

def reduce64_fn (x0 x1 x2 x3 x4 x5 x6 x7 x8 x9 x10 x11 x12 x13 x14 x15 x16 x17 x18 x19 x20 x21 x22 x23 x24 x25 x26 x27 x28 x29 x30 x31 x32 x33 x34 x35 x36 x37 x38 x39 : Int) : List Int :=
  let x40 : Int := (x4 + (x0 / 2 ^ (26 : Nat)))
  let x41 : Int := (x5 + (x1 / 2 ^ (26 : Nat)))
  let x42 : Int := (x6 + (x2 / 2 ^ (26 : Nat)))
  let x43 : Int := (x7 + (x3 / 2 ^ (26 : Nat)))
  let x44 : Int := (x0 % 2 ^ (26 : Nat))
  let x45 : Int := (x1 % 2 ^ (26 : Nat))
  let x46 : Int := (x2 % 2 ^ (26 : Nat))
  let x47 : Int := (x3 % 2 ^ (26 : Nat))
  let x48 : Int := (x20 + (x16 / 2 ^ (26 : Nat)))
  let x49 : Int := (x21 + (x17 / 2 ^ (26 : Nat)))
  let x50 : Int := (x22 + (x18 / 2 ^ (26 : Nat)))
  let x51 : Int := (x23 + (x19 / 2 ^ (26 : Nat)))
  let x52 : Int := (x16 % 2 ^ (26 : Nat))
  let x53 : Int := (x17 % 2 ^ (26 : Nat))
  let x54 : Int := (x18 % 2 ^ (26 : Nat))
  let x55 : Int := (x19 % 2 ^ (26 : Nat))
  let x56 : Int := (x8 + (x40 / 2 ^ (25 : Nat)))
  let x57 : Int := (x9 + (x41 / 2 ^ (25 : Nat)))
  let x58 : Int := (x10 + (x42 / 2 ^ (25 : Nat)))
  let x59 : Int := (x11 + (x43 / 2 ^ (25 : Nat)))
  let x60 : Int := (x40 % 2 ^ (25 : Nat))
  let x61 : Int := (x41 % 2 ^ (25 : Nat))
  let x62 : Int := (x42 % 2 ^ (25 : Nat))
  let x63 : Int := (x43 % 2 ^ (25 : Nat))
  let x64 : Int := (x24 + (x48 / 2 ^ (25 : Nat)))
  let x65 : Int := (x25 + (x49 / 2 ^ (25 : Nat)))
  let x66 : Int := (x26 + (x50 / 2 ^ (25 : Nat)))
  let x67 : Int := (x27 + (x51 / 2 ^ (25 : Nat)))
  let x68 : Int := (x48 % 2 ^ (25 : Nat))
  let x69 : Int := (x49 % 2 ^ (25 : Nat))
  let x70 : Int := (x50 % 2 ^ (25 : Nat))
  let x71 : Int := (x51 % 2 ^ (25 : Nat))
  let x72 : Int := (x12 + (x56 / 2 ^ (26 : Nat)))
  let x73 : Int := (x13 + (x57 / 2 ^ (26 : Nat)))
  let x74 : Int := (x14 + (x58 / 2 ^ (26 : Nat)))
  let x75 : Int := (x15 + (x59 / 2 ^ (26 : Nat)))
  let x76 : Int := (x56 % 2 ^ (26 : Nat))
  let x77 : Int := (x57 % 2 ^ (26 : Nat))
  let x78 : Int := (x58 % 2 ^ (26 : Nat))
  let x79 : Int := (x59 % 2 ^ (26 : Nat))
  let x80 : Int := (x28 + (x64 / 2 ^ (26 : Nat)))
  let x81 : Int := (x29 + (x65 / 2 ^ (26 : Nat)))
  let x82 : Int := (x30 + (x66 / 2 ^ (26 : Nat)))
  let x83 : Int := (x31 + (x67 / 2 ^ (26 : Nat)))
  let x84 : Int := (x64 % 2 ^ (26 : Nat))
  let x85 : Int := (x65 % 2 ^ (26 : Nat))
  let x86 : Int := (x66 % 2 ^ (26 : Nat))
  let x87 : Int := (x67 % 2 ^ (26 : Nat))
  let x88 : Int := (x52 + (x72 / 2 ^ (25 : Nat)))
  let x89 : Int := (x53 + (x73 / 2 ^ (25 : Nat)))
  let x90 : Int := (x54 + (x74 / 2 ^ (25 : Nat)))
  let x91 : Int := (x55 + (x75 / 2 ^ (25 : Nat)))
  let x92 : Int := (x72 % 2 ^ (25 : Nat))
  let x93 : Int := (x73 % 2 ^ (25 : Nat))
  let x94 : Int := (x74 % 2 ^ (25 : Nat))
  let x95 : Int := (x75 % 2 ^ (25 : Nat))
  let x96 : Int := (x32 + (x80 / 2 ^ (25 : Nat)))
  let x97 : Int := (x33 + (x81 / 2 ^ (25 : Nat)))
  let x98 : Int := (x34 + (x82 / 2 ^ (25 : Nat)))
  let x99 : Int := (x35 + (x83 / 2 ^ (25 : Nat)))
  let x100 : Int := (x80 % 2 ^ (25 : Nat))
  let x101 : Int := (x81 % 2 ^ (25 : Nat))
  let x102 : Int := (x82 % 2 ^ (25 : Nat))
  let x103 : Int := (x83 % 2 ^ (25 : Nat))
  let x104 : Int := (x68 + (x88 / 2 ^ (26 : Nat)))
  let x105 : Int := (x69 + (x89 / 2 ^ (26 : Nat)))
  let x106 : Int := (x70 + (x90 / 2 ^ (26 : Nat)))
  let x107 : Int := (x71 + (x91 / 2 ^ (26 : Nat)))
  let x108 : Int := (x88 % 2 ^ (26 : Nat))
  let x109 : Int := (x89 % 2 ^ (26 : Nat))
  let x110 : Int := (x90 % 2 ^ (26 : Nat))
  let x111 : Int := (x91 % 2 ^ (26 : Nat))
  let x112 : Int := (x36 + (x96 / 2 ^ (26 : Nat)))
  let x113 : Int := (x37 + (x97 / 2 ^ (26 : Nat)))
  let x114 : Int := (x38 + (x98 / 2 ^ (26 : Nat)))
  let x115 : Int := (x39 + (x99 / 2 ^ (26 : Nat)))
  let x116 : Int := (x96 % 2 ^ (26 : Nat))
  let x117 : Int := (x97 % 2 ^ (26 : Nat))
  let x118 : Int := (x98 % 2 ^ (26 : Nat))
  let x119 : Int := (x99 % 2 ^ (26 : Nat))
  let x120 : Int := (x112 / 2 ^ (25 : Nat))
  let x121 : Int := (x113 / 2 ^ (25 : Nat))
  let x122 : Int := (x114 / 2 ^ (25 : Nat))
  let x123 : Int := (x115 / 2 ^ (25 : Nat))
  let x124 : Int := (x112 % 2 ^ (25 : Nat))
  let x125 : Int := (x113 % 2 ^ (25 : Nat))
  let x126 : Int := (x114 % 2 ^ (25 : Nat))
  let x127 : Int := (x115 % 2 ^ (25 : Nat))
  let x128 : Int := (x120 % 2 ^ (26 : Nat))
  let x129 : Int := (x121 % 2 ^ (26 : Nat))
  let x130 : Int := (x122 % 2 ^ (26 : Nat))
  let x131 : Int := (x123 % 2 ^ (26 : Nat))
  let x132 : Int := (x120 / 2 ^ (26 : Nat))
  let x133 : Int := (x121 / 2 ^ (26 : Nat))
  let x134 : Int := (x122 / 2 ^ (26 : Nat))
  let x135 : Int := (x123 / 2 ^ (26 : Nat))
  let x136 : Int := (x128 * (19 : Int))
  let x137 : Int := (x129 * (19 : Int))
  let x138 : Int := (x130 * (19 : Int))
  let x139 : Int := (x131 * (19 : Int))
  let x140 : Int := (x132 * (19 : Int))
  let x141 : Int := (x133 * (19 : Int))
  let x142 : Int := (x134 * (19 : Int))
  let x143 : Int := (x135 * (19 : Int))
  let x144 : Int := (x44 + x136)
  let x145 : Int := (x45 + x137)
  let x146 : Int := (x46 + x138)
  let x147 : Int := (x47 + x139)
  let x148 : Int := (x60 + x140)
  let x149 : Int := (x61 + x141)
  let x150 : Int := (x62 + x142)
  let x151 : Int := (x63 + x143)
  let x152 : Int := (x148 + (x144 / 2 ^ (26 : Nat)))
  let x153 : Int := (x149 + (x145 / 2 ^ (26 : Nat)))
  let x154 : Int := (x150 + (x146 / 2 ^ (26 : Nat)))
  let x155 : Int := (x151 + (x147 / 2 ^ (26 : Nat)))
  let x156 : Int := (x144 % 2 ^ (26 : Nat))
  let x157 : Int := (x145 % 2 ^ (26 : Nat))
  let x158 : Int := (x146 % 2 ^ (26 : Nat))
  let x159 : Int := (x147 % 2 ^ (26 : Nat))
  let x160 : Int := x156
  let x161 : Int := x157
  let x162 : Int := x152
  let x163 : Int := x153
  let x164 : Int := x158
  let x165 : Int := x159
  let x166 : Int := x154
  let x167 : Int := x155
  let x168 : Int := x76
  let x169 : Int := x77
  let x170 : Int := x92
  let x171 : Int := x93
  let x172 : Int := x78
  let x173 : Int := x79
  let x174 : Int := x94
  let x175 : Int := x95
  let x176 : Int := x108
  let x177 : Int := x109
  let x178 : Int := x104
  let x179 : Int := x105
  let x180 : Int := x110
  let x181 : Int := x111
  let x182 : Int := x106
  let x183 : Int := x107
  let x184 : Int := x84
  let x185 : Int := x85
  let x186 : Int := x100
  let x187 : Int := x101
  let x188 : Int := x86
  let x189 : Int := x87
  let x190 : Int := x102
  let x191 : Int := x103
  let x192 : Int := x116
  let x193 : Int := x117
  let x194 : Int := x124
  let x195 : Int := x125
  let x196 : Int := x118
  let x197 : Int := x119
  let x198 : Int := x126
  let x199 : Int := x127
  [x160, x161, x162, x163, x164, x165, x166, x167, x168, x169, x170, x171, x172, x173, x174, x175, x176, x177, x178, x179, x180, x181, x182, x183, x184, x185, x186, x187, x188, x189, x190, x191, x192, x193, x194, x195, x196, x197, x198, x199]

theorem reduce64_fn_ok (x0 x1 x2 x3 x4 x5 x6 x7 x8 x9 x10 x11 x12 x13 x14 x15 x16 x17 x18 x19 x20 x21 x22 x23 x24 x25 x26 x27 x28 x29 x30 x31 x32 x33 x34 x35 x36 x37 x38 x39 : Int) : NProg.evalZ reduce64_nprog [x0, x1, x2, x3, x4, x5, x6, x7, x8, x9, x10, x11, x12, x13, x14, x15, x16, x17, x18, x19, x20, x21, x22, x23, x24, x25, x26, x27, x28, x29, x30, x31, x32, x33, x34, x35, x36, x37, x38, x39] = reduce64_fn x0 x1 x2 x3 x4 x5 x6 x7 x8 x9 x10 x11 x12 x13 x14 x15 x16 x17 x18 x19 x20 x21 x22 x23 x24 x25 x26 x27 x28 x29 x30 x31 x32 x33 x34 x35 x36 x37 x38 x39 :=
  (NProg.evalZ_eq_fast _ _).trans (by kernel_rfl)

def conditional_select_post : List Itv := [⟨0, 4294967295, 0⟩, ⟨0, 4294967295, 0⟩, ⟨0, 4294967295, 0⟩, ⟨0, 4294967295, 0⟩, ⟨0, 4294967295, 0⟩, ⟨0, 4294967295, 0⟩, ⟨0, 4294967295, 0⟩, ⟨0, 4294967295, 0⟩, ⟨0, 4294967295, 0⟩, ⟨0, 4294967295, 0⟩, ⟨0, 4294967295, 0⟩, ⟨0, 4294967295, 0⟩, ⟨0, 4294967295, 0⟩, ⟨0, 4294967295, 0⟩, ⟨0, 4294967295, 0⟩, ⟨0, 4294967295, 0⟩, ⟨0, 4294967295, 0⟩, ⟨0, 4294967295, 0⟩, ⟨0, 4294967295, 0⟩, ⟨0, 4294967295, 0⟩, ⟨0, 4294967295, 0⟩, ⟨0, 4294967295, 0⟩, ⟨0, 4294967295, 0⟩, ⟨0, 4294967295, 0⟩, ⟨0, 4294967295, 0⟩, ⟨0, 4294967295, 0⟩, ⟨0, 4294967295, 0⟩, ⟨0, 4294967295, 0⟩, ⟨0, 4294967295, 0⟩, ⟨0, 4294967295, 0⟩, ⟨0, 4294967295, 0⟩, ⟨0, 4294967295, 0⟩, ⟨0, 4294967295, 0⟩, ⟨0, 4294967295, 0⟩, ⟨0, 4294967295, 0⟩, ⟨0, 4294967295, 0⟩, ⟨0, 4294967295, 0⟩, ⟨0, 4294967295, 0⟩, ⟨0, 4294967295, 0⟩, ⟨0, 4294967295, 0⟩]

def conditional_select_nprog : NProg := Prog.normProg Dalek.Gen.Avx2Field.conditional_select Dalek.Model.Contracts.Avx2Field.pre_conditional_select

theorem conditional_select_norm_ok : Prog.norm Dalek.Gen.Avx2Field.conditional_select Dalek.Model.Contracts.Avx2Field.pre_conditional_select = some (conditional_select_nprog, conditional_select_post) :=
  Prog.norm_eq_of_post (by decide +kernel)

def conditional_select_fn (x0 x1 x2 x3 x4 x5 x6 x7 x8 x9 x10 x11 x12 x13 x14 x15 x16 x17 x18 x19 x20 x21 x22 x23 x24 x25 x26 x27 x28 x29 x30 x31 x32 x33 x34 x35 x36 x37 x38 x39 x40 x41 x42 x43 x44 x45 x46 x47 x48 x49 x50 x51 x52 x53 x54 x55 x56 x57 x58 x59 x60 x61 x62 x63 x64 x65 x66 x67 x68 x69 x70 x71 x72 x73 x74 x75 x76 x77 x78 x79 x80 : Int) : List Int :=
  let x81 : Int := (if x80 = 0 then x0 else x40)
  let x82 : Int := (if x80 = 0 then x1 else x41)
  let x83 : Int := (if x80 = 0 then x2 else x42)
  let x84 : Int := (if x80 = 0 then x3 else x43)
  let x85 : Int := (if x80 = 0 then x4 else x44)
  let x86 : Int := (if x80 = 0 then x5 else x45)
  let x87 : Int := (if x80 = 0 then x6 else x46)
  let x88 : Int := (if x80 = 0 then x7 else x47)
  let x89 : Int := (if x80 = 0 then x8 else x48)
  let x90 : Int := (if x80 = 0 then x9 else x49)
  let x91 : Int := (if x80 = 0 then x10 else x50)
  let x92 : Int := (if x80 = 0 then x11 else x51)
  let x93 : Int := (if x80 = 0 then x12 else x52)
  let x94 : Int := (if x80 = 0 then x13 else x53)
  let x95 : Int := (if x80 = 0 then x14 else x54)
  let x96 : Int := (if x80 = 0 then x15 else x55)
  let x97 : Int := (if x80 = 0 then x16 else x56)
  let x98 : Int := (if x80 = 0 then x17 else x57)
  let x99 : Int := (if x80 = 0 then x18 else x58)
  let x100 : Int := (if x80 = 0 then x19 else x59)
  let x101 : Int := (if x80 = 0 then x20 else x60)
  let x102 : Int := (if x80 = 0 then x21 else x61)
  let x103 : Int := (if x80 = 0 then x22 else x62)
  let x104 : Int := (if x80 = 0 then x23 else x63)
  let x105 : Int := (if x80 = 0 then x24 else x64)
  let x106 : Int := (if x80 = 0 then x25 else x65)
  let x107 : Int := (if x80 = 0 then x26 else x66)
  let x108 : Int := (if x80 = 0 then x27 else x67)
  let x109 : Int := (if x80 = 0 then x28 else x68)
  let x110 : Int := (if x80 = 0 then x29 else x69)
  let x111 : Int := (if x80 = 0 then x30 else x70)
  let x112 : Int := (if x80 = 0 then x31 else x71)
  let x113 : Int := (if x80 = 0 then x32 else x72)
  let x114 : Int := (if x80 = 0 then x33 else x73)
  let x115 : Int := (if x80 = 0 then x34 else x74)
  let x116 : Int := (if x80 = 0 then x35 else x75)
  let x117 : Int := (if x80 = 0 then x36 else x76)
  let x118 : Int := (if x80 = 0 then x37 else x77)
  let x119 : Int := (if x80 = 0 then x38 else x78)
  let x120 : Int := (if x80 = 0 then x39 else x79)
  [x81, x82, x83, x84, x85, x86, x87, x88, x89, x90, x91, x92, x93, x94, x95, x96, x97, x98, x99, x100, x101, x102, x103, x104, x105, x106, x107, x108, x109, x110, x111, x112, x113, x114, x115, x116, x117, x118, x119, x120]

theorem conditional_select_fn_ok (x0 x1 x2 x3 x4 x5 x6 x7 x8 x9 x10 x11 x12 x13 x14 x15 x16 x17 x18 x19 x20 x21 x22 x23 x24 x25 x26 x27 x28 x29 x30 x31 x32 x33 x34 x35 x36 x37 x38 x39 x40 x41 x42 x43 x44 x45 x46 x47 x48 x49 x50 x51 x52 x53 x54 x55 x56 x57 x58 x59 x60 x61 x62 x63 x64 x65 x66 x67 x68 x69 x70 x71 x72 x73 x74 x75 x76 x77 x78 x79 x80 : Int) : NProg.evalZ conditional_select_nprog [x0, x1, x2, x3, x4, x5, x6, x7, x8, x9, x10, x11, x12, x13, x14, x15, x16, x17, x18, x19, x20, x21, x22, x23, x24, x25, x26, x27, x28, x29, x30, x31, x32, x33, x34, x35, x36, x37, x38, x39, x40, x41, x42, x43, x44, x45, x46, x47, x48, x49, x50, x51, x52, x53, x54, x55, x56, x57, x58, x59, x60, x61, x62, x63, x64, x65, x66, x67, x68, x69, x70, x71, x72, x73, x74, x75, x76, x77, x78, x79, x80] = conditional_select_fn x0 x1 x2 x3 x4 x5 x6 x7 x8 x9 x10 x11 x12 x13 x14 x15 x16 x17 x18 x19 x20 x21 x22 x23 x24 x25 x26 x27 x28 x29 x30 x31 x32 x33 x34 x35 x36 x37 x38 x39 x40 x41 x42 x43 x44 x45 x46 x47 x48 x49 x50 x51 x52 x53 x54 x55 x56 x57 x58 x59 x60 x61 x62 x63 x64 x65 x66 x67 x68 x69 x70 x71 x72 x73 x74 x75 x76 x77 x78 x79 x80 :=
  (NProg.evalZ_eq_fast _ _).trans (by kernel_rfl)

def conditional_assign_post : List Itv := [⟨0, 4294967295, 0⟩, ⟨0, 4294967295, 0⟩, ⟨0, 4294967295, 0⟩, ⟨0, 4294967295, 0⟩, ⟨0, 4294967295, 0⟩, ⟨0, 4294967295, 0⟩, ⟨0, 4294967295, 0⟩, ⟨0, 4294967295, 0⟩, ⟨0, 4294967295, 0⟩, ⟨0, 4294967295, 0⟩, ⟨0, 4294967295, 0⟩, ⟨0, 4294967295, 0⟩, ⟨0, 4294967295, 0⟩, ⟨0, 4294967295, 0⟩, ⟨0, 4294967295, 0⟩, ⟨0, 4294967295, 0⟩, ⟨0, 4294967295, 0⟩, ⟨0, 4294967295, 0⟩, ⟨0, 4294967295, 0⟩, ⟨0, 4294967295, 0⟩, ⟨0, 4294967295, 0⟩, ⟨0, 4294967295, 0⟩, ⟨0, 4294967295, 0⟩, ⟨0, 4294967295, 0⟩, ⟨0, 4294967295, 0⟩, ⟨0, 4294967295, 0⟩, ⟨0, 4294967295, 0⟩, ⟨0, 4294967295, 0⟩, ⟨0, 4294967295, 0⟩, ⟨0, 4294967295, 0⟩, ⟨0, 4294967295, 0⟩, ⟨0, 4294967295, 0⟩, ⟨0, 4294967295, 0⟩, ⟨0, 4294967295, 0⟩, ⟨0, 4294967295, 0⟩, ⟨0, 4294967295, 0⟩, ⟨0, 4294967295, 0⟩, ⟨0, 4294967295, 0⟩, ⟨0, 4294967295, 0⟩, ⟨0, 4294967295, 0⟩]

def conditional_assign_nprog : NProg := Prog.normProg Dalek.Gen.Avx2Field.conditional_assign Dalek.Model.Contracts.Avx2Field.pre_conditional_assign

theorem conditional_assign_norm_ok : Prog.norm Dalek.Gen.Avx2Field.conditional_assign Dalek.Model.Contracts.Avx2Field.pre_conditional_assign = some (conditional_assign_nprog, conditional_assign_post) :=
  Prog.norm_eq_of_post (by decide +kernel)

def conditional_assign_fn (x0 x1 x2 x3 x4 x5 x6 x7 x8 x9 x10 x11 x12 x13 x14 x15 x16 x17 x18 x19 x20 x21 x22 x23 x24 x25 x26 x27 x28 x29 x30 x31 x32 x33 x34 x35 x36 x37 x38 x39 x40 x41 x42 x43 x44 x45 x46 x47 x48 x49 x50 x51 x52 x53 x54 x55 x56 x57 x58 x59 x60 x61 x62 x63 x64 x65 x66 x67 x68 x69 x70 x71 x72 x73 x74 x75 x76 x77 x78 x79 x80 : Int) : List Int :=
  let x81 : Int := (if x80 = 0 then x0 else x40)
  let x82 : Int := (if x80 = 0 then x1 else x41)
  let x83 : Int := (if x80 = 0 then x2 else x42)
  let x84 : Int := (if x80 = 0 then x3 else x43)
  let x85 : Int := (if x80 = 0 then x4 else x44)
  let x86 : Int := (if x80 = 0 then x5 else x45)
  let x87 : Int := (if x80 = 0 then x6 else x46)
  let x88 : Int := (if x80 = 0 then x7 else x47)
  let x89 : Int := (if x80 = 0 then x8 else x48)
  let x90 : Int := (if x80 = 0 then x9 else x49)
  let x91 : Int := (if x80 = 0 then x10 else x50)
  let x92 : Int := (if x80 = 0 then x11 else x51)
  let x93 : Int := (if x80 = 0 then x12 else x52)
  let x94 : Int := (if x80 = 0 then x13 else x53)
  let x95 : Int := (if x80 = 0 then x14 else x54)
  let x96 : Int := (if x80 = 0 then x15 else x55)
  let x97 : Int := (if x80 = 0 then x16 else x56)
  let x98 : Int := (if x80 = 0 then x17 else x57)
  let x99 : Int := (if x80 = 0 then x18 else x58)
  let x100 : Int := (if x80 = 0 then x19 else x59)
  let x101 : Int := (if x80 = 0 then x20 else x60)
  let x102 : Int := (if x80 = 0 then x21 else x61)
  let x103 : Int := (if x80 = 0 then x22 else x62)
  let x104 : Int := (if x80 = 0 then x23 else x63)
  let x105 : Int := (if x80 = 0 then x24 else x64)
  let x106 : Int := (if x80 = 0 then x25 else x65)
  let x107 : Int := (if x80 = 0 then x26 else x66)
  let x108 : Int := (if x80 = 0 then x27 else x67)
  let x109 : Int := (if x80 = 0 then x28 else x68)
  let x110 : Int := (if x80 = 0 then x29 else x69)
  let x111 : Int := (if x80 = 0 then x30 else x70)
  let x112 : Int := (if x80 = 0 then x31 else x71)
  let x113 : Int := (if x80 = 0 then x32 else x72)
  let x114 : Int := (if x80 = 0 then x33 else x73)
  let x115 : Int := (if x80 = 0 then x34 else x74)
  let x116 : Int := (if x80 = 0 then x35 else x75)
  let x117 : Int := (if x80 = 0 then x36 else x76)
  let x118 : Int := (if x80 = 0 then x37 else x77)
  let x119 : Int := (if x80 = 0 then x38 else x78)
  let x120 : Int := (if x80 = 0 then x39 else x79)
  [x81, x82, x83, x84, x85, x86, x87, x88, x89, x90, x91, x92, x93, x94, x95, x96, x97, x98, x99, x100, x101, x102, x103, x104, x105, x106, x107, x108, x109, x110, x111, x112, x113, x114, x115, x116, x117, x118, x119, x120]

theorem conditional_assign_fn_ok (x0 x1 x2 x3 x4 x5 x6 x7 x8 x9 x10 x11 x12 x13 x14 x15 x16 x17 x18 x19 x20 x21 x22 x23 x24 x25 x26 x27 x28 x29 x30 x31 x32 x33 x34 x35 x36 x37 x38 x39 x40 x41 x42 x43 x44 x45 x46 x47 x48 x49 x50 x51 x52 x53 x54 x55 x56 x57 x58 x59 x60 x61 x62 x63 x64 x65 x66 x67 x68 x69 x70 x71 x72 x73 x74 x75 x76 x77 x78 x79 x80 : Int) : NProg.evalZ conditional_assign_nprog [x0, x1, x2, x3, x4, x5, x6, x7, x8, x9, x10, x11, x12, x13, x14, x15, x16, x17, x18, x19, x20, x21, x22, x23, x24, x25, x26, x27, x28, x29, x30, x31, x32, x33, x34, x35, x36, x37, x38, x39, x40, x41, x42, x43, x44, x45, x46, x47, x48, x49, x50, x51, x52, x53, x54, x55, x56, x57, x58, x59, x60, x61, x62, x63, x64, x65, x66, x67, x68, x69, x70, x71, x72, x73, x74, x75, x76, x77, x78, x79, x80] = conditional_assign_fn x0 x1 x2 x3 x4 x5 x6 x7 x8 x9 x10 x11 x12 x13 x14 x15 x16 x17 x18 x19 x20 x21 x22 x23 x24 x25 x26 x27 x28 x29 x30 x31 x32 x33 x34 x35 x36 x37 x38 x39 x40 x41 x42 x43 x44 x45 x46 x47 x48 x49 x50 x51 x52 x53 x54 x55 x56 x57 x58 x59 x60 x61 x62 x63 x64 x65 x66 x67 x68 x69 x70 x71 x72 x73 x74 x75 x76 x77 x78 x79 x80 :=
  (NProg.evalZ_eq_fast _ _).trans (by kernel_rfl)

def shuffle_AAAA_post : List Itv := [⟨0, 4294967295, 0⟩, ⟨0, 4294967295, 0⟩, ⟨0, 4294967295, 0⟩, ⟨0, 4294967295, 0⟩, ⟨0, 4294967295, 0⟩, ⟨0, 4294967295, 0⟩, ⟨0, 4294967295, 0⟩, ⟨0, 4294967295, 0⟩, ⟨0, 4294967295, 0⟩, ⟨0, 4294967295, 0⟩, ⟨0, 4294967295, 0⟩, ⟨0, 4294967295, 0⟩, ⟨0, 4294967295, 0⟩, ⟨0, 4294967295, 0⟩, ⟨0, 4294967295, 0⟩, ⟨0, 4294967295, 0⟩, ⟨0, 4294967295, 0⟩, ⟨0, 4294967295, 0⟩, ⟨0, 4294967295, 0⟩, ⟨0, 4294967295, 0⟩, ⟨0, 4294967295, 0⟩, ⟨0, 4294967295, 0⟩, ⟨0, 4294967295, 0⟩, ⟨0, 4294967295, 0⟩, ⟨0, 4294967295, 0⟩, ⟨0, 4294967295, 0⟩, ⟨0, 4294967295, 0⟩, ⟨0, 4294967295, 0⟩, ⟨0, 4294967295, 0⟩, ⟨0, 4294967295, 0⟩, ⟨0, 4294967295, 0⟩, ⟨0, 4294967295, 0⟩, ⟨0, 4294967295, 0⟩, ⟨0, 4294967295, 0⟩, ⟨0, 4294967295, 0⟩, ⟨0, 4294967295, 0⟩, ⟨0, 4294967295, 0⟩, ⟨0, 4294967295, 0⟩, ⟨0, 4294967295, 0⟩, ⟨0, 4294967295, 0⟩]

def shuffle_AAAA_nprog : NProg := Prog.normProg Dalek.Gen.Avx2Field.shuffle_AAAA Dalek.Model.Contracts.Avx2Field.pre_shuffle_AAAA

theorem shuffle_AAAA_norm_ok : Prog.norm Dalek.Gen.Avx2Field.shuffle_AAAA Dalek.Model.Contracts.Avx2Field.pre_shuffle_AAAA = some (shuffle_AAAA_nprog, shuffle_AAAA_post) :=
  Prog.norm_eq_of_post (by decide +kernel)

def shuffle_AAAA_fn (x0 x1 x2 x3 x4 x5 x6 x7 x8 x9 x10 x11 x12 x13 x14 x15 x16 x17 x18 x19 x20 x21 x22 x23 x24 x25 x26 x27 x28 x29 x30 x31 x32 x33 x34 x35 x36 x37 x38 x39 : Int) : List Int :=
  [x0, x0, x2, x2, x0, x0, x2, x2, x8, x8, x10, x10, x8, x8, x10, x10, x16, x16, x18, x18, x16, x16, x18, x18, x24, x24, x26, x26, x24, x24, x26, x26, x32, x32, x34, x34, x32, x32, x34, x34]

theorem shuffle_AAAA_fn_ok (x0 x1 x2 x3 x4 x5 x6 x7 x8 x9 x10 x11 x12 x13 x14 x15 x16 x17 x18 x19 x20 x21 x22 x23 x24 x25 x26 x27 x28 x29 x30 x31 x32 x33 x34 x35 x36 x37 x38 x39 : Int) : NProg.evalZ shuffle_AAAA_nprog [x0, x1, x2, x3, x4, x5, x6, x7, x8, x9, x10, x11, x12, x13, x14, x15, x16, x17, x18, x19, x20, x21, x22, x23, x24, x25, x26, x27, x28, x29, x30, x31, x32, x33, x34, x35, x36, x37, x38, x39] = shuffle_AAAA_fn x0 x1 x2 x3 x4 x5 x6 x7 x8 x9 x10 x11 x12 x13 x14 x15 x16 x17 x18 x19 x20 x21 x22 x23 x24 x25 x26 x27 x28 x29 x30 x31 x32 x33 x34 x35 x36 x37 x38 x39 :=
  (NProg.evalZ_eq_fast _ _).trans (by kernel_rfl)

def shuffle_BBBB_post : List Itv := [⟨0, 4294967295, 0⟩, ⟨0, 4294967295, 0⟩, ⟨0, 4294967295, 0⟩, ⟨0, 4294967295, 0⟩, ⟨0, 4294967295, 0⟩, ⟨0, 4294967295, 0⟩, ⟨0, 4294967295, 0⟩, ⟨0, 4294967295, 0⟩, ⟨0, 4294967295, 0⟩, ⟨0, 4294967295, 0⟩, ⟨0, 4294967295, 0⟩, ⟨0, 4294967295, 0⟩, ⟨0, 4294967295, 0⟩, ⟨0, 4294967295, 0⟩, ⟨0, 4294967295, 0⟩, ⟨0, 4294967295, 0⟩, ⟨0, 4294967295, 0⟩, ⟨0, 4294967295, 0⟩, ⟨0, 4294967295, 0⟩, ⟨0, 4294967295, 0⟩, ⟨0, 4294967295, 0⟩, ⟨0, 4294967295, 0⟩, ⟨0, 4294967295, 0⟩, ⟨0, 4294967295, 0⟩, ⟨0, 4294967295, 0⟩, ⟨0, 4294967295, 0⟩, ⟨0, 4294967295, 0⟩, ⟨0, 4294967295, 0⟩, ⟨0, 4294967295, 0⟩, ⟨0, 4294967295, 0⟩, ⟨0, 4294967295, 0⟩, ⟨0, 4294967295, 0⟩, ⟨0, 4294967295, 0⟩, ⟨0, 4294967295, 0⟩, ⟨0, 4294967295, 0⟩, ⟨0, 4294967295, 0⟩, ⟨0, 4294967295, 0⟩, ⟨0, 4294967295, 0⟩, ⟨0, 4294967295, 0⟩, ⟨0, 4294967295, 0⟩]

def shuffle_BBBB_nprog : NProg := Prog.normProg Dalek.Gen.Avx2Field.shuffle_BBBB Dalek.Model.Contracts.Avx2Field.pre_shuffle_BBBB

theorem shuffle_BBBB_norm_ok : Prog.norm Dalek.Gen.Avx2Field.shuffle_BBBB Dalek.Model.Contracts.Avx2Field.pre_shuffle_BBBB = some (shuffle_BBBB_nprog, shuffle_BBBB_post) :=
  Prog.norm_eq_of_post (by decide +kernel)

def shuffle_BBBB_fn (x0 x1 x2 x3 x4 x5 x6 x7 x8 x9 x10 x11 x12 x13 x14 x15 x16 x17 x18 x19 x20 x21 x22 x23 x24 x25 x26 x27 x28 x29 x30 x31 x32 x33 x34 x35 x36 x37 x38 x39 : Int) : List Int :=
  [x1, x1, x3, x3, x1, x1, x3, x3, x9, x9, x11, x11, x9, x9, x11, x11, x17, x17, x19, x19, x17, x17, x19, x19, x25, x25, x27, x27, x25, x25, x27, x27, x33, x33, x35, x35, x33, x33, x35, x35]

theorem shuffle_BBBB_fn_ok (x0 x1 x2 x3 x4 x5 x6 x7 x8 x9 x10 x11 x12 x13 x14 x15 x16 x17 x18 x19 x20 x21 x22 x23 x24 x25 x26 x27 x28 x29 x30 x31 x32 x33 x34 x35 x36 x37 x38 x39 : Int) : NProg.evalZ shuffle_BBBB_nprog [x0, x1, x2, x3, x4, x5, x6, x7, x8, x9, x10, x11, x12, x13, x14, x15, x16, x17, x18, x19, x20, x21, x22, x23, x24, x25, x26, x27, x28, x29, x30, x31, x32, x33, x34, x35, x36, x37, x38, x39] = shuffle_BBBB_fn x0 x1 x2 x3 x4 x5 x6 x7 x8 x9 x10 x11 x12 x13 x14 x15 x16 x17 x18 x19 x20 x21 x22 x23 x24 x25 x26 x27 x28 x29 x30 x31 x32 x33 x34 x35 x36 x37 x38 x39 :=
  (NProg.evalZ_eq_fast _ _).trans (by kernel_rfl)

def shuffle_CACA_post : List Itv := [⟨0, 4294967295, 0⟩, ⟨0, 4294967295, 0⟩, ⟨0, 4294967295, 0⟩, ⟨0, 4294967295, 0⟩, ⟨0, 4294967295, 0⟩, ⟨0, 4294967295, 0⟩, ⟨0, 4294967295, 0⟩, ⟨0, 4294967295, 0⟩, ⟨0, 4294967295, 0⟩, ⟨0, 4294967295, 0⟩, ⟨0, 4294967295, 0⟩, ⟨0, 4294967295, 0⟩, ⟨0, 4294967295, 0⟩, ⟨0, 4294967295, 0⟩, ⟨0, 4294967295, 0⟩, ⟨0, 4294967295, 0⟩, ⟨0, 4294967295, 0⟩, ⟨0, 4294967295, 0⟩, ⟨0, 4294967295, 0⟩, ⟨0, 4294967295, 0⟩, ⟨0, 4294967295, 0⟩, ⟨0, 4294967295, 0⟩, ⟨0, 4294967295, 0⟩, ⟨0, 4294967295, 0⟩, ⟨0, 4294967295, 0⟩, ⟨0, 4294967295, 0⟩, ⟨0, 4294967295, 0⟩, ⟨0, 4294967295, 0⟩, ⟨0, 4294967295, 0⟩, ⟨0, 4294967295, 0⟩, ⟨0, 4294967295, 0⟩, ⟨0, 4294967295, 0⟩, ⟨0, 4294967295, 0⟩, ⟨0, 4294967295, 0⟩, ⟨0, 4294967295, 0⟩, ⟨0, 4294967295, 0⟩, ⟨0, 4294967295, 0⟩, ⟨0, 4294967295, 0⟩, ⟨0, 4294967295, 0⟩, ⟨0, 4294967295, 0⟩]

def shuffle_CACA_nprog : NProg := Prog.normProg Dalek.Gen.Avx2Field.shuffle_CACA Dalek.Model.Contracts.Avx2Field.pre_shuffle_CACA

theorem shuffle_CACA_norm_ok : Prog.norm Dalek.Gen.Avx2Field.shuffle_CACA Dalek.Model.Contracts.Avx2Field.pre_shuffle_CACA = some (shuffle_CACA_nprog, shuffle_CACA_post) :=
  Prog.norm_eq_of_post (by decide +kernel)

def shuffle_CACA_fn (x0 x1 x2 x3 x4 x5 x6 x7 x8 x9 x10 x11 x12 x13 x14 x15 x16 x17 x18 x19 x20 x21 x22 x23 x24 x25 x26 x27 x28 x29 x30 x31 x32 x33 x34 x35 x36 x37 x38 x39 : Int) : List Int :=
  [x4, x0, x6, x2, x4, x0, x6, x2, x12, x8, x14, x10, x12, x8, x14, x10, x20, x16, x22, x18, x20, x16, x22, x18, x28, x24, x30, x26, x28, x24, x30, x26, x36, x32, x38, x34, x36, x32, x38, x34]

theorem shuffle_CACA_fn_ok (x0 x1 x2 x3 x4 x5 x6 x7 x8 x9 x10 x11 x12 x13 x14 x15 x16 x17 x18 x19 x20 x21 x22 x23 x24 x25 x26 x27 x28 x29 x30 x31 x32 x33 x34 x35 x36 x37 x38 x39 : Int) : NProg.evalZ shuffle_CACA_nprog [x0, x1, x2, x3, x4, x5, x6, x7, x8, x9, x10, x11, x12, x13, x14, x15, x16, x17, x18, x19, x20, x21, x22, x23, x24, x25, x26, x27, x28, x29, x30, x31, x32, x33, x34, x35, x36, x37, x38, x39] = shuffle_CACA_fn x0 x1 x2 x3 x4 x5 x6 x7 x8 x9 x10 x11 x12 x13 x14 x15 x16 x17 x18 x19 x20 x21 x22 x23 x24 x25 x26 x27 x28 x29 x30 x31 x32 x33 x34 x35 x36 x37 x38 x39 :=
  (NProg.evalZ_eq_fast _ _).trans (by kernel_rfl)

def shuffle_DBBD_post : List Itv := [⟨0, 4294967295, 0⟩, ⟨0, 4294967295, 0⟩, ⟨0, 4294967295, 0⟩, ⟨0, 4294967295, 0⟩, ⟨0, 4294967295, 0⟩, ⟨0, 4294967295, 0⟩, ⟨0, 4294967295, 0⟩, ⟨0, 4294967295, 0⟩, ⟨0, 4294967295, 0⟩, ⟨0, 4294967295, 0⟩, ⟨0, 4294967295, 0⟩, ⟨0, 4294967295, 0⟩, ⟨0, 4294967295, 0⟩, ⟨0, 4294967295, 0⟩, ⟨0, 4294967295, 0⟩, ⟨0, 4294967295, 0⟩, ⟨0, 4294967295, 0⟩, ⟨0, 4294967295, 0⟩, ⟨0, 4294967295, 0⟩, ⟨0, 4294967295, 0⟩, ⟨0, 4294967295, 0⟩, ⟨0, 4294967295, 0⟩, ⟨0, 4294967295, 0⟩, ⟨0, 4294967295, 0⟩, ⟨0, 4294967295, 0⟩, ⟨0, 4294967295, 0⟩, ⟨0, 4294967295, 0⟩, ⟨0, 4294967295, 0⟩, ⟨0, 4294967295, 0⟩, ⟨0, 4294967295, 0⟩, ⟨0, 4294967295, 0⟩, ⟨0, 4294967295, 0⟩, ⟨0, 4294967295, 0⟩, ⟨0, 4294967295, 0⟩, ⟨0, 4294967295, 0⟩, ⟨0, 4294967295, 0⟩, ⟨0, 4294967295, 0⟩, ⟨0, 4294967295, 0⟩, ⟨0, 4294967295, 0⟩, ⟨0, 4294967295, 0⟩]

def shuffle_DBBD_nprog : NProg := Prog.normProg Dalek.Gen.Avx2Field.shuffle_DBBD Dalek.Model.Contracts.Avx2Field.pre_shuffle_DBBD

theorem shuffle_DBBD_norm_ok : Prog.norm Dalek.Gen.Avx2Field.shuffle_DBBD Dalek.Model.Contracts.Avx2Field.pre_shuffle_DBBD = some (shuffle_DBBD_nprog, shuffle_DBBD_post) :=
  Prog.norm_eq_of_post (by decide +kernel)

def shuffle_DBBD_fn (x0 x1 x2 x3 x4 x5 x6 x7 x8 x9 x10 x11 x12 x13 x14 x15 x16 x17 x18 x19 x20 x21 x22 x23 x24 x25 x26 x27 x28 x29 x30 x31 x32 x33 x34 x35 x36 x37 x38 x39 : Int) : List Int :=
  [x5, x1, x7, x3, x1, x5, x3, x7, x13, x9, x15, x11, x9, x13, x11, x15, x21, x17, x23, x19, x17, x21, x19, x23, x29, x25, x31, x27, x25, x29, x27, x31, x37, x33, x39, x35, x33, x37, x35, x39]

theorem shuffle_DBBD_fn_ok (x0 x1 x2 x3 x4 x5 x6 x7 x8 x9 x10 x11 x12 x13 x14 x15 x16 x17 x18 x19 x20 x21 x22 x23 x24 x25 x26 x27 x28 x29 x30 x31 x32 x33 x34 x35 x36 x37 x38 x39 : Int) : NProg.evalZ shuffle_DBBD_nprog [x0, x1, x2, x3, x4, x5, x6, x7, x8, x9, x10, x11, x12, x13, x14, x15, x16, x17, x18, x19, x20, x21, x22, x23, x24, x25, x26, x27, x28, x29, x30, x31, x32, x33, x34, x35, x36, x37, x38, x39] = shuffle_DBBD_fn x0 x1 x2 x3 x4 x5 x6 x7 x8 x9 x10 x11 x12 x13 x14 x15 x16 x17 x18 x19 x20 x21 x22 x23 x24 x25 x26 x27 x28 x29 x30 x31 x32 x33 x34 x35 x36 x37 x38 x39 :=
  (NProg.evalZ_eq_fast _ _).trans (by kernel_rfl)

def shuffle_ADDA_post : List Itv := [⟨0, 4294967295, 0⟩, ⟨0, 4294967295, 0⟩, ⟨0, 4294967295, 0⟩, ⟨0, 4294967295, 0⟩, ⟨0, 4294967295, 0⟩, ⟨0, 4294967295, 0⟩, ⟨0, 4294967295, 0⟩, ⟨0, 4294967295, 0⟩, ⟨0, 4294967295, 0⟩, ⟨0, 4294967295, 0⟩, ⟨0, 4294967295, 0⟩, ⟨0, 4294967295, 0⟩, ⟨0, 4294967295, 0⟩, ⟨0, 4294967295, 0⟩, ⟨0, 4294967295, 0⟩, ⟨0, 4294967295, 0⟩, ⟨0, 4294967295, 0⟩, ⟨0, 4294967295, 0⟩, ⟨0, 4294967295, 0⟩, ⟨0, 4294967295, 0⟩, ⟨0, 4294967295, 0⟩, ⟨0, 4294967295, 0⟩, ⟨0, 4294967295, 0⟩, ⟨0, 4294967295, 0⟩, ⟨0, 4294967295, 0⟩, ⟨0, 4294967295, 0⟩, ⟨0, 4294967295, 0⟩, ⟨0, 4294967295, 0⟩, ⟨0, 4294967295, 0⟩, ⟨0, 4294967295, 0⟩, ⟨0, 4294967295, 0⟩, ⟨0, 4294967295, 0⟩, ⟨0, 4294967295, 0⟩, ⟨0, 4294967295, 0⟩, ⟨0, 4294967295, 0⟩, ⟨0, 4294967295, 0⟩, ⟨0, 4294967295, 0⟩, ⟨0, 4294967295, 0⟩, ⟨0, 4294967295, 0⟩, ⟨0, 4294967295, 0⟩]

def shuffle_ADDA_nprog : NProg := Prog.normProg Dalek.Gen.Avx2Field.shuffle_ADDA Dalek.Model.Contracts.Avx2Field.pre_shuffle_ADDA

theorem shuffle_ADDA_norm_ok : Prog.norm Dalek.Gen.Avx2Field.shuffle_ADDA Dalek.Model.Contracts.Avx2Field.pre_shuffle_ADDA = some (shuffle_ADDA_nprog, shuffle_ADDA_post) :=
  Prog.norm_eq_of_post (by decide +kernel)

def shuffle_ADDA_fn (x0 x1 x2 x3 x4 x5 x6 x7 x8 x9 x10 x11 x12 x13 x14 x15 x16 x17 x18 x19 x20 x21 x22 x23 x24 x25 x26 x27 x28 x29 x30 x31 x32 x33 x34 x35 x36 x37 x38 x39 : Int) : List Int :=
  [x0, x5, x2, x7, x5, x0, x7, x2, x8, x13, x10, x15, x13, x8, x15, x10, x16, x21, x18, x23, x21, x16, x23, x18, x24, x29, x26, x31, x29, x24, x31, x26, x32, x37, x34, x39, x37, x32, x39, x34]

theorem shuffle_ADDA_fn_ok (x0 x1 x2 x3 x4 x5 x6 x7 x8 x9 x10 x11 x12 x13 x14 x15 x16 x17 x18 x19 x20 x21 x22 x23 x24 x25 x26 x27 x28 x29 x30 x31 x32 x33 x34 x35 x36 x37 x38 x39 : Int) : NProg.evalZ shuffle_ADDA_nprog [x0, x1, x2, x3, x4, x5, x6, x7, x8, x9, x10, x11, x12, x13, x14, x15, x16, x17, x18, x19, x20, x21, x22, x23, x24, x25, x26, x27, x28, x29, x30, x31, x32, x33, x34, x35, x36, x37, x38, x39] = shuffle_ADDA_fn x0 x1 x2 x3 x4 x5 x6 x7 x8 x9 x10 x11 x12 x13 x14 x15 x16 x17 x18 x19 x20 x21 x22 x23 x24 x25 x26 x27 x28 x29 x30 x31 x32 x33 x34 x35 x36 x37 x38 x39 :=
  (NProg.evalZ_eq_fast _ _).trans (by kernel_rfl)

def shuffle_CBCB_post : List Itv := [⟨0, 4294967295, 0⟩, ⟨0, 4294967295, 0⟩, ⟨0, 4294967295, 0⟩, ⟨0, 4294967295, 0⟩, ⟨0, 4294967295, 0⟩, ⟨0, 4294967295, 0⟩, ⟨0, 4294967295, 0⟩, ⟨0, 4294967295, 0⟩, ⟨0, 4294967295, 0⟩, ⟨0, 4294967295, 0⟩, ⟨0, 4294967295, 0⟩, ⟨0, 4294967295, 0⟩, ⟨0, 4294967295, 0⟩, ⟨0, 4294967295, 0⟩, ⟨0, 4294967295, 0⟩, ⟨0, 4294967295, 0⟩, ⟨0, 4294967295, 0⟩, ⟨0, 4294967295, 0⟩, ⟨0, 4294967295, 0⟩, ⟨0, 4294967295, 0⟩, ⟨0, 4294967295, 0⟩, ⟨0, 4294967295, 0⟩, ⟨0, 4294967295, 0⟩, ⟨0, 4294967295, 0⟩, ⟨0, 4294967295, 0⟩, ⟨0, 4294967295, 0⟩, ⟨0, 4294967295, 0⟩, ⟨0, 4294967295, 0⟩, ⟨0, 4294967295, 0⟩, ⟨0, 4294967295, 0⟩, ⟨0, 4294967295, 0⟩, ⟨0, 4294967295, 0⟩, ⟨0, 4294967295, 0⟩, ⟨0, 4294967295, 0⟩, ⟨0, 4294967295, 0⟩, ⟨0, 4294967295, 0⟩, ⟨0, 4294967295, 0⟩, ⟨0, 4294967295, 0⟩, ⟨0, 4294967295, 0⟩, ⟨0, 4294967295, 0⟩]

def shuffle_CBCB_nprog : NProg := Prog.normProg Dalek.Gen.Avx2Field.shuffle_CBCB Dalek.Model.Contracts.Avx2Field.pre_shuffle_CBCB

theorem shuffle_CBCB_norm_ok : Prog.norm Dalek.Gen.Avx2Field.shuffle_CBCB Dalek.Model.Contracts.Avx2Field.pre_shuffle_CBCB = some (shuffle_CBCB_nprog, shuffle_CBCB_post) :=
  Prog.norm_eq_of_post (by decide +kernel)

def shuffle_CBCB_fn (x0 x1 x2 x3 x4 x5 x6 x7 x8 x9 x10 x11 x12 x13 x14 x15 x16 x17 x18 x19 x20 x21 x22 x23 x24 x25 x26 x27 x28 x29 x30 x31 x32 x33 x34 x35 x36 x37 x38 x39 : Int) : List Int :=
  [x4, x1, x6, x3, x4, x1, x6, x3, x12, x9, x14, x11, x12, x9, x14, x11, x20, x17, x22, x19, x20, x17, x22, x19, x28, x25, x30, x27, x28, x25, x30, x27, x36, x33, x38, x35, x36, x33, x38, x35]

theorem shuffle_CBCB_fn_ok (x0 x1 x2 x3 x4 x5 x6 x7 x8 x9 x10 x11 x12 x13 x14 x15 x16 x17 x18 x19 x20 x21 x22 x23 x24 x25 x26 x27 x28 x29 x30 x31 x32 x33 x34 x35 x36 x37 x38 x39 : Int) : NProg.evalZ shuffle_CBCB_nprog [x0, x1, x2, x3, x4, x5, x6, x7, x8, x9, x10, x11, x12, x13, x14, x15, x16, x17, x18, x19, x20, x21, x22, x23, x24, x25, x26, x27, x28, x29, x30, x31, x32, x33, x34, x35, x36, x37, x38, x39] = shuffle_CBCB_fn x0 x1 x2 x3 x4 x5 x6 x7 x8 x9 x10 x11 x12 x13 x14 x15 x16 x17 x18 x19 x20 x21 x22 x23 x24 x25 x26 x27 x28 x29 x30 x31 x32 x33 x34 x35 x36 x37 x38 x39 :=
  (NProg.evalZ_eq_fast _ _).trans (by kernel_rfl)

def shuffle_ABAB_post : List Itv := [⟨0, 4294967295, 0⟩, ⟨0, 4294967295, 0⟩, ⟨0, 4294967295, 0⟩, ⟨0, 4294967295, 0⟩, ⟨0, 4294967295, 0⟩, ⟨0, 4294967295, 0⟩, ⟨0, 4294967295, 0⟩, ⟨0, 4294967295, 0⟩, ⟨0, 4294967295, 0⟩, ⟨0, 4294967295, 0⟩, ⟨0, 4294967295, 0⟩, ⟨0, 4294967295, 0⟩, ⟨0, 4294967295, 0⟩, ⟨0, 4294967295, 0⟩, ⟨0, 4294967295, 0⟩, ⟨0, 4294967295, 0⟩, ⟨0, 4294967295, 0⟩, ⟨0, 4294967295, 0⟩, ⟨0, 4294967295, 0⟩, ⟨0, 4294967295, 0⟩, ⟨0, 4294967295, 0⟩, ⟨0, 4294967295, 0⟩, ⟨0, 4294967295, 0⟩, ⟨0, 4294967295, 0⟩, ⟨0, 4294967295, 0⟩, ⟨0, 4294967295, 0⟩, ⟨0, 4294967295, 0⟩, ⟨0, 4294967295, 0⟩, ⟨0, 4294967295, 0⟩, ⟨0, 4294967295, 0⟩, ⟨0, 4294967295, 0⟩, ⟨0, 4294967295, 0⟩, ⟨0, 4294967295, 0⟩, ⟨0, 4294967295, 0⟩, ⟨0, 4294967295, 0⟩, ⟨0, 4294967295, 0⟩, ⟨0, 4294967295, 0⟩, ⟨0, 4294967295, 0⟩, ⟨0, 4294967295, 0⟩, ⟨0, 4294967295, 0⟩]

def shuffle_ABAB_nprog : NProg := Prog.normProg Dalek.Gen.Avx2Field.shuffle_ABAB Dalek.Model.Contracts.Avx2Field.pre_shuffle_ABAB

theorem shuffle_ABAB_norm_ok : Prog.norm Dalek.Gen.Avx2Field.shuffle_ABAB Dalek.Model.Contracts.Avx2Field.pre_shuffle_ABAB = some (shuffle_ABAB_nprog, shuffle_ABAB_post) :=
  Prog.norm_eq_of_post (by decide +kernel)

def shuffle_ABAB_fn (x0 x1 x2 x3 x4 x5 x6 x7 x8 x9 x10 x11 x12 x13 x14 x15 x16 x17 x18 x19 x20 x21 x22 x23 x24 x25 x26 x27 x28 x29 x30 x31 x32 x33 x34 x35 x36 x37 x38 x39 : Int) : List Int :=
  [x0, x1, x2, x3, x0, x1, x2, x3, x8, x9, x10, x11, x8, x9, x10, x11, x16, x17, x18, x19, x16, x17, x18, x19, x24, x25, x26, x27, x24, x25, x26, x27, x32, x33, x34, x35, x32, x33, x34, x35]

theorem shuffle_ABAB_fn_ok (x0 x1 x2 x3 x4 x5 x6 x7 x8 x9 x10 x11 x12 x13 x14 x15 x16 x17 x18 x19 x20 x21 x22 x23 x24 x25 x26 x27 x28 x29 x30 x31 x32 x33 x34 x35 x36 x37 x38 x39 : Int) : NProg.evalZ shuffle_ABAB_nprog [x0, x1, x2, x3, x4, x5, x6, x7, x8, x9, x10, x11, x12, x13, x14, x15, x16, x17, x18, x19, x20, x21, x22, x23, x24, x25, x26, x27, x28, x29, x30, x31, x32, x33, x34, x35, x36, x37, x38, x39] = shuffle_ABAB_fn x0 x1 x2 x3 x4 x5 x6 x7 x8 x9 x10 x11 x12 x13 x14 x15 x16 x17 x18 x19 x20 x21 x22 x23 x24 x25 x26 x27 x28 x29 x30 x31 x32 x33 x34 x35 x36 x37 x38 x39 :=
  (NProg.evalZ_eq_fast _ _).trans (by kernel_rfl)

def shuffle_BADC_post : List Itv := [⟨0, 4294967295, 0⟩, ⟨0, 4294967295, 0⟩, ⟨0, 4294967295, 0⟩, ⟨0, 4294967295, 0⟩, ⟨0, 4294967295, 0⟩, ⟨0, 4294967295, 0⟩, ⟨0, 4294967295, 0⟩, ⟨0, 4294967295, 0⟩, ⟨0, 4294967295, 0⟩, ⟨0, 4294967295, 0⟩, ⟨0, 4294967295, 0⟩, ⟨0, 4294967295, 0⟩, ⟨0, 4294967295, 0⟩, ⟨0, 4294967295, 0⟩, ⟨0, 4294967295, 0⟩, ⟨0, 4294967295, 0⟩, ⟨0, 4294967295, 0⟩, ⟨0, 4294967295, 0⟩, ⟨0, 4294967295, 0⟩, ⟨0, 4294967295, 0⟩, ⟨0, 4294967295, 0⟩, ⟨0, 4294967295, 0⟩, ⟨0, 4294967295, 0⟩, ⟨0, 4294967295, 0⟩, ⟨0, 4294967295, 0⟩, ⟨0, 4294967295, 0⟩, ⟨0, 4294967295, 0⟩, ⟨0, 4294967295, 0⟩, ⟨0, 4294967295, 0⟩, ⟨0, 4294967295, 0⟩, ⟨0, 4294967295, 0⟩, ⟨0, 4294967295, 0⟩, ⟨0, 4294967295, 0⟩, ⟨0, 4294967295, 0⟩, ⟨0, 4294967295, 0⟩, ⟨0, 4294967295, 0⟩, ⟨0, 4294967295, 0⟩, ⟨0, 4294967295, 0⟩, ⟨0, 4294967295, 0⟩, ⟨0, 4294967295, 0⟩]

def shuffle_BADC_nprog : NProg := Prog.normProg Dalek.Gen.Avx2Field.shuffle_BADC Dalek.Model.Contracts.Avx2Field.pre_shuffle_BADC

theorem shuffle_BADC_norm_ok : Prog.norm Dalek.Gen.Avx2Field.shuffle_BADC Dalek.Model.Contracts.Avx2Field.pre_shuffle_BADC = some (shuffle_BADC_nprog, shuffle_BADC_post) :=
  Prog.norm_eq_of_post (by decide +kernel)

def shuffle_BADC_fn (x0 x1 x2 x3 x4 x5 x6 x7 x8 x9 x10 x11 x12 x13 x14 x15 x16 x17 x18 x19 x20 x21 x22 x23 x24 x25 x26 x27 x28 x29 x30 x31 x32 x33 x34 x35 x36 x37 x38 x39 : Int) : List Int :=
  [x1, x0, x3, x2, x5, x4, x7, x6, x9, x8, x11, x10, x13, x12, x15, x14, x17, x16, x19, x18, x21, x20, x23, x22, x25, x24, x27, x26, x29, x28, x31, x30, x33, x32, x35, x34, x37, x36, x39, x38]

theorem shuffle_BADC_fn_ok (x0 x1 x2 x3 x4 x5 x6 x7 x8 x9 x10 x11 x12 x13 x14 x15 x16 x17 x18 x19 x20 x21 x22 x23 x24 x25 x26 x27 x28 x29 x30 x31 x32 x33 x34 x35 x36 x37 x38 x39 : Int) : NProg.evalZ shuffle_BADC_nprog [x0, x1, x2, x3, x4, x5, x6, x7, x8, x9, x10, x11, x12, x13, x14, x15, x16, x17, x18, x19, x20, x21, x22, x23, x24, x25, x26, x27, x28, x29, x30, x31, x32, x33, x34, x35, x36, x37, x38, x39] = shuffle_BADC_fn x0 x1 x2 x3 x4 x5 x6 x7 x8 x9 x10 x11 x12 x13 x14 x15 x16 x17 x18 x19 x20 x21 x22 x23 x24 x25 x26 x27 x28 x29 x30 x31 x32 x33 x34 x35 x36 x37 x38 x39 :=
  (NProg.evalZ_eq_fast _ _).trans (by kernel_rfl)

def shuffle_BACD_post : List Itv := [⟨0, 4294967295, 0⟩, ⟨0, 4294967295, 0⟩, ⟨0, 4294967295, 0⟩, ⟨0, 4294967295, 0⟩, ⟨0, 4294967295, 0⟩, ⟨0, 4294967295, 0⟩, ⟨0, 4294967295, 0⟩, ⟨0, 4294967295, 0⟩, ⟨0, 4294967295, 0⟩, ⟨0, 4294967295, 0⟩, ⟨0, 4294967295, 0⟩, ⟨0, 4294967295, 0⟩, ⟨0, 4294967295, 0⟩, ⟨0, 4294967295, 0⟩, ⟨0, 4294967295, 0⟩, ⟨0, 4294967295, 0⟩, ⟨0, 4294967295, 0⟩, ⟨0, 4294967295, 0⟩, ⟨0, 4294967295, 0⟩, ⟨0, 4294967295, 0⟩, ⟨0, 4294967295, 0⟩, ⟨0, 4294967295, 0⟩, ⟨0, 4294967295, 0⟩, ⟨0, 4294967295, 0⟩, ⟨0, 4294967295, 0⟩, ⟨0, 4294967295, 0⟩, ⟨0, 4294967295, 0⟩, ⟨0, 4294967295, 0⟩, ⟨0, 4294967295, 0⟩, ⟨0, 4294967295, 0⟩, ⟨0, 4294967295, 0⟩, ⟨0, 4294967295, 0⟩, ⟨0, 4294967295, 0⟩, ⟨0, 4294967295, 0⟩, ⟨0, 4294967295, 0⟩, ⟨0, 4294967295, 0⟩, ⟨0, 4294967295, 0⟩, ⟨0, 4294967295, 0⟩, ⟨0, 4294967295, 0⟩, ⟨0, 4294967295, 0⟩]

def shuffle_BACD_nprog : NProg := Prog.normProg Dalek.Gen.Avx2Field.shuffle_BACD Dalek.Model.Contracts.Avx2Field.pre_shuffle_BACD

theorem shuffle_BACD_norm_ok : Prog.norm Dalek.Gen.Avx2Field.shuffle_BACD Dalek.Model.Contracts.Avx2Field.pre_shuffle_BACD = some (shuffle_BACD_nprog, shuffle_BACD_post) :=
  Prog.norm_eq_of_post (by decide +kernel)

def shuffle_BACD_fn (x0 x1 x2 x3 x4 x5 x6 x7 x8 x9 x10 x11 x12 x13 x14 x15 x16 x17 x18 x19 x20 x21 x22 x23 x24 x25 x26 x27 x28 x29 x30 x31 x32 x33 x34 x35 x36 x37 x38 x39 : Int) : List Int :=
  [x1, x0, x3, x2, x4, x5, x6, x7, x9, x8, x11, x10, x12, x13, x14, x15, x17, x16, x19, x18, x20, x21, x22, x23, x25, x24, x27, x26, x28, x29, x30, x31, x33, x32, x35, x34, x36, x37, x38, x39]

theorem shuffle_BACD_fn_ok (x0 x1 x2 x3 x4 x5 x6 x7 x8 x9 x10 x11 x12 x13 x14 x15 x16 x17 x18 x19 x20 x21 x22 x23 x24 x25 x26 x27 x28 x29 x30 x31 x32 x33 x34 x35 x36 x37 x38 x39 : Int) : NProg.evalZ shuffle_BACD_nprog [x0, x1, x2, x3, x4, x5, x6, x7, x8, x9, x10, x11, x12, x13, x14, x15, x16, x17, x18, x19, x20, x21, x22, x23, x24, x25, x26, x27, x28, x29, x30, x31, x32, x33, x34, x35, x36, x37, x38, x39] = shuffle_BACD_fn x0 x1 x2 x3 x4 x5 x6 x7 x8 x9 x10 x11 x12 x13 x14 x15 x16 x17 x18 x19 x20 x21 x22 x23 x24 x25 x26 x27 x28 x29 x30 x31 x32 x33 x34 x35 x36 x37 x38 x39 :=
  (NProg.evalZ_eq_fast _ _).trans (by kernel_rfl)

def shuffle_ABDC_post : List Itv := [⟨0, 4294967295, 0⟩, ⟨0, 4294967295, 0⟩, ⟨0, 4294967295, 0⟩, ⟨0, 4294967295, 0⟩, ⟨0, 4294967295, 0⟩, ⟨0, 4294967295, 0⟩, ⟨0, 4294967295, 0⟩, ⟨0, 4294967295, 0⟩, ⟨0, 4294967295, 0⟩, ⟨0, 4294967295, 0⟩, ⟨0, 4294967295, 0⟩, ⟨0, 4294967295, 0⟩, ⟨0, 4294967295, 0⟩, ⟨0, 4294967295, 0⟩, ⟨0, 4294967295, 0⟩, ⟨0, 4294967295, 0⟩, ⟨0, 4294967295, 0⟩, ⟨0, 4294967295, 0⟩, ⟨0, 4294967295, 0⟩, ⟨0, 4294967295, 0⟩, ⟨0, 4294967295, 0⟩, ⟨0, 4294967295, 0⟩, ⟨0, 4294967295, 0⟩, ⟨0, 4294967295, 0⟩, ⟨0, 4294967295, 0⟩, ⟨0, 4294967295, 0⟩, ⟨0, 4294967295, 0⟩, ⟨0, 4294967295, 0⟩, ⟨0, 4294967295, 0⟩, ⟨0, 4294967295, 0⟩, ⟨0, 4294967295, 0⟩, ⟨0, 4294967295, 0⟩, ⟨0, 4294967295, 0⟩, ⟨0, 4294967295, 0⟩, ⟨0, 4294967295, 0⟩, ⟨0, 4294967295, 0⟩, ⟨0, 4294967295, 0⟩, ⟨0, 4294967295, 0⟩, ⟨0, 4294967295, 0⟩, ⟨0, 4294967295, 0⟩]

def shuffle_ABDC_nprog : NProg := Prog.normProg Dalek.Gen.Avx2Field.shuffle_ABDC Dalek.Model.Contracts.Avx2Field.pre_shuffle_ABDC

theorem shuffle_ABDC_norm_ok : Prog.norm Dalek.Gen.Avx2Field.shuffle_ABDC Dalek.Model.Contracts.Avx2Field.pre_shuffle_ABDC = some (shuffle_ABDC_nprog, shuffle_ABDC_post) :=
  Prog.norm_eq_of_post (by decide +kernel)

def shuffle_ABDC_fn (x0 x1 x2 x3 x4 x5 x6 x7 x8 x9 x10 x11 x12 x13 x14 x15 x16 x17 x18 x19 x20 x21 x22 x23 x24 x25 x26 x27 x28 x29 x30 x31 x32 x33 x34 x35 x36 x37 x38 x39 : Int) : List Int :=
  [x0, x1, x2, x3, x5, x4, x7, x6, x8, x9, x10, x11, x13, x12, x15, x14, x16, x17, x18, x19, x21, x20, x23, x22, x24, x25, x26, x27, x29, x28, x31, x30, x32, x33, x34, x35, x37, x36, x39, x38]

theorem shuffle_ABDC_fn_ok (x0 x1 x2 x3 x4 x5 x6 x7 x8 x9 x10 x11 x12 x13 x14 x15 x16 x17 x18 x19 x20 x21 x22 x23 x24 x25 x26 x27 x28 x29 x30 x31 x32 x33 x34 x35 x36 x37 x38 x39 : Int) : NProg.evalZ shuffle_ABDC_nprog [x0, x1, x2, x3, x4, x5, x6, x7, x8, x9, x10, x11, x12, x13, x14, x15, x16, x17, x18, x19, x20, x21, x22, x23, x24, x25, x26, x27, x28, x29, x30, x31, x32, x33, x34, x35, x36, x37, x38, x39] = shuffle_ABDC_fn x0 x1 x2 x3 x4 x5 x6 x7 x8 x9 x10 x11 x12 x13 x14 x15 x16 x17 x18 x19 x20 x21 x22 x23 x24 x25 x26 x27 x28 x29 x30 x31 x32 x33 x34 x35 x36 x37 x38 x39 :=
  (NProg.evalZ_eq_fast _ _).trans (by kernel_rfl)

def blend_C_post : List Itv := [⟨0, 4294967295, 0⟩, ⟨0, 4294967295, 0⟩, ⟨0, 4294967295, 0⟩, ⟨0, 4294967295, 0⟩, ⟨0, 4294967295, 0⟩, ⟨0, 4294967295, 0⟩, ⟨0, 4294967295, 0⟩, ⟨0, 4294967295, 0⟩, ⟨0, 4294967295, 0⟩, ⟨0, 4294967295, 0⟩, ⟨0, 4294967295, 0⟩, ⟨0, 4294967295, 0⟩, ⟨0, 4294967295, 0⟩, ⟨0, 4294967295, 0⟩, ⟨0, 4294967295, 0⟩, ⟨0, 4294967295, 0⟩, ⟨0, 4294967295, 0⟩, ⟨0, 4294967295, 0⟩, ⟨0, 4294967295, 0⟩, ⟨0, 4294967295, 0⟩, ⟨0, 4294967295, 0⟩, ⟨0, 4294967295, 0⟩, ⟨0, 4294967295, 0⟩, ⟨0, 4294967295, 0⟩, ⟨0, 4294967295, 0⟩, ⟨0, 4294967295, 0⟩, ⟨0, 4294967295, 0⟩, ⟨0, 4294967295, 0⟩, ⟨0, 4294967295, 0⟩, ⟨0, 4294967295, 0⟩, ⟨0, 4294967295, 0⟩, ⟨0, 4294967295, 0⟩, ⟨0, 4294967295, 0⟩, ⟨0, 4294967295, 0⟩, ⟨0, 4294967295, 0⟩, ⟨0, 4294967295, 0⟩, ⟨0, 4294967295, 0⟩, ⟨0, 4294967295, 0⟩, ⟨0, 4294967295, 0⟩, ⟨0, 4294967295, 0⟩]

def blend_C_nprog : NProg := Prog.normProg Dalek.Gen.Avx2Field.blend_C Dalek.Model.Contracts.Avx2Field.pre_blend_C

theorem blend_C_norm_ok : Prog.norm Dalek.Gen.Avx2Field.blend_C Dalek.Model.Contracts.Avx2Field.pre_blend_C = some (blend_C_nprog, blend_C_post) :=
  Prog.norm_eq_of_post (by decide +kernel)

def blend_C_fn (x0 x1 x2 x3 x4 x5 x6 x7 x8 x9 x10 x11 x12 x13 x14 x15 x16 x17 x18 x19 x20 x21 x22 x23 x24 x25 x26 x27 x28 x29 x30 x31 x32 x33 x34 x35 x36 x37 x38 x39 x40 x41 x42 x43 x44 x45 x46 x47 x48 x49 x50 x51 x52 x53 x54 x55 x56 x57 x58 x59 x60 x61 x62 x63 x64 x65 x66 x67 x68 x69 x70 x71 x72 x73 x74 x75 x76 x77 x78 x79 : Int) : List Int :=
  [x0, x1, x2, x3, x44, x5, x46, x7, x8, x9, x10, x11, x52, x13, x54, x15, x16, x17, x18, x19, x60, x21, x62, x23, x24, x25, x26, x27, x68, x29, x70, x31, x32, x33, x34, x35, x76, x37, x78, x39]

theorem blend_C_fn_ok (x0 x1 x2 x3 x4 x5 x6 x7 x8 x9 x10 x11 x12 x13 x14 x15 x16 x17 x18 x19 x20 x21 x22 x23 x24 x25 x26 x27 x28 x29 x30 x31 x32 x33 x34 x35 x36 x37 x38 x39 x40 x41 x42 x43 x44 x45 x46 x47 x48 x49 x50 x51 x52 x53 x54 x55 x56 x57 x58 x59 x60 x61 x62 x63 x64 x65 x66 x67 x68 x69 x70 x71 x72 x73 x74 x75 x76 x77 x78 x79 : Int) : NProg.evalZ blend_C_nprog [x0, x1, x2, x3, x4, x5, x6, x7, x8, x9, x10, x11, x12, x13, x14, x15, x16, x17, x18, x19, x20, x21, x22, x23, x24, x25, x26, x27, x28, x29, x30, x31, x32, x33, x34, x35, x36, x37, x38, x39, x40, x41, x42, x43, x44, x45, x46, x47, x48, x49, x50, x51, x52, x53, x54, x55, x56, x57, x58, x59, x60, x61, x62, x63, x64, x65, x66, x67, x68, x69, x70, x71, x72, x73, x74, x75, x76, x77, x78, x79] = blend_C_fn x0 x1 x2 x3 x4 x5 x6 x7 x8 x9 x10 x11 x12 x13 x14 x15 x16 x17 x18 x19 x20 x21 x22 x23 x24 x25 x26 x27 x28 x29 x30 x31 x32 x33 x34 x35 x36 x37 x38 x39 x40 x41 x42 x43 x44 x45 x46 x47 x48 x49 x50 x51 x52 x53 x54 x55 x56 x57 x58 x59 x60 x61 x62 x63 x64 x65 x66 x67 x68 x69 x70 x71 x72 x73 x74 x75 x76 x77 x78 x79 :=
  (NProg.evalZ_eq_fast _ _).trans (by kernel_rfl)

def blend_D_post : List Itv := [⟨0, 4294967295, 0⟩, ⟨0, 4294967295, 0⟩, ⟨0, 4294967295, 0⟩, ⟨0, 4294967295, 0⟩, ⟨0, 4294967295, 0⟩, ⟨0, 4294967295, 0⟩, ⟨0, 4294967295, 0⟩, ⟨0, 4294967295, 0⟩, ⟨0, 4294967295, 0⟩, ⟨0, 4294967295, 0⟩, ⟨0, 4294967295, 0⟩, ⟨0, 4294967295, 0⟩, ⟨0, 4294967295, 0⟩, ⟨0, 4294967295, 0⟩, ⟨0, 4294967295, 0⟩, ⟨0, 4294967295, 0⟩, ⟨0, 4294967295, 0⟩, ⟨0, 4294967295, 0⟩, ⟨0, 4294967295, 0⟩, ⟨0, 4294967295, 0⟩, ⟨0, 4294967295, 0⟩, ⟨0, 4294967295, 0⟩, ⟨0, 4294967295, 0⟩, ⟨0, 4294967295, 0⟩, ⟨0, 4294967295, 0⟩, ⟨0, 4294967295, 0⟩, ⟨0, 4294967295, 0⟩, ⟨0, 4294967295, 0⟩, ⟨0, 4294967295, 0⟩, ⟨0, 4294967295, 0⟩, ⟨0, 4294967295, 0⟩, ⟨0, 4294967295, 0⟩, ⟨0, 4294967295, 0⟩, ⟨0, 4294967295, 0⟩, ⟨0, 4294967295, 0⟩, ⟨0, 4294967295, 0⟩, ⟨0, 4294967295, 0⟩, ⟨0, 4294967295, 0⟩, ⟨0, 4294967295, 0⟩, ⟨0, 4294967295, 0⟩]

def blend_D_nprog : NProg := Prog.normProg Dalek.Gen.Avx2Field.blend_D Dalek.Model.Contracts.Avx2Field.pre_blend_D

theorem blend_D_norm_ok : Prog.norm Dalek.Gen.Avx2Field.blend_D Dalek.Model.Contracts.Avx2Field.pre_blend_D = some (blend_D_nprog, blend_D_post) :=
  Prog.norm_eq_of_post (by decide +kernel)

def blend_D_fn (x0 x1 x2 x3 x4 x5 x6 x7 x8 x9 x10 x11 x12 x13 x14 x15 x16 x17 x18 x19 x20 x21 x22 x23 x24 x25 x26 x27 x28 x29 x30 x31 x32 x33 x34 x35 x36 x37 x38 x39 x40 x41 x42 x43 x44 x45 x46 x47 x48 x49 x50 x51 x52 x53 x54 x55 x56 x57 x58 x59 x60 x61 x62 x63 x64 x65 x66 x67 x68 x69 x70 x71 x72 x73 x74 x75 x76 x77 x78 x79 : Int) : List Int :=
  [x0, x1, x2, x3, x4, x45, x6, x47, x8, x9, x10, x11, x12, x53, x14, x55, x16, x17, x18, x19, x20, x61, x22, x63, x24, x25, x26, x27, x28, x69, x30, x71, x32, x33, x34, x35, x36, x77, x38, x79]

theorem blend_D_fn_ok (x0 x1 x2 x3 x4 x5 x6 x7 x8 x9 x10 x11 x12 x13 x14 x15 x16 x17 x18 x19 x20 x21 x22 x23 x24 x25 x26 x27 x28 x29 x30 x31 x32 x33 x34 x35 x36 x37 x38 x39 x40 x41 x42 x43 x44 x45 x46 x47 x48 x49 x50 x51 x52 x53 x54 x55 x56 x57 x58 x59 x60 x61 x62 x63 x64 x65 x66 x67 x68 x69 x70 x71 x72 x73 x74 x75 x76 x77 x78 x79 : Int) : NProg.evalZ blend_D_nprog [x0, x1, x2, x3, x4, x5, x6, x7, x8, x9, x10, x11, x12, x13, x14, x15, x16, x17, x18, x19, x20, x21, x22, x23, x24, x25, x26, x27, x28, x29, x30, x31, x32, x33, x34, x35, x36, x37, x38, x39, x40, x41, x42, x43, x44, x45, x46, x47, x48, x49, x50, x51, x52, x53, x54, x55, x56, x57, x58, x59, x60, x61, x62, x63, x64, x65, x66, x67, x68, x69, x70, x71, x72, x73, x74, x75, x76, x77, x78, x79] = blend_D_fn x0 x1 x2 x3 x4 x5 x6 x7 x8 x9 x10 x11 x12 x13 x14 x15 x16 x17 x18 x19 x20 x21 x22 x23 x24 x25 x26 x27 x28 x29 x30 x31 x32 x33 x34 x35 x36 x37 x38 x39 x40 x41 x42 x43 x44 x45 x46 x47 x48 x49 x50 x51 x52 x53 x54 x55 x56 x57 x58 x59 x60 x61 x62 x63 x64 x65 x66 x67 x68 x69 x70 x71 x72 x73 x74 x75 x76 x77 x78 x79 :=
  (NProg.evalZ_eq_fast _ _).trans (by kernel_rfl)

def blend_AB_post : List Itv := [⟨0, 4294967295, 0⟩, ⟨0, 4294967295, 0⟩, ⟨0, 4294967295, 0⟩, ⟨0, 4294967295, 0⟩, ⟨0, 4294967295, 0⟩, ⟨0, 4294967295, 0⟩, ⟨0, 4294967295, 0⟩, ⟨0, 4294967295, 0⟩, ⟨0, 4294967295, 0⟩, ⟨0, 4294967295, 0⟩, ⟨0, 4294967295, 0⟩, ⟨0, 4294967295, 0⟩, ⟨0, 4294967295, 0⟩, ⟨0, 4294967295, 0⟩, ⟨0, 4294967295, 0⟩, ⟨0, 4294967295, 0⟩, ⟨0, 4294967295, 0⟩, ⟨0, 4294967295, 0⟩, ⟨0, 4294967295, 0⟩, ⟨0, 4294967295, 0⟩, ⟨0, 4294967295, 0⟩, ⟨0, 4294967295, 0⟩, ⟨0, 4294967295, 0⟩, ⟨0, 4294967295, 0⟩, ⟨0, 4294967295, 0⟩, ⟨0, 4294967295, 0⟩, ⟨0, 4294967295, 0⟩, ⟨0, 4294967295, 0⟩, ⟨0, 4294967295, 0⟩, ⟨0, 4294967295, 0⟩, ⟨0, 4294967295, 0⟩, ⟨0, 4294967295, 0⟩, ⟨0, 4294967295, 0⟩, ⟨0, 4294967295, 0⟩, ⟨0, 4294967295, 0⟩, ⟨0, 4294967295, 0⟩, ⟨0, 4294967295, 0⟩, ⟨0, 4294967295, 0⟩, ⟨0, 4294967295, 0⟩, ⟨0, 4294967295, 0⟩]

def blend_AB_nprog : NProg := Prog.normProg Dalek.Gen.Avx2Field.blend_AB Dalek.Model.Contracts.Avx2Field.pre_blend_AB

theorem blend_AB_norm_ok : Prog.norm Dalek.Gen.Avx2Field.blend_AB Dalek.Model.Contracts.Avx2Field.pre_blend_AB = some (blend_AB_nprog, blend_AB_post) :=
  Prog.norm_eq_of_post (by decide +kernel)

def blend_AB_fn (x0 x1 x2 x3 x4 x5 x6 x7 x8 x9 x10 x11 x12 x13 x14 x15 x16 x17 x18 x19 x20 x21 x22 x23 x24 x25 x26 x27 x28 x29 x30 x31 x32 x33 x34 x35 x36 x37 x38 x39 x40 x41 x42 x43 x44 x45 x46 x47 x48 x49 x50 x51 x52 x53 x54 x55 x56 x57 x58 x59 x60 x61 x62 x63 x64 x65 x66 x67 x68 x69 x70 x71 x72 x73 x74 x75 x76 x77 x78 x79 : Int) : List Int :=
  [x40, x41, x42, x43, x4, x5, x6, x7, x48, x49, x50, x51, x12, x13, x14, x15, x56, x57, x58, x59, x20, x21, x22, x23, x64, x65, x66, x67, x28, x29, x30, x31, x72, x73, x74, x75, x36, x37, x38, x39]

theorem blend_AB_fn_ok (x0 x1 x2 x3 x4 x5 x6 x7 x8 x9 x10 x11 x12 x13 x14 x15 x16 x17 x18 x19 x20 x21 x22 x23 x24 x25 x26 x27 x28 x29 x30 x31 x32 x33 x34 x35 x36 x37 x38 x39 x40 x41 x42 x43 x44 x45 x46 x47 x48 x49 x50 x51 x52 x53 x54 x55 x56 x57 x58 x59 x60 x61 x62 x63 x64 x65 x66 x67 x68 x69 x70 x71 x72 x73 x74 x75 x76 x77 x78 x79 : Int) : NProg.evalZ blend_AB_nprog [x0, x1, x2, x3, x4, x5, x6, x7, x8, x9, x10, x11, x12, x13, x14, x15, x16, x17, x18, x19, x20, x21, x22, x23, x24, x25, x26, x27, x28, x29, x30, x31, x32, x33, x34, x35, x36, x37, x38, x39, x40, x41, x42, x43, x44, x45, x46, x47, x48, x49, x50, x51, x52, x53, x54, x55, x56, x57, x58, x59, x60, x61, x62, x63, x64, x65, x66, x67, x68, x69, x70, x71, x72, x73, x74, x75, x76, x77, x78, x79] = blend_AB_fn x0 x1 x2 x3 x4 x5 x6 x7 x8 x9 x10 x11 x12 x13 x14 x15 x16 x17 x18 x19 x20 x21 x22 x23 x24 x25 x26 x27 x28 x29 x30 x31 x32 x33 x34 x35 x36 x37 x38 x39 x40 x41 x42 x43 x44 x45 x46 x47 x48 x49 x50 x51 x52 x53 x54 x55 x56 x57 x58 x59 x60 x61 x62 x63 x64 x65 x66 x67 x68 x69 x70 x71 x72 x73 x74 x75 x76 x77 x78 x79 :=
  (NProg.evalZ_eq_fast _ _).trans (by kernel_rfl)

def blend_AC_post : List Itv := [⟨0, 4294967295, 0⟩, ⟨0, 4294967295, 0⟩, ⟨0, 4294967295, 0⟩, ⟨0, 4294967295, 0⟩, ⟨0, 4294967295, 0⟩, ⟨0, 4294967295, 0⟩, ⟨0, 4294967295, 0⟩, ⟨0, 4294967295, 0⟩, ⟨0, 4294967295, 0⟩, ⟨0, 4294967295, 0⟩, ⟨0, 4294967295, 0⟩, ⟨0, 4294967295, 0⟩, ⟨0, 4294967295, 0⟩, ⟨0, 4294967295, 0⟩, ⟨0, 4294967295, 0⟩, ⟨0, 4294967295, 0⟩, ⟨0, 4294967295, 0⟩, ⟨0, 4294967295, 0⟩, ⟨0, 4294967295, 0⟩, ⟨0, 4294967295, 0⟩, ⟨0, 4294967295, 0⟩, ⟨0, 4294967295, 0⟩, ⟨0, 4294967295, 0⟩, ⟨0, 4294967295, 0⟩, ⟨0, 4294967295, 0⟩, ⟨0, 4294967295, 0⟩, ⟨0, 4294967295, 0⟩, ⟨0, 4294967295, 0⟩, ⟨0, 4294967295, 0⟩, ⟨0, 4294967295, 0⟩, ⟨0, 4294967295, 0⟩, ⟨0, 4294967295, 0⟩, ⟨0, 4294967295, 0⟩, ⟨0, 4294967295, 0⟩, ⟨0, 4294967295, 0⟩, ⟨0, 4294967295, 0⟩, ⟨0, 4294967295, 0⟩, ⟨0, 4294967295, 0⟩, ⟨0, 4294967295, 0⟩, ⟨0, 4294967295, 0⟩]

def blend_AC_nprog : NProg := Prog.normProg Dalek.Gen.Avx2Field.blend_AC Dalek.Model.Contracts.Avx2Field.pre_blend_AC

theorem blend_AC_norm_ok : Prog.norm Dalek.Gen.Avx2Field.blend_AC Dalek.Model.Contracts.Avx2Field.pre_blend_AC = some (blend_AC_nprog, blend_AC_post) :=
  Prog.norm_eq_of_post (by decide +kernel)

def blend_AC_fn (x0 x1 x2 x3 x4 x5 x6 x7 x8 x9 x10 x11 x12 x13 x14 x15 x16 x17 x18 x19 x20 x21 x22 x23 x24 x25 x26 x27 x28 x29 x30 x31 x32 x33 x34 x35 x36 x37 x38 x39 x40 x41 x42 x43 x44 x45 x46 x47 x48 x49 x50 x51 x52 x53 x54 x55 x56 x57 x58 x59 x60 x61 x62 x63 x64 x65 x66 x67 x68 x69 x70 x71 x72 x73 x74 x75 x76 x77 x78 x79 : Int) : List Int :=
  [x40, x1, x42, x3, x44, x5, x46, x7, x48, x9, x50, x11, x52, x13, x54, x15, x56, x17, x58, x19, x60, x21, x62, x23, x64, x25, x66, x27, x68, x29, x70, x31, x72, x33, x74, x35, x76, x37, x78, x39]

theorem blend_AC_fn_ok (x0 x1 x2 x3 x4 x5 x6 x7 x8 x9 x10 x11 x12 x13 x14 x15 x16 x17 x18 x19 x20 x21 x22 x23 x24 x25 x26 x27 x28 x29 x30 x31 x32 x33 x34 x35 x36 x37 x38 x39 x40 x41 x42 x43 x44 x45 x46 x47 x48 x49 x50 x51 x52 x53 x54 x55 x56 x57 x58 x59 x60 x61 x62 x63 x64 x65 x66 x67 x68 x69 x70 x71 x72 x73 x74 x75 x76 x77 x78 x79 : Int) : NProg.evalZ blend_AC_nprog [x0, x1, x2, x3, x4, x5, x6, x7, x8, x9, x10, x11, x12, x13, x14, x15, x16, x17, x18, x19, x20, x21, x22, x23, x24, x25, x26, x27, x28, x29, x30, x31, x32, x33, x34, x35, x36, x37, x38, x39, x40, x41, x42, x43, x44, x45, x46, x47, x48, x49, x50, x51, x52, x53, x54, x55, x56, x57, x58, x59, x60, x61, x62, x63, x64, x65, x66, x67, x68, x69, x70, x71, x72, x73, x74, x75, x76, x77, x78, x79] = blend_AC_fn x0 x1 x2 x3 x4 x5 x6 x7 x8 x9 x10 x11 x12 x13 x14 x15 x16 x17 x18 x19 x20 x21 x22 x23 x24 x25 x26 x27 x28 x29 x30 x31 x32 x33 x34 x35 x36 x37 x38 x39 x40 x41 x42 x43 x44 x45 x46 x47 x48 x49 x50 x51 x52 x53 x54 x55 x56 x57 x58 x59 x60 x61 x62 x63 x64 x65 x66 x67 x68 x69 x70 x71 x72 x73 x74 x75 x76 x77 x78 x79 :=
  (NProg.evalZ_eq_fast _ _).trans (by kernel_rfl)

def blend_CD_post : List Itv := [⟨0, 4294967295, 0⟩, ⟨0, 4294967295, 0⟩, ⟨0, 4294967295, 0⟩, ⟨0, 4294967295, 0⟩, ⟨0, 4294967295, 0⟩, ⟨0, 4294967295, 0⟩, ⟨0, 4294967295, 0⟩, ⟨0, 4294967295, 0⟩, ⟨0, 4294967295, 0⟩, ⟨0, 4294967295, 0⟩, ⟨0, 4294967295, 0⟩, ⟨0, 4294967295, 0⟩, ⟨0, 4294967295, 0⟩, ⟨0, 4294967295, 0⟩, ⟨0, 4294967295, 0⟩, ⟨0, 4294967295, 0⟩, ⟨0, 4294967295, 0⟩, ⟨0, 4294967295, 0⟩, ⟨0, 4294967295, 0⟩, ⟨0, 4294967295, 0⟩, ⟨0, 4294967295, 0⟩, ⟨0, 4294967295, 0⟩, ⟨0, 4294967295, 0⟩, ⟨0, 4294967295, 0⟩, ⟨0, 4294967295, 0⟩, ⟨0, 4294967295, 0⟩, ⟨0, 4294967295, 0⟩, ⟨0, 4294967295, 0⟩, ⟨0, 4294967295, 0⟩, ⟨0, 4294967295, 0⟩, ⟨0, 4294967295, 0⟩, ⟨0, 4294967295, 0⟩, ⟨0, 4294967295, 0⟩, ⟨0, 4294967295, 0⟩, ⟨0, 4294967295, 0⟩, ⟨0, 4294967295, 0⟩, ⟨0, 4294967295, 0⟩, ⟨0, 4294967295, 0⟩, ⟨0, 4294967295, 0⟩, ⟨0, 4294967295, 0⟩]

def blend_CD_nprog : NProg := Prog.normProg Dalek.Gen.Avx2Field.blend_CD Dalek.Model.Contracts.Avx2Field.pre_blend_CD

theorem blend_CD_norm_ok : Prog.norm Dalek.Gen.Avx2Field.blend_CD Dalek.Model.Contracts.Avx2Field.pre_blend_CD = some (blend_CD_nprog, blend_CD_post) :=
  Prog.norm_eq_of_post (by decide +kernel)

def blend_CD_fn (x0 x1 x2 x3 x4 x5 x6 x7 x8 x9 x10 x11 x12 x13 x14 x15 x16 x17 x18 x19 x20 x21 x22 x23 x24 x25 x26 x27 x28 x29 x30 x31 x32 x33 x34 x35 x36 x37 x38 x39 x40 x41 x42 x43 x44 x45 x46 x47 x48 x49 x50 x51 x52 x53 x54 x55 x56 x57 x58 x59 x60 x61 x62 x63 x64 x65 x66 x67 x68 x69 x70 x71 x72 x73 x74 x75 x76 x77 x78 x79 : Int) : List Int :=
  [x0, x1, x2, x3, x44, x45, x46, x47, x8, x9, x10, x11, x52, x53, x54, x55, x16, x17, x18, x19, x60, x61, x62, x63, x24, x25, x26, x27, x68, x69, x70, x71, x32, x33, x34, x35, x76, x77, x78, x79]

theorem blend_CD_fn_ok (x0 x1 x2 x3 x4 x5 x6 x7 x8 x9 x10 x11 x12 x13 x14 x15 x16 x17 x18 x19 x20 x21 x22 x23 x24 x25 x26 x27 x28 x29 x30 x31 x32 x33 x34 x35 x36 x37 x38 x39 x40 x41 x42 x43 x44 x45 x46 x47 x48 x49 x50 x51 x52 x53 x54 x55 x56 x57 x58 x59 x60 x61 x62 x63 x64 x65 x66 x67 x68 x69 x70 x71 x72 x73 x74 x75 x76 x77 x78 x79 : Int) : NProg.evalZ blend_CD_nprog [x0, x1, x2, x3, x4, x5, x6, x7, x8, x9, x10, x11, x12, x13, x14, x15, x16, x17, x18, x19, x20, x21, x22, x23, x24, x25, x26, x27, x28, x29, x30, x31, x32, x33, x34, x35, x36, x37, x38, x39, x40, x41, x42, x43, x44, x45, x46, x47, x48, x49, x50, x51, x52, x53, x54, x55, x56, x57, x58, x59, x60, x61, x62, x63, x64, x65, x66, x67, x68, x69, x70, x71, x72, x73, x74, x75, x76, x77, x78, x79] = blend_CD_fn x0 x1 x2 x3 x4 x5 x6 x7 x8 x9 x10 x11 x12 x13 x14 x15 x16 x17 x18 x19 x20 x21 x22 x23 x24 x25 x26 x27 x28 x29 x30 x31 x32 x33 x34 x35 x36 x37 x38 x39 x40 x41 x42 x43 x44 x45 x46 x47 x48 x49 x50 x51 x52 x53 x54 x55 x56 x57 x58 x59 x60 x61 x62 x63 x64 x65 x66 x67 x68 x69 x70 x71 x72 x73 x74 x75 x76 x77 x78 x79 :=
  (NProg.evalZ_eq_fast _ _).trans (by kernel_rfl)

def blend_AD_post : List Itv := [⟨0, 4294967295, 0⟩, ⟨0, 4294967295, 0⟩, ⟨0, 4294967295, 0⟩, ⟨0, 4294967295, 0⟩, ⟨0, 4294967295, 0⟩, ⟨0, 4294967295, 0⟩, ⟨0, 4294967295, 0⟩, ⟨0, 4294967295, 0⟩, ⟨0, 4294967295, 0⟩, ⟨0, 4294967295, 0⟩, ⟨0, 4294967295, 0⟩, ⟨0, 4294967295, 0⟩, ⟨0, 4294967295, 0⟩, ⟨0, 4294967295, 0⟩, ⟨0, 4294967295, 0⟩, ⟨0, 4294967295, 0⟩, ⟨0, 4294967295, 0⟩, ⟨0, 4294967295, 0⟩, ⟨0, 4294967295, 0⟩, ⟨0, 4294967295, 0⟩, ⟨0, 4294967295, 0⟩, ⟨0, 4294967295, 0⟩, ⟨0, 4294967295, 0⟩, ⟨0, 4294967295, 0⟩, ⟨0, 4294967295, 0⟩, ⟨0, 4294967295, 0⟩, ⟨0, 4294967295, 0⟩, ⟨0, 4294967295, 0⟩, ⟨0, 4294967295, 0⟩, ⟨0, 4294967295, 0⟩, ⟨0, 4294967295, 0⟩, ⟨0, 4294967295, 0⟩, ⟨0, 4294967295, 0⟩, ⟨0, 4294967295, 0⟩, ⟨0, 4294967295, 0⟩, ⟨0, 4294967295, 0⟩, ⟨0, 4294967295, 0⟩, ⟨0, 4294967295, 0⟩, ⟨0, 4294967295, 0⟩, ⟨0, 4294967295, 0⟩]

def blend_AD_nprog : NProg := Prog.normProg Dalek.Gen.Avx2Field.blend_AD Dalek.Model.Contracts.Avx2Field.pre_blend_AD

theorem blend_AD_norm_ok : Prog.norm Dalek.Gen.Avx2Field.blend_AD Dalek.Model.Contracts.Avx2Field.pre_blend_AD = some (blend_AD_nprog, blend_AD_post) :=
  Prog.norm_eq_of_post (by decide +kernel)

def blend_AD_fn (x0 x1 x2 x3 x4 x5 x6 x7 x8 x9 x10 x11 x12 x13 x14 x15 x16 x17 x18 x19 x20 x21 x22 x23 x24 x25 x26 x27 x28 x29 x30 x31 x32 x33 x34 x35 x36 x37 x38 x39 x40 x41 x42 x43 x44 x45 x46 x47 x48 x49 x50 x51 x52 x53 x54 x55 x56 x57 x58 x59 x60 x61 x62 x63 x64 x65 x66 x67 x68 x69 x70 x71 x72 x73 x74 x75 x76 x77 x78 x79 : Int) : List Int :=
  [x40, x1, x42, x3, x4, x45, x6, x47, x48, x9, x50, x11, x12, x53, x14, x55, x56, x17, x58, x19, x20, x61, x22, x63, x64, x25, x66, x27, x28, x69, x30, x71, x72, x33, x74, x35, x36, x77, x38, x79]

theorem blend_AD_fn_ok (x0 x1 x2 x3 x4 x5 x6 x7 x8 x9 x10 x11 x12 x13 x14 x15 x16 x17 x18 x19 x20 x21 x22 x23 x24 x25 x26 x27 x28 x29 x30 x31 x32 x33 x34 x35 x36 x37 x38 x39 x40 x41 x42 x43 x44 x45 x46 x47 x48 x49 x50 x51 x52 x53 x54 x55 x56 x57 x58 x59 x60 x61 x62 x63 x64 x65 x66 x67 x68 x69 x70 x71 x72 x73 x74 x75 x76 x77 x78 x79 : Int) : NProg.evalZ blend_AD_nprog [x0, x1, x2, x3, x4, x5, x6, x7, x8, x9, x10, x11, x12, x13, x14, x15, x16, x17, x18, x19, x20, x21, x22, x23, x24, x25, x26, x27, x28, x29, x30, x31, x32, x33, x34, x35, x36, x37, x38, x39, x40, x41, x42, x43, x44, x45, x46, x47, x48, x49, x50, x51, x52, x53, x54, x55, x56, x57, x58, x59, x60, x61, x62, x63, x64, x65, x66, x67, x68, x69, x70, x71, x72, x73, x74, x75, x76, x77, x78, x79] = blend_AD_fn x0 x1 x2 x3 x4 x5 x6 x7 x8 x9 x10 x11 x12 x13 x14 x15 x16 x17 x18 x19 x20 x21 x22 x23 x24 x25 x26 x27 x28 x29 x30 x31 x32 x33 x34 x35 x36 x37 x38 x39 x40 x41 x42 x43 x44 x45 x46 x47 x48 x49 x50 x51 x52 x53 x54 x55 x56 x57 x58 x59 x60 x61 x62 x63 x64 x65 x66 x67 x68 x69 x70 x71 x72 x73 x74 x75 x76 x77 x78 x79 :=
  (NProg.evalZ_eq_fast _ _).trans (by kernel_rfl)

def blend_BC_post : List Itv := [⟨0, 4294967295, 0⟩, ⟨0, 4294967295, 0⟩, ⟨0, 4294967295, 0⟩, ⟨0, 4294967295, 0⟩, ⟨0, 4294967295, 0⟩, ⟨0, 4294967295, 0⟩, ⟨0, 4294967295, 0⟩, ⟨0, 4294967295, 0⟩, ⟨0, 4294967295, 0⟩, ⟨0, 4294967295, 0⟩, ⟨0, 4294967295, 0⟩, ⟨0, 4294967295, 0⟩, ⟨0, 4294967295, 0⟩, ⟨0, 4294967295, 0⟩, ⟨0, 4294967295, 0⟩, ⟨0, 4294967295, 0⟩, ⟨0, 4294967295, 0⟩, ⟨0, 4294967295, 0⟩, ⟨0, 4294967295, 0⟩, ⟨0, 4294967295, 0⟩, ⟨0, 4294967295, 0⟩, ⟨0, 4294967295, 0⟩, ⟨0, 4294967295, 0⟩, ⟨0, 4294967295, 0⟩, ⟨0, 4294967295, 0⟩, ⟨0, 4294967295, 0⟩, ⟨0, 4294967295, 0⟩, ⟨0, 4294967295, 0⟩, ⟨0, 4294967295, 0⟩, ⟨0, 4294967295, 0⟩, ⟨0, 4294967295, 0⟩, ⟨0, 4294967295, 0⟩, ⟨0, 4294967295, 0⟩, ⟨0, 4294967295, 0⟩, ⟨0, 4294967295, 0⟩, ⟨0, 4294967295, 0⟩, ⟨0, 4294967295, 0⟩, ⟨0, 4294967295, 0⟩, ⟨0, 4294967295, 0⟩, ⟨0, 4294967295, 0⟩]

def blend_BC_nprog : NProg := Prog.normProg Dalek.Gen.Avx2Field.blend_BC Dalek.Model.Contracts.Avx2Field.pre_blend_BC

theorem blend_BC_norm_ok : Prog.norm Dalek.Gen.Avx2Field.blend_BC Dalek.Model.Contracts.Avx2Field.pre_blend_BC = some (blend_BC_nprog, blend_BC_post) :=
  Prog.norm_eq_of_post (by decide +kernel)

def blend_BC_fn (x0 x1 x2 x3 x4 x5 x6 x7 x8 x9 x10 x11 x12 x13 x14 x15 x16 x17 x18 x19 x20 x21 x22 x23 x24 x25 x26 x27 x28 x29 x30 x31 x32 x33 x34 x35 x36 x37 x38 x39 x40 x41 x42 x43 x44 x45 x46 x47 x48 x49 x50 x51 x52 x53 x54 x55 x56 x57 x58 x59 x60 x61 x62 x63 x64 x65 x66 x67 x68 x69 x70 x71 x72 x73 x74 x75 x76 x77 x78 x79 : Int) : List Int :=
  [x0, x41, x2, x43, x44, x5, x46, x7, x8, x49, x10, x51, x52, x13, x54, x15, x16, x57, x18, x59, x60, x21, x62, x23, x24, x65, x26, x67, x68, x29, x70, x31, x32, x73, x34, x75, x76, x37, x78, x39]

theorem blend_BC_fn_ok (x0 x1 x2 x3 x4 x5 x6 x7 x8 x9 x10 x11 x12 x13 x14 x15 x16 x17 x18 x19 x20 x21 x22 x23 x24 x25 x26 x27 x28 x29 x30 x31 x32 x33 x34 x35 x36 x37 x38 x39 x40 x41 x42 x43 x44 x45 x46 x47 x48 x49 x50 x51 x52 x53 x54 x55 x56 x57 x58 x59 x60 x61 x62 x63 x64 x65 x66 x67 x68 x69 x70 x71 x72 x73 x74 x75 x76 x77 x78 x79 : Int) : NProg.evalZ blend_BC_nprog [x0, x1, x2, x3, x4, x5, x6, x7, x8, x9, x10, x11, x12, x13, x14, x15, x16, x17, x18, x19, x20, x21, x22, x23, x24, x25, x26, x27, x28, x29, x30, x31, x32, x33, x34, x35, x36, x37, x38, x39, x40, x41, x42, x43, x44, x45, x46, x47, x48, x49, x50, x51, x52, x53, x54, x55, x56, x57, x58, x59, x60, x61, x62, x63, x64, x65, x66, x67, x68, x69, x70, x71, x72, x73, x74, x75, x76, x77, x78, x79] = blend_BC_fn x0 x1 x2 x3 x4 x5 x6 x7 x8 x9 x10 x11 x12 x13 x14 x15 x16 x17 x18 x19 x20 x21 x22 x23 x24 x25 x26 x27 x28 x29 x30 x31 x32 x33 x34 x35 x36 x37 x38 x39 x40 x41 x42 x43 x44 x45 x46 x47 x48 x49 x50 x51 x52 x53 x54 x55 x56 x57 x58 x59 x60 x61 x62 x63 x64 x65 x66 x67 x68 x69 x70 x71 x72 x73 x74 x75 x76 x77 x78 x79 :=
  (NProg.evalZ_eq_fast _ _).trans (by kernel_rfl)

def blend_ABCD_post : List Itv := [⟨0, 4294967295, 0⟩, ⟨0, 4294967295, 0⟩, ⟨0, 4294967295, 0⟩, ⟨0, 4294967295, 0⟩, ⟨0, 4294967295, 0⟩, ⟨0, 4294967295, 0⟩, ⟨0, 4294967295, 0⟩, ⟨0, 4294967295, 0⟩, ⟨0, 4294967295, 0⟩, ⟨0, 4294967295, 0⟩, ⟨0, 4294967295, 0⟩, ⟨0, 4294967295, 0⟩, ⟨0, 4294967295, 0⟩, ⟨0, 4294967295, 0⟩, ⟨0, 4294967295, 0⟩, ⟨0, 4294967295, 0⟩, ⟨0, 4294967295, 0⟩, ⟨0, 4294967295, 0⟩, ⟨0, 4294967295, 0⟩, ⟨0, 4294967295, 0⟩, ⟨0, 4294967295, 0⟩, ⟨0, 4294967295, 0⟩, ⟨0, 4294967295, 0⟩, ⟨0, 4294967295, 0⟩, ⟨0, 4294967295, 0⟩, ⟨0, 4294967295, 0⟩, ⟨0, 4294967295, 0⟩, ⟨0, 4294967295, 0⟩, ⟨0, 4294967295, 0⟩, ⟨0, 4294967295, 0⟩, ⟨0, 4294967295, 0⟩, ⟨0, 4294967295, 0⟩, ⟨0, 4294967295, 0⟩, ⟨0, 4294967295, 0⟩, ⟨0, 4294967295, 0⟩, ⟨0, 4294967295, 0⟩, ⟨0, 4294967295, 0⟩, ⟨0, 4294967295, 0⟩, ⟨0, 4294967295, 0⟩, ⟨0, 4294967295, 0⟩]

def blend_ABCD_nprog : NProg := Prog.normProg Dalek.Gen.Avx2Field.blend_ABCD Dalek.Model.Contracts.Avx2Field.pre_blend_ABCD

theorem blend_ABCD_norm_ok : Prog.norm Dalek.Gen.Avx2Field.blend_ABCD Dalek.Model.Contracts.Avx2Field.pre_blend_ABCD = some (blend_ABCD_nprog, blend_ABCD_post) :=
  Prog.norm_eq_of_post (by decide +kernel)

def blend_ABCD_fn (x0 x1 x2 x3 x4 x5 x6 x7 x8 x9 x10 x11 x12 x13 x14 x15 x16 x17 x18 x19 x20 x21 x22 x23 x24 x25 x26 x27 x28 x29 x30 x31 x32 x33 x34 x35 x36 x37 x38 x39 x40 x41 x42 x43 x44 x45 x46 x47 x48 x49 x50 x51 x52 x53 x54 x55 x56 x57 x58 x59 x60 x61 x62 x63 x64 x65 x66 x67 x68 x69 x70 x71 x72 x73 x74 x75 x76 x77 x78 x79 : Int) : List Int :=
  [x40, x41, x42, x43, x44, x45, x46, x47, x48, x49, x50, x51, x52, x53, x54, x55, x56, x57, x58, x59, x60, x61, x62, x63, x64, x65, x66, x67, x68, x69, x70, x71, x72, x73, x74, x75, x76, x77, x78, x79]

theorem blend_ABCD_fn_ok (x0 x1 x2 x3 x4 x5 x6 x7 x8 x9 x10 x11 x12 x13 x14 x15 x16 x17 x18 x19 x20 x21 x22 x23 x24 x25 x26 x27 x28 x29 x30 x31 x32 x33 x34 x35 x36 x37 x38 x39 x40 x41 x42 x43 x44 x45 x46 x47 x48 x49 x50 x51 x52 x53 x54 x55 x56 x57 x58 x59 x60 x61 x62 x63 x64 x65 x66 x67 x68 x69 x70 x71 x72 x73 x74 x75 x76 x77 x78 x79 : Int) : NProg.evalZ blend_ABCD_nprog [x0, x1, x2, x3, x4, x5, x6, x7, x8, x9, x10, x11, x12, x13, x14, x15, x16, x17, x18, x19, x20, x21, x22, x23, x24, x25, x26, x27, x28, x29, x30, x31, x32, x33, x34, x35, x36, x37, x38, x39, x40, x41, x42, x43, x44, x45, x46, x47, x48, x49, x50, x51, x52, x53, x54, x55, x56, x57, x58, x59, x60, x61, x62, x63, x64, x65, x66, x67, x68, x69, x70, x71, x72, x73, x74, x75, x76, x77, x78, x79] = blend_ABCD_fn x0 x1 x2 x3 x4 x5 x6 x7 x8 x9 x10 x11 x12 x13 x14 x15 x16 x17 x18 x19 x20 x21 x22 x23 x24 x25 x26 x27 x28 x29 x30 x31 x32 x33 x34 x35 x36 x37 x38 x39 x40 x41 x42 x43 x44 x45 x46 x47 x48 x49 x50 x51 x52 x53 x54 x55 x56 x57 x58 x59 x60 x61 x62 x63 x64 x65 x66 x67 x68 x69 x70 x71 x72 x73 x74 x75 x76 x77 x78 x79 :=
  (NProg.evalZ_eq_fast _ _).trans (by kernel_rfl)

end Dalek.Gen.Norm.Avx2Field
