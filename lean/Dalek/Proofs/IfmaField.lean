import Dalek.Proofs.IfmaField.Defs
import Dalek.Proofs.IfmaField.Small
import Dalek.Proofs.IfmaField.Perm
import Dalek.Proofs.IfmaField.Square
import Dalek.Proofs.IfmaField.Mul
/-! Lane-level functional correctness of the translated AVX512-IFMA vector field kernels (`Dalek.Gen.IfmaField`,
regenerated from `curve25519-dalek/src/backend/vector/ifma/field.rs`) in `ZMod (2^255-19)`, for ALL integer inputs of
the shallow functions `*_fn` produced by the analyser/normaliser.

* `Defs`   : `lane51`, `laneVal51`, the proof macros (`Lane` etc. are shared with `Dalek.Proofs.Avx2Field.Defs`)
* `Small`  : `new`, `split`, `unreduce`, `negate_lazy`, `diff_sum`, `add`, `reduce`, `neg`, `mul_consts`
* `Perm`   : `conditional_select/assign`
* `Square` : `square`
* `Mul`    : `mul` -/
