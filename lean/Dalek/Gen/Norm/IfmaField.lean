import Dalek.Model.Contracts
import Dalek.IR.NormSpec
import Dalek.IR.Tactics
/-! GENERATED by tools/GenNorm.lean from the current /repo sources; do not edit. -/
namespace Dalek.Gen.Norm.IfmaField
open Dalek.IR

def new_post : List Itv := [⟨0, 18446744073709551615, 0⟩, ⟨0, 18446744073709551615, 0⟩, ⟨0, 18446744073709551615, 0⟩, ⟨0, 18446744073709551615, 0⟩, ⟨0, 18446744073709551615, 0⟩, ⟨0, 18446744073709551615, 0⟩, ⟨0, 18446744073709551615, 0⟩, ⟨0, 18446744073709551615, 0⟩, ⟨0, 18446744073709551615, 0⟩, ⟨0, 18446744073709551615, 0⟩, ⟨0, 18446744073709551615, 0⟩, ⟨0, 18446744073709551615, 0⟩, ⟨0, 18446744073709551615, 0⟩, ⟨0, 18446744073709551615, 0⟩, ⟨0, 18446744073709551615, 0⟩, ⟨0, 18446744073709551615, 0⟩, ⟨0, 18446744073709551615, 0⟩, ⟨0, 18446744073709551615, 0⟩, ⟨0, 18446744073709551615, 0⟩, ⟨0, 18446744073709551615, 0⟩]

def new_nprog : NProg := Prog.normProg Dalek.Gen.IfmaField.new Dalek.Model.Contracts.IfmaField.pre_new

theorem new_norm_ok : Prog.norm Dalek.Gen.IfmaField.new Dalek.Model.Contracts.IfmaField.pre_new = some (new_nprog, new_post) :=
  Prog.norm_eq_of_post (by decide +kernel)

def new_fn (x0 x1 x2 x3 x4 x5 x6 x7 x8 x9 x10 x11 x12 x13 x14 x15 x16 x17 x18 x19 : Int) : List Int :=
  [x0, x5, x10, x15, x1, x6, x11, x16, x2, x7, x12, x17, x3, x8, x13, x18, x4, x9, x14, x19]

theorem new_fn_ok (x0 x1 x2 x3 x4 x5 x6 x7 x8 x9 x10 x11 x12 x13 x14 x15 x16 x17 x18 x19 : Int) : NProg.evalZ new_nprog [x0, x1, x2, x3, x4, x5, x6, x7, x8, x9, x10, x11, x12, x13, x14, x15, x16, x17, x18, x19] = new_fn x0 x1 x2 x3 x4 x5 x6 x7 x8 x9 x10 x11 x12 x13 x14 x15 x16 x17 x18 x19 :=
  (NProg.evalZ_eq_fast _ _).trans (by kernel_rfl)

def split_post : List Itv := [⟨0, 18446744073709551615, 0⟩, ⟨0, 18446744073709551615, 0⟩, ⟨0, 18446744073709551615, 0⟩, ⟨0, 18446744073709551615, 0⟩, ⟨0, 18446744073709551615, 0⟩, ⟨0, 18446744073709551615, 0⟩, ⟨0, 18446744073709551615, 0⟩, ⟨0, 18446744073709551615, 0⟩, ⟨0, 18446744073709551615, 0⟩, ⟨0, 18446744073709551615, 0⟩, ⟨0, 18446744073709551615, 0⟩, ⟨0, 18446744073709551615, 0⟩, ⟨0, 18446744073709551615, 0⟩, ⟨0, 18446744073709551615, 0⟩, ⟨0, 18446744073709551615, 0⟩, ⟨0, 18446744073709551615, 0⟩, ⟨0, 18446744073709551615, 0⟩, ⟨0, 18446744073709551615, 0⟩, ⟨0, 18446744073709551615, 0⟩, ⟨0, 18446744073709551615, 0⟩]

def split_nprog : NProg := Prog.normProg Dalek.Gen.IfmaField.split Dalek.Model.Contracts.IfmaField.pre_split

theorem split_norm_ok : Prog.norm Dalek.Gen.IfmaField.split Dalek.Model.Contracts.IfmaField.pre_split = some (split_nprog, split_post) :=
  Prog.norm_eq_of_post (by decide +kernel)

def split_fn (x0 x1 x2 x3 x4 x5 x6 x7 x8 x9 x10 x11 x12 x13 x14 x15 x16 x17 x18 x19 : Int) : List Int :=
  [x0, x4, x8, x12, x16, x1, x5, x9, x13, x17, x2, x6, x10, x14, x18, x3, x7, x11, x15, x19]

theorem split_fn_ok (x0 x1 x2 x3 x4 x5 x6 x7 x8 x9 x10 x11 x12 x13 x14 x15 x16 x17 x18 x19 : Int) : NProg.evalZ split_nprog [x0, x1, x2, x3, x4, x5, x6, x7, x8, x9, x10, x11, x12, x13, x14, x15, x16, x17, x18, x19] = split_fn x0 x1 x2 x3 x4 x5 x6 x7 x8 x9 x10 x11 x12 x13 x14 x15 x16 x17 x18 x19 :=
  (NProg.evalZ_eq_fast _ _).trans (by kernel_rfl)

def negate_lazy_post : List Itv := [⟨0, 72057594037927328, 0⟩, ⟨0, 72057594037927328, 0⟩, ⟨0, 72057594037927328, 0⟩, ⟨0, 72057594037927328, 0⟩, ⟨0, 72057594037927904, 0⟩, ⟨0, 72057594037927904, 0⟩, ⟨0, 72057594037927904, 0⟩, ⟨0, 72057594037927904, 0⟩, ⟨0, 72057594037927904, 0⟩, ⟨0, 72057594037927904, 0⟩, ⟨0, 72057594037927904, 0⟩, ⟨0, 72057594037927904, 0⟩, ⟨0, 72057594037927904, 0⟩, ⟨0, 72057594037927904, 0⟩, ⟨0, 72057594037927904, 0⟩, ⟨0, 72057594037927904, 0⟩, ⟨0, 72057594037927904, 0⟩, ⟨0, 72057594037927904, 0⟩, ⟨0, 72057594037927904, 0⟩, ⟨0, 72057594037927904, 0⟩]

def negate_lazy_nprog : NProg := Prog.normProg Dalek.Gen.IfmaField.negate_lazy Dalek.Model.Contracts.IfmaField.pre_negate_lazy

theorem negate_lazy_norm_ok : Prog.norm Dalek.Gen.IfmaField.negate_lazy Dalek.Model.Contracts.IfmaField.pre_negate_lazy = some (negate_lazy_nprog, negate_lazy_post) :=
  Prog.norm_eq_of_post (by decide +kernel)

def negate_lazy_fn (x0 x1 x2 x3 x4 x5 x6 x7 x8 x9 x10 x11 x12 x13 x14 x15 x16 x17 x18 x19 : Int) : List Int :=
  let x20 : Int := ((72057594037927328 : Int) - x0)
  let x21 : Int := ((72057594037927328 : Int) - x1)
  let x22 : Int := ((72057594037927328 : Int) - x2)
  let x23 : Int := ((72057594037927328 : Int) - x3)
  let x24 : Int := ((72057594037927904 : Int) - x4)
  let x25 : Int := ((72057594037927904 : Int) - x5)
  let x26 : Int := ((72057594037927904 : Int) - x6)
  let x27 : Int := ((72057594037927904 : Int) - x7)
  let x28 : Int := ((72057594037927904 : Int) - x8)
  let x29 : Int := ((72057594037927904 : Int) - x9)
  let x30 : Int := ((72057594037927904 : Int) - x10)
  let x31 : Int := ((72057594037927904 : Int) - x11)
  let x32 : Int := ((72057594037927904 : Int) - x12)
  let x33 : Int := ((72057594037927904 : Int) - x13)
  let x34 : Int := ((72057594037927904 : Int) - x14)
  let x35 : Int := ((72057594037927904 : Int) - x15)
  let x36 : Int := ((72057594037927904 : Int) - x16)
  let x37 : Int := ((72057594037927904 : Int) - x17)
  let x38 : Int := ((72057594037927904 : Int) - x18)
  let x39 : Int := ((72057594037927904 : Int) - x19)
  [x20, x21, x22, x23, x24, x25, x26, x27, x28, x29, x30, x31, x32, x33, x34, x35, x36, x37, x38, x39]

theorem negate_lazy_fn_ok (x0 x1 x2 x3 x4 x5 x6 x7 x8 x9 x10 x11 x12 x13 x14 x15 x16 x17 x18 x19 : Int) : NProg.evalZ negate_lazy_nprog [x0, x1, x2, x3, x4, x5, x6, x7, x8, x9, x10, x11, x12, x13, x14, x15, x16, x17, x18, x19] = negate_lazy_fn x0 x1 x2 x3 x4 x5 x6 x7 x8 x9 x10 x11 x12 x13 x14 x15 x16 x17 x18 x19 :=
  (NProg.evalZ_eq_fast _ _).trans (by kernel_rfl)

def diff_sum_post : List Itv := [⟨0, 144115188075854656, 0⟩, ⟨0, 144115188075854656, 0⟩, ⟨0, 144115188075854656, 0⟩, ⟨0, 144115188075854656, 0⟩, ⟨0, 144115188075855808, 0⟩, ⟨0, 144115188075855808, 0⟩, ⟨0, 144115188075855808, 0⟩, ⟨0, 144115188075855808, 0⟩, ⟨0, 144115188075855808, 0⟩, ⟨0, 144115188075855808, 0⟩, ⟨0, 144115188075855808, 0⟩, ⟨0, 144115188075855808, 0⟩, ⟨0, 144115188075855808, 0⟩, ⟨0, 144115188075855808, 0⟩, ⟨0, 144115188075855808, 0⟩, ⟨0, 144115188075855808, 0⟩, ⟨0, 144115188075855808, 0⟩, ⟨0, 144115188075855808, 0⟩, ⟨0, 144115188075855808, 0⟩, ⟨0, 144115188075855808, 0⟩]

def diff_sum_nprog : NProg := Prog.normProg Dalek.Gen.IfmaField.diff_sum Dalek.Model.Contracts.IfmaField.pre_diff_sum

theorem diff_sum_norm_ok : Prog.norm Dalek.Gen.IfmaField.diff_sum Dalek.Model.Contracts.IfmaField.pre_diff_sum = some (diff_sum_nprog, diff_sum_post) :=
  Prog.norm_eq_of_post (by decide +kernel)

def diff_sum_fn (x0 x1 x2 x3 x4 x5 x6 x7 x8 x9 x10 x11 x12 x13 x14 x15 x16 x17 x18 x19 : Int) : List Int :=
  let x20 : Int := ((72057594037927328 : Int) - x0)
  let x21 : Int := ((72057594037927328 : Int) - x1)
  let x22 : Int := ((72057594037927328 : Int) - x2)
  let x23 : Int := ((72057594037927328 : Int) - x3)
  let x24 : Int := ((72057594037927904 : Int) - x4)
  let x25 : Int := ((72057594037927904 : Int) - x5)
  let x26 : Int := ((72057594037927904 : Int) - x6)
  let x27 : Int := ((72057594037927904 : Int) - x7)
  let x28 : Int := ((72057594037927904 : Int) - x8)
  let x29 : Int := ((72057594037927904 : Int) - x9)
  let x30 : Int := ((72057594037927904 : Int) - x10)
  let x31 : Int := ((72057594037927904 : Int) - x11)
  let x32 : Int := ((72057594037927904 : Int) - x12)
  let x33 : Int := ((72057594037927904 : Int) - x13)
  let x34 : Int := ((72057594037927904 : Int) - x14)
  let x35 : Int := ((72057594037927904 : Int) - x15)
  let x36 : Int := ((72057594037927904 : Int) - x16)
  let x37 : Int := ((72057594037927904 : Int) - x17)
  let x38 : Int := ((72057594037927904 : Int) - x18)
  let x39 : Int := ((72057594037927904 : Int) - x19)
  let x40 : Int := (x1 + x20)
  let x41 : Int := (x0 + x1)
  let x42 : Int := (x3 + x22)
  let x43 : Int := (x2 + x3)
  let x44 : Int := (x5 + x24)
  let x45 : Int := (x4 + x5)
  let x46 : Int := (x7 + x26)
  let x47 : Int := (x6 + x7)
  let x48 : Int := (x9 + x28)
  let x49 : Int := (x8 + x9)
  let x50 : Int := (x11 + x30)
  let x51 : Int := (x10 + x11)
  let x52 : Int := (x13 + x32)
  let x53 : Int := (x12 + x13)
  let x54 : Int := (x15 + x34)
  let x55 : Int := (x14 + x15)
  let x56 : Int := (x17 + x36)
  let x57 : Int := (x16 + x17)
  let x58 : Int := (x19 + x38)
  let x59 : Int := (x18 + x19)
  [x40, x41, x42, x43, x44, x45, x46, x47, x48, x49, x50, x51, x52, x53, x54, x55, x56, x57, x58, x59]

theorem diff_sum_fn_ok (x0 x1 x2 x3 x4 x5 x6 x7 x8 x9 x10 x11 x12 x13 x14 x15 x16 x17 x18 x19 : Int) : NProg.evalZ diff_sum_nprog [x0, x1, x2, x3, x4, x5, x6, x7, x8, x9, x10, x11, x12, x13, x14, x15, x16, x17, x18, x19] = diff_sum_fn x0 x1 x2 x3 x4 x5 x6 x7 x8 x9 x10 x11 x12 x13 x14 x15 x16 x17 x18 x19 :=
  (NProg.evalZ_eq_fast _ _).trans (by kernel_rfl)

def add_post : List Itv := [⟨0, 18446744073709551614, 0⟩, ⟨0, 18446744073709551614, 0⟩, ⟨0, 18446744073709551614, 0⟩, ⟨0, 18446744073709551614, 0⟩, ⟨0, 18446744073709551614, 0⟩, ⟨0, 18446744073709551614, 0⟩, ⟨0, 18446744073709551614, 0⟩, ⟨0, 18446744073709551614, 0⟩, ⟨0, 18446744073709551614, 0⟩, ⟨0, 18446744073709551614, 0⟩, ⟨0, 18446744073709551614, 0⟩, ⟨0, 18446744073709551614, 0⟩, ⟨0, 18446744073709551614, 0⟩, ⟨0, 18446744073709551614, 0⟩, ⟨0, 18446744073709551614, 0⟩, ⟨0, 18446744073709551614, 0⟩, ⟨0, 18446744073709551614, 0⟩, ⟨0, 18446744073709551614, 0⟩, ⟨0, 18446744073709551614, 0⟩, ⟨0, 18446744073709551614, 0⟩]

def add_nprog : NProg := Prog.normProg Dalek.Gen.IfmaField.add Dalek.Model.Contracts.IfmaField.pre_add

theorem add_norm_ok : Prog.norm Dalek.Gen.IfmaField.add Dalek.Model.Contracts.IfmaField.pre_add = some (add_nprog, add_post) :=
  Prog.norm_eq_of_post (by decide +kernel)

def add_fn (x0 x1 x2 x3 x4 x5 x6 x7 x8 x9 x10 x11 x12 x13 x14 x15 x16 x17 x18 x19 x20 x21 x22 x23 x24 x25 x26 x27 x28 x29 x30 x31 x32 x33 x34 x35 x36 x37 x38 x39 : Int) : List Int :=
  let x40 : Int := (x0 + x20)
  let x41 : Int := (x1 + x21)
  let x42 : Int := (x2 + x22)
  let x43 : Int := (x3 + x23)
  let x44 : Int := (x4 + x24)
  let x45 : Int := (x5 + x25)
  let x46 : Int := (x6 + x26)
  let x47 : Int := (x7 + x27)
  let x48 : Int := (x8 + x28)
  let x49 : Int := (x9 + x29)
  let x50 : Int := (x10 + x30)
  let x51 : Int := (x11 + x31)
  let x52 : Int := (x12 + x32)
  let x53 : Int := (x13 + x33)
  let x54 : Int := (x14 + x34)
  let x55 : Int := (x15 + x35)
  let x56 : Int := (x16 + x36)
  let x57 : Int := (x17 + x37)
  let x58 : Int := (x18 + x38)
  let x59 : Int := (x19 + x39)
  [x40, x41, x42, x43, x44, x45, x46, x47, x48, x49, x50, x51, x52, x53, x54, x55, x56, x57, x58, x59]

theorem add_fn_ok (x0 x1 x2 x3 x4 x5 x6 x7 x8 x9 x10 x11 x12 x13 x14 x15 x16 x17 x18 x19 x20 x21 x22 x23 x24 x25 x26 x27 x28 x29 x30 x31 x32 x33 x34 x35 x36 x37 x38 x39 : Int) : NProg.evalZ add_nprog [x0, x1, x2, x3, x4, x5, x6, x7, x8, x9, x10, x11, x12, x13, x14, x15, x16, x17, x18, x19, x20, x21, x22, x23, x24, x25, x26, x27, x28, x29, x30, x31, x32, x33, x34, x35, x36, x37, x38, x39] = add_fn x0 x1 x2 x3 x4 x5 x6 x7 x8 x9 x10 x11 x12 x13 x14 x15 x16 x17 x18 x19 x20 x21 x22 x23 x24 x25 x26 x27 x28 x29 x30 x31 x32 x33 x34 x35 x36 x37 x38 x39 :=
  (NProg.evalZ_eq_fast _ _).trans (by kernel_rfl)

def reduce_post : List Itv := [⟨0, 2251799813840876, 0⟩, ⟨0, 2251799813840876, 0⟩, ⟨0, 2251799813840876, 0⟩, ⟨0, 2251799813840876, 0⟩, ⟨0, 2251799813693438, 0⟩, ⟨0, 2251799813693438, 0⟩, ⟨0, 2251799813693438, 0⟩, ⟨0, 2251799813693438, 0⟩, ⟨0, 2251799813693438, 0⟩, ⟨0, 2251799813693438, 0⟩, ⟨0, 2251799813693438, 0⟩, ⟨0, 2251799813693438, 0⟩, ⟨0, 2251799813693438, 0⟩, ⟨0, 2251799813693438, 0⟩, ⟨0, 2251799813693438, 0⟩, ⟨0, 2251799813693438, 0⟩, ⟨0, 2251799813693438, 0⟩, ⟨0, 2251799813693438, 0⟩, ⟨0, 2251799813693438, 0⟩, ⟨0, 2251799813693438, 0⟩]

def reduce_nprog : NProg := Prog.normProg Dalek.Gen.IfmaField.reduce Dalek.Model.Contracts.IfmaField.pre_reduce

theorem reduce_norm_ok : Prog.norm Dalek.Gen.IfmaField.reduce Dalek.Model.Contracts.IfmaField.pre_reduce = some (reduce_nprog, reduce_post) :=
  Prog.norm_eq_of_post (by decide +kernel)

def reduce_fn (x0 x1 x2 x3 x4 x5 x6 x7 x8 x9 x10 x11 x12 x13 x14 x15 x16 x17 x18 x19 : Int) : List Int :=
  let x20 : Int := (x0 / 2 ^ (51 : Nat))
  let x21 : Int := (x1 / 2 ^ (51 : Nat))
  let x22 : Int := (x2 / 2 ^ (51 : Nat))
  let x23 : Int := (x3 / 2 ^ (51 : Nat))
  let x24 : Int := (x4 / 2 ^ (51 : Nat))
  let x25 : Int := (x5 / 2 ^ (51 : Nat))
  let x26 : Int := (x6 / 2 ^ (51 : Nat))
  let x27 : Int := (x7 / 2 ^ (51 : Nat))
  let x28 : Int := (x8 / 2 ^ (51 : Nat))
  let x29 : Int := (x9 / 2 ^ (51 : Nat))
  let x30 : Int := (x10 / 2 ^ (51 : Nat))
  let x31 : Int := (x11 / 2 ^ (51 : Nat))
  let x32 : Int := (x12 / 2 ^ (51 : Nat))
  let x33 : Int := (x13 / 2 ^ (51 : Nat))
  let x34 : Int := (x14 / 2 ^ (51 : Nat))
  let x35 : Int := (x15 / 2 ^ (51 : Nat))
  let x36 : Int := (x16 / 2 ^ (51 : Nat))
  let x37 : Int := (x17 / 2 ^ (51 : Nat))
  let x38 : Int := (x18 / 2 ^ (51 : Nat))
  let x39 : Int := (x19 / 2 ^ (51 : Nat))
  let x40 : Int := (x0 % 2 ^ (51 : Nat))
  let x41 : Int := (x1 % 2 ^ (51 : Nat))
  let x42 : Int := (x2 % 2 ^ (51 : Nat))
  let x43 : Int := (x3 % 2 ^ (51 : Nat))
  let x44 : Int := (x40 + (x36 * (19 : Int)))
  let x45 : Int := (x41 + (x37 * (19 : Int)))
  let x46 : Int := (x42 + (x38 * (19 : Int)))
  let x47 : Int := (x43 + (x39 * (19 : Int)))
  let x48 : Int := ((x4 % 2 ^ (51 : Nat)) + x20)
  let x49 : Int := ((x5 % 2 ^ (51 : Nat)) + x21)
  let x50 : Int := ((x6 % 2 ^ (51 : Nat)) + x22)
  let x51 : Int := ((x7 % 2 ^ (51 : Nat)) + x23)
  let x52 : Int := ((x8 % 2 ^ (51 : Nat)) + x24)
  let x53 : Int := ((x9 % 2 ^ (51 : Nat)) + x25)
  let x54 : Int := ((x10 % 2 ^ (51 : Nat)) + x26)
  let x55 : Int := ((x11 % 2 ^ (51 : Nat)) + x27)
  let x56 : Int := ((x12 % 2 ^ (51 : Nat)) + x28)
  let x57 : Int := ((x13 % 2 ^ (51 : Nat)) + x29)
  let x58 : Int := ((x14 % 2 ^ (51 : Nat)) + x30)
  let x59 : Int := ((x15 % 2 ^ (51 : Nat)) + x31)
  let x60 : Int := ((x16 % 2 ^ (51 : Nat)) + x32)
  let x61 : Int := ((x17 % 2 ^ (51 : Nat)) + x33)
  let x62 : Int := ((x18 % 2 ^ (51 : Nat)) + x34)
  let x63 : Int := ((x19 % 2 ^ (51 : Nat)) + x35)
  [x44, x45, x46, x47, x48, x49, x50, x51, x52, x53, x54, x55, x56, x57, x58, x59, x60, x61, x62, x63]

theorem reduce_fn_ok (x0 x1 x2 x3 x4 x5 x6 x7 x8 x9 x10 x11 x12 x13 x14 x15 x16 x17 x18 x19 : Int) : NProg.evalZ reduce_nprog [x0, x1, x2, x3, x4, x5, x6, x7, x8, x9, x10, x11, x12, x13, x14, x15, x16, x17, x18, x19] = reduce_fn x0 x1 x2 x3 x4 x5 x6 x7 x8 x9 x10 x11 x12 x13 x14 x15 x16 x17 x18 x19 :=
  (NProg.evalZ_eq_fast _ _).trans (by kernel_rfl)

def unreduce_post : List Itv := [⟨0, 18446744073709551615, 0⟩, ⟨0, 18446744073709551615, 0⟩, ⟨0, 18446744073709551615, 0⟩, ⟨0, 18446744073709551615, 0⟩, ⟨0, 18446744073709551615, 0⟩, ⟨0, 18446744073709551615, 0⟩, ⟨0, 18446744073709551615, 0⟩, ⟨0, 18446744073709551615, 0⟩, ⟨0, 18446744073709551615, 0⟩, ⟨0, 18446744073709551615, 0⟩, ⟨0, 18446744073709551615, 0⟩, ⟨0, 18446744073709551615, 0⟩, ⟨0, 18446744073709551615, 0⟩, ⟨0, 18446744073709551615, 0⟩, ⟨0, 18446744073709551615, 0⟩, ⟨0, 18446744073709551615, 0⟩, ⟨0, 18446744073709551615, 0⟩, ⟨0, 18446744073709551615, 0⟩, ⟨0, 18446744073709551615, 0⟩, ⟨0, 18446744073709551615, 0⟩]

def unreduce_nprog : NProg := Prog.normProg Dalek.Gen.IfmaField.unreduce Dalek.Model.Contracts.IfmaField.pre_unreduce

theorem unreduce_norm_ok : Prog.norm Dalek.Gen.IfmaField.unreduce Dalek.Model.Contracts.IfmaField.pre_unreduce = some (unreduce_nprog, unreduce_post) :=
  Prog.norm_eq_of_post (by decide +kernel)

def unreduce_fn (x0 x1 x2 x3 x4 x5 x6 x7 x8 x9 x10 x11 x12 x13 x14 x15 x16 x17 x18 x19 : Int) : List Int :=
  [x0, x1, x2, x3, x4, x5, x6, x7, x8, x9, x10, x11, x12, x13, x14, x15, x16, x17, x18, x19]

theorem unreduce_fn_ok (x0 x1 x2 x3 x4 x5 x6 x7 x8 x9 x10 x11 x12 x13 x14 x15 x16 x17 x18 x19 : Int) : NProg.evalZ unreduce_nprog [x0, x1, x2, x3, x4, x5, x6, x7, x8, x9, x10, x11, x12, x13, x14, x15, x16, x17, x18, x19] = unreduce_fn x0 x1 x2 x3 x4 x5 x6 x7 x8 x9 x10 x11 x12 x13 x14 x15 x16 x17 x18 x19 :=
  (NProg.evalZ_eq_fast _ _).trans (by kernel_rfl)

def neg_post : List Itv := [⟨551, 2251799813685836, 0⟩, ⟨551, 2251799813685836, 0⟩, ⟨551, 2251799813685836, 0⟩, ⟨551, 2251799813685836, 0⟩, ⟨29, 2251799813685278, 0⟩, ⟨29, 2251799813685278, 0⟩, ⟨29, 2251799813685278, 0⟩, ⟨29, 2251799813685278, 0⟩, ⟨29, 2251799813685278, 0⟩, ⟨29, 2251799813685278, 0⟩, ⟨29, 2251799813685278, 0⟩, ⟨29, 2251799813685278, 0⟩, ⟨29, 2251799813685278, 0⟩, ⟨29, 2251799813685278, 0⟩, ⟨29, 2251799813685278, 0⟩, ⟨29, 2251799813685278, 0⟩, ⟨29, 2251799813685278, 0⟩, ⟨29, 2251799813685278, 0⟩, ⟨29, 2251799813685278, 0⟩, ⟨29, 2251799813685278, 0⟩]

def neg_nprog : NProg :=
  ⟨20,
   [(.sub (.c 72057594037927328) (.v 0)),
    (.sub (.c 72057594037927328) (.v 1)),
    (.sub (.c 72057594037927328) (.v 2)),
    (.sub (.c 72057594037927328) (.v 3)),
    (.sub (.c 72057594037927904) (.v 4)),
    (.sub (.c 72057594037927904) (.v 5)),
    (.sub (.c 72057594037927904) (.v 6)),
    (.sub (.c 72057594037927904) (.v 7)),
    (.sub (.c 72057594037927904) (.v 8)),
    (.sub (.c 72057594037927904) (.v 9)),
    (.sub (.c 72057594037927904) (.v 10)),
    (.sub (.c 72057594037927904) (.v 11)),
    (.sub (.c 72057594037927904) (.v 12)),
    (.sub (.c 72057594037927904) (.v 13)),
    (.sub (.c 72057594037927904) (.v 14)),
    (.sub (.c 72057594037927904) (.v 15)),
    (.sub (.c 72057594037927904) (.v 16)),
    (.sub (.c 72057594037927904) (.v 17)),
    (.sub (.c 72057594037927904) (.v 18)),
    (.sub (.c 72057594037927904) (.v 19)),
    (.div2 (.v 20) 51),
    (.div2 (.v 21) 51),
    (.div2 (.v 22) 51),
    (.div2 (.v 23) 51),
    (.div2 (.v 24) 51),
    (.div2 (.v 25) 51),
    (.div2 (.v 26) 51),
    (.div2 (.v 27) 51),
    (.div2 (.v 28) 51),
    (.div2 (.v 29) 51),
    (.div2 (.v 30) 51),
    (.div2 (.v 31) 51),
    (.div2 (.v 32) 51),
    (.div2 (.v 33) 51),
    (.div2 (.v 34) 51),
    (.div2 (.v 35) 51),
    (.div2 (.v 36) 51),
    (.div2 (.v 37) 51),
    (.div2 (.v 38) 51),
    (.div2 (.v 39) 51),
    (.mod2 (.v 20) 51),
    (.mod2 (.v 21) 51),
    (.mod2 (.v 22) 51),
    (.mod2 (.v 23) 51),
    (.add (.v 60) (.mul (.v 56) (.c 19))),
    (.add (.v 61) (.mul (.v 57) (.c 19))),
    (.add (.v 62) (.mul (.v 58) (.c 19))),
    (.add (.v 63) (.mul (.v 59) (.c 19))),
    (.add (.mod2 (.v 24) 51) (.v 40)),
    (.add (.mod2 (.v 25) 51) (.v 41)),
    (.add (.mod2 (.v 26) 51) (.v 42)),
    (.add (.mod2 (.v 27) 51) (.v 43)),
    (.add (.mod2 (.v 28) 51) (.v 44)),
    (.add (.mod2 (.v 29) 51) (.v 45)),
    (.add (.mod2 (.v 30) 51) (.v 46)),
    (.add (.mod2 (.v 31) 51) (.v 47)),
    (.add (.mod2 (.v 32) 51) (.v 48)),
    (.add (.mod2 (.v 33) 51) (.v 49)),
    (.add (.mod2 (.v 34) 51) (.v 50)),
    (.add (.mod2 (.v 35) 51) (.v 51)),
    (.add (.mod2 (.v 36) 51) (.v 52)),
    (.add (.mod2 (.v 37) 51) (.v 53)),
    (.add (.mod2 (.v 38) 51) (.v 54)),
    (.add (.mod2 (.v 39) 51) (.v 55))],
   [64, 65, 66, 67, 68, 69, 70, 71, 72, 73, 74, 75, 76, 77, 78, 79, 80, 81, 82, 83]⟩

theorem neg_norm_ok : Prog.norm Dalek.Gen.IfmaField.neg Dalek.Model.Contracts.IfmaField.pre_neg = some (neg_nprog, neg_post) :=
  (Prog.normFast_eq _ _).symm.trans (by decide +kernel)

def neg_fn (x0 x1 x2 x3 x4 x5 x6 x7 x8 x9 x10 x11 x12 x13 x14 x15 x16 x17 x18 x19 : Int) : List Int :=
  let x20 : Int := ((72057594037927328 : Int) - x0)
  let x21 : Int := ((72057594037927328 : Int) - x1)
  let x22 : Int := ((72057594037927328 : Int) - x2)
  let x23 : Int := ((72057594037927328 : Int) - x3)
  let x24 : Int := ((72057594037927904 : Int) - x4)
  let x25 : Int := ((72057594037927904 : Int) - x5)
  let x26 : Int := ((72057594037927904 : Int) - x6)
  let x27 : Int := ((72057594037927904 : Int) - x7)
  let x28 : Int := ((72057594037927904 : Int) - x8)
  let x29 : Int := ((72057594037927904 : Int) - x9)
  let x30 : Int := ((72057594037927904 : Int) - x10)
  let x31 : Int := ((72057594037927904 : Int) - x11)
  let x32 : Int := ((72057594037927904 : Int) - x12)
  let x33 : Int := ((72057594037927904 : Int) - x13)
  let x34 : Int := ((72057594037927904 : Int) - x14)
  let x35 : Int := ((72057594037927904 : Int) - x15)
  let x36 : Int := ((72057594037927904 : Int) - x16)
  let x37 : Int := ((72057594037927904 : Int) - x17)
  let x38 : Int := ((72057594037927904 : Int) - x18)
  let x39 : Int := ((72057594037927904 : Int) - x19)
  let x40 : Int := (x20 / 2 ^ (51 : Nat))
  let x41 : Int := (x21 / 2 ^ (51 : Nat))
  let x42 : Int := (x22 / 2 ^ (51 : Nat))
  let x43 : Int := (x23 / 2 ^ (51 : Nat))
  let x44 : Int := (x24 / 2 ^ (51 : Nat))
  let x45 : Int := (x25 / 2 ^ (51 : Nat))
  let x46 : Int := (x26 / 2 ^ (51 : Nat))
  let x47 : Int := (x27 / 2 ^ (51 : Nat))
  let x48 : Int := (x28 / 2 ^ (51 : Nat))
  let x49 : Int := (x29 / 2 ^ (51 : Nat))
  let x50 : Int := (x30 / 2 ^ (51 : Nat))
  let x51 : Int := (x31 / 2 ^ (51 : Nat))
  let x52 : Int := (x32 / 2 ^ (51 : Nat))
  let x53 : Int := (x33 / 2 ^ (51 : Nat))
  let x54 : Int := (x34 / 2 ^ (51 : Nat))
  let x55 : Int := (x35 / 2 ^ (51 : Nat))
  let x56 : Int := (x36 / 2 ^ (51 : Nat))
  let x57 : Int := (x37 / 2 ^ (51 : Nat))
  let x58 : Int := (x38 / 2 ^ (51 : Nat))
  let x59 : Int := (x39 / 2 ^ (51 : Nat))
  let x60 : Int := (x20 % 2 ^ (51 : Nat))
  let x61 : Int := (x21 % 2 ^ (51 : Nat))
  let x62 : Int := (x22 % 2 ^ (51 : Nat))
  let x63 : Int := (x23 % 2 ^ (51 : Nat))
  let x64 : Int := (x60 + (x56 * (19 : Int)))
  let x65 : Int := (x61 + (x57 * (19 : Int)))
  let x66 : Int := (x62 + (x58 * (19 : Int)))
  let x67 : Int := (x63 + (x59 * (19 : Int)))
  let x68 : Int := ((x24 % 2 ^ (51 : Nat)) + x40)
  let x69 : Int := ((x25 % 2 ^ (51 : Nat)) + x41)
  let x70 : Int := ((x26 % 2 ^ (51 : Nat)) + x42)
  let x71 : Int := ((x27 % 2 ^ (51 : Nat)) + x43)
  let x72 : Int := ((x28 % 2 ^ (51 : Nat)) + x44)
  let x73 : Int := ((x29 % 2 ^ (51 : Nat)) + x45)
  let x74 : Int := ((x30 % 2 ^ (51 : Nat)) + x46)
  let x75 : Int := ((x31 % 2 ^ (51 : Nat)) + x47)
  let x76 : Int := ((x32 % 2 ^ (51 : Nat)) + x48)
  let x77 : Int := ((x33 % 2 ^ (51 : Nat)) + x49)
  let x78 : Int := ((x34 % 2 ^ (51 : Nat)) + x50)
  let x79 : Int := ((x35 % 2 ^ (51 : Nat)) + x51)
  let x80 : Int := ((x36 % 2 ^ (51 : Nat)) + x52)
  let x81 : Int := ((x37 % 2 ^ (51 : Nat)) + x53)
  let x82 : Int := ((x38 % 2 ^ (51 : Nat)) + x54)
  let x83 : Int := ((x39 % 2 ^ (51 : Nat)) + x55)
  [x64, x65, x66, x67, x68, x69, x70, x71, x72, x73, x74, x75, x76, x77, x78, x79, x80, x81, x82, x83]

theorem neg_fn_ok (x0 x1 x2 x3 x4 x5 x6 x7 x8 x9 x10 x11 x12 x13 x14 x15 x16 x17 x18 x19 : Int) : NProg.evalZ neg_nprog [x0, x1, x2, x3, x4, x5, x6, x7, x8, x9, x10, x11, x12, x13, x14, x15, x16, x17, x18, x19] = neg_fn x0 x1 x2 x3 x4 x5 x6 x7 x8 x9 x10 x11 x12 x13 x14 x15 x16 x17 x18 x19 :=
  (NProg.evalZ_eq_fast _ _).trans (by kernel_rfl)

def mul_post : List Itv := [⟨0, 9007199254742396, 0⟩, ⟨0, 9007199254742396, 0⟩, ⟨0, 9007199254742396, 0⟩, ⟨0, 9007199254742396, 0⟩, ⟨0, 22517998136853003, 0⟩, ⟨0, 22517998136853003, 0⟩, ⟨0, 22517998136853003, 0⟩, ⟨0, 22517998136853003, 0⟩, ⟨0, 36028797018964372, 0⟩, ⟨0, 36028797018964372, 0⟩, ⟨0, 36028797018964372, 0⟩, ⟨0, 36028797018964372, 0⟩, ⟨0, 49539595901075741, 0⟩, ⟨0, 49539595901075741, 0⟩, ⟨0, 49539595901075741, 0⟩, ⟨0, 49539595901075741, 0⟩, ⟨0, 63050394783187110, 0⟩, ⟨0, 63050394783187110, 0⟩, ⟨0, 63050394783187110, 0⟩, ⟨0, 63050394783187110, 0⟩]

def mul_nprog : NProg := Prog.normProg Dalek.Gen.IfmaField.mul Dalek.Model.Contracts.IfmaField.pre_mul

theorem mul_norm_ok : Prog.norm Dalek.Gen.IfmaField.mul Dalek.Model.Contracts.IfmaField.pre_mul = some (mul_nprog, mul_post) :=
  Prog.norm_eq_of_post (by decide +kernel)

def mul_fn (x0 x1 x2 x3 x4 x5 x6 x7 x8 x9 x10 x11 x12 x13 x14 x15 x16 x17 x18 x19 x20 x21 x22 x23 x24 x25 x26 x27 x28 x29 x30 x31 x32 x33 x34 x35 x36 x37 x38 x39 : Int) : List Int :=
  let x40 : Int := ((0 : Int) + ((x8 * x28) % 2 ^ (52 : Nat)))
  let x41 : Int := ((0 : Int) + ((x9 * x29) % 2 ^ (52 : Nat)))
  let x42 : Int := ((0 : Int) + ((x10 * x30) % 2 ^ (52 : Nat)))
  let x43 : Int := ((0 : Int) + ((x11 * x31) % 2 ^ (52 : Nat)))
  let x44 : Int := ((0 : Int) + ((x8 * x28) / 2 ^ (52 : Nat)))
  let x45 : Int := ((0 : Int) + ((x9 * x29) / 2 ^ (52 : Nat)))
  let x46 : Int := ((0 : Int) + ((x10 * x30) / 2 ^ (52 : Nat)))
  let x47 : Int := ((0 : Int) + ((x11 * x31) / 2 ^ (52 : Nat)))
  let x48 : Int := ((0 : Int) + ((x16 * x24) % 2 ^ (52 : Nat)))
  let x49 : Int := ((0 : Int) + ((x17 * x25) % 2 ^ (52 : Nat)))
  let x50 : Int := ((0 : Int) + ((x18 * x26) % 2 ^ (52 : Nat)))
  let x51 : Int := ((0 : Int) + ((x19 * x27) % 2 ^ (52 : Nat)))
  let x52 : Int := ((0 : Int) + ((x16 * x24) / 2 ^ (52 : Nat)))
  let x53 : Int := ((0 : Int) + ((x17 * x25) / 2 ^ (52 : Nat)))
  let x54 : Int := ((0 : Int) + ((x18 * x26) / 2 ^ (52 : Nat)))
  let x55 : Int := ((0 : Int) + ((x19 * x27) / 2 ^ (52 : Nat)))
  let x56 : Int := ((0 : Int) + ((x16 * x28) % 2 ^ (52 : Nat)))
  let x57 : Int := ((0 : Int) + ((x17 * x29) % 2 ^ (52 : Nat)))
  let x58 : Int := ((0 : Int) + ((x18 * x30) % 2 ^ (52 : Nat)))
  let x59 : Int := ((0 : Int) + ((x19 * x31) % 2 ^ (52 : Nat)))
  let x60 : Int := ((0 : Int) + ((x16 * x28) / 2 ^ (52 : Nat)))
  let x61 : Int := ((0 : Int) + ((x17 * x29) / 2 ^ (52 : Nat)))
  let x62 : Int := ((0 : Int) + ((x18 * x30) / 2 ^ (52 : Nat)))
  let x63 : Int := ((0 : Int) + ((x19 * x31) / 2 ^ (52 : Nat)))
  let x64 : Int := ((0 : Int) + ((x16 * x32) % 2 ^ (52 : Nat)))
  let x65 : Int := ((0 : Int) + ((x17 * x33) % 2 ^ (52 : Nat)))
  let x66 : Int := ((0 : Int) + ((x18 * x34) % 2 ^ (52 : Nat)))
  let x67 : Int := ((0 : Int) + ((x19 * x35) % 2 ^ (52 : Nat)))
  let x68 : Int := ((0 : Int) + ((x16 * x32) / 2 ^ (52 : Nat)))
  let x69 : Int := ((0 : Int) + ((x17 * x33) / 2 ^ (52 : Nat)))
  let x70 : Int := ((0 : Int) + ((x18 * x34) / 2 ^ (52 : Nat)))
  let x71 : Int := ((0 : Int) + ((x19 * x35) / 2 ^ (52 : Nat)))
  let x72 : Int := (x40 + ((x12 * x24) % 2 ^ (52 : Nat)))
  let x73 : Int := (x41 + ((x13 * x25) % 2 ^ (52 : Nat)))
  let x74 : Int := (x42 + ((x14 * x26) % 2 ^ (52 : Nat)))
  let x75 : Int := (x43 + ((x15 * x27) % 2 ^ (52 : Nat)))
  let x76 : Int := (x44 + ((x12 * x24) / 2 ^ (52 : Nat)))
  let x77 : Int := (x45 + ((x13 * x25) / 2 ^ (52 : Nat)))
  let x78 : Int := (x46 + ((x14 * x26) / 2 ^ (52 : Nat)))
  let x79 : Int := (x47 + ((x15 * x27) / 2 ^ (52 : Nat)))
  let x80 : Int := (x48 + ((x12 * x28) % 2 ^ (52 : Nat)))
  let x81 : Int := (x49 + ((x13 * x29) % 2 ^ (52 : Nat)))
  let x82 : Int := (x50 + ((x14 * x30) % 2 ^ (52 : Nat)))
  let x83 : Int := (x51 + ((x15 * x31) % 2 ^ (52 : Nat)))
  let x84 : Int := (x52 + ((x12 * x28) / 2 ^ (52 : Nat)))
  let x85 : Int := (x53 + ((x13 * x29) / 2 ^ (52 : Nat)))
  let x86 : Int := (x54 + ((x14 * x30) / 2 ^ (52 : Nat)))
  let x87 : Int := (x55 + ((x15 * x31) / 2 ^ (52 : Nat)))
  let x88 : Int := (x56 + ((x12 * x32) % 2 ^ (52 : Nat)))
  let x89 : Int := (x57 + ((x13 * x33) % 2 ^ (52 : Nat)))
  let x90 : Int := (x58 + ((x14 * x34) % 2 ^ (52 : Nat)))
  let x91 : Int := (x59 + ((x15 * x35) % 2 ^ (52 : Nat)))
  let x92 : Int := (x60 + ((x12 * x32) / 2 ^ (52 : Nat)))
  let x93 : Int := (x61 + ((x13 * x33) / 2 ^ (52 : Nat)))
  let x94 : Int := (x62 + ((x14 * x34) / 2 ^ (52 : Nat)))
  let x95 : Int := (x63 + ((x15 * x35) / 2 ^ (52 : Nat)))
  let x96 : Int := (x64 + ((x12 * x36) % 2 ^ (52 : Nat)))
  let x97 : Int := (x65 + ((x13 * x37) % 2 ^ (52 : Nat)))
  let x98 : Int := (x66 + ((x14 * x38) % 2 ^ (52 : Nat)))
  let x99 : Int := (x67 + ((x15 * x39) % 2 ^ (52 : Nat)))
  let x100 : Int := (x68 + ((x12 * x36) / 2 ^ (52 : Nat)))
  let x101 : Int := (x69 + ((x13 * x37) / 2 ^ (52 : Nat)))
  let x102 : Int := (x70 + ((x14 * x38) / 2 ^ (52 : Nat)))
  let x103 : Int := (x71 + ((x15 * x39) / 2 ^ (52 : Nat)))
  let x104 : Int := ((0 : Int) + ((x16 * x36) % 2 ^ (52 : Nat)))
  let x105 : Int := ((0 : Int) + ((x17 * x37) % 2 ^ (52 : Nat)))
  let x106 : Int := ((0 : Int) + ((x18 * x38) % 2 ^ (52 : Nat)))
  let x107 : Int := ((0 : Int) + ((x19 * x39) % 2 ^ (52 : Nat)))
  let x108 : Int := ((0 : Int) + ((x16 * x36) / 2 ^ (52 : Nat)))
  let x109 : Int := ((0 : Int) + ((x17 * x37) / 2 ^ (52 : Nat)))
  let x110 : Int := ((0 : Int) + ((x18 * x38) / 2 ^ (52 : Nat)))
  let x111 : Int := ((0 : Int) + ((x19 * x39) / 2 ^ (52 : Nat)))
  let x112 : Int := (x72 + ((x16 * x20) % 2 ^ (52 : Nat)))
  let x113 : Int := (x73 + ((x17 * x21) % 2 ^ (52 : Nat)))
  let x114 : Int := (x74 + ((x18 * x22) % 2 ^ (52 : Nat)))
  let x115 : Int := (x75 + ((x19 * x23) % 2 ^ (52 : Nat)))
  let x116 : Int := (x76 + ((x16 * x20) / 2 ^ (52 : Nat)))
  let x117 : Int := (x77 + ((x17 * x21) / 2 ^ (52 : Nat)))
  let x118 : Int := (x78 + ((x18 * x22) / 2 ^ (52 : Nat)))
  let x119 : Int := (x79 + ((x19 * x23) / 2 ^ (52 : Nat)))
  let x120 : Int := (x80 + ((x8 * x32) % 2 ^ (52 : Nat)))
  let x121 : Int := (x81 + ((x9 * x33) % 2 ^ (52 : Nat)))
  let x122 : Int := (x82 + ((x10 * x34) % 2 ^ (52 : Nat)))
  let x123 : Int := (x83 + ((x11 * x35) % 2 ^ (52 : Nat)))
  let x124 : Int := (x84 + ((x8 * x32) / 2 ^ (52 : Nat)))
  let x125 : Int := (x85 + ((x9 * x33) / 2 ^ (52 : Nat)))
  let x126 : Int := (x86 + ((x10 * x34) / 2 ^ (52 : Nat)))
  let x127 : Int := (x87 + ((x11 * x35) / 2 ^ (52 : Nat)))
  let x128 : Int := (x88 + ((x8 * x36) % 2 ^ (52 : Nat)))
  let x129 : Int := (x89 + ((x9 * x37) % 2 ^ (52 : Nat)))
  let x130 : Int := (x90 + ((x10 * x38) % 2 ^ (52 : Nat)))
  let x131 : Int := (x91 + ((x11 * x39) % 2 ^ (52 : Nat)))
  let x132 : Int := (x92 + ((x8 * x36) / 2 ^ (52 : Nat)))
  let x133 : Int := (x93 + ((x9 * x37) / 2 ^ (52 : Nat)))
  let x134 : Int := (x94 + ((x10 * x38) / 2 ^ (52 : Nat)))
  let x135 : Int := (x95 + ((x11 * x39) / 2 ^ (52 : Nat)))
  let x136 : Int := ((x104 + x100) + x100)
  let x137 : Int := ((x105 + x101) + x101)
  let x138 : Int := ((x106 + x102) + x102)
  let x139 : Int := ((x107 + x103) + x103)
  let x140 : Int := (x108 + x108)
  let x141 : Int := (x109 + x109)
  let x142 : Int := (x110 + x110)
  let x143 : Int := (x111 + x111)
  let x144 : Int := ((0 : Int) + ((x12 * x20) % 2 ^ (52 : Nat)))
  let x145 : Int := ((0 : Int) + ((x13 * x21) % 2 ^ (52 : Nat)))
  let x146 : Int := ((0 : Int) + ((x14 * x22) % 2 ^ (52 : Nat)))
  let x147 : Int := ((0 : Int) + ((x15 * x23) % 2 ^ (52 : Nat)))
  let x148 : Int := ((0 : Int) + ((x12 * x20) / 2 ^ (52 : Nat)))
  let x149 : Int := ((0 : Int) + ((x13 * x21) / 2 ^ (52 : Nat)))
  let x150 : Int := ((0 : Int) + ((x14 * x22) / 2 ^ (52 : Nat)))
  let x151 : Int := ((0 : Int) + ((x15 * x23) / 2 ^ (52 : Nat)))
  let x152 : Int := (x112 + ((x4 * x32) % 2 ^ (52 : Nat)))
  let x153 : Int := (x113 + ((x5 * x33) % 2 ^ (52 : Nat)))
  let x154 : Int := (x114 + ((x6 * x34) % 2 ^ (52 : Nat)))
  let x155 : Int := (x115 + ((x7 * x35) % 2 ^ (52 : Nat)))
  let x156 : Int := (x116 + ((x4 * x32) / 2 ^ (52 : Nat)))
  let x157 : Int := (x117 + ((x5 * x33) / 2 ^ (52 : Nat)))
  let x158 : Int := (x118 + ((x6 * x34) / 2 ^ (52 : Nat)))
  let x159 : Int := (x119 + ((x7 * x35) / 2 ^ (52 : Nat)))
  let x160 : Int := (x120 + ((x4 * x36) % 2 ^ (52 : Nat)))
  let x161 : Int := (x121 + ((x5 * x37) % 2 ^ (52 : Nat)))
  let x162 : Int := (x122 + ((x6 * x38) % 2 ^ (52 : Nat)))
  let x163 : Int := (x123 + ((x7 * x39) % 2 ^ (52 : Nat)))
  let x164 : Int := (x124 + ((x4 * x36) / 2 ^ (52 : Nat)))
  let x165 : Int := (x125 + ((x5 * x37) / 2 ^ (52 : Nat)))
  let x166 : Int := (x126 + ((x6 * x38) / 2 ^ (52 : Nat)))
  let x167 : Int := (x127 + ((x7 * x39) / 2 ^ (52 : Nat)))
  let x168 : Int := ((0 : Int) + ((x8 * x20) % 2 ^ (52 : Nat)))
  let x169 : Int := ((0 : Int) + ((x9 * x21) % 2 ^ (52 : Nat)))
  let x170 : Int := ((0 : Int) + ((x10 * x22) % 2 ^ (52 : Nat)))
  let x171 : Int := ((0 : Int) + ((x11 * x23) % 2 ^ (52 : Nat)))
  let x172 : Int := ((0 : Int) + ((x8 * x20) / 2 ^ (52 : Nat)))
  let x173 : Int := ((0 : Int) + ((x9 * x21) / 2 ^ (52 : Nat)))
  let x174 : Int := ((0 : Int) + ((x10 * x22) / 2 ^ (52 : Nat)))
  let x175 : Int := ((0 : Int) + ((x11 * x23) / 2 ^ (52 : Nat)))
  let x176 : Int := ((x128 + x164) + x164)
  let x177 : Int := ((x129 + x165) + x165)
  let x178 : Int := ((x130 + x166) + x166)
  let x179 : Int := ((x131 + x167) + x167)
  let x180 : Int := ((x96 + x132) + x132)
  let x181 : Int := ((x97 + x133) + x133)
  let x182 : Int := ((x98 + x134) + x134)
  let x183 : Int := ((x99 + x135) + x135)
  let x184 : Int := (x144 + ((x8 * x24) % 2 ^ (52 : Nat)))
  let x185 : Int := (x145 + ((x9 * x25) % 2 ^ (52 : Nat)))
  let x186 : Int := (x146 + ((x10 * x26) % 2 ^ (52 : Nat)))
  let x187 : Int := (x147 + ((x11 * x27) % 2 ^ (52 : Nat)))
  let x188 : Int := (x148 + ((x8 * x24) / 2 ^ (52 : Nat)))
  let x189 : Int := (x149 + ((x9 * x25) / 2 ^ (52 : Nat)))
  let x190 : Int := (x150 + ((x10 * x26) / 2 ^ (52 : Nat)))
  let x191 : Int := (x151 + ((x11 * x27) / 2 ^ (52 : Nat)))
  let x192 : Int := (x152 + ((x0 * x36) % 2 ^ (52 : Nat)))
  let x193 : Int := (x153 + ((x1 * x37) % 2 ^ (52 : Nat)))
  let x194 : Int := (x154 + ((x2 * x38) % 2 ^ (52 : Nat)))
  let x195 : Int := (x155 + ((x3 * x39) % 2 ^ (52 : Nat)))
  let x196 : Int := (x156 + ((x0 * x36) / 2 ^ (52 : Nat)))
  let x197 : Int := (x157 + ((x1 * x37) / 2 ^ (52 : Nat)))
  let x198 : Int := (x158 + ((x2 * x38) / 2 ^ (52 : Nat)))
  let x199 : Int := (x159 + ((x3 * x39) / 2 ^ (52 : Nat)))
  let x200 : Int := ((0 : Int) + ((x4 * x20) % 2 ^ (52 : Nat)))
  let x201 : Int := ((0 : Int) + ((x5 * x21) % 2 ^ (52 : Nat)))
  let x202 : Int := ((0 : Int) + ((x6 * x22) % 2 ^ (52 : Nat)))
  let x203 : Int := ((0 : Int) + ((x7 * x23) % 2 ^ (52 : Nat)))
  let x204 : Int := ((0 : Int) + ((x4 * x20) / 2 ^ (52 : Nat)))
  let x205 : Int := ((0 : Int) + ((x5 * x21) / 2 ^ (52 : Nat)))
  let x206 : Int := ((0 : Int) + ((x6 * x22) / 2 ^ (52 : Nat)))
  let x207 : Int := ((0 : Int) + ((x7 * x23) / 2 ^ (52 : Nat)))
  let x208 : Int := (x168 + ((x4 * x24) % 2 ^ (52 : Nat)))
  let x209 : Int := (x169 + ((x5 * x25) % 2 ^ (52 : Nat)))
  let x210 : Int := (x170 + ((x6 * x26) % 2 ^ (52 : Nat)))
  let x211 : Int := (x171 + ((x7 * x27) % 2 ^ (52 : Nat)))
  let x212 : Int := (x172 + ((x4 * x24) / 2 ^ (52 : Nat)))
  let x213 : Int := (x173 + ((x5 * x25) / 2 ^ (52 : Nat)))
  let x214 : Int := (x174 + ((x6 * x26) / 2 ^ (52 : Nat)))
  let x215 : Int := (x175 + ((x7 * x27) / 2 ^ (52 : Nat)))
  let x216 : Int := ((x160 + x196) + x196)
  let x217 : Int := ((x161 + x197) + x197)
  let x218 : Int := ((x162 + x198) + x198)
  let x219 : Int := ((x163 + x199) + x199)
  let x220 : Int := (x184 + ((x4 * x28) % 2 ^ (52 : Nat)))
  let x221 : Int := (x185 + ((x5 * x29) % 2 ^ (52 : Nat)))
  let x222 : Int := (x186 + ((x6 * x30) % 2 ^ (52 : Nat)))
  let x223 : Int := (x187 + ((x7 * x31) % 2 ^ (52 : Nat)))
  let x224 : Int := (x188 + ((x4 * x28) / 2 ^ (52 : Nat)))
  let x225 : Int := (x189 + ((x5 * x29) / 2 ^ (52 : Nat)))
  let x226 : Int := (x190 + ((x6 * x30) / 2 ^ (52 : Nat)))
  let x227 : Int := (x191 + ((x7 * x31) / 2 ^ (52 : Nat)))
  let x228 : Int := ((0 : Int) + ((x0 * x20) % 2 ^ (52 : Nat)))
  let x229 : Int := ((0 : Int) + ((x1 * x21) % 2 ^ (52 : Nat)))
  let x230 : Int := ((0 : Int) + ((x2 * x22) % 2 ^ (52 : Nat)))
  let x231 : Int := ((0 : Int) + ((x3 * x23) % 2 ^ (52 : Nat)))
  let x232 : Int := ((0 : Int) + ((x0 * x20) / 2 ^ (52 : Nat)))
  let x233 : Int := ((0 : Int) + ((x1 * x21) / 2 ^ (52 : Nat)))
  let x234 : Int := ((0 : Int) + ((x2 * x22) / 2 ^ (52 : Nat)))
  let x235 : Int := ((0 : Int) + ((x3 * x23) / 2 ^ (52 : Nat)))
  let x236 : Int := (x200 + ((x0 * x24) % 2 ^ (52 : Nat)))
  let x237 : Int := (x201 + ((x1 * x25) % 2 ^ (52 : Nat)))
  let x238 : Int := (x202 + ((x2 * x26) % 2 ^ (52 : Nat)))
  let x239 : Int := (x203 + ((x3 * x27) % 2 ^ (52 : Nat)))
  let x240 : Int := (x208 + ((x0 * x28) % 2 ^ (52 : Nat)))
  let x241 : Int := (x209 + ((x1 * x29) % 2 ^ (52 : Nat)))
  let x242 : Int := (x210 + ((x2 * x30) % 2 ^ (52 : Nat)))
  let x243 : Int := (x211 + ((x3 * x31) % 2 ^ (52 : Nat)))
  let x244 : Int := (x204 + ((x0 * x24) / 2 ^ (52 : Nat)))
  let x245 : Int := (x205 + ((x1 * x25) / 2 ^ (52 : Nat)))
  let x246 : Int := (x206 + ((x2 * x26) / 2 ^ (52 : Nat)))
  let x247 : Int := (x207 + ((x3 * x27) / 2 ^ (52 : Nat)))
  let x248 : Int := (x212 + ((x0 * x28) / 2 ^ (52 : Nat)))
  let x249 : Int := (x213 + ((x1 * x29) / 2 ^ (52 : Nat)))
  let x250 : Int := (x214 + ((x2 * x30) / 2 ^ (52 : Nat)))
  let x251 : Int := (x215 + ((x3 * x31) / 2 ^ (52 : Nat)))
  let x252 : Int := ((0 : Int) + (((19 : Int) * (x140 % 2 ^ (52 : Nat))) / 2 ^ (52 : Nat)))
  let x253 : Int := ((0 : Int) + (((19 : Int) * (x141 % 2 ^ (52 : Nat))) / 2 ^ (52 : Nat)))
  let x254 : Int := ((0 : Int) + (((19 : Int) * (x142 % 2 ^ (52 : Nat))) / 2 ^ (52 : Nat)))
  let x255 : Int := ((0 : Int) + (((19 : Int) * (x143 % 2 ^ (52 : Nat))) / 2 ^ (52 : Nat)))
  let x256 : Int := (x140 / 2 ^ (52 : Nat))
  let x257 : Int := (x141 / 2 ^ (52 : Nat))
  let x258 : Int := (x142 / 2 ^ (52 : Nat))
  let x259 : Int := (x143 / 2 ^ (52 : Nat))
  let x260 : Int := ((0 : Int) + ((19 : Int) * x256))
  let x261 : Int := ((0 : Int) + ((19 : Int) * x257))
  let x262 : Int := ((0 : Int) + ((19 : Int) * x258))
  let x263 : Int := ((0 : Int) + ((19 : Int) * x259))
  let x264 : Int := (x220 + ((x0 * x32) % 2 ^ (52 : Nat)))
  let x265 : Int := (x221 + ((x1 * x33) % 2 ^ (52 : Nat)))
  let x266 : Int := (x222 + ((x2 * x34) % 2 ^ (52 : Nat)))
  let x267 : Int := (x223 + ((x3 * x35) % 2 ^ (52 : Nat)))
  let x268 : Int := (x224 + ((x0 * x32) / 2 ^ (52 : Nat)))
  let x269 : Int := (x225 + ((x1 * x33) / 2 ^ (52 : Nat)))
  let x270 : Int := (x226 + ((x2 * x34) / 2 ^ (52 : Nat)))
  let x271 : Int := (x227 + ((x3 * x35) / 2 ^ (52 : Nat)))
  let x272 : Int := (x216 / 2 ^ (52 : Nat))
  let x273 : Int := (x217 / 2 ^ (52 : Nat))
  let x274 : Int := (x218 / 2 ^ (52 : Nat))
  let x275 : Int := (x219 / 2 ^ (52 : Nat))
  let x276 : Int := (x232 + ((19 : Int) * x272))
  let x277 : Int := (x233 + ((19 : Int) * x273))
  let x278 : Int := (x234 + ((19 : Int) * x274))
  let x279 : Int := (x235 + ((19 : Int) * x275))
  let x280 : Int := (x176 / 2 ^ (52 : Nat))
  let x281 : Int := (x177 / 2 ^ (52 : Nat))
  let x282 : Int := (x178 / 2 ^ (52 : Nat))
  let x283 : Int := (x179 / 2 ^ (52 : Nat))
  let x284 : Int := (x244 + ((19 : Int) * x280))
  let x285 : Int := (x245 + ((19 : Int) * x281))
  let x286 : Int := (x246 + ((19 : Int) * x282))
  let x287 : Int := (x247 + ((19 : Int) * x283))
  let x288 : Int := (x180 / 2 ^ (52 : Nat))
  let x289 : Int := (x181 / 2 ^ (52 : Nat))
  let x290 : Int := (x182 / 2 ^ (52 : Nat))
  let x291 : Int := (x183 / 2 ^ (52 : Nat))
  let x292 : Int := (x248 + ((19 : Int) * x288))
  let x293 : Int := (x249 + ((19 : Int) * x289))
  let x294 : Int := (x250 + ((19 : Int) * x290))
  let x295 : Int := (x251 + ((19 : Int) * x291))
  let x296 : Int := (x228 + (((19 : Int) * (x216 % 2 ^ (52 : Nat))) % 2 ^ (52 : Nat)))
  let x297 : Int := (x229 + (((19 : Int) * (x217 % 2 ^ (52 : Nat))) % 2 ^ (52 : Nat)))
  let x298 : Int := (x230 + (((19 : Int) * (x218 % 2 ^ (52 : Nat))) % 2 ^ (52 : Nat)))
  let x299 : Int := (x231 + (((19 : Int) * (x219 % 2 ^ (52 : Nat))) % 2 ^ (52 : Nat)))
  let x300 : Int := (x192 + (((19 : Int) * (x140 % 2 ^ (52 : Nat))) % 2 ^ (52 : Nat)))
  let x301 : Int := (x193 + (((19 : Int) * (x141 % 2 ^ (52 : Nat))) % 2 ^ (52 : Nat)))
  let x302 : Int := (x194 + (((19 : Int) * (x142 % 2 ^ (52 : Nat))) % 2 ^ (52 : Nat)))
  let x303 : Int := (x195 + (((19 : Int) * (x143 % 2 ^ (52 : Nat))) % 2 ^ (52 : Nat)))
  let x304 : Int := (x236 + (((19 : Int) * (x176 % 2 ^ (52 : Nat))) % 2 ^ (52 : Nat)))
  let x305 : Int := (x237 + (((19 : Int) * (x177 % 2 ^ (52 : Nat))) % 2 ^ (52 : Nat)))
  let x306 : Int := (x238 + (((19 : Int) * (x178 % 2 ^ (52 : Nat))) % 2 ^ (52 : Nat)))
  let x307 : Int := (x239 + (((19 : Int) * (x179 % 2 ^ (52 : Nat))) % 2 ^ (52 : Nat)))
  let x308 : Int := (x252 + x260)
  let x309 : Int := (x253 + x261)
  let x310 : Int := (x254 + x262)
  let x311 : Int := (x255 + x263)
  let x312 : Int := ((0 : Int) + ((19 : Int) * x308))
  let x313 : Int := ((0 : Int) + ((19 : Int) * x309))
  let x314 : Int := ((0 : Int) + ((19 : Int) * x310))
  let x315 : Int := ((0 : Int) + ((19 : Int) * x311))
  let x316 : Int := (x268 + (((19 : Int) * (x136 % 2 ^ (52 : Nat))) / 2 ^ (52 : Nat)))
  let x317 : Int := (x269 + (((19 : Int) * (x137 % 2 ^ (52 : Nat))) / 2 ^ (52 : Nat)))
  let x318 : Int := (x270 + (((19 : Int) * (x138 % 2 ^ (52 : Nat))) / 2 ^ (52 : Nat)))
  let x319 : Int := (x271 + (((19 : Int) * (x139 % 2 ^ (52 : Nat))) / 2 ^ (52 : Nat)))
  let x320 : Int := (x240 + (((19 : Int) * (x180 % 2 ^ (52 : Nat))) % 2 ^ (52 : Nat)))
  let x321 : Int := (x241 + (((19 : Int) * (x181 % 2 ^ (52 : Nat))) % 2 ^ (52 : Nat)))
  let x322 : Int := (x242 + (((19 : Int) * (x182 % 2 ^ (52 : Nat))) % 2 ^ (52 : Nat)))
  let x323 : Int := (x243 + (((19 : Int) * (x183 % 2 ^ (52 : Nat))) % 2 ^ (52 : Nat)))
  let x324 : Int := (x276 + (((19 : Int) * (x216 % 2 ^ (52 : Nat))) / 2 ^ (52 : Nat)))
  let x325 : Int := (x277 + (((19 : Int) * (x217 % 2 ^ (52 : Nat))) / 2 ^ (52 : Nat)))
  let x326 : Int := (x278 + (((19 : Int) * (x218 % 2 ^ (52 : Nat))) / 2 ^ (52 : Nat)))
  let x327 : Int := (x279 + (((19 : Int) * (x219 % 2 ^ (52 : Nat))) / 2 ^ (52 : Nat)))
  let x328 : Int := (x284 + (((19 : Int) * (x176 % 2 ^ (52 : Nat))) / 2 ^ (52 : Nat)))
  let x329 : Int := (x285 + (((19 : Int) * (x177 % 2 ^ (52 : Nat))) / 2 ^ (52 : Nat)))
  let x330 : Int := (x286 + (((19 : Int) * (x178 % 2 ^ (52 : Nat))) / 2 ^ (52 : Nat)))
  let x331 : Int := (x287 + (((19 : Int) * (x179 % 2 ^ (52 : Nat))) / 2 ^ (52 : Nat)))
  let x332 : Int := (x292 + (((19 : Int) * (x180 % 2 ^ (52 : Nat))) / 2 ^ (52 : Nat)))
  let x333 : Int := (x293 + (((19 : Int) * (x181 % 2 ^ (52 : Nat))) / 2 ^ (52 : Nat)))
  let x334 : Int := (x294 + (((19 : Int) * (x182 % 2 ^ (52 : Nat))) / 2 ^ (52 : Nat)))
  let x335 : Int := (x295 + (((19 : Int) * (x183 % 2 ^ (52 : Nat))) / 2 ^ (52 : Nat)))
  let x336 : Int := (x264 + (((19 : Int) * (x136 % 2 ^ (52 : Nat))) % 2 ^ (52 : Nat)))
  let x337 : Int := (x265 + (((19 : Int) * (x137 % 2 ^ (52 : Nat))) % 2 ^ (52 : Nat)))
  let x338 : Int := (x266 + (((19 : Int) * (x138 % 2 ^ (52 : Nat))) % 2 ^ (52 : Nat)))
  let x339 : Int := (x267 + (((19 : Int) * (x139 % 2 ^ (52 : Nat))) % 2 ^ (52 : Nat)))
  let x340 : Int := (x136 / 2 ^ (52 : Nat))
  let x341 : Int := (x137 / 2 ^ (52 : Nat))
  let x342 : Int := (x138 / 2 ^ (52 : Nat))
  let x343 : Int := (x139 / 2 ^ (52 : Nat))
  let x344 : Int := (x316 + ((19 : Int) * x340))
  let x345 : Int := (x317 + ((19 : Int) * x341))
  let x346 : Int := (x318 + ((19 : Int) * x342))
  let x347 : Int := (x319 + ((19 : Int) * x343))
  let x348 : Int := ((x296 + x312) + x312)
  let x349 : Int := ((x297 + x313) + x313)
  let x350 : Int := ((x298 + x314) + x314)
  let x351 : Int := ((x299 + x315) + x315)
  let x352 : Int := ((x304 + x324) + x324)
  let x353 : Int := ((x305 + x325) + x325)
  let x354 : Int := ((x306 + x326) + x326)
  let x355 : Int := ((x307 + x327) + x327)
  let x356 : Int := ((x320 + x328) + x328)
  let x357 : Int := ((x321 + x329) + x329)
  let x358 : Int := ((x322 + x330) + x330)
  let x359 : Int := ((x323 + x331) + x331)
  let x360 : Int := ((x336 + x332) + x332)
  let x361 : Int := ((x337 + x333) + x333)
  let x362 : Int := ((x338 + x334) + x334)
  let x363 : Int := ((x339 + x335) + x335)
  let x364 : Int := ((x300 + x344) + x344)
  let x365 : Int := ((x301 + x345) + x345)
  let x366 : Int := ((x302 + x346) + x346)
  let x367 : Int := ((x303 + x347) + x347)
  [x348, x349, x350, x351, x352, x353, x354, x355, x356, x357, x358, x359, x360, x361, x362, x363, x364, x365, x366, x367]

theorem mul_fn_ok (x0 x1 x2 x3 x4 x5 x6 x7 x8 x9 x10 x11 x12 x13 x14 x15 x16 x17 x18 x19 x20 x21 x22 x23 x24 x25 x26 x27 x28 x29 x30 x31 x32 x33 x34 x35 x36 x37 x38 x39 : Int) : NProg.evalZ mul_nprog [x0, x1, x2, x3, x4, x5, x6, x7, x8, x9, x10, x11, x12, x13, x14, x15, x16, x17, x18, x19, x20, x21, x22, x23, x24, x25, x26, x27, x28, x29, x30, x31, x32, x33, x34, x35, x36, x37, x38, x39] = mul_fn x0 x1 x2 x3 x4 x5 x6 x7 x8 x9 x10 x11 x12 x13 x14 x15 x16 x17 x18 x19 x20 x21 x22 x23 x24 x25 x26 x27 x28 x29 x30 x31 x32 x33 x34 x35 x36 x37 x38 x39 :=
  (NProg.evalZ_eq_fast _ _).trans (by kernel_rfl)

def mul_consts_post : List Itv := [⟨0, 4503762836127667, 0⟩, ⟨0, 4503762836127667, 0⟩, ⟨0, 4503762836127667, 0⟩, ⟨0, 4503762836127667, 0⟩, ⟨0, 4503608217305083, 0⟩, ⟨0, 4503608217305083, 0⟩, ⟨0, 4503608217305083, 0⟩, ⟨0, 4503608217305083, 0⟩, ⟨0, 4503608217305083, 0⟩, ⟨0, 4503608217305083, 0⟩, ⟨0, 4503608217305083, 0⟩, ⟨0, 4503608217305083, 0⟩, ⟨0, 4503608217305083, 0⟩, ⟨0, 4503608217305083, 0⟩, ⟨0, 4503608217305083, 0⟩, ⟨0, 4503608217305083, 0⟩, ⟨0, 4503608217305083, 0⟩, ⟨0, 4503608217305083, 0⟩, ⟨0, 4503608217305083, 0⟩, ⟨0, 4503608217305083, 0⟩]

def mul_consts_nprog : NProg := Prog.normProg Dalek.Gen.IfmaField.mul_consts Dalek.Model.Contracts.IfmaField.pre_mul_consts

theorem mul_consts_norm_ok : Prog.norm Dalek.Gen.IfmaField.mul_consts Dalek.Model.Contracts.IfmaField.pre_mul_consts = some (mul_consts_nprog, mul_consts_post) :=
  Prog.norm_eq_of_post (by decide +kernel)

def mul_consts_fn (x0 x1 x2 x3 x4 x5 x6 x7 x8 x9 x10 x11 x12 x13 x14 x15 x16 x17 x18 x19 x20 x21 x22 x23 : Int) : List Int :=
  let x24 : Int := x20
  let x25 : Int := x21
  let x26 : Int := x22
  let x27 : Int := x23
  let x28 : Int := ((0 : Int) + ((x24 * x12) / 2 ^ (52 : Nat)))
  let x29 : Int := ((0 : Int) + ((x25 * x13) / 2 ^ (52 : Nat)))
  let x30 : Int := ((0 : Int) + ((x26 * x14) / 2 ^ (52 : Nat)))
  let x31 : Int := ((0 : Int) + ((x27 * x15) / 2 ^ (52 : Nat)))
  let x32 : Int := ((0 : Int) + ((x24 * x16) / 2 ^ (52 : Nat)))
  let x33 : Int := ((0 : Int) + ((x25 * x17) / 2 ^ (52 : Nat)))
  let x34 : Int := ((0 : Int) + ((x26 * x18) / 2 ^ (52 : Nat)))
  let x35 : Int := ((0 : Int) + ((x27 * x19) / 2 ^ (52 : Nat)))
  let x36 : Int := ((0 : Int) + ((x24 * x16) % 2 ^ (52 : Nat)))
  let x37 : Int := ((0 : Int) + ((x25 * x17) % 2 ^ (52 : Nat)))
  let x38 : Int := ((0 : Int) + ((x26 * x18) % 2 ^ (52 : Nat)))
  let x39 : Int := ((0 : Int) + ((x27 * x19) % 2 ^ (52 : Nat)))
  let x40 : Int := ((0 : Int) + ((x24 * x0) % 2 ^ (52 : Nat)))
  let x41 : Int := ((0 : Int) + ((x25 * x1) % 2 ^ (52 : Nat)))
  let x42 : Int := ((0 : Int) + ((x26 * x2) % 2 ^ (52 : Nat)))
  let x43 : Int := ((0 : Int) + ((x27 * x3) % 2 ^ (52 : Nat)))
  let x44 : Int := ((0 : Int) + ((x24 * x12) % 2 ^ (52 : Nat)))
  let x45 : Int := ((0 : Int) + ((x25 * x13) % 2 ^ (52 : Nat)))
  let x46 : Int := ((0 : Int) + ((x26 * x14) % 2 ^ (52 : Nat)))
  let x47 : Int := ((0 : Int) + ((x27 * x15) % 2 ^ (52 : Nat)))
  let x48 : Int := ((0 : Int) + ((x24 * x8) % 2 ^ (52 : Nat)))
  let x49 : Int := ((0 : Int) + ((x25 * x9) % 2 ^ (52 : Nat)))
  let x50 : Int := ((0 : Int) + ((x26 * x10) % 2 ^ (52 : Nat)))
  let x51 : Int := ((0 : Int) + ((x27 * x11) % 2 ^ (52 : Nat)))
  let x52 : Int := ((0 : Int) + ((x24 * x4) % 2 ^ (52 : Nat)))
  let x53 : Int := ((0 : Int) + ((x25 * x5) % 2 ^ (52 : Nat)))
  let x54 : Int := ((0 : Int) + ((x26 * x6) % 2 ^ (52 : Nat)))
  let x55 : Int := ((0 : Int) + ((x27 * x7) % 2 ^ (52 : Nat)))
  let x56 : Int := ((0 : Int) + ((x24 * x8) / 2 ^ (52 : Nat)))
  let x57 : Int := ((0 : Int) + ((x25 * x9) / 2 ^ (52 : Nat)))
  let x58 : Int := ((0 : Int) + ((x26 * x10) / 2 ^ (52 : Nat)))
  let x59 : Int := ((0 : Int) + ((x27 * x11) / 2 ^ (52 : Nat)))
  let x60 : Int := ((0 : Int) + ((x24 * x4) / 2 ^ (52 : Nat)))
  let x61 : Int := ((0 : Int) + ((x25 * x5) / 2 ^ (52 : Nat)))
  let x62 : Int := ((0 : Int) + ((x26 * x6) / 2 ^ (52 : Nat)))
  let x63 : Int := ((0 : Int) + ((x27 * x7) / 2 ^ (52 : Nat)))
  let x64 : Int := ((0 : Int) + ((x24 * x0) / 2 ^ (52 : Nat)))
  let x65 : Int := ((0 : Int) + ((x25 * x1) / 2 ^ (52 : Nat)))
  let x66 : Int := ((0 : Int) + ((x26 * x2) / 2 ^ (52 : Nat)))
  let x67 : Int := ((0 : Int) + ((x27 * x3) / 2 ^ (52 : Nat)))
  let x68 : Int := (x32 + x32)
  let x69 : Int := (x33 + x33)
  let x70 : Int := (x34 + x34)
  let x71 : Int := (x35 + x35)
  let x72 : Int := (x40 + (x68 * (19 : Int)))
  let x73 : Int := (x41 + (x69 * (19 : Int)))
  let x74 : Int := (x42 + (x70 * (19 : Int)))
  let x75 : Int := (x43 + (x71 * (19 : Int)))
  let x76 : Int := ((x52 + x64) + x64)
  let x77 : Int := ((x53 + x65) + x65)
  let x78 : Int := ((x54 + x66) + x66)
  let x79 : Int := ((x55 + x67) + x67)
  let x80 : Int := ((x48 + x60) + x60)
  let x81 : Int := ((x49 + x61) + x61)
  let x82 : Int := ((x50 + x62) + x62)
  let x83 : Int := ((x51 + x63) + x63)
  let x84 : Int := ((x44 + x56) + x56)
  let x85 : Int := ((x45 + x57) + x57)
  let x86 : Int := ((x46 + x58) + x58)
  let x87 : Int := ((x47 + x59) + x59)
  let x88 : Int := ((x36 + x28) + x28)
  let x89 : Int := ((x37 + x29) + x29)
  let x90 : Int := ((x38 + x30) + x30)
  let x91 : Int := ((x39 + x31) + x31)
  [x72, x73, x74, x75, x76, x77, x78, x79, x80, x81, x82, x83, x84, x85, x86, x87, x88, x89, x90, x91]

theorem mul_consts_fn_ok (x0 x1 x2 x3 x4 x5 x6 x7 x8 x9 x10 x11 x12 x13 x14 x15 x16 x17 x18 x19 x20 x21 x22 x23 : Int) : NProg.evalZ mul_consts_nprog [x0, x1, x2, x3, x4, x5, x6, x7, x8, x9, x10, x11, x12, x13, x14, x15, x16, x17, x18, x19, x20, x21, x22, x23] = mul_consts_fn x0 x1 x2 x3 x4 x5 x6 x7 x8 x9 x10 x11 x12 x13 x14 x15 x16 x17 x18 x19 x20 x21 x22 x23 :=
  (NProg.evalZ_eq_fast _ _).trans (by kernel_rfl)

def square_post : List Itv := [⟨0, 9007199254742396, 0⟩, ⟨0, 9007199254742396, 0⟩, ⟨0, 9007199254742396, 0⟩, ⟨0, 9007199254742396, 0⟩, ⟨0, 22517998136853003, 0⟩, ⟨0, 22517998136853003, 0⟩, ⟨0, 22517998136853003, 0⟩, ⟨0, 22517998136853003, 0⟩, ⟨0, 36028797018964372, 0⟩, ⟨0, 36028797018964372, 0⟩, ⟨0, 36028797018964372, 0⟩, ⟨0, 36028797018964372, 0⟩, ⟨0, 49539595901075741, 0⟩, ⟨0, 49539595901075741, 0⟩, ⟨0, 49539595901075741, 0⟩, ⟨0, 49539595901075741, 0⟩, ⟨0, 63050394783187110, 0⟩, ⟨0, 63050394783187110, 0⟩, ⟨0, 63050394783187110, 0⟩, ⟨0, 63050394783187110, 0⟩]

def square_nprog : NProg := Prog.normProg Dalek.Gen.IfmaField.square Dalek.Model.Contracts.IfmaField.pre_square

theorem square_norm_ok : Prog.norm Dalek.Gen.IfmaField.square Dalek.Model.Contracts.IfmaField.pre_square = some (square_nprog, square_post) :=
  Prog.norm_eq_of_post (by decide +kernel)

def square_fn (x0 x1 x2 x3 x4 x5 x6 x7 x8 x9 x10 x11 x12 x13 x14 x15 x16 x17 x18 x19 : Int) : List Int :=
  let x20 : Int := ((0 : Int) + ((x0 * x0) % 2 ^ (52 : Nat)))
  let x21 : Int := ((0 : Int) + ((x1 * x1) % 2 ^ (52 : Nat)))
  let x22 : Int := ((0 : Int) + ((x2 * x2) % 2 ^ (52 : Nat)))
  let x23 : Int := ((0 : Int) + ((x3 * x3) % 2 ^ (52 : Nat)))
  let x24 : Int := ((0 : Int) + ((x0 * x4) % 2 ^ (52 : Nat)))
  let x25 : Int := ((0 : Int) + ((x1 * x5) % 2 ^ (52 : Nat)))
  let x26 : Int := ((0 : Int) + ((x2 * x6) % 2 ^ (52 : Nat)))
  let x27 : Int := ((0 : Int) + ((x3 * x7) % 2 ^ (52 : Nat)))
  let x28 : Int := (x24 + ((x0 * x0) / 2 ^ (52 : Nat)))
  let x29 : Int := (x25 + ((x1 * x1) / 2 ^ (52 : Nat)))
  let x30 : Int := (x26 + ((x2 * x2) / 2 ^ (52 : Nat)))
  let x31 : Int := (x27 + ((x3 * x3) / 2 ^ (52 : Nat)))
  let x32 : Int := ((0 : Int) + ((x0 * x4) / 2 ^ (52 : Nat)))
  let x33 : Int := ((0 : Int) + ((x1 * x5) / 2 ^ (52 : Nat)))
  let x34 : Int := ((0 : Int) + ((x2 * x6) / 2 ^ (52 : Nat)))
  let x35 : Int := ((0 : Int) + ((x3 * x7) / 2 ^ (52 : Nat)))
  let x36 : Int := (x32 * (4 : Int))
  let x37 : Int := (x33 * (4 : Int))
  let x38 : Int := (x34 * (4 : Int))
  let x39 : Int := (x35 * (4 : Int))
  let x40 : Int := ((0 : Int) + ((x0 * x8) % 2 ^ (52 : Nat)))
  let x41 : Int := ((0 : Int) + ((x1 * x9) % 2 ^ (52 : Nat)))
  let x42 : Int := ((0 : Int) + ((x2 * x10) % 2 ^ (52 : Nat)))
  let x43 : Int := ((0 : Int) + ((x3 * x11) % 2 ^ (52 : Nat)))
  let x44 : Int := (x36 + ((x4 * x4) % 2 ^ (52 : Nat)))
  let x45 : Int := (x37 + ((x5 * x5) % 2 ^ (52 : Nat)))
  let x46 : Int := (x38 + ((x6 * x6) % 2 ^ (52 : Nat)))
  let x47 : Int := (x39 + ((x7 * x7) % 2 ^ (52 : Nat)))
  let x48 : Int := ((0 : Int) + ((x0 * x8) / 2 ^ (52 : Nat)))
  let x49 : Int := ((0 : Int) + ((x1 * x9) / 2 ^ (52 : Nat)))
  let x50 : Int := ((0 : Int) + ((x2 * x10) / 2 ^ (52 : Nat)))
  let x51 : Int := ((0 : Int) + ((x3 * x11) / 2 ^ (52 : Nat)))
  let x52 : Int := (x48 * (4 : Int))
  let x53 : Int := (x49 * (4 : Int))
  let x54 : Int := (x50 * (4 : Int))
  let x55 : Int := (x51 * (4 : Int))
  let x56 : Int := ((0 : Int) + ((x4 * x8) % 2 ^ (52 : Nat)))
  let x57 : Int := ((0 : Int) + ((x5 * x9) % 2 ^ (52 : Nat)))
  let x58 : Int := ((0 : Int) + ((x6 * x10) % 2 ^ (52 : Nat)))
  let x59 : Int := ((0 : Int) + ((x7 * x11) % 2 ^ (52 : Nat)))
  let x60 : Int := (x56 + ((x0 * x12) % 2 ^ (52 : Nat)))
  let x61 : Int := (x57 + ((x1 * x13) % 2 ^ (52 : Nat)))
  let x62 : Int := (x58 + ((x2 * x14) % 2 ^ (52 : Nat)))
  let x63 : Int := (x59 + ((x3 * x15) % 2 ^ (52 : Nat)))
  let x64 : Int := (x60 + ((x4 * x4) / 2 ^ (52 : Nat)))
  let x65 : Int := (x61 + ((x5 * x5) / 2 ^ (52 : Nat)))
  let x66 : Int := (x62 + ((x6 * x6) / 2 ^ (52 : Nat)))
  let x67 : Int := (x63 + ((x7 * x7) / 2 ^ (52 : Nat)))
  let x68 : Int := ((0 : Int) + ((x4 * x8) / 2 ^ (52 : Nat)))
  let x69 : Int := ((0 : Int) + ((x5 * x9) / 2 ^ (52 : Nat)))
  let x70 : Int := ((0 : Int) + ((x6 * x10) / 2 ^ (52 : Nat)))
  let x71 : Int := ((0 : Int) + ((x7 * x11) / 2 ^ (52 : Nat)))
  let x72 : Int := (x68 + ((x0 * x12) / 2 ^ (52 : Nat)))
  let x73 : Int := (x69 + ((x1 * x13) / 2 ^ (52 : Nat)))
  let x74 : Int := (x70 + ((x2 * x14) / 2 ^ (52 : Nat)))
  let x75 : Int := (x71 + ((x3 * x15) / 2 ^ (52 : Nat)))
  let x76 : Int := (x72 * (4 : Int))
  let x77 : Int := (x73 * (4 : Int))
  let x78 : Int := (x74 * (4 : Int))
  let x79 : Int := (x75 * (4 : Int))
  let x80 : Int := ((0 : Int) + ((x4 * x12) % 2 ^ (52 : Nat)))
  let x81 : Int := ((0 : Int) + ((x5 * x13) % 2 ^ (52 : Nat)))
  let x82 : Int := ((0 : Int) + ((x6 * x14) % 2 ^ (52 : Nat)))
  let x83 : Int := ((0 : Int) + ((x7 * x15) % 2 ^ (52 : Nat)))
  let x84 : Int := (x80 + ((x0 * x16) % 2 ^ (52 : Nat)))
  let x85 : Int := (x81 + ((x1 * x17) % 2 ^ (52 : Nat)))
  let x86 : Int := (x82 + ((x2 * x18) % 2 ^ (52 : Nat)))
  let x87 : Int := (x83 + ((x3 * x19) % 2 ^ (52 : Nat)))
  let x88 : Int := (x76 + ((x8 * x8) % 2 ^ (52 : Nat)))
  let x89 : Int := (x77 + ((x9 * x9) % 2 ^ (52 : Nat)))
  let x90 : Int := (x78 + ((x10 * x10) % 2 ^ (52 : Nat)))
  let x91 : Int := (x79 + ((x11 * x11) % 2 ^ (52 : Nat)))
  let x92 : Int := ((0 : Int) + ((x4 * x12) / 2 ^ (52 : Nat)))
  let x93 : Int := ((0 : Int) + ((x5 * x13) / 2 ^ (52 : Nat)))
  let x94 : Int := ((0 : Int) + ((x6 * x14) / 2 ^ (52 : Nat)))
  let x95 : Int := ((0 : Int) + ((x7 * x15) / 2 ^ (52 : Nat)))
  let x96 : Int := (x92 + ((x0 * x16) / 2 ^ (52 : Nat)))
  let x97 : Int := (x93 + ((x1 * x17) / 2 ^ (52 : Nat)))
  let x98 : Int := (x94 + ((x2 * x18) / 2 ^ (52 : Nat)))
  let x99 : Int := (x95 + ((x3 * x19) / 2 ^ (52 : Nat)))
  let x100 : Int := (x96 * (4 : Int))
  let x101 : Int := (x97 * (4 : Int))
  let x102 : Int := (x98 * (4 : Int))
  let x103 : Int := (x99 * (4 : Int))
  let x104 : Int := ((0 : Int) + ((x8 * x12) % 2 ^ (52 : Nat)))
  let x105 : Int := ((0 : Int) + ((x9 * x13) % 2 ^ (52 : Nat)))
  let x106 : Int := ((0 : Int) + ((x10 * x14) % 2 ^ (52 : Nat)))
  let x107 : Int := ((0 : Int) + ((x11 * x15) % 2 ^ (52 : Nat)))
  let x108 : Int := (x104 + ((x4 * x16) % 2 ^ (52 : Nat)))
  let x109 : Int := (x105 + ((x5 * x17) % 2 ^ (52 : Nat)))
  let x110 : Int := (x106 + ((x6 * x18) % 2 ^ (52 : Nat)))
  let x111 : Int := (x107 + ((x7 * x19) % 2 ^ (52 : Nat)))
  let x112 : Int := (x108 + ((x8 * x8) / 2 ^ (52 : Nat)))
  let x113 : Int := (x109 + ((x9 * x9) / 2 ^ (52 : Nat)))
  let x114 : Int := (x110 + ((x10 * x10) / 2 ^ (52 : Nat)))
  let x115 : Int := (x111 + ((x11 * x11) / 2 ^ (52 : Nat)))
  let x116 : Int := ((0 : Int) + ((x8 * x12) / 2 ^ (52 : Nat)))
  let x117 : Int := ((0 : Int) + ((x9 * x13) / 2 ^ (52 : Nat)))
  let x118 : Int := ((0 : Int) + ((x10 * x14) / 2 ^ (52 : Nat)))
  let x119 : Int := ((0 : Int) + ((x11 * x15) / 2 ^ (52 : Nat)))
  let x120 : Int := (x116 + ((x4 * x16) / 2 ^ (52 : Nat)))
  let x121 : Int := (x117 + ((x5 * x17) / 2 ^ (52 : Nat)))
  let x122 : Int := (x118 + ((x6 * x18) / 2 ^ (52 : Nat)))
  let x123 : Int := (x119 + ((x7 * x19) / 2 ^ (52 : Nat)))
  let x124 : Int := (x120 * (4 : Int))
  let x125 : Int := (x121 * (4 : Int))
  let x126 : Int := (x122 * (4 : Int))
  let x127 : Int := (x123 * (4 : Int))
  let x128 : Int := ((0 : Int) + ((x8 * x16) % 2 ^ (52 : Nat)))
  let x129 : Int := ((0 : Int) + ((x9 * x17) % 2 ^ (52 : Nat)))
  let x130 : Int := ((0 : Int) + ((x10 * x18) % 2 ^ (52 : Nat)))
  let x131 : Int := ((0 : Int) + ((x11 * x19) % 2 ^ (52 : Nat)))
  let x132 : Int := (x124 + ((x12 * x12) % 2 ^ (52 : Nat)))
  let x133 : Int := (x125 + ((x13 * x13) % 2 ^ (52 : Nat)))
  let x134 : Int := (x126 + ((x14 * x14) % 2 ^ (52 : Nat)))
  let x135 : Int := (x127 + ((x15 * x15) % 2 ^ (52 : Nat)))
  let x136 : Int := ((0 : Int) + ((x8 * x16) / 2 ^ (52 : Nat)))
  let x137 : Int := ((0 : Int) + ((x9 * x17) / 2 ^ (52 : Nat)))
  let x138 : Int := ((0 : Int) + ((x10 * x18) / 2 ^ (52 : Nat)))
  let x139 : Int := ((0 : Int) + ((x11 * x19) / 2 ^ (52 : Nat)))
  let x140 : Int := (x136 * (4 : Int))
  let x141 : Int := (x137 * (4 : Int))
  let x142 : Int := (x138 * (4 : Int))
  let x143 : Int := (x139 * (4 : Int))
  let x144 : Int := ((0 : Int) + ((x12 * x16) % 2 ^ (52 : Nat)))
  let x145 : Int := ((0 : Int) + ((x13 * x17) % 2 ^ (52 : Nat)))
  let x146 : Int := ((0 : Int) + ((x14 * x18) % 2 ^ (52 : Nat)))
  let x147 : Int := ((0 : Int) + ((x15 * x19) % 2 ^ (52 : Nat)))
  let x148 : Int := (x144 + ((x12 * x12) / 2 ^ (52 : Nat)))
  let x149 : Int := (x145 + ((x13 * x13) / 2 ^ (52 : Nat)))
  let x150 : Int := (x146 + ((x14 * x14) / 2 ^ (52 : Nat)))
  let x151 : Int := (x147 + ((x15 * x15) / 2 ^ (52 : Nat)))
  let x152 : Int := ((0 : Int) + ((x12 * x16) / 2 ^ (52 : Nat)))
  let x153 : Int := ((0 : Int) + ((x13 * x17) / 2 ^ (52 : Nat)))
  let x154 : Int := ((0 : Int) + ((x14 * x18) / 2 ^ (52 : Nat)))
  let x155 : Int := ((0 : Int) + ((x15 * x19) / 2 ^ (52 : Nat)))
  let x156 : Int := (x152 * (4 : Int))
  let x157 : Int := (x153 * (4 : Int))
  let x158 : Int := (x154 * (4 : Int))
  let x159 : Int := (x155 * (4 : Int))
  let x160 : Int := (x156 + ((x16 * x16) % 2 ^ (52 : Nat)))
  let x161 : Int := (x157 + ((x17 * x17) % 2 ^ (52 : Nat)))
  let x162 : Int := (x158 + ((x18 * x18) % 2 ^ (52 : Nat)))
  let x163 : Int := (x159 + ((x19 * x19) % 2 ^ (52 : Nat)))
  let x164 : Int := ((0 : Int) + ((x16 * x16) / 2 ^ (52 : Nat)))
  let x165 : Int := ((0 : Int) + ((x17 * x17) / 2 ^ (52 : Nat)))
  let x166 : Int := ((0 : Int) + ((x18 * x18) / 2 ^ (52 : Nat)))
  let x167 : Int := ((0 : Int) + ((x19 * x19) / 2 ^ (52 : Nat)))
  let x168 : Int := (x100 + (x112 * (2 : Int)))
  let x169 : Int := (x101 + (x113 * (2 : Int)))
  let x170 : Int := (x102 + (x114 * (2 : Int)))
  let x171 : Int := (x103 + (x115 * (2 : Int)))
  let x172 : Int := (x132 + (x128 * (2 : Int)))
  let x173 : Int := (x133 + (x129 * (2 : Int)))
  let x174 : Int := (x134 + (x130 * (2 : Int)))
  let x175 : Int := (x135 + (x131 * (2 : Int)))
  let x176 : Int := (x140 + (x148 * (2 : Int)))
  let x177 : Int := (x141 + (x149 * (2 : Int)))
  let x178 : Int := (x142 + (x150 * (2 : Int)))
  let x179 : Int := (x143 + (x151 * (2 : Int)))
  let x180 : Int := ((0 : Int) + (x164 * (2 : Int)))
  let x181 : Int := ((0 : Int) + (x165 * (2 : Int)))
  let x182 : Int := ((0 : Int) + (x166 * (2 : Int)))
  let x183 : Int := ((0 : Int) + (x167 * (2 : Int)))
  let x184 : Int := ((0 : Int) + (((19 : Int) * (x180 % 2 ^ (52 : Nat))) / 2 ^ (52 : Nat)))
  let x185 : Int := ((0 : Int) + (((19 : Int) * (x181 % 2 ^ (52 : Nat))) / 2 ^ (52 : Nat)))
  let x186 : Int := ((0 : Int) + (((19 : Int) * (x182 % 2 ^ (52 : Nat))) / 2 ^ (52 : Nat)))
  let x187 : Int := ((0 : Int) + (((19 : Int) * (x183 % 2 ^ (52 : Nat))) / 2 ^ (52 : Nat)))
  let x188 : Int := (x180 / 2 ^ (52 : Nat))
  let x189 : Int := (x181 / 2 ^ (52 : Nat))
  let x190 : Int := (x182 / 2 ^ (52 : Nat))
  let x191 : Int := (x183 / 2 ^ (52 : Nat))
  let x192 : Int := ((0 : Int) + ((19 : Int) * x188))
  let x193 : Int := ((0 : Int) + ((19 : Int) * x189))
  let x194 : Int := ((0 : Int) + ((19 : Int) * x190))
  let x195 : Int := ((0 : Int) + ((19 : Int) * x191))
  let x196 : Int := (x160 / 2 ^ (52 : Nat))
  let x197 : Int := (x161 / 2 ^ (52 : Nat))
  let x198 : Int := (x162 / 2 ^ (52 : Nat))
  let x199 : Int := (x163 / 2 ^ (52 : Nat))
  let x200 : Int := (x84 + ((19 : Int) * x196))
  let x201 : Int := (x85 + ((19 : Int) * x197))
  let x202 : Int := (x86 + ((19 : Int) * x198))
  let x203 : Int := (x87 + ((19 : Int) * x199))
  let x204 : Int := (x176 / 2 ^ (52 : Nat))
  let x205 : Int := (x177 / 2 ^ (52 : Nat))
  let x206 : Int := (x178 / 2 ^ (52 : Nat))
  let x207 : Int := (x179 / 2 ^ (52 : Nat))
  let x208 : Int := (x64 + ((19 : Int) * x204))
  let x209 : Int := (x65 + ((19 : Int) * x205))
  let x210 : Int := (x66 + ((19 : Int) * x206))
  let x211 : Int := (x67 + ((19 : Int) * x207))
  let x212 : Int := (x172 / 2 ^ (52 : Nat))
  let x213 : Int := (x173 / 2 ^ (52 : Nat))
  let x214 : Int := (x174 / 2 ^ (52 : Nat))
  let x215 : Int := (x175 / 2 ^ (52 : Nat))
  let x216 : Int := (x40 + ((19 : Int) * x212))
  let x217 : Int := (x41 + ((19 : Int) * x213))
  let x218 : Int := (x42 + ((19 : Int) * x214))
  let x219 : Int := (x43 + ((19 : Int) * x215))
  let x220 : Int := (x168 / 2 ^ (52 : Nat))
  let x221 : Int := (x169 / 2 ^ (52 : Nat))
  let x222 : Int := (x170 / 2 ^ (52 : Nat))
  let x223 : Int := (x171 / 2 ^ (52 : Nat))
  let x224 : Int := (x28 + ((19 : Int) * x220))
  let x225 : Int := (x29 + ((19 : Int) * x221))
  let x226 : Int := (x30 + ((19 : Int) * x222))
  let x227 : Int := (x31 + ((19 : Int) * x223))
  let x228 : Int := (x184 + x192)
  let x229 : Int := (x185 + x193)
  let x230 : Int := (x186 + x194)
  let x231 : Int := (x187 + x195)
  let x232 : Int := ((0 : Int) + ((19 : Int) * x228))
  let x233 : Int := ((0 : Int) + ((19 : Int) * x229))
  let x234 : Int := ((0 : Int) + ((19 : Int) * x230))
  let x235 : Int := ((0 : Int) + ((19 : Int) * x231))
  let x236 : Int := (x224 + (((19 : Int) * (x168 % 2 ^ (52 : Nat))) / 2 ^ (52 : Nat)))
  let x237 : Int := (x225 + (((19 : Int) * (x169 % 2 ^ (52 : Nat))) / 2 ^ (52 : Nat)))
  let x238 : Int := (x226 + (((19 : Int) * (x170 % 2 ^ (52 : Nat))) / 2 ^ (52 : Nat)))
  let x239 : Int := (x227 + (((19 : Int) * (x171 % 2 ^ (52 : Nat))) / 2 ^ (52 : Nat)))
  let x240 : Int := (x216 + (((19 : Int) * (x172 % 2 ^ (52 : Nat))) / 2 ^ (52 : Nat)))
  let x241 : Int := (x217 + (((19 : Int) * (x173 % 2 ^ (52 : Nat))) / 2 ^ (52 : Nat)))
  let x242 : Int := (x218 + (((19 : Int) * (x174 % 2 ^ (52 : Nat))) / 2 ^ (52 : Nat)))
  let x243 : Int := (x219 + (((19 : Int) * (x175 % 2 ^ (52 : Nat))) / 2 ^ (52 : Nat)))
  let x244 : Int := (x208 + (((19 : Int) * (x176 % 2 ^ (52 : Nat))) / 2 ^ (52 : Nat)))
  let x245 : Int := (x209 + (((19 : Int) * (x177 % 2 ^ (52 : Nat))) / 2 ^ (52 : Nat)))
  let x246 : Int := (x210 + (((19 : Int) * (x178 % 2 ^ (52 : Nat))) / 2 ^ (52 : Nat)))
  let x247 : Int := (x211 + (((19 : Int) * (x179 % 2 ^ (52 : Nat))) / 2 ^ (52 : Nat)))
  let x248 : Int := (x200 + (((19 : Int) * (x160 % 2 ^ (52 : Nat))) / 2 ^ (52 : Nat)))
  let x249 : Int := (x201 + (((19 : Int) * (x161 % 2 ^ (52 : Nat))) / 2 ^ (52 : Nat)))
  let x250 : Int := (x202 + (((19 : Int) * (x162 % 2 ^ (52 : Nat))) / 2 ^ (52 : Nat)))
  let x251 : Int := (x203 + (((19 : Int) * (x163 % 2 ^ (52 : Nat))) / 2 ^ (52 : Nat)))
  let x252 : Int := (x20 + (((19 : Int) * (x168 % 2 ^ (52 : Nat))) % 2 ^ (52 : Nat)))
  let x253 : Int := (x21 + (((19 : Int) * (x169 % 2 ^ (52 : Nat))) % 2 ^ (52 : Nat)))
  let x254 : Int := (x22 + (((19 : Int) * (x170 % 2 ^ (52 : Nat))) % 2 ^ (52 : Nat)))
  let x255 : Int := (x23 + (((19 : Int) * (x171 % 2 ^ (52 : Nat))) % 2 ^ (52 : Nat)))
  let x256 : Int := ((0 : Int) + (((19 : Int) * (x172 % 2 ^ (52 : Nat))) % 2 ^ (52 : Nat)))
  let x257 : Int := ((0 : Int) + (((19 : Int) * (x173 % 2 ^ (52 : Nat))) % 2 ^ (52 : Nat)))
  let x258 : Int := ((0 : Int) + (((19 : Int) * (x174 % 2 ^ (52 : Nat))) % 2 ^ (52 : Nat)))
  let x259 : Int := ((0 : Int) + (((19 : Int) * (x175 % 2 ^ (52 : Nat))) % 2 ^ (52 : Nat)))
  let x260 : Int := (x44 + (((19 : Int) * (x176 % 2 ^ (52 : Nat))) % 2 ^ (52 : Nat)))
  let x261 : Int := (x45 + (((19 : Int) * (x177 % 2 ^ (52 : Nat))) % 2 ^ (52 : Nat)))
  let x262 : Int := (x46 + (((19 : Int) * (x178 % 2 ^ (52 : Nat))) % 2 ^ (52 : Nat)))
  let x263 : Int := (x47 + (((19 : Int) * (x179 % 2 ^ (52 : Nat))) % 2 ^ (52 : Nat)))
  let x264 : Int := (x52 + (((19 : Int) * (x160 % 2 ^ (52 : Nat))) % 2 ^ (52 : Nat)))
  let x265 : Int := (x53 + (((19 : Int) * (x161 % 2 ^ (52 : Nat))) % 2 ^ (52 : Nat)))
  let x266 : Int := (x54 + (((19 : Int) * (x162 % 2 ^ (52 : Nat))) % 2 ^ (52 : Nat)))
  let x267 : Int := (x55 + (((19 : Int) * (x163 % 2 ^ (52 : Nat))) % 2 ^ (52 : Nat)))
  let x268 : Int := (x88 + (((19 : Int) * (x180 % 2 ^ (52 : Nat))) % 2 ^ (52 : Nat)))
  let x269 : Int := (x89 + (((19 : Int) * (x181 % 2 ^ (52 : Nat))) % 2 ^ (52 : Nat)))
  let x270 : Int := (x90 + (((19 : Int) * (x182 % 2 ^ (52 : Nat))) % 2 ^ (52 : Nat)))
  let x271 : Int := (x91 + (((19 : Int) * (x183 % 2 ^ (52 : Nat))) % 2 ^ (52 : Nat)))
  let x272 : Int := ((x252 + x232) + x232)
  let x273 : Int := ((x253 + x233) + x233)
  let x274 : Int := ((x254 + x234) + x234)
  let x275 : Int := ((x255 + x235) + x235)
  let x276 : Int := ((x256 + x236) + x236)
  let x277 : Int := ((x257 + x237) + x237)
  let x278 : Int := ((x258 + x238) + x238)
  let x279 : Int := ((x259 + x239) + x239)
  let x280 : Int := ((x260 + x240) + x240)
  let x281 : Int := ((x261 + x241) + x241)
  let x282 : Int := ((x262 + x242) + x242)
  let x283 : Int := ((x263 + x243) + x243)
  let x284 : Int := ((x264 + x244) + x244)
  let x285 : Int := ((x265 + x245) + x245)
  let x286 : Int := ((x266 + x246) + x246)
  let x287 : Int := ((x267 + x247) + x247)
  let x288 : Int := ((x268 + x248) + x248)
  let x289 : Int := ((x269 + x249) + x249)
  let x290 : Int := ((x270 + x250) + x250)
  let x291 : Int := ((x271 + x251) + x251)
  [x272, x273, x274, x275, x276, x277, x278, x279, x280, x281, x282, x283, x284, x285, x286, x287, x288, x289, x290, x291]

theorem square_fn_ok (x0 x1 x2 x3 x4 x5 x6 x7 x8 x9 x10 x11 x12 x13 x14 x15 x16 x17 x18 x19 : Int) : NProg.evalZ square_nprog [x0, x1, x2, x3, x4, x5, x6, x7, x8, x9, x10, x11, x12, x13, x14, x15, x16, x17, x18, x19] = square_fn x0 x1 x2 x3 x4 x5 x6 x7 x8 x9 x10 x11 x12 x13 x14 x15 x16 x17 x18 x19 :=
  (NProg.evalZ_eq_fast _ _).trans (by kernel_rfl)

def conditional_select_post : List Itv := [⟨0, 18446744073709551615, 0⟩, ⟨0, 18446744073709551615, 0⟩, ⟨0, 18446744073709551615, 0⟩, ⟨0, 18446744073709551615, 0⟩, ⟨0, 18446744073709551615, 0⟩, ⟨0, 18446744073709551615, 0⟩, ⟨0, 18446744073709551615, 0⟩, ⟨0, 18446744073709551615, 0⟩, ⟨0, 18446744073709551615, 0⟩, ⟨0, 18446744073709551615, 0⟩, ⟨0, 18446744073709551615, 0⟩, ⟨0, 18446744073709551615, 0⟩, ⟨0, 18446744073709551615, 0⟩, ⟨0, 18446744073709551615, 0⟩, ⟨0, 18446744073709551615, 0⟩, ⟨0, 18446744073709551615, 0⟩, ⟨0, 18446744073709551615, 0⟩, ⟨0, 18446744073709551615, 0⟩, ⟨0, 18446744073709551615, 0⟩, ⟨0, 18446744073709551615, 0⟩]

def conditional_select_nprog : NProg := Prog.normProg Dalek.Gen.IfmaField.conditional_select Dalek.Model.Contracts.IfmaField.pre_conditional_select

theorem conditional_select_norm_ok : Prog.norm Dalek.Gen.IfmaField.conditional_select Dalek.Model.Contracts.IfmaField.pre_conditional_select = some (conditional_select_nprog, conditional_select_post) :=
  Prog.norm_eq_of_post (by decide +kernel)

def conditional_select_fn (x0 x1 x2 x3 x4 x5 x6 x7 x8 x9 x10 x11 x12 x13 x14 x15 x16 x17 x18 x19 x20 x21 x22 x23 x24 x25 x26 x27 x28 x29 x30 x31 x32 x33 x34 x35 x36 x37 x38 x39 x40 : Int) : List Int :=
  let x41 : Int := (if x40 = 0 then x0 else x20)
  let x42 : Int := (if x40 = 0 then x1 else x21)
  let x43 : Int := (if x40 = 0 then x2 else x22)
  let x44 : Int := (if x40 = 0 then x3 else x23)
  let x45 : Int := (if x40 = 0 then x4 else x24)
  let x46 : Int := (if x40 = 0 then x5 else x25)
  let x47 : Int := (if x40 = 0 then x6 else x26)
  let x48 : Int := (if x40 = 0 then x7 else x27)
  let x49 : Int := (if x40 = 0 then x8 else x28)
  let x50 : Int := (if x40 = 0 then x9 else x29)
  let x51 : Int := (if x40 = 0 then x10 else x30)
  let x52 : Int := (if x40 = 0 then x11 else x31)
  let x53 : Int := (if x40 = 0 then x12 else x32)
  let x54 : Int := (if x40 = 0 then x13 else x33)
  let x55 : Int := (if x40 = 0 then x14 else x34)
  let x56 : Int := (if x40 = 0 then x15 else x35)
  let x57 : Int := (if x40 = 0 then x16 else x36)
  let x58 : Int := (if x40 = 0 then x17 else x37)
  let x59 : Int := (if x40 = 0 then x18 else x38)
  let x60 : Int := (if x40 = 0 then x19 else x39)
  [x41, x42, x43, x44, x45, x46, x47, x48, x49, x50, x51, x52, x53, x54, x55, x56, x57, x58, x59, x60]

theorem conditional_select_fn_ok (x0 x1 x2 x3 x4 x5 x6 x7 x8 x9 x10 x11 x12 x13 x14 x15 x16 x17 x18 x19 x20 x21 x22 x23 x24 x25 x26 x27 x28 x29 x30 x31 x32 x33 x34 x35 x36 x37 x38 x39 x40 : Int) : NProg.evalZ conditional_select_nprog [x0, x1, x2, x3, x4, x5, x6, x7, x8, x9, x10, x11, x12, x13, x14, x15, x16, x17, x18, x19, x20, x21, x22, x23, x24, x25, x26, x27, x28, x29, x30, x31, x32, x33, x34, x35, x36, x37, x38, x39, x40] = conditional_select_fn x0 x1 x2 x3 x4 x5 x6 x7 x8 x9 x10 x11 x12 x13 x14 x15 x16 x17 x18 x19 x20 x21 x22 x23 x24 x25 x26 x27 x28 x29 x30 x31 x32 x33 x34 x35 x36 x37 x38 x39 x40 :=
  (NProg.evalZ_eq_fast _ _).trans (by kernel_rfl)

def conditional_assign_post : List Itv := [⟨0, 18446744073709551615, 0⟩, ⟨0, 18446744073709551615, 0⟩, ⟨0, 18446744073709551615, 0⟩, ⟨0, 18446744073709551615, 0⟩, ⟨0, 18446744073709551615, 0⟩, ⟨0, 18446744073709551615, 0⟩, ⟨0, 18446744073709551615, 0⟩, ⟨0, 18446744073709551615, 0⟩, ⟨0, 18446744073709551615, 0⟩, ⟨0, 18446744073709551615, 0⟩, ⟨0, 18446744073709551615, 0⟩, ⟨0, 18446744073709551615, 0⟩, ⟨0, 18446744073709551615, 0⟩, ⟨0, 18446744073709551615, 0⟩, ⟨0, 18446744073709551615, 0⟩, ⟨0, 18446744073709551615, 0⟩, ⟨0, 18446744073709551615, 0⟩, ⟨0, 18446744073709551615, 0⟩, ⟨0, 18446744073709551615, 0⟩, ⟨0, 18446744073709551615, 0⟩]

def conditional_assign_nprog : NProg := Prog.normProg Dalek.Gen.IfmaField.conditional_assign Dalek.Model.Contracts.IfmaField.pre_conditional_assign

theorem conditional_assign_norm_ok : Prog.norm Dalek.Gen.IfmaField.conditional_assign Dalek.Model.Contracts.IfmaField.pre_conditional_assign = some (conditional_assign_nprog, conditional_assign_post) :=
  Prog.norm_eq_of_post (by decide +kernel)

def conditional_assign_fn (x0 x1 x2 x3 x4 x5 x6 x7 x8 x9 x10 x11 x12 x13 x14 x15 x16 x17 x18 x19 x20 x21 x22 x23 x24 x25 x26 x27 x28 x29 x30 x31 x32 x33 x34 x35 x36 x37 x38 x39 x40 : Int) : List Int :=
  let x41 : Int := (if x40 = 0 then x0 else x20)
  let x42 : Int := (if x40 = 0 then x1 else x21)
  let x43 : Int := (if x40 = 0 then x2 else x22)
  let x44 : Int := (if x40 = 0 then x3 else x23)
  let x45 : Int := (if x40 = 0 then x4 else x24)
  let x46 : Int := (if x40 = 0 then x5 else x25)
  let x47 : Int := (if x40 = 0 then x6 else x26)
  let x48 : Int := (if x40 = 0 then x7 else x27)
  let x49 : Int := (if x40 = 0 then x8 else x28)
  let x50 : Int := (if x40 = 0 then x9 else x29)
  let x51 : Int := (if x40 = 0 then x10 else x30)
  let x52 : Int := (if x40 = 0 then x11 else x31)
  let x53 : Int := (if x40 = 0 then x12 else x32)
  let x54 : Int := (if x40 = 0 then x13 else x33)
  let x55 : Int := (if x40 = 0 then x14 else x34)
  let x56 : Int := (if x40 = 0 then x15 else x35)
  let x57 : Int := (if x40 = 0 then x16 else x36)
  let x58 : Int := (if x40 = 0 then x17 else x37)
  let x59 : Int := (if x40 = 0 then x18 else x38)
  let x60 : Int := (if x40 = 0 then x19 else x39)
  [x41, x42, x43, x44, x45, x46, x47, x48, x49, x50, x51, x52, x53, x54, x55, x56, x57, x58, x59, x60]

theorem conditional_assign_fn_ok (x0 x1 x2 x3 x4 x5 x6 x7 x8 x9 x10 x11 x12 x13 x14 x15 x16 x17 x18 x19 x20 x21 x22 x23 x24 x25 x26 x27 x28 x29 x30 x31 x32 x33 x34 x35 x36 x37 x38 x39 x40 : Int) : NProg.evalZ conditional_assign_nprog [x0, x1, x2, x3, x4, x5, x6, x7, x8, x9, x10, x11, x12, x13, x14, x15, x16, x17, x18, x19, x20, x21, x22, x23, x24, x25, x26, x27, x28, x29, x30, x31, x32, x33, x34, x35, x36, x37, x38, x39, x40] = conditional_assign_fn x0 x1 x2 x3 x4 x5 x6 x7 x8 x9 x10 x11 x12 x13 x14 x15 x16 x17 x18 x19 x20 x21 x22 x23 x24 x25 x26 x27 x28 x29 x30 x31 x32 x33 x34 x35 x36 x37 x38 x39 x40 :=
  (NProg.evalZ_eq_fast _ _).trans (by kernel_rfl)

def shuffle_AAAA_post : List Itv := [⟨0, 18446744073709551615, 0⟩, ⟨0, 18446744073709551615, 0⟩, ⟨0, 18446744073709551615, 0⟩, ⟨0, 18446744073709551615, 0⟩, ⟨0, 18446744073709551615, 0⟩, ⟨0, 18446744073709551615, 0⟩, ⟨0, 18446744073709551615, 0⟩, ⟨0, 18446744073709551615, 0⟩, ⟨0, 18446744073709551615, 0⟩, ⟨0, 18446744073709551615, 0⟩, ⟨0, 18446744073709551615, 0⟩, ⟨0, 18446744073709551615, 0⟩, ⟨0, 18446744073709551615, 0⟩, ⟨0, 18446744073709551615, 0⟩, ⟨0, 18446744073709551615, 0⟩, ⟨0, 18446744073709551615, 0⟩, ⟨0, 18446744073709551615, 0⟩, ⟨0, 18446744073709551615, 0⟩, ⟨0, 18446744073709551615, 0⟩, ⟨0, 18446744073709551615, 0⟩]

def shuffle_AAAA_nprog : NProg := Prog.normProg Dalek.Gen.IfmaField.shuffle_AAAA Dalek.Model.Contracts.IfmaField.pre_shuffle_AAAA

theorem shuffle_AAAA_norm_ok : Prog.norm Dalek.Gen.IfmaField.shuffle_AAAA Dalek.Model.Contracts.IfmaField.pre_shuffle_AAAA = some (shuffle_AAAA_nprog, shuffle_AAAA_post) :=
  Prog.norm_eq_of_post (by decide +kernel)

def shuffle_AAAA_fn (x0 x1 x2 x3 x4 x5 x6 x7 x8 x9 x10 x11 x12 x13 x14 x15 x16 x17 x18 x19 : Int) : List Int :=
  [x0, x0, x0, x0, x4, x4, x4, x4, x8, x8, x8, x8, x12, x12, x12, x12, x16, x16, x16, x16]

theorem shuffle_AAAA_fn_ok (x0 x1 x2 x3 x4 x5 x6 x7 x8 x9 x10 x11 x12 x13 x14 x15 x16 x17 x18 x19 : Int) : NProg.evalZ shuffle_AAAA_nprog [x0, x1, x2, x3, x4, x5, x6, x7, x8, x9, x10, x11, x12, x13, x14, x15, x16, x17, x18, x19] = shuffle_AAAA_fn x0 x1 x2 x3 x4 x5 x6 x7 x8 x9 x10 x11 x12 x13 x14 x15 x16 x17 x18 x19 :=
  (NProg.evalZ_eq_fast _ _).trans (by kernel_rfl)

def reduced_shuffle_AAAA_post : List Itv := [⟨0, 18446744073709551615, 0⟩, ⟨0, 18446744073709551615, 0⟩, ⟨0, 18446744073709551615, 0⟩, ⟨0, 18446744073709551615, 0⟩, ⟨0, 18446744073709551615, 0⟩, ⟨0, 18446744073709551615, 0⟩, ⟨0, 18446744073709551615, 0⟩, ⟨0, 18446744073709551615, 0⟩, ⟨0, 18446744073709551615, 0⟩, ⟨0, 18446744073709551615, 0⟩, ⟨0, 18446744073709551615, 0⟩, ⟨0, 18446744073709551615, 0⟩, ⟨0, 18446744073709551615, 0⟩, ⟨0, 18446744073709551615, 0⟩, ⟨0, 18446744073709551615, 0⟩, ⟨0, 18446744073709551615, 0⟩, ⟨0, 18446744073709551615, 0⟩, ⟨0, 18446744073709551615, 0⟩, ⟨0, 18446744073709551615, 0⟩, ⟨0, 18446744073709551615, 0⟩]

def reduced_shuffle_AAAA_nprog : NProg := Prog.normProg Dalek.Gen.IfmaField.reduced_shuffle_AAAA Dalek.Model.Contracts.IfmaField.pre_reduced_shuffle_AAAA

theorem reduced_shuffle_AAAA_norm_ok : Prog.norm Dalek.Gen.IfmaField.reduced_shuffle_AAAA Dalek.Model.Contracts.IfmaField.pre_reduced_shuffle_AAAA = some (reduced_shuffle_AAAA_nprog, reduced_shuffle_AAAA_post) :=
  Prog.norm_eq_of_post (by decide +kernel)

def reduced_shuffle_AAAA_fn (x0 x1 x2 x3 x4 x5 x6 x7 x8 x9 x10 x11 x12 x13 x14 x15 x16 x17 x18 x19 : Int) : List Int :=
  [x0, x0, x0, x0, x4, x4, x4, x4, x8, x8, x8, x8, x12, x12, x12, x12, x16, x16, x16, x16]

theorem reduced_shuffle_AAAA_fn_ok (x0 x1 x2 x3 x4 x5 x6 x7 x8 x9 x10 x11 x12 x13 x14 x15 x16 x17 x18 x19 : Int) : NProg.evalZ reduced_shuffle_AAAA_nprog [x0, x1, x2, x3, x4, x5, x6, x7, x8, x9, x10, x11, x12, x13, x14, x15, x16, x17, x18, x19] = reduced_shuffle_AAAA_fn x0 x1 x2 x3 x4 x5 x6 x7 x8 x9 x10 x11 x12 x13 x14 x15 x16 x17 x18 x19 :=
  (NProg.evalZ_eq_fast _ _).trans (by kernel_rfl)

def shuffle_BBBB_post : List Itv := [⟨0, 18446744073709551615, 0⟩, ⟨0, 18446744073709551615, 0⟩, ⟨0, 18446744073709551615, 0⟩, ⟨0, 18446744073709551615, 0⟩, ⟨0, 18446744073709551615, 0⟩, ⟨0, 18446744073709551615, 0⟩, ⟨0, 18446744073709551615, 0⟩, ⟨0, 18446744073709551615, 0⟩, ⟨0, 18446744073709551615, 0⟩, ⟨0, 18446744073709551615, 0⟩, ⟨0, 18446744073709551615, 0⟩, ⟨0, 18446744073709551615, 0⟩, ⟨0, 18446744073709551615, 0⟩, ⟨0, 18446744073709551615, 0⟩, ⟨0, 18446744073709551615, 0⟩, ⟨0, 18446744073709551615, 0⟩, ⟨0, 18446744073709551615, 0⟩, ⟨0, 18446744073709551615, 0⟩, ⟨0, 18446744073709551615, 0⟩, ⟨0, 18446744073709551615, 0⟩]

def shuffle_BBBB_nprog : NProg := Prog.normProg Dalek.Gen.IfmaField.shuffle_BBBB Dalek.Model.Contracts.IfmaField.pre_shuffle_BBBB

theorem shuffle_BBBB_norm_ok : Prog.norm Dalek.Gen.IfmaField.shuffle_BBBB Dalek.Model.Contracts.IfmaField.pre_shuffle_BBBB = some (shuffle_BBBB_nprog, shuffle_BBBB_post) :=
  Prog.norm_eq_of_post (by decide +kernel)

def shuffle_BBBB_fn (x0 x1 x2 x3 x4 x5 x6 x7 x8 x9 x10 x11 x12 x13 x14 x15 x16 x17 x18 x19 : Int) : List Int :=
  [x1, x1, x1, x1, x5, x5, x5, x5, x9, x9, x9, x9, x13, x13, x13, x13, x17, x17, x17, x17]

theorem shuffle_BBBB_fn_ok (x0 x1 x2 x3 x4 x5 x6 x7 x8 x9 x10 x11 x12 x13 x14 x15 x16 x17 x18 x19 : Int) : NProg.evalZ shuffle_BBBB_nprog [x0, x1, x2, x3, x4, x5, x6, x7, x8, x9, x10, x11, x12, x13, x14, x15, x16, x17, x18, x19] = shuffle_BBBB_fn x0 x1 x2 x3 x4 x5 x6 x7 x8 x9 x10 x11 x12 x13 x14 x15 x16 x17 x18 x19 :=
  (NProg.evalZ_eq_fast _ _).trans (by kernel_rfl)

def reduced_shuffle_BBBB_post : List Itv := [⟨0, 18446744073709551615, 0⟩, ⟨0, 18446744073709551615, 0⟩, ⟨0, 18446744073709551615, 0⟩, ⟨0, 18446744073709551615, 0⟩, ⟨0, 18446744073709551615, 0⟩, ⟨0, 18446744073709551615, 0⟩, ⟨0, 18446744073709551615, 0⟩, ⟨0, 18446744073709551615, 0⟩, ⟨0, 18446744073709551615, 0⟩, ⟨0, 18446744073709551615, 0⟩, ⟨0, 18446744073709551615, 0⟩, ⟨0, 18446744073709551615, 0⟩, ⟨0, 18446744073709551615, 0⟩, ⟨0, 18446744073709551615, 0⟩, ⟨0, 18446744073709551615, 0⟩, ⟨0, 18446744073709551615, 0⟩, ⟨0, 18446744073709551615, 0⟩, ⟨0, 18446744073709551615, 0⟩, ⟨0, 18446744073709551615, 0⟩, ⟨0, 18446744073709551615, 0⟩]

def reduced_shuffle_BBBB_nprog : NProg := Prog.normProg Dalek.Gen.IfmaField.reduced_shuffle_BBBB Dalek.Model.Contracts.IfmaField.pre_reduced_shuffle_BBBB

theorem reduced_shuffle_BBBB_norm_ok : Prog.norm Dalek.Gen.IfmaField.reduced_shuffle_BBBB Dalek.Model.Contracts.IfmaField.pre_reduced_shuffle_BBBB = some (reduced_shuffle_BBBB_nprog, reduced_shuffle_BBBB_post) :=
  Prog.norm_eq_of_post (by decide +kernel)

def reduced_shuffle_BBBB_fn (x0 x1 x2 x3 x4 x5 x6 x7 x8 x9 x10 x11 x12 x13 x14 x15 x16 x17 x18 x19 : Int) : List Int :=
  [x1, x1, x1, x1, x5, x5, x5, x5, x9, x9, x9, x9, x13, x13, x13, x13, x17, x17, x17, x17]

theorem reduced_shuffle_BBBB_fn_ok (x0 x1 x2 x3 x4 x5 x6 x7 x8 x9 x10 x11 x12 x13 x14 x15 x16 x17 x18 x19 : Int) : NProg.evalZ reduced_shuffle_BBBB_nprog [x0, x1, x2, x3, x4, x5, x6, x7, x8, x9, x10, x11, x12, x13, x14, x15, x16, x17, x18, x19] = reduced_shuffle_BBBB_fn x0 x1 x2 x3 x4 x5 x6 x7 x8 x9 x10 x11 x12 x13 x14 x15 x16 x17 x18 x19 :=
  (NProg.evalZ_eq_fast _ _).trans (by kernel_rfl)

def shuffle_BADC_post : List Itv := [⟨0, 18446744073709551615, 0⟩, ⟨0, 18446744073709551615, 0⟩, ⟨0, 18446744073709551615, 0⟩, ⟨0, 18446744073709551615, 0⟩, ⟨0, 18446744073709551615, 0⟩, ⟨0, 18446744073709551615, 0⟩, ⟨0, 18446744073709551615, 0⟩, ⟨0, 18446744073709551615, 0⟩, ⟨0, 18446744073709551615, 0⟩, ⟨0, 18446744073709551615, 0⟩, ⟨0, 18446744073709551615, 0⟩, ⟨0, 18446744073709551615, 0⟩, ⟨0, 18446744073709551615, 0⟩, ⟨0, 18446744073709551615, 0⟩, ⟨0, 18446744073709551615, 0⟩, ⟨0, 18446744073709551615, 0⟩, ⟨0, 18446744073709551615, 0⟩, ⟨0, 18446744073709551615, 0⟩, ⟨0, 18446744073709551615, 0⟩, ⟨0, 18446744073709551615, 0⟩]

def shuffle_BADC_nprog : NProg := Prog.normProg Dalek.Gen.IfmaField.shuffle_BADC Dalek.Model.Contracts.IfmaField.pre_shuffle_BADC

theorem shuffle_BADC_norm_ok : Prog.norm Dalek.Gen.IfmaField.shuffle_BADC Dalek.Model.Contracts.IfmaField.pre_shuffle_BADC = some (shuffle_BADC_nprog, shuffle_BADC_post) :=
  Prog.norm_eq_of_post (by decide +kernel)

def shuffle_BADC_fn (x0 x1 x2 x3 x4 x5 x6 x7 x8 x9 x10 x11 x12 x13 x14 x15 x16 x17 x18 x19 : Int) : List Int :=
  [x1, x0, x3, x2, x5, x4, x7, x6, x9, x8, x11, x10, x13, x12, x15, x14, x17, x16, x19, x18]

theorem shuffle_BADC_fn_ok (x0 x1 x2 x3 x4 x5 x6 x7 x8 x9 x10 x11 x12 x13 x14 x15 x16 x17 x18 x19 : Int) : NProg.evalZ shuffle_BADC_nprog [x0, x1, x2, x3, x4, x5, x6, x7, x8, x9, x10, x11, x12, x13, x14, x15, x16, x17, x18, x19] = shuffle_BADC_fn x0 x1 x2 x3 x4 x5 x6 x7 x8 x9 x10 x11 x12 x13 x14 x15 x16 x17 x18 x19 :=
  (NProg.evalZ_eq_fast _ _).trans (by kernel_rfl)

def reduced_shuffle_BADC_post : List Itv := [⟨0, 18446744073709551615, 0⟩, ⟨0, 18446744073709551615, 0⟩, ⟨0, 18446744073709551615, 0⟩, ⟨0, 18446744073709551615, 0⟩, ⟨0, 18446744073709551615, 0⟩, ⟨0, 18446744073709551615, 0⟩, ⟨0, 18446744073709551615, 0⟩, ⟨0, 18446744073709551615, 0⟩, ⟨0, 18446744073709551615, 0⟩, ⟨0, 18446744073709551615, 0⟩, ⟨0, 18446744073709551615, 0⟩, ⟨0, 18446744073709551615, 0⟩, ⟨0, 18446744073709551615, 0⟩, ⟨0, 18446744073709551615, 0⟩, ⟨0, 18446744073709551615, 0⟩, ⟨0, 18446744073709551615, 0⟩, ⟨0, 18446744073709551615, 0⟩, ⟨0, 18446744073709551615, 0⟩, ⟨0, 18446744073709551615, 0⟩, ⟨0, 18446744073709551615, 0⟩]

def reduced_shuffle_BADC_nprog : NProg := Prog.normProg Dalek.Gen.IfmaField.reduced_shuffle_BADC Dalek.Model.Contracts.IfmaField.pre_reduced_shuffle_BADC

theorem reduced_shuffle_BADC_norm_ok : Prog.norm Dalek.Gen.IfmaField.reduced_shuffle_BADC Dalek.Model.Contracts.IfmaField.pre_reduced_shuffle_BADC = some (reduced_shuffle_BADC_nprog, reduced_shuffle_BADC_post) :=
  Prog.norm_eq_of_post (by decide +kernel)

def reduced_shuffle_BADC_fn (x0 x1 x2 x3 x4 x5 x6 x7 x8 x9 x10 x11 x12 x13 x14 x15 x16 x17 x18 x19 : Int) : List Int :=
  [x1, x0, x3, x2, x5, x4, x7, x6, x9, x8, x11, x10, x13, x12, x15, x14, x17, x16, x19, x18]

theorem reduced_shuffle_BADC_fn_ok (x0 x1 x2 x3 x4 x5 x6 x7 x8 x9 x10 x11 x12 x13 x14 x15 x16 x17 x18 x19 : Int) : NProg.evalZ reduced_shuffle_BADC_nprog [x0, x1, x2, x3, x4, x5, x6, x7, x8, x9, x10, x11, x12, x13, x14, x15, x16, x17, x18, x19] = reduced_shuffle_BADC_fn x0 x1 x2 x3 x4 x5 x6 x7 x8 x9 x10 x11 x12 x13 x14 x15 x16 x17 x18 x19 :=
  (NProg.evalZ_eq_fast _ _).trans (by kernel_rfl)

def shuffle_BACD_post : List Itv := [⟨0, 18446744073709551615, 0⟩, ⟨0, 18446744073709551615, 0⟩, ⟨0, 18446744073709551615, 0⟩, ⟨0, 18446744073709551615, 0⟩, ⟨0, 18446744073709551615, 0⟩, ⟨0, 18446744073709551615, 0⟩, ⟨0, 18446744073709551615, 0⟩, ⟨0, 18446744073709551615, 0⟩, ⟨0, 18446744073709551615, 0⟩, ⟨0, 18446744073709551615, 0⟩, ⟨0, 18446744073709551615, 0⟩, ⟨0, 18446744073709551615, 0⟩, ⟨0, 18446744073709551615, 0⟩, ⟨0, 18446744073709551615, 0⟩, ⟨0, 18446744073709551615, 0⟩, ⟨0, 18446744073709551615, 0⟩, ⟨0, 18446744073709551615, 0⟩, ⟨0, 18446744073709551615, 0⟩, ⟨0, 18446744073709551615, 0⟩, ⟨0, 18446744073709551615, 0⟩]

def shuffle_BACD_nprog : NProg := Prog.normProg Dalek.Gen.IfmaField.shuffle_BACD Dalek.Model.Contracts.IfmaField.pre_shuffle_BACD

theorem shuffle_BACD_norm_ok : Prog.norm Dalek.Gen.IfmaField.shuffle_BACD Dalek.Model.Contracts.IfmaField.pre_shuffle_BACD = some (shuffle_BACD_nprog, shuffle_BACD_post) :=
  Prog.norm_eq_of_post (by decide +kernel)

def shuffle_BACD_fn (x0 x1 x2 x3 x4 x5 x6 x7 x8 x9 x10 x11 x12 x13 x14 x15 x16 x17 x18 x19 : Int) : List Int :=
  [x1, x0, x2, x3, x5, x4, x6, x7, x9, x8, x10, x11, x13, x12, x14, x15, x17, x16, x18, x19]

theorem shuffle_BACD_fn_ok (x0 x1 x2 x3 x4 x5 x6 x7 x8 x9 x10 x11 x12 x13 x14 x15 x16 x17 x18 x19 : Int) : NProg.evalZ shuffle_BACD_nprog [x0, x1, x2, x3, x4, x5, x6, x7, x8, x9, x10, x11, x12, x13, x14, x15, x16, x17, x18, x19] = shuffle_BACD_fn x0 x1 x2 x3 x4 x5 x6 x7 x8 x9 x10 x11 x12 x13 x14 x15 x16 x17 x18 x19 :=
  (NProg.evalZ_eq_fast _ _).trans (by kernel_rfl)

def reduced_shuffle_BACD_post : List Itv := [⟨0, 18446744073709551615, 0⟩, ⟨0, 18446744073709551615, 0⟩, ⟨0, 18446744073709551615, 0⟩, ⟨0, 18446744073709551615, 0⟩, ⟨0, 18446744073709551615, 0⟩, ⟨0, 18446744073709551615, 0⟩, ⟨0, 18446744073709551615, 0⟩, ⟨0, 18446744073709551615, 0⟩, ⟨0, 18446744073709551615, 0⟩, ⟨0, 18446744073709551615, 0⟩, ⟨0, 18446744073709551615, 0⟩, ⟨0, 18446744073709551615, 0⟩, ⟨0, 18446744073709551615, 0⟩, ⟨0, 18446744073709551615, 0⟩, ⟨0, 18446744073709551615, 0⟩, ⟨0, 18446744073709551615, 0⟩, ⟨0, 18446744073709551615, 0⟩, ⟨0, 18446744073709551615, 0⟩, ⟨0, 18446744073709551615, 0⟩, ⟨0, 18446744073709551615, 0⟩]

def reduced_shuffle_BACD_nprog : NProg := Prog.normProg Dalek.Gen.IfmaField.reduced_shuffle_BACD Dalek.Model.Contracts.IfmaField.pre_reduced_shuffle_BACD

theorem reduced_shuffle_BACD_norm_ok : Prog.norm Dalek.Gen.IfmaField.reduced_shuffle_BACD Dalek.Model.Contracts.IfmaField.pre_reduced_shuffle_BACD = some (reduced_shuffle_BACD_nprog, reduced_shuffle_BACD_post) :=
  Prog.norm_eq_of_post (by decide +kernel)

def reduced_shuffle_BACD_fn (x0 x1 x2 x3 x4 x5 x6 x7 x8 x9 x10 x11 x12 x13 x14 x15 x16 x17 x18 x19 : Int) : List Int :=
  [x1, x0, x2, x3, x5, x4, x6, x7, x9, x8, x10, x11, x13, x12, x14, x15, x17, x16, x18, x19]

theorem reduced_shuffle_BACD_fn_ok (x0 x1 x2 x3 x4 x5 x6 x7 x8 x9 x10 x11 x12 x13 x14 x15 x16 x17 x18 x19 : Int) : NProg.evalZ reduced_shuffle_BACD_nprog [x0, x1, x2, x3, x4, x5, x6, x7, x8, x9, x10, x11, x12, x13, x14, x15, x16, x17, x18, x19] = reduced_shuffle_BACD_fn x0 x1 x2 x3 x4 x5 x6 x7 x8 x9 x10 x11 x12 x13 x14 x15 x16 x17 x18 x19 :=
  (NProg.evalZ_eq_fast _ _).trans (by kernel_rfl)

def shuffle_ADDA_post : List Itv := [⟨0, 18446744073709551615, 0⟩, ⟨0, 18446744073709551615, 0⟩, ⟨0, 18446744073709551615, 0⟩, ⟨0, 18446744073709551615, 0⟩, ⟨0, 18446744073709551615, 0⟩, ⟨0, 18446744073709551615, 0⟩, ⟨0, 18446744073709551615, 0⟩, ⟨0, 18446744073709551615, 0⟩, ⟨0, 18446744073709551615, 0⟩, ⟨0, 18446744073709551615, 0⟩, ⟨0, 18446744073709551615, 0⟩, ⟨0, 18446744073709551615, 0⟩, ⟨0, 18446744073709551615, 0⟩, ⟨0, 18446744073709551615, 0⟩, ⟨0, 18446744073709551615, 0⟩, ⟨0, 18446744073709551615, 0⟩, ⟨0, 18446744073709551615, 0⟩, ⟨0, 18446744073709551615, 0⟩, ⟨0, 18446744073709551615, 0⟩, ⟨0, 18446744073709551615, 0⟩]

def shuffle_ADDA_nprog : NProg := Prog.normProg Dalek.Gen.IfmaField.shuffle_ADDA Dalek.Model.Contracts.IfmaField.pre_shuffle_ADDA

theorem shuffle_ADDA_norm_ok : Prog.norm Dalek.Gen.IfmaField.shuffle_ADDA Dalek.Model.Contracts.IfmaField.pre_shuffle_ADDA = some (shuffle_ADDA_nprog, shuffle_ADDA_post) :=
  Prog.norm_eq_of_post (by decide +kernel)

def shuffle_ADDA_fn (x0 x1 x2 x3 x4 x5 x6 x7 x8 x9 x10 x11 x12 x13 x14 x15 x16 x17 x18 x19 : Int) : List Int :=
  [x0, x3, x3, x0, x4, x7, x7, x4, x8, x11, x11, x8, x12, x15, x15, x12, x16, x19, x19, x16]

theorem shuffle_ADDA_fn_ok (x0 x1 x2 x3 x4 x5 x6 x7 x8 x9 x10 x11 x12 x13 x14 x15 x16 x17 x18 x19 : Int) : NProg.evalZ shuffle_ADDA_nprog [x0, x1, x2, x3, x4, x5, x6, x7, x8, x9, x10, x11, x12, x13, x14, x15, x16, x17, x18, x19] = shuffle_ADDA_fn x0 x1 x2 x3 x4 x5 x6 x7 x8 x9 x10 x11 x12 x13 x14 x15 x16 x17 x18 x19 :=
  (NProg.evalZ_eq_fast _ _).trans (by kernel_rfl)

def reduced_shuffle_ADDA_post : List Itv := [⟨0, 18446744073709551615, 0⟩, ⟨0, 18446744073709551615, 0⟩, ⟨0, 18446744073709551615, 0⟩, ⟨0, 18446744073709551615, 0⟩, ⟨0, 18446744073709551615, 0⟩, ⟨0, 18446744073709551615, 0⟩, ⟨0, 18446744073709551615, 0⟩, ⟨0, 18446744073709551615, 0⟩, ⟨0, 18446744073709551615, 0⟩, ⟨0, 18446744073709551615, 0⟩, ⟨0, 18446744073709551615, 0⟩, ⟨0, 18446744073709551615, 0⟩, ⟨0, 18446744073709551615, 0⟩, ⟨0, 18446744073709551615, 0⟩, ⟨0, 18446744073709551615, 0⟩, ⟨0, 18446744073709551615, 0⟩, ⟨0, 18446744073709551615, 0⟩, ⟨0, 18446744073709551615, 0⟩, ⟨0, 18446744073709551615, 0⟩, ⟨0, 18446744073709551615, 0⟩]

def reduced_shuffle_ADDA_nprog : NProg := Prog.normProg Dalek.Gen.IfmaField.reduced_shuffle_ADDA Dalek.Model.Contracts.IfmaField.pre_reduced_shuffle_ADDA

theorem reduced_shuffle_ADDA_norm_ok : Prog.norm Dalek.Gen.IfmaField.reduced_shuffle_ADDA Dalek.Model.Contracts.IfmaField.pre_reduced_shuffle_ADDA = some (reduced_shuffle_ADDA_nprog, reduced_shuffle_ADDA_post) :=
  Prog.norm_eq_of_post (by decide +kernel)

def reduced_shuffle_ADDA_fn (x0 x1 x2 x3 x4 x5 x6 x7 x8 x9 x10 x11 x12 x13 x14 x15 x16 x17 x18 x19 : Int) : List Int :=
  [x0, x3, x3, x0, x4, x7, x7, x4, x8, x11, x11, x8, x12, x15, x15, x12, x16, x19, x19, x16]

theorem reduced_shuffle_ADDA_fn_ok (x0 x1 x2 x3 x4 x5 x6 x7 x8 x9 x10 x11 x12 x13 x14 x15 x16 x17 x18 x19 : Int) : NProg.evalZ reduced_shuffle_ADDA_nprog [x0, x1, x2, x3, x4, x5, x6, x7, x8, x9, x10, x11, x12, x13, x14, x15, x16, x17, x18, x19] = reduced_shuffle_ADDA_fn x0 x1 x2 x3 x4 x5 x6 x7 x8 x9 x10 x11 x12 x13 x14 x15 x16 x17 x18 x19 :=
  (NProg.evalZ_eq_fast _ _).trans (by kernel_rfl)

def shuffle_CBCB_post : List Itv := [⟨0, 18446744073709551615, 0⟩, ⟨0, 18446744073709551615, 0⟩, ⟨0, 18446744073709551615, 0⟩, ⟨0, 18446744073709551615, 0⟩, ⟨0, 18446744073709551615, 0⟩, ⟨0, 18446744073709551615, 0⟩, ⟨0, 18446744073709551615, 0⟩, ⟨0, 18446744073709551615, 0⟩, ⟨0, 18446744073709551615, 0⟩, ⟨0, 18446744073709551615, 0⟩, ⟨0, 18446744073709551615, 0⟩, ⟨0, 18446744073709551615, 0⟩, ⟨0, 18446744073709551615, 0⟩, ⟨0, 18446744073709551615, 0⟩, ⟨0, 18446744073709551615, 0⟩, ⟨0, 18446744073709551615, 0⟩, ⟨0, 18446744073709551615, 0⟩, ⟨0, 18446744073709551615, 0⟩, ⟨0, 18446744073709551615, 0⟩, ⟨0, 18446744073709551615, 0⟩]

def shuffle_CBCB_nprog : NProg := Prog.normProg Dalek.Gen.IfmaField.shuffle_CBCB Dalek.Model.Contracts.IfmaField.pre_shuffle_CBCB

theorem shuffle_CBCB_norm_ok : Prog.norm Dalek.Gen.IfmaField.shuffle_CBCB Dalek.Model.Contracts.IfmaField.pre_shuffle_CBCB = some (shuffle_CBCB_nprog, shuffle_CBCB_post) :=
  Prog.norm_eq_of_post (by decide +kernel)

def shuffle_CBCB_fn (x0 x1 x2 x3 x4 x5 x6 x7 x8 x9 x10 x11 x12 x13 x14 x15 x16 x17 x18 x19 : Int) : List Int :=
  [x2, x1, x2, x1, x6, x5, x6, x5, x10, x9, x10, x9, x14, x13, x14, x13, x18, x17, x18, x17]

theorem shuffle_CBCB_fn_ok (x0 x1 x2 x3 x4 x5 x6 x7 x8 x9 x10 x11 x12 x13 x14 x15 x16 x17 x18 x19 : Int) : NProg.evalZ shuffle_CBCB_nprog [x0, x1, x2, x3, x4, x5, x6, x7, x8, x9, x10, x11, x12, x13, x14, x15, x16, x17, x18, x19] = shuffle_CBCB_fn x0 x1 x2 x3 x4 x5 x6 x7 x8 x9 x10 x11 x12 x13 x14 x15 x16 x17 x18 x19 :=
  (NProg.evalZ_eq_fast _ _).trans (by kernel_rfl)

def reduced_shuffle_CBCB_post : List Itv := [⟨0, 18446744073709551615, 0⟩, ⟨0, 18446744073709551615, 0⟩, ⟨0, 18446744073709551615, 0⟩, ⟨0, 18446744073709551615, 0⟩, ⟨0, 18446744073709551615, 0⟩, ⟨0, 18446744073709551615, 0⟩, ⟨0, 18446744073709551615, 0⟩, ⟨0, 18446744073709551615, 0⟩, ⟨0, 18446744073709551615, 0⟩, ⟨0, 18446744073709551615, 0⟩, ⟨0, 18446744073709551615, 0⟩, ⟨0, 18446744073709551615, 0⟩, ⟨0, 18446744073709551615, 0⟩, ⟨0, 18446744073709551615, 0⟩, ⟨0, 18446744073709551615, 0⟩, ⟨0, 18446744073709551615, 0⟩, ⟨0, 18446744073709551615, 0⟩, ⟨0, 18446744073709551615, 0⟩, ⟨0, 18446744073709551615, 0⟩, ⟨0, 18446744073709551615, 0⟩]

def reduced_shuffle_CBCB_nprog : NProg := Prog.normProg Dalek.Gen.IfmaField.reduced_shuffle_CBCB Dalek.Model.Contracts.IfmaField.pre_reduced_shuffle_CBCB

theorem reduced_shuffle_CBCB_norm_ok : Prog.norm Dalek.Gen.IfmaField.reduced_shuffle_CBCB Dalek.Model.Contracts.IfmaField.pre_reduced_shuffle_CBCB = some (reduced_shuffle_CBCB_nprog, reduced_shuffle_CBCB_post) :=
  Prog.norm_eq_of_post (by decide +kernel)

def reduced_shuffle_CBCB_fn (x0 x1 x2 x3 x4 x5 x6 x7 x8 x9 x10 x11 x12 x13 x14 x15 x16 x17 x18 x19 : Int) : List Int :=
  [x2, x1, x2, x1, x6, x5, x6, x5, x10, x9, x10, x9, x14, x13, x14, x13, x18, x17, x18, x17]

theorem reduced_shuffle_CBCB_fn_ok (x0 x1 x2 x3 x4 x5 x6 x7 x8 x9 x10 x11 x12 x13 x14 x15 x16 x17 x18 x19 : Int) : NProg.evalZ reduced_shuffle_CBCB_nprog [x0, x1, x2, x3, x4, x5, x6, x7, x8, x9, x10, x11, x12, x13, x14, x15, x16, x17, x18, x19] = reduced_shuffle_CBCB_fn x0 x1 x2 x3 x4 x5 x6 x7 x8 x9 x10 x11 x12 x13 x14 x15 x16 x17 x18 x19 :=
  (NProg.evalZ_eq_fast _ _).trans (by kernel_rfl)

def shuffle_ABDC_post : List Itv := [⟨0, 18446744073709551615, 0⟩, ⟨0, 18446744073709551615, 0⟩, ⟨0, 18446744073709551615, 0⟩, ⟨0, 18446744073709551615, 0⟩, ⟨0, 18446744073709551615, 0⟩, ⟨0, 18446744073709551615, 0⟩, ⟨0, 18446744073709551615, 0⟩, ⟨0, 18446744073709551615, 0⟩, ⟨0, 18446744073709551615, 0⟩, ⟨0, 18446744073709551615, 0⟩, ⟨0, 18446744073709551615, 0⟩, ⟨0, 18446744073709551615, 0⟩, ⟨0, 18446744073709551615, 0⟩, ⟨0, 18446744073709551615, 0⟩, ⟨0, 18446744073709551615, 0⟩, ⟨0, 18446744073709551615, 0⟩, ⟨0, 18446744073709551615, 0⟩, ⟨0, 18446744073709551615, 0⟩, ⟨0, 18446744073709551615, 0⟩, ⟨0, 18446744073709551615, 0⟩]

def shuffle_ABDC_nprog : NProg := Prog.normProg Dalek.Gen.IfmaField.shuffle_ABDC Dalek.Model.Contracts.IfmaField.pre_shuffle_ABDC

theorem shuffle_ABDC_norm_ok : Prog.norm Dalek.Gen.IfmaField.shuffle_ABDC Dalek.Model.Contracts.IfmaField.pre_shuffle_ABDC = some (shuffle_ABDC_nprog, shuffle_ABDC_post) :=
  Prog.norm_eq_of_post (by decide +kernel)

def shuffle_ABDC_fn (x0 x1 x2 x3 x4 x5 x6 x7 x8 x9 x10 x11 x12 x13 x14 x15 x16 x17 x18 x19 : Int) : List Int :=
  [x0, x1, x3, x2, x4, x5, x7, x6, x8, x9, x11, x10, x12, x13, x15, x14, x16, x17, x19, x18]

theorem shuffle_ABDC_fn_ok (x0 x1 x2 x3 x4 x5 x6 x7 x8 x9 x10 x11 x12 x13 x14 x15 x16 x17 x18 x19 : Int) : NProg.evalZ shuffle_ABDC_nprog [x0, x1, x2, x3, x4, x5, x6, x7, x8, x9, x10, x11, x12, x13, x14, x15, x16, x17, x18, x19] = shuffle_ABDC_fn x0 x1 x2 x3 x4 x5 x6 x7 x8 x9 x10 x11 x12 x13 x14 x15 x16 x17 x18 x19 :=
  (NProg.evalZ_eq_fast _ _).trans (by kernel_rfl)

def reduced_shuffle_ABDC_post : List Itv := [⟨0, 18446744073709551615, 0⟩, ⟨0, 18446744073709551615, 0⟩, ⟨0, 18446744073709551615, 0⟩, ⟨0, 18446744073709551615, 0⟩, ⟨0, 18446744073709551615, 0⟩, ⟨0, 18446744073709551615, 0⟩, ⟨0, 18446744073709551615, 0⟩, ⟨0, 18446744073709551615, 0⟩, ⟨0, 18446744073709551615, 0⟩, ⟨0, 18446744073709551615, 0⟩, ⟨0, 18446744073709551615, 0⟩, ⟨0, 18446744073709551615, 0⟩, ⟨0, 18446744073709551615, 0⟩, ⟨0, 18446744073709551615, 0⟩, ⟨0, 18446744073709551615, 0⟩, ⟨0, 18446744073709551615, 0⟩, ⟨0, 18446744073709551615, 0⟩, ⟨0, 18446744073709551615, 0⟩, ⟨0, 18446744073709551615, 0⟩, ⟨0, 18446744073709551615, 0⟩]

def reduced_shuffle_ABDC_nprog : NProg := Prog.normProg Dalek.Gen.IfmaField.reduced_shuffle_ABDC Dalek.Model.Contracts.IfmaField.pre_reduced_shuffle_ABDC

theorem reduced_shuffle_ABDC_norm_ok : Prog.norm Dalek.Gen.IfmaField.reduced_shuffle_ABDC Dalek.Model.Contracts.IfmaField.pre_reduced_shuffle_ABDC = some (reduced_shuffle_ABDC_nprog, reduced_shuffle_ABDC_post) :=
  Prog.norm_eq_of_post (by decide +kernel)

def reduced_shuffle_ABDC_fn (x0 x1 x2 x3 x4 x5 x6 x7 x8 x9 x10 x11 x12 x13 x14 x15 x16 x17 x18 x19 : Int) : List Int :=
  [x0, x1, x3, x2, x4, x5, x7, x6, x8, x9, x11, x10, x12, x13, x15, x14, x16, x17, x19, x18]

theorem reduced_shuffle_ABDC_fn_ok (x0 x1 x2 x3 x4 x5 x6 x7 x8 x9 x10 x11 x12 x13 x14 x15 x16 x17 x18 x19 : Int) : NProg.evalZ reduced_shuffle_ABDC_nprog [x0, x1, x2, x3, x4, x5, x6, x7, x8, x9, x10, x11, x12, x13, x14, x15, x16, x17, x18, x19] = reduced_shuffle_ABDC_fn x0 x1 x2 x3 x4 x5 x6 x7 x8 x9 x10 x11 x12 x13 x14 x15 x16 x17 x18 x19 :=
  (NProg.evalZ_eq_fast _ _).trans (by kernel_rfl)

def shuffle_ABAB_post : List Itv := [⟨0, 18446744073709551615, 0⟩, ⟨0, 18446744073709551615, 0⟩, ⟨0, 18446744073709551615, 0⟩, ⟨0, 18446744073709551615, 0⟩, ⟨0, 18446744073709551615, 0⟩, ⟨0, 18446744073709551615, 0⟩, ⟨0, 18446744073709551615, 0⟩, ⟨0, 18446744073709551615, 0⟩, ⟨0, 18446744073709551615, 0⟩, ⟨0, 18446744073709551615, 0⟩, ⟨0, 18446744073709551615, 0⟩, ⟨0, 18446744073709551615, 0⟩, ⟨0, 18446744073709551615, 0⟩, ⟨0, 18446744073709551615, 0⟩, ⟨0, 18446744073709551615, 0⟩, ⟨0, 18446744073709551615, 0⟩, ⟨0, 18446744073709551615, 0⟩, ⟨0, 18446744073709551615, 0⟩, ⟨0, 18446744073709551615, 0⟩, ⟨0, 18446744073709551615, 0⟩]

def shuffle_ABAB_nprog : NProg := Prog.normProg Dalek.Gen.IfmaField.shuffle_ABAB Dalek.Model.Contracts.IfmaField.pre_shuffle_ABAB

theorem shuffle_ABAB_norm_ok : Prog.norm Dalek.Gen.IfmaField.shuffle_ABAB Dalek.Model.Contracts.IfmaField.pre_shuffle_ABAB = some (shuffle_ABAB_nprog, shuffle_ABAB_post) :=
  Prog.norm_eq_of_post (by decide +kernel)

def shuffle_ABAB_fn (x0 x1 x2 x3 x4 x5 x6 x7 x8 x9 x10 x11 x12 x13 x14 x15 x16 x17 x18 x19 : Int) : List Int :=
  [x0, x1, x0, x1, x4, x5, x4, x5, x8, x9, x8, x9, x12, x13, x12, x13, x16, x17, x16, x17]

theorem shuffle_ABAB_fn_ok (x0 x1 x2 x3 x4 x5 x6 x7 x8 x9 x10 x11 x12 x13 x14 x15 x16 x17 x18 x19 : Int) : NProg.evalZ shuffle_ABAB_nprog [x0, x1, x2, x3, x4, x5, x6, x7, x8, x9, x10, x11, x12, x13, x14, x15, x16, x17, x18, x19] = shuffle_ABAB_fn x0 x1 x2 x3 x4 x5 x6 x7 x8 x9 x10 x11 x12 x13 x14 x15 x16 x17 x18 x19 :=
  (NProg.evalZ_eq_fast _ _).trans (by kernel_rfl)

def reduced_shuffle_ABAB_post : List Itv := [⟨0, 18446744073709551615, 0⟩, ⟨0, 18446744073709551615, 0⟩, ⟨0, 18446744073709551615, 0⟩, ⟨0, 18446744073709551615, 0⟩, ⟨0, 18446744073709551615, 0⟩, ⟨0, 18446744073709551615, 0⟩, ⟨0, 18446744073709551615, 0⟩, ⟨0, 18446744073709551615, 0⟩, ⟨0, 18446744073709551615, 0⟩, ⟨0, 18446744073709551615, 0⟩, ⟨0, 18446744073709551615, 0⟩, ⟨0, 18446744073709551615, 0⟩, ⟨0, 18446744073709551615, 0⟩, ⟨0, 18446744073709551615, 0⟩, ⟨0, 18446744073709551615, 0⟩, ⟨0, 18446744073709551615, 0⟩, ⟨0, 18446744073709551615, 0⟩, ⟨0, 18446744073709551615, 0⟩, ⟨0, 18446744073709551615, 0⟩, ⟨0, 18446744073709551615, 0⟩]

def reduced_shuffle_ABAB_nprog : NProg := Prog.normProg Dalek.Gen.IfmaField.reduced_shuffle_ABAB Dalek.Model.Contracts.IfmaField.pre_reduced_shuffle_ABAB

theorem reduced_shuffle_ABAB_norm_ok : Prog.norm Dalek.Gen.IfmaField.reduced_shuffle_ABAB Dalek.Model.Contracts.IfmaField.pre_reduced_shuffle_ABAB = some (reduced_shuffle_ABAB_nprog, reduced_shuffle_ABAB_post) :=
  Prog.norm_eq_of_post (by decide +kernel)

def reduced_shuffle_ABAB_fn (x0 x1 x2 x3 x4 x5 x6 x7 x8 x9 x10 x11 x12 x13 x14 x15 x16 x17 x18 x19 : Int) : List Int :=
  [x0, x1, x0, x1, x4, x5, x4, x5, x8, x9, x8, x9, x12, x13, x12, x13, x16, x17, x16, x17]

theorem reduced_shuffle_ABAB_fn_ok (x0 x1 x2 x3 x4 x5 x6 x7 x8 x9 x10 x11 x12 x13 x14 x15 x16 x17 x18 x19 : Int) : NProg.evalZ reduced_shuffle_ABAB_nprog [x0, x1, x2, x3, x4, x5, x6, x7, x8, x9, x10, x11, x12, x13, x14, x15, x16, x17, x18, x19] = reduced_shuffle_ABAB_fn x0 x1 x2 x3 x4 x5 x6 x7 x8 x9 x10 x11 x12 x13 x14 x15 x16 x17 x18 x19 :=
  (NProg.evalZ_eq_fast _ _).trans (by kernel_rfl)

def shuffle_DBBD_post : List Itv := [⟨0, 18446744073709551615, 0⟩, ⟨0, 18446744073709551615, 0⟩, ⟨0, 18446744073709551615, 0⟩, ⟨0, 18446744073709551615, 0⟩, ⟨0, 18446744073709551615, 0⟩, ⟨0, 18446744073709551615, 0⟩, ⟨0, 18446744073709551615, 0⟩, ⟨0, 18446744073709551615, 0⟩, ⟨0, 18446744073709551615, 0⟩, ⟨0, 18446744073709551615, 0⟩, ⟨0, 18446744073709551615, 0⟩, ⟨0, 18446744073709551615, 0⟩, ⟨0, 18446744073709551615, 0⟩, ⟨0, 18446744073709551615, 0⟩, ⟨0, 18446744073709551615, 0⟩, ⟨0, 18446744073709551615, 0⟩, ⟨0, 18446744073709551615, 0⟩, ⟨0, 18446744073709551615, 0⟩, ⟨0, 18446744073709551615, 0⟩, ⟨0, 18446744073709551615, 0⟩]

def shuffle_DBBD_nprog : NProg := Prog.normProg Dalek.Gen.IfmaField.shuffle_DBBD Dalek.Model.Contracts.IfmaField.pre_shuffle_DBBD

theorem shuffle_DBBD_norm_ok : Prog.norm Dalek.Gen.IfmaField.shuffle_DBBD Dalek.Model.Contracts.IfmaField.pre_shuffle_DBBD = some (shuffle_DBBD_nprog, shuffle_DBBD_post) :=
  Prog.norm_eq_of_post (by decide +kernel)

def shuffle_DBBD_fn (x0 x1 x2 x3 x4 x5 x6 x7 x8 x9 x10 x11 x12 x13 x14 x15 x16 x17 x18 x19 : Int) : List Int :=
  [x3, x1, x1, x3, x7, x5, x5, x7, x11, x9, x9, x11, x15, x13, x13, x15, x19, x17, x17, x19]

theorem shuffle_DBBD_fn_ok (x0 x1 x2 x3 x4 x5 x6 x7 x8 x9 x10 x11 x12 x13 x14 x15 x16 x17 x18 x19 : Int) : NProg.evalZ shuffle_DBBD_nprog [x0, x1, x2, x3, x4, x5, x6, x7, x8, x9, x10, x11, x12, x13, x14, x15, x16, x17, x18, x19] = shuffle_DBBD_fn x0 x1 x2 x3 x4 x5 x6 x7 x8 x9 x10 x11 x12 x13 x14 x15 x16 x17 x18 x19 :=
  (NProg.evalZ_eq_fast _ _).trans (by kernel_rfl)

def reduced_shuffle_DBBD_post : List Itv := [⟨0, 18446744073709551615, 0⟩, ⟨0, 18446744073709551615, 0⟩, ⟨0, 18446744073709551615, 0⟩, ⟨0, 18446744073709551615, 0⟩, ⟨0, 18446744073709551615, 0⟩, ⟨0, 18446744073709551615, 0⟩, ⟨0, 18446744073709551615, 0⟩, ⟨0, 18446744073709551615, 0⟩, ⟨0, 18446744073709551615, 0⟩, ⟨0, 18446744073709551615, 0⟩, ⟨0, 18446744073709551615, 0⟩, ⟨0, 18446744073709551615, 0⟩, ⟨0, 18446744073709551615, 0⟩, ⟨0, 18446744073709551615, 0⟩, ⟨0, 18446744073709551615, 0⟩, ⟨0, 18446744073709551615, 0⟩, ⟨0, 18446744073709551615, 0⟩, ⟨0, 18446744073709551615, 0⟩, ⟨0, 18446744073709551615, 0⟩, ⟨0, 18446744073709551615, 0⟩]

def reduced_shuffle_DBBD_nprog : NProg := Prog.normProg Dalek.Gen.IfmaField.reduced_shuffle_DBBD Dalek.Model.Contracts.IfmaField.pre_reduced_shuffle_DBBD

theorem reduced_shuffle_DBBD_norm_ok : Prog.norm Dalek.Gen.IfmaField.reduced_shuffle_DBBD Dalek.Model.Contracts.IfmaField.pre_reduced_shuffle_DBBD = some (reduced_shuffle_DBBD_nprog, reduced_shuffle_DBBD_post) :=
  Prog.norm_eq_of_post (by decide +kernel)

def reduced_shuffle_DBBD_fn (x0 x1 x2 x3 x4 x5 x6 x7 x8 x9 x10 x11 x12 x13 x14 x15 x16 x17 x18 x19 : Int) : List Int :=
  [x3, x1, x1, x3, x7, x5, x5, x7, x11, x9, x9, x11, x15, x13, x13, x15, x19, x17, x17, x19]

theorem reduced_shuffle_DBBD_fn_ok (x0 x1 x2 x3 x4 x5 x6 x7 x8 x9 x10 x11 x12 x13 x14 x15 x16 x17 x18 x19 : Int) : NProg.evalZ reduced_shuffle_DBBD_nprog [x0, x1, x2, x3, x4, x5, x6, x7, x8, x9, x10, x11, x12, x13, x14, x15, x16, x17, x18, x19] = reduced_shuffle_DBBD_fn x0 x1 x2 x3 x4 x5 x6 x7 x8 x9 x10 x11 x12 x13 x14 x15 x16 x17 x18 x19 :=
  (NProg.evalZ_eq_fast _ _).trans (by kernel_rfl)

def shuffle_CACA_post : List Itv := [⟨0, 18446744073709551615, 0⟩, ⟨0, 18446744073709551615, 0⟩, ⟨0, 18446744073709551615, 0⟩, ⟨0, 18446744073709551615, 0⟩, ⟨0, 18446744073709551615, 0⟩, ⟨0, 18446744073709551615, 0⟩, ⟨0, 18446744073709551615, 0⟩, ⟨0, 18446744073709551615, 0⟩, ⟨0, 18446744073709551615, 0⟩, ⟨0, 18446744073709551615, 0⟩, ⟨0, 18446744073709551615, 0⟩, ⟨0, 18446744073709551615, 0⟩, ⟨0, 18446744073709551615, 0⟩, ⟨0, 18446744073709551615, 0⟩, ⟨0, 18446744073709551615, 0⟩, ⟨0, 18446744073709551615, 0⟩, ⟨0, 18446744073709551615, 0⟩, ⟨0, 18446744073709551615, 0⟩, ⟨0, 18446744073709551615, 0⟩, ⟨0, 18446744073709551615, 0⟩]

def shuffle_CACA_nprog : NProg := Prog.normProg Dalek.Gen.IfmaField.shuffle_CACA Dalek.Model.Contracts.IfmaField.pre_shuffle_CACA

theorem shuffle_CACA_norm_ok : Prog.norm Dalek.Gen.IfmaField.shuffle_CACA Dalek.Model.Contracts.IfmaField.pre_shuffle_CACA = some (shuffle_CACA_nprog, shuffle_CACA_post) :=
  Prog.norm_eq_of_post (by decide +kernel)

def shuffle_CACA_fn (x0 x1 x2 x3 x4 x5 x6 x7 x8 x9 x10 x11 x12 x13 x14 x15 x16 x17 x18 x19 : Int) : List Int :=
  [x2, x0, x2, x0, x6, x4, x6, x4, x10, x8, x10, x8, x14, x12, x14, x12, x18, x16, x18, x16]

theorem shuffle_CACA_fn_ok (x0 x1 x2 x3 x4 x5 x6 x7 x8 x9 x10 x11 x12 x13 x14 x15 x16 x17 x18 x19 : Int) : NProg.evalZ shuffle_CACA_nprog [x0, x1, x2, x3, x4, x5, x6, x7, x8, x9, x10, x11, x12, x13, x14, x15, x16, x17, x18, x19] = shuffle_CACA_fn x0 x1 x2 x3 x4 x5 x6 x7 x8 x9 x10 x11 x12 x13 x14 x15 x16 x17 x18 x19 :=
  (NProg.evalZ_eq_fast _ _).trans (by kernel_rfl)

def reduced_shuffle_CACA_post : List Itv := [⟨0, 18446744073709551615, 0⟩, ⟨0, 18446744073709551615, 0⟩, ⟨0, 18446744073709551615, 0⟩, ⟨0, 18446744073709551615, 0⟩, ⟨0, 18446744073709551615, 0⟩, ⟨0, 18446744073709551615, 0⟩, ⟨0, 18446744073709551615, 0⟩, ⟨0, 18446744073709551615, 0⟩, ⟨0, 18446744073709551615, 0⟩, ⟨0, 18446744073709551615, 0⟩, ⟨0, 18446744073709551615, 0⟩, ⟨0, 18446744073709551615, 0⟩, ⟨0, 18446744073709551615, 0⟩, ⟨0, 18446744073709551615, 0⟩, ⟨0, 18446744073709551615, 0⟩, ⟨0, 18446744073709551615, 0⟩, ⟨0, 18446744073709551615, 0⟩, ⟨0, 18446744073709551615, 0⟩, ⟨0, 18446744073709551615, 0⟩, ⟨0, 18446744073709551615, 0⟩]

def reduced_shuffle_CACA_nprog : NProg := Prog.normProg Dalek.Gen.IfmaField.reduced_shuffle_CACA Dalek.Model.Contracts.IfmaField.pre_reduced_shuffle_CACA

theorem reduced_shuffle_CACA_norm_ok : Prog.norm Dalek.Gen.IfmaField.reduced_shuffle_CACA Dalek.Model.Contracts.IfmaField.pre_reduced_shuffle_CACA = some (reduced_shuffle_CACA_nprog, reduced_shuffle_CACA_post) :=
  Prog.norm_eq_of_post (by decide +kernel)

def reduced_shuffle_CACA_fn (x0 x1 x2 x3 x4 x5 x6 x7 x8 x9 x10 x11 x12 x13 x14 x15 x16 x17 x18 x19 : Int) : List Int :=
  [x2, x0, x2, x0, x6, x4, x6, x4, x10, x8, x10, x8, x14, x12, x14, x12, x18, x16, x18, x16]

theorem reduced_shuffle_CACA_fn_ok (x0 x1 x2 x3 x4 x5 x6 x7 x8 x9 x10 x11 x12 x13 x14 x15 x16 x17 x18 x19 : Int) : NProg.evalZ reduced_shuffle_CACA_nprog [x0, x1, x2, x3, x4, x5, x6, x7, x8, x9, x10, x11, x12, x13, x14, x15, x16, x17, x18, x19] = reduced_shuffle_CACA_fn x0 x1 x2 x3 x4 x5 x6 x7 x8 x9 x10 x11 x12 x13 x14 x15 x16 x17 x18 x19 :=
  (NProg.evalZ_eq_fast _ _).trans (by kernel_rfl)

def blend_D_post : List Itv := [⟨0, 18446744073709551615, 0⟩, ⟨0, 18446744073709551615, 0⟩, ⟨0, 18446744073709551615, 0⟩, ⟨0, 18446744073709551615, 0⟩, ⟨0, 18446744073709551615, 0⟩, ⟨0, 18446744073709551615, 0⟩, ⟨0, 18446744073709551615, 0⟩, ⟨0, 18446744073709551615, 0⟩, ⟨0, 18446744073709551615, 0⟩, ⟨0, 18446744073709551615, 0⟩, ⟨0, 18446744073709551615, 0⟩, ⟨0, 18446744073709551615, 0⟩, ⟨0, 18446744073709551615, 0⟩, ⟨0, 18446744073709551615, 0⟩, ⟨0, 18446744073709551615, 0⟩, ⟨0, 18446744073709551615, 0⟩, ⟨0, 18446744073709551615, 0⟩, ⟨0, 18446744073709551615, 0⟩, ⟨0, 18446744073709551615, 0⟩, ⟨0, 18446744073709551615, 0⟩]

def blend_D_nprog : NProg := Prog.normProg Dalek.Gen.IfmaField.blend_D Dalek.Model.Contracts.IfmaField.pre_blend_D

theorem blend_D_norm_ok : Prog.norm Dalek.Gen.IfmaField.blend_D Dalek.Model.Contracts.IfmaField.pre_blend_D = some (blend_D_nprog, blend_D_post) :=
  Prog.norm_eq_of_post (by decide +kernel)

def blend_D_fn (x0 x1 x2 x3 x4 x5 x6 x7 x8 x9 x10 x11 x12 x13 x14 x15 x16 x17 x18 x19 x20 x21 x22 x23 x24 x25 x26 x27 x28 x29 x30 x31 x32 x33 x34 x35 x36 x37 x38 x39 : Int) : List Int :=
  [x0, x1, x2, x23, x4, x5, x6, x27, x8, x9, x10, x31, x12, x13, x14, x35, x16, x17, x18, x39]

theorem blend_D_fn_ok (x0 x1 x2 x3 x4 x5 x6 x7 x8 x9 x10 x11 x12 x13 x14 x15 x16 x17 x18 x19 x20 x21 x22 x23 x24 x25 x26 x27 x28 x29 x30 x31 x32 x33 x34 x35 x36 x37 x38 x39 : Int) : NProg.evalZ blend_D_nprog [x0, x1, x2, x3, x4, x5, x6, x7, x8, x9, x10, x11, x12, x13, x14, x15, x16, x17, x18, x19, x20, x21, x22, x23, x24, x25, x26, x27, x28, x29, x30, x31, x32, x33, x34, x35, x36, x37, x38, x39] = blend_D_fn x0 x1 x2 x3 x4 x5 x6 x7 x8 x9 x10 x11 x12 x13 x14 x15 x16 x17 x18 x19 x20 x21 x22 x23 x24 x25 x26 x27 x28 x29 x30 x31 x32 x33 x34 x35 x36 x37 x38 x39 :=
  (NProg.evalZ_eq_fast _ _).trans (by kernel_rfl)

def reduced_blend_D_post : List Itv := [⟨0, 18446744073709551615, 0⟩, ⟨0, 18446744073709551615, 0⟩, ⟨0, 18446744073709551615, 0⟩, ⟨0, 18446744073709551615, 0⟩, ⟨0, 18446744073709551615, 0⟩, ⟨0, 18446744073709551615, 0⟩, ⟨0, 18446744073709551615, 0⟩, ⟨0, 18446744073709551615, 0⟩, ⟨0, 18446744073709551615, 0⟩, ⟨0, 18446744073709551615, 0⟩, ⟨0, 18446744073709551615, 0⟩, ⟨0, 18446744073709551615, 0⟩, ⟨0, 18446744073709551615, 0⟩, ⟨0, 18446744073709551615, 0⟩, ⟨0, 18446744073709551615, 0⟩, ⟨0, 18446744073709551615, 0⟩, ⟨0, 18446744073709551615, 0⟩, ⟨0, 18446744073709551615, 0⟩, ⟨0, 18446744073709551615, 0⟩, ⟨0, 18446744073709551615, 0⟩]

def reduced_blend_D_nprog : NProg := Prog.normProg Dalek.Gen.IfmaField.reduced_blend_D Dalek.Model.Contracts.IfmaField.pre_reduced_blend_D

theorem reduced_blend_D_norm_ok : Prog.norm Dalek.Gen.IfmaField.reduced_blend_D Dalek.Model.Contracts.IfmaField.pre_reduced_blend_D = some (reduced_blend_D_nprog, reduced_blend_D_post) :=
  Prog.norm_eq_of_post (by decide +kernel)

def reduced_blend_D_fn (x0 x1 x2 x3 x4 x5 x6 x7 x8 x9 x10 x11 x12 x13 x14 x15 x16 x17 x18 x19 x20 x21 x22 x23 x24 x25 x26 x27 x28 x29 x30 x31 x32 x33 x34 x35 x36 x37 x38 x39 : Int) : List Int :=
  [x0, x1, x2, x23, x4, x5, x6, x27, x8, x9, x10, x31, x12, x13, x14, x35, x16, x17, x18, x39]

theorem reduced_blend_D_fn_ok (x0 x1 x2 x3 x4 x5 x6 x7 x8 x9 x10 x11 x12 x13 x14 x15 x16 x17 x18 x19 x20 x21 x22 x23 x24 x25 x26 x27 x28 x29 x30 x31 x32 x33 x34 x35 x36 x37 x38 x39 : Int) : NProg.evalZ reduced_blend_D_nprog [x0, x1, x2, x3, x4, x5, x6, x7, x8, x9, x10, x11, x12, x13, x14, x15, x16, x17, x18, x19, x20, x21, x22, x23, x24, x25, x26, x27, x28, x29, x30, x31, x32, x33, x34, x35, x36, x37, x38, x39] = reduced_blend_D_fn x0 x1 x2 x3 x4 x5 x6 x7 x8 x9 x10 x11 x12 x13 x14 x15 x16 x17 x18 x19 x20 x21 x22 x23 x24 x25 x26 x27 x28 x29 x30 x31 x32 x33 x34 x35 x36 x37 x38 x39 :=
  (NProg.evalZ_eq_fast _ _).trans (by kernel_rfl)

def blend_C_post : List Itv := [⟨0, 18446744073709551615, 0⟩, ⟨0, 18446744073709551615, 0⟩, ⟨0, 18446744073709551615, 0⟩, ⟨0, 18446744073709551615, 0⟩, ⟨0, 18446744073709551615, 0⟩, ⟨0, 18446744073709551615, 0⟩, ⟨0, 18446744073709551615, 0⟩, ⟨0, 18446744073709551615, 0⟩, ⟨0, 18446744073709551615, 0⟩, ⟨0, 18446744073709551615, 0⟩, ⟨0, 18446744073709551615, 0⟩, ⟨0, 18446744073709551615, 0⟩, ⟨0, 18446744073709551615, 0⟩, ⟨0, 18446744073709551615, 0⟩, ⟨0, 18446744073709551615, 0⟩, ⟨0, 18446744073709551615, 0⟩, ⟨0, 18446744073709551615, 0⟩, ⟨0, 18446744073709551615, 0⟩, ⟨0, 18446744073709551615, 0⟩, ⟨0, 18446744073709551615, 0⟩]

def blend_C_nprog : NProg := Prog.normProg Dalek.Gen.IfmaField.blend_C Dalek.Model.Contracts.IfmaField.pre_blend_C

theorem blend_C_norm_ok : Prog.norm Dalek.Gen.IfmaField.blend_C Dalek.Model.Contracts.IfmaField.pre_blend_C = some (blend_C_nprog, blend_C_post) :=
  Prog.norm_eq_of_post (by decide +kernel)

def blend_C_fn (x0 x1 x2 x3 x4 x5 x6 x7 x8 x9 x10 x11 x12 x13 x14 x15 x16 x17 x18 x19 x20 x21 x22 x23 x24 x25 x26 x27 x28 x29 x30 x31 x32 x33 x34 x35 x36 x37 x38 x39 : Int) : List Int :=
  [x0, x1, x22, x3, x4, x5, x26, x7, x8, x9, x30, x11, x12, x13, x34, x15, x16, x17, x38, x19]

theorem blend_C_fn_ok (x0 x1 x2 x3 x4 x5 x6 x7 x8 x9 x10 x11 x12 x13 x14 x15 x16 x17 x18 x19 x20 x21 x22 x23 x24 x25 x26 x27 x28 x29 x30 x31 x32 x33 x34 x35 x36 x37 x38 x39 : Int) : NProg.evalZ blend_C_nprog [x0, x1, x2, x3, x4, x5, x6, x7, x8, x9, x10, x11, x12, x13, x14, x15, x16, x17, x18, x19, x20, x21, x22, x23, x24, x25, x26, x27, x28, x29, x30, x31, x32, x33, x34, x35, x36, x37, x38, x39] = blend_C_fn x0 x1 x2 x3 x4 x5 x6 x7 x8 x9 x10 x11 x12 x13 x14 x15 x16 x17 x18 x19 x20 x21 x22 x23 x24 x25 x26 x27 x28 x29 x30 x31 x32 x33 x34 x35 x36 x37 x38 x39 :=
  (NProg.evalZ_eq_fast _ _).trans (by kernel_rfl)

def reduced_blend_C_post : List Itv := [⟨0, 18446744073709551615, 0⟩, ⟨0, 18446744073709551615, 0⟩, ⟨0, 18446744073709551615, 0⟩, ⟨0, 18446744073709551615, 0⟩, ⟨0, 18446744073709551615, 0⟩, ⟨0, 18446744073709551615, 0⟩, ⟨0, 18446744073709551615, 0⟩, ⟨0, 18446744073709551615, 0⟩, ⟨0, 18446744073709551615, 0⟩, ⟨0, 18446744073709551615, 0⟩, ⟨0, 18446744073709551615, 0⟩, ⟨0, 18446744073709551615, 0⟩, ⟨0, 18446744073709551615, 0⟩, ⟨0, 18446744073709551615, 0⟩, ⟨0, 18446744073709551615, 0⟩, ⟨0, 18446744073709551615, 0⟩, ⟨0, 18446744073709551615, 0⟩, ⟨0, 18446744073709551615, 0⟩, ⟨0, 18446744073709551615, 0⟩, ⟨0, 18446744073709551615, 0⟩]

def reduced_blend_C_nprog : NProg := Prog.normProg Dalek.Gen.IfmaField.reduced_blend_C Dalek.Model.Contracts.IfmaField.pre_reduced_blend_C

theorem reduced_blend_C_norm_ok : Prog.norm Dalek.Gen.IfmaField.reduced_blend_C Dalek.Model.Contracts.IfmaField.pre_reduced_blend_C = some (reduced_blend_C_nprog, reduced_blend_C_post) :=
  Prog.norm_eq_of_post (by decide +kernel)

def reduced_blend_C_fn (x0 x1 x2 x3 x4 x5 x6 x7 x8 x9 x10 x11 x12 x13 x14 x15 x16 x17 x18 x19 x20 x21 x22 x23 x24 x25 x26 x27 x28 x29 x30 x31 x32 x33 x34 x35 x36 x37 x38 x39 : Int) : List Int :=
  [x0, x1, x22, x3, x4, x5, x26, x7, x8, x9, x30, x11, x12, x13, x34, x15, x16, x17, x38, x19]

theorem reduced_blend_C_fn_ok (x0 x1 x2 x3 x4 x5 x6 x7 x8 x9 x10 x11 x12 x13 x14 x15 x16 x17 x18 x19 x20 x21 x22 x23 x24 x25 x26 x27 x28 x29 x30 x31 x32 x33 x34 x35 x36 x37 x38 x39 : Int) : NProg.evalZ reduced_blend_C_nprog [x0, x1, x2, x3, x4, x5, x6, x7, x8, x9, x10, x11, x12, x13, x14, x15, x16, x17, x18, x19, x20, x21, x22, x23, x24, x25, x26, x27, x28, x29, x30, x31, x32, x33, x34, x35, x36, x37, x38, x39] = reduced_blend_C_fn x0 x1 x2 x3 x4 x5 x6 x7 x8 x9 x10 x11 x12 x13 x14 x15 x16 x17 x18 x19 x20 x21 x22 x23 x24 x25 x26 x27 x28 x29 x30 x31 x32 x33 x34 x35 x36 x37 x38 x39 :=
  (NProg.evalZ_eq_fast _ _).trans (by kernel_rfl)

def blend_AB_post : List Itv := [⟨0, 18446744073709551615, 0⟩, ⟨0, 18446744073709551615, 0⟩, ⟨0, 18446744073709551615, 0⟩, ⟨0, 18446744073709551615, 0⟩, ⟨0, 18446744073709551615, 0⟩, ⟨0, 18446744073709551615, 0⟩, ⟨0, 18446744073709551615, 0⟩, ⟨0, 18446744073709551615, 0⟩, ⟨0, 18446744073709551615, 0⟩, ⟨0, 18446744073709551615, 0⟩, ⟨0, 18446744073709551615, 0⟩, ⟨0, 18446744073709551615, 0⟩, ⟨0, 18446744073709551615, 0⟩, ⟨0, 18446744073709551615, 0⟩, ⟨0, 18446744073709551615, 0⟩, ⟨0, 18446744073709551615, 0⟩, ⟨0, 18446744073709551615, 0⟩, ⟨0, 18446744073709551615, 0⟩, ⟨0, 18446744073709551615, 0⟩, ⟨0, 18446744073709551615, 0⟩]

def blend_AB_nprog : NProg := Prog.normProg Dalek.Gen.IfmaField.blend_AB Dalek.Model.Contracts.IfmaField.pre_blend_AB

theorem blend_AB_norm_ok : Prog.norm Dalek.Gen.IfmaField.blend_AB Dalek.Model.Contracts.IfmaField.pre_blend_AB = some (blend_AB_nprog, blend_AB_post) :=
  Prog.norm_eq_of_post (by decide +kernel)

def blend_AB_fn (x0 x1 x2 x3 x4 x5 x6 x7 x8 x9 x10 x11 x12 x13 x14 x15 x16 x17 x18 x19 x20 x21 x22 x23 x24 x25 x26 x27 x28 x29 x30 x31 x32 x33 x34 x35 x36 x37 x38 x39 : Int) : List Int :=
  [x20, x21, x2, x3, x24, x25, x6, x7, x28, x29, x10, x11, x32, x33, x14, x15, x36, x37, x18, x19]

theorem blend_AB_fn_ok (x0 x1 x2 x3 x4 x5 x6 x7 x8 x9 x10 x11 x12 x13 x14 x15 x16 x17 x18 x19 x20 x21 x22 x23 x24 x25 x26 x27 x28 x29 x30 x31 x32 x33 x34 x35 x36 x37 x38 x39 : Int) : NProg.evalZ blend_AB_nprog [x0, x1, x2, x3, x4, x5, x6, x7, x8, x9, x10, x11, x12, x13, x14, x15, x16, x17, x18, x19, x20, x21, x22, x23, x24, x25, x26, x27, x28, x29, x30, x31, x32, x33, x34, x35, x36, x37, x38, x39] = blend_AB_fn x0 x1 x2 x3 x4 x5 x6 x7 x8 x9 x10 x11 x12 x13 x14 x15 x16 x17 x18 x19 x20 x21 x22 x23 x24 x25 x26 x27 x28 x29 x30 x31 x32 x33 x34 x35 x36 x37 x38 x39 :=
  (NProg.evalZ_eq_fast _ _).trans (by kernel_rfl)

def reduced_blend_AB_post : List Itv := [⟨0, 18446744073709551615, 0⟩, ⟨0, 18446744073709551615, 0⟩, ⟨0, 18446744073709551615, 0⟩, ⟨0, 18446744073709551615, 0⟩, ⟨0, 18446744073709551615, 0⟩, ⟨0, 18446744073709551615, 0⟩, ⟨0, 18446744073709551615, 0⟩, ⟨0, 18446744073709551615, 0⟩, ⟨0, 18446744073709551615, 0⟩, ⟨0, 18446744073709551615, 0⟩, ⟨0, 18446744073709551615, 0⟩, ⟨0, 18446744073709551615, 0⟩, ⟨0, 18446744073709551615, 0⟩, ⟨0, 18446744073709551615, 0⟩, ⟨0, 18446744073709551615, 0⟩, ⟨0, 18446744073709551615, 0⟩, ⟨0, 18446744073709551615, 0⟩, ⟨0, 18446744073709551615, 0⟩, ⟨0, 18446744073709551615, 0⟩, ⟨0, 18446744073709551615, 0⟩]

def reduced_blend_AB_nprog : NProg := Prog.normProg Dalek.Gen.IfmaField.reduced_blend_AB Dalek.Model.Contracts.IfmaField.pre_reduced_blend_AB

theorem reduced_blend_AB_norm_ok : Prog.norm Dalek.Gen.IfmaField.reduced_blend_AB Dalek.Model.Contracts.IfmaField.pre_reduced_blend_AB = some (reduced_blend_AB_nprog, reduced_blend_AB_post) :=
  Prog.norm_eq_of_post (by decide +kernel)

def reduced_blend_AB_fn (x0 x1 x2 x3 x4 x5 x6 x7 x8 x9 x10 x11 x12 x13 x14 x15 x16 x17 x18 x19 x20 x21 x22 x23 x24 x25 x26 x27 x28 x29 x30 x31 x32 x33 x34 x35 x36 x37 x38 x39 : Int) : List Int :=
  [x20, x21, x2, x3, x24, x25, x6, x7, x28, x29, x10, x11, x32, x33, x14, x15, x36, x37, x18, x19]

theorem reduced_blend_AB_fn_ok (x0 x1 x2 x3 x4 x5 x6 x7 x8 x9 x10 x11 x12 x13 x14 x15 x16 x17 x18 x19 x20 x21 x22 x23 x24 x25 x26 x27 x28 x29 x30 x31 x32 x33 x34 x35 x36 x37 x38 x39 : Int) : NProg.evalZ reduced_blend_AB_nprog [x0, x1, x2, x3, x4, x5, x6, x7, x8, x9, x10, x11, x12, x13, x14, x15, x16, x17, x18, x19, x20, x21, x22, x23, x24, x25, x26, x27, x28, x29, x30, x31, x32, x33, x34, x35, x36, x37, x38, x39] = reduced_blend_AB_fn x0 x1 x2 x3 x4 x5 x6 x7 x8 x9 x10 x11 x12 x13 x14 x15 x16 x17 x18 x19 x20 x21 x22 x23 x24 x25 x26 x27 x28 x29 x30 x31 x32 x33 x34 x35 x36 x37 x38 x39 :=
  (NProg.evalZ_eq_fast _ _).trans (by kernel_rfl)

def blend_AC_post : List Itv := [⟨0, 18446744073709551615, 0⟩, ⟨0, 18446744073709551615, 0⟩, ⟨0, 18446744073709551615, 0⟩, ⟨0, 18446744073709551615, 0⟩, ⟨0, 18446744073709551615, 0⟩, ⟨0, 18446744073709551615, 0⟩, ⟨0, 18446744073709551615, 0⟩, ⟨0, 18446744073709551615, 0⟩, ⟨0, 18446744073709551615, 0⟩, ⟨0, 18446744073709551615, 0⟩, ⟨0, 18446744073709551615, 0⟩, ⟨0, 18446744073709551615, 0⟩, ⟨0, 18446744073709551615, 0⟩, ⟨0, 18446744073709551615, 0⟩, ⟨0, 18446744073709551615, 0⟩, ⟨0, 18446744073709551615, 0⟩, ⟨0, 18446744073709551615, 0⟩, ⟨0, 18446744073709551615, 0⟩, ⟨0, 18446744073709551615, 0⟩, ⟨0, 18446744073709551615, 0⟩]

def blend_AC_nprog : NProg := Prog.normProg Dalek.Gen.IfmaField.blend_AC Dalek.Model.Contracts.IfmaField.pre_blend_AC

theorem blend_AC_norm_ok : Prog.norm Dalek.Gen.IfmaField.blend_AC Dalek.Model.Contracts.IfmaField.pre_blend_AC = some (blend_AC_nprog, blend_AC_post) :=
  Prog.norm_eq_of_post (by decide +kernel)

def blend_AC_fn (x0 x1 x2 x3 x4 x5 x6 x7 x8 x9 x10 x11 x12 x13 x14 x15 x16 x17 x18 x19 x20 x21 x22 x23 x24 x25 x26 x27 x28 x29 x30 x31 x32 x33 x34 x35 x36 x37 x38 x39 : Int) : List Int :=
  [x20, x1, x22, x3, x24, x5, x26, x7, x28, x9, x30, x11, x32, x13, x34, x15, x36, x17, x38, x19]

theorem blend_AC_fn_ok (x0 x1 x2 x3 x4 x5 x6 x7 x8 x9 x10 x11 x12 x13 x14 x15 x16 x17 x18 x19 x20 x21 x22 x23 x24 x25 x26 x27 x28 x29 x30 x31 x32 x33 x34 x35 x36 x37 x38 x39 : Int) : NProg.evalZ blend_AC_nprog [x0, x1, x2, x3, x4, x5, x6, x7, x8, x9, x10, x11, x12, x13, x14, x15, x16, x17, x18, x19, x20, x21, x22, x23, x24, x25, x26, x27, x28, x29, x30, x31, x32, x33, x34, x35, x36, x37, x38, x39] = blend_AC_fn x0 x1 x2 x3 x4 x5 x6 x7 x8 x9 x10 x11 x12 x13 x14 x15 x16 x17 x18 x19 x20 x21 x22 x23 x24 x25 x26 x27 x28 x29 x30 x31 x32 x33 x34 x35 x36 x37 x38 x39 :=
  (NProg.evalZ_eq_fast _ _).trans (by kernel_rfl)

def reduced_blend_AC_post : List Itv := [⟨0, 18446744073709551615, 0⟩, ⟨0, 18446744073709551615, 0⟩, ⟨0, 18446744073709551615, 0⟩, ⟨0, 18446744073709551615, 0⟩, ⟨0, 18446744073709551615, 0⟩, ⟨0, 18446744073709551615, 0⟩, ⟨0, 18446744073709551615, 0⟩, ⟨0, 18446744073709551615, 0⟩, ⟨0, 18446744073709551615, 0⟩, ⟨0, 18446744073709551615, 0⟩, ⟨0, 18446744073709551615, 0⟩, ⟨0, 18446744073709551615, 0⟩, ⟨0, 18446744073709551615, 0⟩, ⟨0, 18446744073709551615, 0⟩, ⟨0, 18446744073709551615, 0⟩, ⟨0, 18446744073709551615, 0⟩, ⟨0, 18446744073709551615, 0⟩, ⟨0, 18446744073709551615, 0⟩, ⟨0, 18446744073709551615, 0⟩, ⟨0, 18446744073709551615, 0⟩]

def reduced_blend_AC_nprog : NProg := Prog.normProg Dalek.Gen.IfmaField.reduced_blend_AC Dalek.Model.Contracts.IfmaField.pre_reduced_blend_AC

theorem reduced_blend_AC_norm_ok : Prog.norm Dalek.Gen.IfmaField.reduced_blend_AC Dalek.Model.Contracts.IfmaField.pre_reduced_blend_AC = some (reduced_blend_AC_nprog, reduced_blend_AC_post) :=
  Prog.norm_eq_of_post (by decide +kernel)

def reduced_blend_AC_fn (x0 x1 x2 x3 x4 x5 x6 x7 x8 x9 x10 x11 x12 x13 x14 x15 x16 x17 x18 x19 x20 x21 x22 x23 x24 x25 x26 x27 x28 x29 x30 x31 x32 x33 x34 x35 x36 x37 x38 x39 : Int) : List Int :=
  [x20, x1, x22, x3, x24, x5, x26, x7, x28, x9, x30, x11, x32, x13, x34, x15, x36, x17, x38, x19]

theorem reduced_blend_AC_fn_ok (x0 x1 x2 x3 x4 x5 x6 x7 x8 x9 x10 x11 x12 x13 x14 x15 x16 x17 x18 x19 x20 x21 x22 x23 x24 x25 x26 x27 x28 x29 x30 x31 x32 x33 x34 x35 x36 x37 x38 x39 : Int) : NProg.evalZ reduced_blend_AC_nprog [x0, x1, x2, x3, x4, x5, x6, x7, x8, x9, x10, x11, x12, x13, x14, x15, x16, x17, x18, x19, x20, x21, x22, x23, x24, x25, x26, x27, x28, x29, x30, x31, x32, x33, x34, x35, x36, x37, x38, x39] = reduced_blend_AC_fn x0 x1 x2 x3 x4 x5 x6 x7 x8 x9 x10 x11 x12 x13 x14 x15 x16 x17 x18 x19 x20 x21 x22 x23 x24 x25 x26 x27 x28 x29 x30 x31 x32 x33 x34 x35 x36 x37 x38 x39 :=
  (NProg.evalZ_eq_fast _ _).trans (by kernel_rfl)

def blend_AD_post : List Itv := [⟨0, 18446744073709551615, 0⟩, ⟨0, 18446744073709551615, 0⟩, ⟨0, 18446744073709551615, 0⟩, ⟨0, 18446744073709551615, 0⟩, ⟨0, 18446744073709551615, 0⟩, ⟨0, 18446744073709551615, 0⟩, ⟨0, 18446744073709551615, 0⟩, ⟨0, 18446744073709551615, 0⟩, ⟨0, 18446744073709551615, 0⟩, ⟨0, 18446744073709551615, 0⟩, ⟨0, 18446744073709551615, 0⟩, ⟨0, 18446744073709551615, 0⟩, ⟨0, 18446744073709551615, 0⟩, ⟨0, 18446744073709551615, 0⟩, ⟨0, 18446744073709551615, 0⟩, ⟨0, 18446744073709551615, 0⟩, ⟨0, 18446744073709551615, 0⟩, ⟨0, 18446744073709551615, 0⟩, ⟨0, 18446744073709551615, 0⟩, ⟨0, 18446744073709551615, 0⟩]

def blend_AD_nprog : NProg := Prog.normProg Dalek.Gen.IfmaField.blend_AD Dalek.Model.Contracts.IfmaField.pre_blend_AD

theorem blend_AD_norm_ok : Prog.norm Dalek.Gen.IfmaField.blend_AD Dalek.Model.Contracts.IfmaField.pre_blend_AD = some (blend_AD_nprog, blend_AD_post) :=
  Prog.norm_eq_of_post (by decide +kernel)

def blend_AD_fn (x0 x1 x2 x3 x4 x5 x6 x7 x8 x9 x10 x11 x12 x13 x14 x15 x16 x17 x18 x19 x20 x21 x22 x23 x24 x25 x26 x27 x28 x29 x30 x31 x32 x33 x34 x35 x36 x37 x38 x39 : Int) : List Int :=
  [x20, x1, x2, x23, x24, x5, x6, x27, x28, x9, x10, x31, x32, x13, x14, x35, x36, x17, x18, x39]

theorem blend_AD_fn_ok (x0 x1 x2 x3 x4 x5 x6 x7 x8 x9 x10 x11 x12 x13 x14 x15 x16 x17 x18 x19 x20 x21 x22 x23 x24 x25 x26 x27 x28 x29 x30 x31 x32 x33 x34 x35 x36 x37 x38 x39 : Int) : NProg.evalZ blend_AD_nprog [x0, x1, x2, x3, x4, x5, x6, x7, x8, x9, x10, x11, x12, x13, x14, x15, x16, x17, x18, x19, x20, x21, x22, x23, x24, x25, x26, x27, x28, x29, x30, x31, x32, x33, x34, x35, x36, x37, x38, x39] = blend_AD_fn x0 x1 x2 x3 x4 x5 x6 x7 x8 x9 x10 x11 x12 x13 x14 x15 x16 x17 x18 x19 x20 x21 x22 x23 x24 x25 x26 x27 x28 x29 x30 x31 x32 x33 x34 x35 x36 x37 x38 x39 :=
  (NProg.evalZ_eq_fast _ _).trans (by kernel_rfl)

def reduced_blend_AD_post : List Itv := [⟨0, 18446744073709551615, 0⟩, ⟨0, 18446744073709551615, 0⟩, ⟨0, 18446744073709551615, 0⟩, ⟨0, 18446744073709551615, 0⟩, ⟨0, 18446744073709551615, 0⟩, ⟨0, 18446744073709551615, 0⟩, ⟨0, 18446744073709551615, 0⟩, ⟨0, 18446744073709551615, 0⟩, ⟨0, 18446744073709551615, 0⟩, ⟨0, 18446744073709551615, 0⟩, ⟨0, 18446744073709551615, 0⟩, ⟨0, 18446744073709551615, 0⟩, ⟨0, 18446744073709551615, 0⟩, ⟨0, 18446744073709551615, 0⟩, ⟨0, 18446744073709551615, 0⟩, ⟨0, 18446744073709551615, 0⟩, ⟨0, 18446744073709551615, 0⟩, ⟨0, 18446744073709551615, 0⟩, ⟨0, 18446744073709551615, 0⟩, ⟨0, 18446744073709551615, 0⟩]

def reduced_blend_AD_nprog : NProg := Prog.normProg Dalek.Gen.IfmaField.reduced_blend_AD Dalek.Model.Contracts.IfmaField.pre_reduced_blend_AD

theorem reduced_blend_AD_norm_ok : Prog.norm Dalek.Gen.IfmaField.reduced_blend_AD Dalek.Model.Contracts.IfmaField.pre_reduced_blend_AD = some (reduced_blend_AD_nprog, reduced_blend_AD_post) :=
  Prog.norm_eq_of_post (by decide +kernel)

def reduced_blend_AD_fn (x0 x1 x2 x3 x4 x5 x6 x7 x8 x9 x10 x11 x12 x13 x14 x15 x16 x17 x18 x19 x20 x21 x22 x23 x24 x25 x26 x27 x28 x29 x30 x31 x32 x33 x34 x35 x36 x37 x38 x39 : Int) : List Int :=
  [x20, x1, x2, x23, x24, x5, x6, x27, x28, x9, x10, x31, x32, x13, x14, x35, x36, x17, x18, x39]

theorem reduced_blend_AD_fn_ok (x0 x1 x2 x3 x4 x5 x6 x7 x8 x9 x10 x11 x12 x13 x14 x15 x16 x17 x18 x19 x20 x21 x22 x23 x24 x25 x26 x27 x28 x29 x30 x31 x32 x33 x34 x35 x36 x37 x38 x39 : Int) : NProg.evalZ reduced_blend_AD_nprog [x0, x1, x2, x3, x4, x5, x6, x7, x8, x9, x10, x11, x12, x13, x14, x15, x16, x17, x18, x19, x20, x21, x22, x23, x24, x25, x26, x27, x28, x29, x30, x31, x32, x33, x34, x35, x36, x37, x38, x39] = reduced_blend_AD_fn x0 x1 x2 x3 x4 x5 x6 x7 x8 x9 x10 x11 x12 x13 x14 x15 x16 x17 x18 x19 x20 x21 x22 x23 x24 x25 x26 x27 x28 x29 x30 x31 x32 x33 x34 x35 x36 x37 x38 x39 :=
  (NProg.evalZ_eq_fast _ _).trans (by kernel_rfl)

def blend_BCD_post : List Itv := [⟨0, 18446744073709551615, 0⟩, ⟨0, 18446744073709551615, 0⟩, ⟨0, 18446744073709551615, 0⟩, ⟨0, 18446744073709551615, 0⟩, ⟨0, 18446744073709551615, 0⟩, ⟨0, 18446744073709551615, 0⟩, ⟨0, 18446744073709551615, 0⟩, ⟨0, 18446744073709551615, 0⟩, ⟨0, 18446744073709551615, 0⟩, ⟨0, 18446744073709551615, 0⟩, ⟨0, 18446744073709551615, 0⟩, ⟨0, 18446744073709551615, 0⟩, ⟨0, 18446744073709551615, 0⟩, ⟨0, 18446744073709551615, 0⟩, ⟨0, 18446744073709551615, 0⟩, ⟨0, 18446744073709551615, 0⟩, ⟨0, 18446744073709551615, 0⟩, ⟨0, 18446744073709551615, 0⟩, ⟨0, 18446744073709551615, 0⟩, ⟨0, 18446744073709551615, 0⟩]

def blend_BCD_nprog : NProg := Prog.normProg Dalek.Gen.IfmaField.blend_BCD Dalek.Model.Contracts.IfmaField.pre_blend_BCD

theorem blend_BCD_norm_ok : Prog.norm Dalek.Gen.IfmaField.blend_BCD Dalek.Model.Contracts.IfmaField.pre_blend_BCD = some (blend_BCD_nprog, blend_BCD_post) :=
  Prog.norm_eq_of_post (by decide +kernel)

def blend_BCD_fn (x0 x1 x2 x3 x4 x5 x6 x7 x8 x9 x10 x11 x12 x13 x14 x15 x16 x17 x18 x19 x20 x21 x22 x23 x24 x25 x26 x27 x28 x29 x30 x31 x32 x33 x34 x35 x36 x37 x38 x39 : Int) : List Int :=
  [x0, x21, x22, x23, x4, x25, x26, x27, x8, x29, x30, x31, x12, x33, x34, x35, x16, x37, x38, x39]

theorem blend_BCD_fn_ok (x0 x1 x2 x3 x4 x5 x6 x7 x8 x9 x10 x11 x12 x13 x14 x15 x16 x17 x18 x19 x20 x21 x22 x23 x24 x25 x26 x27 x28 x29 x30 x31 x32 x33 x34 x35 x36 x37 x38 x39 : Int) : NProg.evalZ blend_BCD_nprog [x0, x1, x2, x3, x4, x5, x6, x7, x8, x9, x10, x11, x12, x13, x14, x15, x16, x17, x18, x19, x20, x21, x22, x23, x24, x25, x26, x27, x28, x29, x30, x31, x32, x33, x34, x35, x36, x37, x38, x39] = blend_BCD_fn x0 x1 x2 x3 x4 x5 x6 x7 x8 x9 x10 x11 x12 x13 x14 x15 x16 x17 x18 x19 x20 x21 x22 x23 x24 x25 x26 x27 x28 x29 x30 x31 x32 x33 x34 x35 x36 x37 x38 x39 :=
  (NProg.evalZ_eq_fast _ _).trans (by kernel_rfl)

def reduced_blend_BCD_post : List Itv := [⟨0, 18446744073709551615, 0⟩, ⟨0, 18446744073709551615, 0⟩, ⟨0, 18446744073709551615, 0⟩, ⟨0, 18446744073709551615, 0⟩, ⟨0, 18446744073709551615, 0⟩, ⟨0, 18446744073709551615, 0⟩, ⟨0, 18446744073709551615, 0⟩, ⟨0, 18446744073709551615, 0⟩, ⟨0, 18446744073709551615, 0⟩, ⟨0, 18446744073709551615, 0⟩, ⟨0, 18446744073709551615, 0⟩, ⟨0, 18446744073709551615, 0⟩, ⟨0, 18446744073709551615, 0⟩, ⟨0, 18446744073709551615, 0⟩, ⟨0, 18446744073709551615, 0⟩, ⟨0, 18446744073709551615, 0⟩, ⟨0, 18446744073709551615, 0⟩, ⟨0, 18446744073709551615, 0⟩, ⟨0, 18446744073709551615, 0⟩, ⟨0, 18446744073709551615, 0⟩]

def reduced_blend_BCD_nprog : NProg := Prog.normProg Dalek.Gen.IfmaField.reduced_blend_BCD Dalek.Model.Contracts.IfmaField.pre_reduced_blend_BCD

theorem reduced_blend_BCD_norm_ok : Prog.norm Dalek.Gen.IfmaField.reduced_blend_BCD Dalek.Model.Contracts.IfmaField.pre_reduced_blend_BCD = some (reduced_blend_BCD_nprog, reduced_blend_BCD_post) :=
  Prog.norm_eq_of_post (by decide +kernel)

def reduced_blend_BCD_fn (x0 x1 x2 x3 x4 x5 x6 x7 x8 x9 x10 x11 x12 x13 x14 x15 x16 x17 x18 x19 x20 x21 x22 x23 x24 x25 x26 x27 x28 x29 x30 x31 x32 x33 x34 x35 x36 x37 x38 x39 : Int) : List Int :=
  [x0, x21, x22, x23, x4, x25, x26, x27, x8, x29, x30, x31, x12, x33, x34, x35, x16, x37, x38, x39]

theorem reduced_blend_BCD_fn_ok (x0 x1 x2 x3 x4 x5 x6 x7 x8 x9 x10 x11 x12 x13 x14 x15 x16 x17 x18 x19 x20 x21 x22 x23 x24 x25 x26 x27 x28 x29 x30 x31 x32 x33 x34 x35 x36 x37 x38 x39 : Int) : NProg.evalZ reduced_blend_BCD_nprog [x0, x1, x2, x3, x4, x5, x6, x7, x8, x9, x10, x11, x12, x13, x14, x15, x16, x17, x18, x19, x20, x21, x22, x23, x24, x25, x26, x27, x28, x29, x30, x31, x32, x33, x34, x35, x36, x37, x38, x39] = reduced_blend_BCD_fn x0 x1 x2 x3 x4 x5 x6 x7 x8 x9 x10 x11 x12 x13 x14 x15 x16 x17 x18 x19 x20 x21 x22 x23 x24 x25 x26 x27 x28 x29 x30 x31 x32 x33 x34 x35 x36 x37 x38 x39 :=
  (NProg.evalZ_eq_fast _ _).trans (by kernel_rfl)

end Dalek.Gen.Norm.IfmaField
