import Dalek.Proofs.ScalarMulBytes
import Dalek.Proofs.ScalarMulRel
import Dalek.Proofs.SpecBridge
/-!
# C04, layer 2 — every scalar-multiplication ALGORITHM returns `Σ sᵢ • Pᵢ` (property theorems)

Statements are about the hand models `Dalek.Model.ScalarMul` (transcriptions of `window.rs`,
`backend/{serial,vector}/scalar_mul/*.rs`, the `impl_basepoint_table!` macro, the entry points and the
size dispatch of `edwards.rs`, the provided methods of `traits.rs`, the wrappers of `ristretto.rs`), which are
GENERIC over the point implementation `PointOps G`.  Here `G` is an arbitrary commutative group and the point
operations are the group operations (`groupOps`: `zero = 0`, `add = +`, `sub = -`, `neg = -`, `double P = P + P`);
that dalek's point formulas implement the group operations of the curve is C03, and `Dalek.Bridge.Ed` below is
the proved group of the Ed25519 curve.

Scalars are the 32 raw bytes of a `Scalar`; `s = leToNat bytes`.  `Scalar255 b` is `Scalar` invariant #1
(`b.length = 32 ∧ s < 2^255`) — *unreduced* scalars are included everywhere.  `n • P` with `n : ℕ` is repeated
group addition.  `msm scalars points = (List.zipWith (fun b P => leToNat b • P) scalars points).sum`.

Digit recodings are the layer-1 models (`asRadix16`, `asRadix2w`, `nonAdjacentForm`) with their proved
specifications (`Dalek.Props.C04.Recode`).

Result types: `Option G` is the Rust `Option<EdwardsPoint>`; an outer `Panics = Option` is `none` when an
explicit `assert!`/`assert_eq!` of the Rust code fails.  `collectOption points` is `Some(vec)` iff no input
point is `None` (`collect_none_iff`).
-/
namespace Dalek.Props.C04.Algorithms
open Dalek.Model.ScalarMul Dalek.Model.Recode Dalek.Spec Dalek.Proofs.ScalarMul

variable {G : Type} [AddCommGroup G]

/-- `Scalar` invariant #1: 32 bytes, value below `2^255` (high bit clear).  Canonical scalars (`< ℓ`), clamped
integers and all other unreduced 255-bit values satisfy it. -/
def Scalar255 (b : List UInt8) : Prop := b.length = 32 ∧ leToNat b < 2 ^ 255

theorem msm_def (scalars : List (List UInt8)) (points : List G) :
    msm scalars points = (List.zipWith (fun b P => leToNat b • P) scalars points).sum := rfl

/-- The vector backends' derived subtraction `A + (-B)` is the group subtraction: all statements below, made
for `groupOps`, hold verbatim for the vector copies' point operations. -/
theorem vectorOps_groupOps : vectorOps (groupOps : PointOps G) = groupOps := by
  unfold vectorOps groupOps
  congr 1
  funext a b
  exact (sub_eq_add_neg a b).symm

/-! ### lookup tables and `select` -/

/-- Table construction.  `LookupTable*::from(P)` of any size `n` is `[1P, 2P, …, nP]`;
`NafLookupTable5/8::from(A)` (`n = 8 / 64`) is `[1A, 3A, …, (2n-1)A]`. -/
theorem table_spec (n : ℕ) (P : G) :
    (lookupTableFrom groupOps n P).length = n ∧
    (∀ j, j < n → (lookupTableFrom groupOps n P).getD j 0 = (j + 1) • P) ∧
    (nafTableFrom groupOps n P).length = n ∧
    (∀ j, j < n → (nafTableFrom groupOps n P).getD j 0 = (2 * j + 1) • P) := by
  obtain ⟨h1, h2⟩ := lookupTableFrom_isTable n P
  obtain ⟨h3, h4⟩ := nafTableFrom_isOddTable n P
  refine ⟨h1, fun j hj => ?_, h3, fun j hj => ?_⟩
  · rw [h2 j hj, ← natCast_zsmul]; push_cast; rfl
  · rw [h4 j hj, ← natCast_zsmul]; push_cast; rfl

/-- `LookupTable*::select(x)` (`|x|` scan over the whole table, conditional negation): for a table
`[1P, …, nP]` (`n = 8, 16, 32, 64, 128`) and an `i8` digit `x ∈ [-n, n]` the result is `x • P`
(in particular the identity for `x = 0` and `-(nP)` for `x = -n`, e.g. `x = -128` in radix 256). -/
theorem select_spec (table : List G) (n : ℕ) (P : G) (hlen : table.length = n)
    (hent : ∀ j, j < n → table.getD j 0 = (j + 1) • P) (x : ℤ)
    (hlo : -(n : ℤ) ≤ x) (hhi : x ≤ n) (h8lo : -128 ≤ x) (h8hi : x ≤ 127) :
    selectModel groupOps table x = x • P := by
  refine selectModel_eq ⟨hlen, fun j hj => ?_⟩ hlo hhi h8lo h8hi
  rw [hent j hj, ← natCast_zsmul]; push_cast; rfl

/-- The `match naf[i].cmp(&0)` step with `NafLookupTable5/8::select`: for a table `[1A, 3A, …, (2n-1)A]` and a
digit `d` that is `0` or odd with `|d| < 2n`: `t ↦ t + d • A` (addition of `table[d/2]` for `d > 0`, subtraction
of `table[(-d)/2]` for `d < 0`); the table indices are in bounds. -/
theorem naf_select_spec (table : List G) (n : ℕ) (A : G) (hlen : table.length = n)
    (hent : ∀ j, j < n → table.getD j 0 = (2 * j + 1) • A) (t : G) (d : ℤ)
    (hd : d = 0 ∨ (d % 2 = 1 ∧ -(2 * n : ℤ) < d ∧ d < 2 * n)) :
    nafStep groupOps t table d = t + d • A ∧ (d ≠ 0 → d.toNat / 2 < n ∧ (-d).toNat / 2 < n) := by
  refine ⟨nafStep_eq ⟨hlen, fun j hj => ?_⟩ t hd, fun hne => ?_⟩
  · rw [hent j hj, ← natCast_zsmul]; push_cast; rfl
  · rcases hd with rfl | ⟨_, h2, h3⟩
    · exact absurd rfl hne
    · exact nafSelect_index_ok h2 h3

/-! ### variable-base multiplication -/

/-- `variable_base::mul` — BOTH copies (serial: top digit peeled off, 63 iterations; vector: 64 iterations
starting with doublings of the identity): for every scalar `s < 2^255`, reduced or not, the result is `s • P`. -/
theorem variable_base_spec (b : List UInt8) (hb : Scalar255 b) (P : G) :
    variableBaseMul groupOps (asRadix16 b) P = leToNat b • P ∧
    variableBaseMulVec groupOps (asRadix16 b) P = leToNat b • P := by
  have h := radix16Digits_of_bytes b hb.1 hb.2
  exact ⟨by rw [variableBaseMul_eq h, natCast_zsmul], by rw [variableBaseMulVec_eq h, natCast_zsmul]⟩

/-- `&EdwardsPoint * &Scalar` in every configuration. -/
theorem edwards_mul_spec (cfg : Config) (b : List UInt8) (hb : Scalar255 b) (P : G) :
    edwardsMul groupOps cfg P b = leToNat b • P := by
  unfold edwardsMul
  cases cfg.backend
  · exact (variable_base_spec b hb P).1
  · exact (variable_base_spec b hb P).2

/-- `EdwardsPoint::mul_clamped`: multiplication by the clamped integer (which is not reduced mod ℓ). -/
theorem mul_clamped_spec (cfg : Config) (bytes : List UInt8) (hlen : bytes.length = 32) (P : G) :
    mulClamped groupOps cfg P bytes = clampedNat bytes • P := by
  have h := Dalek.Bridge.clampedNat_spec hlen
  exact edwards_mul_spec cfg _ ⟨by rw [Dalek.Bridge.clampInteger_length, hlen], h.2.2⟩ P

/-! ### basepoint tables (radix 16, 32, 64, 128, 256) -/

/-- `EdwardsBasepointTable*::create(P)` for `w = 4 … 8` (any `w`): the 32 lookup tables are
`tables[i] = [1·2^(2wi) P, 2·2^(2wi) P, …, 2^(w-1)·2^(2wi) P]`. -/
theorem create_spec (w : ℕ) (P : G) :
    IsBasepointTable (basepointTableCreate groupOps w P) w P :=
  basepointTableCreate_isBasepointTable w P

/-- unfolding of `IsBasepointTable` -/
theorem isBasepointTable_iff (tables : List (List G)) (w : ℕ) (B : G) :
    IsBasepointTable tables w B ↔ ∀ i, i < 32 →
      (tables.getD i []).length = 2 ^ (w - 1) ∧
      ∀ j, j < 2 ^ (w - 1) → (tables.getD i []).getD j 0 = ((j : ℤ) + 1) • ((2 : ℤ) ^ (2 * w * i)) • B :=
  Iff.rfl

/-- `EdwardsBasepointTable*::mul_base` for each radix `2^w`, `w ∈ {4,5,6,7,8}` (odd digits, `×2^w`, even
digits; `Additions = 64, 52, 43, 37, 33`): given correct table entries (by `create_spec` for built tables, by
C12 for the shipped `ED25519_BASEPOINT_TABLE`) the result is `s • B`, for every `s < 2^255` when `w = 4` and
for every 32-byte scalar when `w ≥ 5`. -/
theorem basepoint_table_spec (w : ℕ) (hw4 : 4 ≤ w) (hw8 : w ≤ 8) (tables : List (List G)) (B : G)
    (ht : IsBasepointTable tables w B) (b : List UInt8) (hlen : b.length = 32)
    (hs : w = 4 → leToNat b < 2 ^ 255) :
    basepointTableMul groupOps w tables b = leToNat b • B := by
  unfold basepointTableMul
  rw [basepointTableMulBase_eq ht (radix2wDigits_of_bytes b w hlen hw4 hw8 hs), natCast_zsmul]

/-- built tables: `create` then `mul_base` is scalar multiplication, in each radix. -/
theorem basepoint_table_create_mul_spec (w : ℕ) (hw4 : 4 ≤ w) (hw8 : w ≤ 8) (P : G) (b : List UInt8)
    (hb : Scalar255 b) :
    basepointTableMul groupOps w (basepointTableCreate groupOps w P) b = leToNat b • P :=
  basepoint_table_spec w hw4 hw8 _ P (create_spec w P) b hb.1 (fun _ => hb.2)

/-- `BasepointTable::basepoint` returns the point the table was created from. -/
theorem basepoint_table_basepoint_spec (w : ℕ) (P : G) :
    basepointTableBasepoint groupOps (basepointTableCreate groupOps w P) = P :=
  basepointTableBasepoint_eq (create_spec w P)

/-- The shipped constants are what they claim to be (C12 proves this for the actual constants). -/
structure ValidConsts (c : BaseConsts G) : Prop where
  table : IsBasepointTable c.basepointTable 4 c.B
  odd : IsOddTable c.oddMultiples 64 c.B

/-- `ValidConsts` is satisfiable: the tables built by the code's own constructors. -/
theorem validConsts_built (B : G) :
    ValidConsts ⟨B, basepointTableCreate groupOps 4 B, nafTableFrom groupOps 64 B⟩ :=
  ⟨create_spec 4 B, nafTableFrom_isOddTable 64 B⟩

/-- `EdwardsPoint::mul_base`, with and without `precomputed-tables`, both backends. -/
theorem mul_base_spec (cfg : Config) (c : BaseConsts G) (hc : ValidConsts c) (b : List UInt8)
    (hb : Scalar255 b) : mulBase groupOps cfg c b = leToNat b • c.B := by
  unfold mulBase
  split
  · exact basepoint_table_spec 4 (by norm_num) (by norm_num) _ _ hc.table b hb.1 (fun _ => hb.2)
  · exact edwards_mul_spec cfg b hb c.B

/-- `EdwardsPoint::mul_base_clamped`. -/
theorem mul_base_clamped_spec (cfg : Config) (c : BaseConsts G) (hc : ValidConsts c) (bytes : List UInt8)
    (hlen : bytes.length = 32) : mulBaseClamped groupOps cfg c bytes = clampedNat bytes • c.B := by
  have h := Dalek.Bridge.clampedNat_spec hlen
  exact mul_base_spec cfg c hc _ ⟨by rw [Dalek.Bridge.clampInteger_length, hlen], h.2.2⟩

/-! ### vartime double-base -/

/-- `vartime_double_scalar_mul_basepoint(a, A, b) = a•A + b•B` for all `a, b < 2^255` (unreduced allowed), with
`precomputed-tables` (width-8 NAF of `b`, constant table of odd multiples) and without (width 5, table built
from `B`); includes the search for the top non-zero digit and the `loop … if i == 0 { break }` shape. -/
theorem double_base_spec (cfg : Config) (c : BaseConsts G) (hc : ValidConsts c) (a b : List UInt8)
    (ha : Scalar255 a) (hb : Scalar255 b) (A : G) :
    doubleBase groupOps cfg c a A b = leToNat a • A + leToNat b • c.B := by
  obtain ⟨ha1, ha2⟩ := naf_of_bytes a 5 ha.1 (by norm_num) (by norm_num) ha.2
  unfold doubleBase
  split
  · obtain ⟨hb1, hb2⟩ := naf_of_bytes b 8 hb.1 (by norm_num) (by norm_num) hb.2
    rw [doubleBaseLoop_eq A c.B ha1 hc.odd hb1 (by norm_num), ha2, hb2, natCast_zsmul, natCast_zsmul]
  · obtain ⟨hb1, hb2⟩ := naf_of_bytes b 5 hb.1 (by norm_num) (by norm_num) hb.2
    rw [doubleBaseLoop_eq A c.B ha1 (nafTableFrom_isOddTable 8 c.B) hb1 (by norm_num), ha2, hb2,
      natCast_zsmul, natCast_zsmul]

/-! ### Straus -/

/-- `Straus::multiscalar_mul` (constant time, radix 16): `Σ sᵢ • Pᵢ` over the zipped inputs, for any number of
inputs and all `sᵢ < 2^255`. -/
theorem straus_ct_spec (scalars : List (List UInt8)) (points : List G) (hs : ∀ b ∈ scalars, Scalar255 b) :
    strausCT groupOps (scalars.map asRadix16) points = msm scalars points := by
  rw [strausCT_eq _ _ (by
    intro d hd
    obtain ⟨b, hb, rfl⟩ := List.mem_map.1 hd
    exact radix16Range_of_bytes b (hs b hb).1 (hs b hb).2)]
  exact zipSum_bytes 4 64 asRadix16 scalars points fun b hb => digVal16_of_bytes b (hs b hb).1 (hs b hb).2

/-- `Straus::optional_multiscalar_mul` (variable time, width-5 NAF): `None` iff some point is `None`, else
`Some(Σ sᵢ • Pᵢ)`. -/
theorem straus_vt_spec (scalars : List (List UInt8)) (points : List (Option G))
    (hs : ∀ b ∈ scalars, Scalar255 b) :
    strausVT groupOps (scalars.map (nonAdjacentForm · 5)) points
      = (collectOption points).map (msm scalars) := by
  rw [strausVT_eq _ _ (by
    intro d hd
    obtain ⟨b, hb, rfl⟩ := List.mem_map.1 hd
    exact (naf_of_bytes b 5 (hs b hb).1 (by norm_num) (by norm_num) (hs b hb).2).1)]
  congr 1
  funext ps
  exact zipSum_bytes 1 256 (nonAdjacentForm · 5) scalars ps fun b hb =>
    (naf_of_bytes b 5 (hs b hb).1 (by norm_num) (by norm_num) (hs b hb).2).2

/-! ### Pippenger -/

/-- `Pippenger::optional_multiscalar_mul` for every window `w ∈ {6,7,8}` and every number `n` of inputs (bucket
accumulation with signed digits, running sums, column recombination by `mul_by_pow_2(w)`):
`None` iff some point is `None`, else `Some(Σ sᵢ • Pᵢ)`.  Holds for ALL 32-byte scalars (canonical or not; the
radix-`2^w` recoding with `w ≥ 5` needs no bound).  The two inputs have the same length (asserted by the caller
`EdwardsPoint::optional_multiscalar_mul`). -/
theorem pippenger_spec (w : ℕ) (hw : w = 6 ∨ w = 7 ∨ w = 8) (scalars : List (List UInt8))
    (points : List (Option G)) (hs : ∀ b ∈ scalars, b.length = 32) (hlen : scalars.length = points.length) :
    pippenger groupOps w (scalars.map (asRadix2w · w)) points
      = (collectOption points).map (msm scalars) := by
  have hw5 : 5 ≤ w := by omega
  have hw8 : w ≤ 8 := by omega
  have hh : 1 ≤ toRadix2wSizeHint w ∧ toRadix2wSizeHint w ≤ 64 := by
    rcases hw with rfl | rfl | rfl <;> decide
  rw [pippenger_eq w (by omega) hh.1 hh.2 _ _ (by
    intro d hd
    obtain ⟨b, hb, rfl⟩ := List.mem_map.1 hd
    exact (pipDigits_of_bytes b w (hs b hb) hw5 hw8).1),
    zipCollect_of_length_eq _ _ (by rw [List.length_map, hlen]), Option.map_map]
  congr 1
  funext ps
  exact zipSum_bytes w 64 (asRadix2w · w) scalars ps fun b hb =>
    (pipDigits_of_bytes b w (hs b hb) hw5 hw8).2

/-- Without the equal-length assumption `Pippenger` zips: `None` iff one of the first `scalars.length` points
is `None`. -/
theorem pippenger_none_iff (w : ℕ) (hw : w = 6 ∨ w = 7 ∨ w = 8) (scalars : List (List UInt8))
    (points : List (Option G)) (hs : ∀ b ∈ scalars, b.length = 32) :
    pippenger groupOps w (scalars.map (asRadix2w · w)) points = none
      ↔ none ∈ points.take scalars.length := by
  have hw5 : 5 ≤ w := by omega
  have hw8 : w ≤ 8 := by omega
  have hh : 1 ≤ toRadix2wSizeHint w ∧ toRadix2wSizeHint w ≤ 64 := by
    rcases hw with rfl | rfl | rfl <;> decide
  rw [pippenger_eq w (by omega) hh.1 hh.2 _ _ (by
    intro d hd
    obtain ⟨b, hb, rfl⟩ := List.mem_map.1 hd
    exact (pipDigits_of_bytes b w (hs b hb) hw5 hw8).1), Option.map_eq_none_iff,
    zipCollect_eq_none_iff, List.length_map]

/-- Bucket indices are in bounds: every digit `d` of `as_radix_2w(w)` satisfies `|d| ≤ 2^(w-1) = buckets_count`,
so `buckets[|d| - 1]` never panics (this is where `d = -2^(w-1)`, e.g. `-128` for `w = 8`, matters). -/
theorem pippenger_index_ok (w : ℕ) (hw : w = 6 ∨ w = 7 ∨ w = 8) (b : List UInt8) (hb : b.length = 32)
    (i : ℕ) :
    let d := (asRadix2w b w).getD i 0
    (0 < d → (d - 1).toNat < (1 <<< w) / 2) ∧ (d < 0 → (-d - 1).toNat < (1 <<< w) / 2) := by
  intro d
  have h := (pipDigits_of_bytes b w hb (by omega) (by omega)).1
  rw [shl_half w (by omega)]
  refine Dalek.Proofs.ScalarMul.pippenger_index_ok ?_ ?_
  · push_cast; exact h.lo i
  · push_cast; exact h.hi i

/-! ### precomputed Straus (mixed static / dynamic) -/

/-- `VartimePrecomputedStraus::{new, optional_mixed_multiscalar_mul}`: static tables of width 8 built by `new`,
static and dynamic scalars in width-5 NAF.  Exactly as the code: `None` if a dynamic point is `None` (checked
first); otherwise a panic unless `#static scalars ≤ #static points` and `#dynamic points = #dynamic scalars`;
otherwise `Some(Σ aᵢ•Aᵢ + Σ bⱼ•Bⱼ)`, the static sum running over the given static scalars only (FEWER static
scalars than static points are allowed: `msm` zips). -/
theorem precomputed_spec (staticPoints : List G) (staticScalars dynamicScalars : List (List UInt8))
    (dynamicPoints : List (Option G)) (hs : ∀ b ∈ staticScalars, Scalar255 b)
    (hd : ∀ b ∈ dynamicScalars, Scalar255 b) :
    optionalMixedMultiscalarMul groupOps (precomputationNew groupOps staticPoints) staticScalars
        dynamicScalars dynamicPoints =
      match collectOption dynamicPoints with
      | none => some none
      | some dps =>
        if staticScalars.length ≤ staticPoints.length ∧ dps.length = dynamicScalars.length then
          some (some (msm staticScalars staticPoints + msm dynamicScalars dps))
        else none := by
  unfold optionalMixedMultiscalarMul precomputationNew precomputedNew
  have hnaf : ∀ (l : List (List UInt8)), (∀ b ∈ l, Scalar255 b) →
      ∀ d ∈ l.map (nonAdjacentForm · 5), NafRange 5 d := by
    intro l hl d hd
    obtain ⟨b, hb, rfl⟩ := List.mem_map.1 hd
    exact (naf_of_bytes b 5 (hl b hb).1 (by norm_num) (by norm_num) (hl b hb).2).1
  have hval : ∀ (l : List (List UInt8)), (∀ b ∈ l, Scalar255 b) → ∀ ps : List G,
      zipSum 1 256 (l.map (nonAdjacentForm · 5)) ps = msm l ps := by
    intro l hl ps
    exact zipSum_bytes 1 256 (nonAdjacentForm · 5) l ps fun b hb =>
      (naf_of_bytes b 5 (hl b hb).1 (by norm_num) (by norm_num) (hl b hb).2).2
  rw [precomputedMixed_eq staticPoints _ _ _ _ (by simp) (fun i hi => by
    rw [List.getD_eq_getElem _ _ (by simpa using hi), List.getElem_map, List.getD_eq_getElem _ _ hi]
    exact nafTableFrom_isOddTable 64 _) (hnaf _ hs) (hnaf _ hd)]
  cases collectOption dynamicPoints with
  | none => rfl
  | some dps => simp only [List.length_map, hval _ hs, hval _ hd]

/-! ### entry points: size dispatch, `Option` handling, empty inputs -/

omit [AddCommGroup G] in
theorem collect_none_iff (points : List (Option G)) : collectOption points = none ↔ none ∈ points :=
  collectOption_eq_none_iff points

omit [AddCommGroup G] in
theorem collect_some (points : List G) : collectOption (points.map some) = some points :=
  collectOption_map_some points

theorem pippengerWindowWith_mem (t500 t800 size : ℕ) :
    pippengerWindowWith t500 t800 size = 6 ∨ pippengerWindowWith t500 t800 size = 7 ∨
      pippengerWindowWith t500 t800 size = 8 := by
  unfold pippengerWindowWith
  split
  · exact Or.inl rfl
  · split
    · exact Or.inr (Or.inl rfl)
    · exact Or.inr (Or.inr rfl)

/-- `EdwardsPoint::optional_multiscalar_mul` with ARBITRARY thresholds in place of 190 / 500 / 800 (so: for
every input count `n`, whichever of Straus / Pippenger with `w = 6, 7, 8` is selected): a panic iff the lengths
differ; otherwise `None` iff some point is `None`, else `Some(Σ sᵢ • Pᵢ)`.  In particular the result does not
depend on the thresholds. -/
theorem dispatch_spec (t190 t500 t800 : ℕ) (scalars : List (List UInt8)) (points : List (Option G))
    (hs : ∀ b ∈ scalars, Scalar255 b) :
    optionalMultiscalarMulWith groupOps t190 t500 t800 scalars points =
      if scalars.length = points.length then some ((collectOption points).map (msm scalars)) else none := by
  unfold optionalMultiscalarMulWith
  by_cases hlen : scalars.length = points.length
  · rw [if_neg (not_not.2 hlen), if_pos hlen]
    simp only
    split
    · rw [straus_vt_spec scalars points hs]
    · rw [pippenger_spec _ (pippengerWindowWith_mem _ _ _) scalars points (fun b hb => (hs b hb).1) hlen]
  · rw [if_pos hlen, if_neg hlen]

/-- the actual entry point (thresholds 190, 500, 800) -/
theorem optional_multiscalar_mul_spec (scalars : List (List UInt8)) (points : List (Option G))
    (hs : ∀ b ∈ scalars, Scalar255 b) (hlen : scalars.length = points.length) :
    optionalMultiscalarMul groupOps scalars points = some ((collectOption points).map (msm scalars)) := by
  rw [optionalMultiscalarMul, dispatch_spec _ _ _ _ _ hs, if_pos hlen]

/-- Optional-input variants return `None` exactly when some input point is `None` (and never panic when the
input lengths agree): `optional_multiscalar_mul` under any thresholds, and `optional_mixed_multiscalar_mul`
(where `None` even takes precedence over the length assertions). -/
theorem optional_none_iff (t190 t500 t800 : ℕ) (scalars : List (List UInt8)) (points : List (Option G))
    (hs : ∀ b ∈ scalars, Scalar255 b) (hlen : scalars.length = points.length) :
    (optionalMultiscalarMulWith groupOps t190 t500 t800 scalars points = some none ↔ none ∈ points) ∧
    (∀ (staticPoints : List G) (staticScalars : List (List UInt8)),
      (∀ b ∈ staticScalars, Scalar255 b) →
      (optionalMixedMultiscalarMul groupOps (precomputationNew groupOps staticPoints) staticScalars scalars
        points = some none ↔ none ∈ points)) := by
  constructor
  · rw [dispatch_spec _ _ _ _ _ hs, if_pos hlen, ← collect_none_iff]
    simp
  · intro staticPoints staticScalars hss
    rw [precomputed_spec staticPoints staticScalars scalars points hss hs, ← collect_none_iff]
    cases collectOption points with
    | none => simp
    | some dps =>
      simp only [reduceCtorEq, iff_false]
      split <;> simp

/-- `EdwardsPoint::multiscalar_mul` (always Straus): panics iff the lengths differ, else `Σ sᵢ • Pᵢ`. -/
theorem multiscalar_mul_spec (scalars : List (List UInt8)) (points : List G)
    (hs : ∀ b ∈ scalars, Scalar255 b) :
    multiscalarMul groupOps scalars points =
      if scalars.length = points.length then some (msm scalars points) else none := by
  unfold multiscalarMul
  by_cases hlen : scalars.length = points.length
  · rw [if_neg (not_not.2 hlen), if_pos hlen, straus_ct_spec scalars points hs]
  · rw [if_pos hlen, if_neg hlen]

/-- `vartime_multiscalar_mul` (provided method; points wrapped in `Some`, `.expect`): never hits the `expect`,
returns `Σ sᵢ • Pᵢ`. -/
theorem vartime_multiscalar_mul_spec (scalars : List (List UInt8)) (points : List G)
    (hs : ∀ b ∈ scalars, Scalar255 b) (hlen : scalars.length = points.length) :
    vartimeMultiscalarMul groupOps scalars points = some (msm scalars points) := by
  unfold vartimeMultiscalarMul
  rw [optional_multiscalar_mul_spec scalars _ hs (by rw [List.length_map, hlen]), collect_some]
  rfl

/-- `vartime_mixed_multiscalar_mul` / `VartimePrecomputedMultiscalarMul::vartime_multiscalar_mul`. -/
theorem vartime_mixed_multiscalar_mul_spec (staticPoints : List G)
    (staticScalars dynamicScalars : List (List UInt8)) (dynamicPoints : List G)
    (hs : ∀ b ∈ staticScalars, Scalar255 b) (hd : ∀ b ∈ dynamicScalars, Scalar255 b)
    (h1 : staticScalars.length ≤ staticPoints.length) (h2 : dynamicPoints.length = dynamicScalars.length) :
    vartimeMixedMultiscalarMul groupOps (precomputationNew groupOps staticPoints) staticScalars
        dynamicScalars dynamicPoints
      = some (msm staticScalars staticPoints + msm dynamicScalars dynamicPoints) := by
  unfold vartimeMixedMultiscalarMul
  rw [precomputed_spec staticPoints staticScalars dynamicScalars _ hs hd, collect_some]
  simp only [if_pos (And.intro h1 h2)]

theorem precomputed_vartime_multiscalar_mul_spec (staticPoints : List G) (staticScalars : List (List UInt8))
    (hs : ∀ b ∈ staticScalars, Scalar255 b) (h1 : staticScalars.length ≤ staticPoints.length) :
    precomputedVartimeMultiscalarMul groupOps (precomputationNew groupOps staticPoints) staticScalars
      = some (msm staticScalars staticPoints) := by
  unfold precomputedVartimeMultiscalarMul
  rw [vartime_mixed_multiscalar_mul_spec staticPoints staticScalars [] [] hs (by simp) h1 rfl,
    msm_nil_left, add_zero]

/-- Empty inputs give the identity, in every multiscalar entry point. -/
theorem empty_identity :
    multiscalarMul (groupOps : PointOps G) [] [] = some 0 ∧
    optionalMultiscalarMul (groupOps : PointOps G) [] [] = some (some 0) ∧
    vartimeMultiscalarMul (groupOps : PointOps G) [] [] = some 0 ∧
    (∀ w, w = 6 ∨ w = 7 ∨ w = 8 → pippenger (groupOps : PointOps G) w [] [] = some 0) ∧
    strausVT (groupOps : PointOps G) [] [] = some 0 ∧
    strausCT (groupOps : PointOps G) [] [] = 0 ∧
    (∀ staticPoints : List G,
      optionalMixedMultiscalarMul groupOps (precomputationNew groupOps staticPoints) [] [] [] = some (some 0)) := by
  have hn : ∀ b ∈ ([] : List (List UInt8)), Scalar255 b := by simp
  refine ⟨?_, ?_, ?_, ?_, ?_, ?_, ?_⟩
  · rw [multiscalar_mul_spec (G := G) [] [] hn]; simp [msm_nil_left]
  · rw [optional_multiscalar_mul_spec (G := G) [] [] hn rfl]; simp [collectOption, msm_nil_left]
  · rw [vartime_multiscalar_mul_spec (G := G) [] [] hn rfl]; simp [msm_nil_left]
  · intro w hw
    have := pippenger_spec (G := G) w hw [] [] (by simp) rfl
    simpa [collectOption, msm_nil_left] using this
  · have := straus_vt_spec (G := G) [] [] hn
    simpa [collectOption, msm_nil_left] using this
  · have := straus_ct_spec (G := G) [] [] hn
    simpa [msm_nil_left] using this
  · intro staticPoints
    rw [precomputed_spec staticPoints [] [] [] hn hn]
    simp [collectOption, msm_nil_left]

/-! ### Ristretto wrappers (newtype delegations) -/

omit [AddCommGroup G] in
/-- Every Ristretto scalar-multiplication entry point is the Edwards one on the wrapped point. -/
theorem ristretto_wrappers (ops : PointOps G) :
    (∀ cfg P b, ristrettoMul ops cfg P b = edwardsMul ops cfg P b) ∧
    (∀ cfg c b, ristrettoMulBase ops cfg c b = mulBase ops cfg c b) ∧
    (∀ ss ps, ristrettoMultiscalarMul ops ss ps = multiscalarMul ops ss ps) ∧
    (∀ ss ps, ristrettoOptionalMultiscalarMul ops ss ps = optionalMultiscalarMul ops ss ps) ∧
    (∀ T ss ds ps, ristrettoOptionalMixedMultiscalarMul ops T ss ds ps
      = optionalMixedMultiscalarMul ops T ss ds ps) ∧
    (∀ cfg c a A b, ristrettoDoubleBase ops cfg c a A b = doubleBase ops cfg c a A b) ∧
    (∀ P, ristrettoBasepointTableCreate ops P = basepointTableCreate ops 4 P) ∧
    (∀ T b, ristrettoBasepointTableMul ops T b = basepointTableMul ops 4 T b) := by
  refine ⟨fun _ _ _ => rfl, fun _ _ _ => rfl, fun _ _ => rfl, fun ss ps => ?_, fun T ss ds ps => ?_,
    fun _ _ _ _ _ => rfl, fun _ => rfl, fun _ _ => rfl⟩
  · unfold ristrettoOptionalMultiscalarMul
    simp [Option.map_id']
  · unfold ristrettoOptionalMixedMultiscalarMul
    simp [Option.map_id']

/-! ### any point implementation satisfying the C03 contracts

The algorithms touch points only through `PointOps`.  Let `r : R → G → Prop` relate an implementation type `R`
(projective / extended / Niels / cached coordinates, …) to a commutative group `G` such that every operation
preserves `r` (`OpsRel r oR groupOps`: the C03 contracts; for dalek's formulas and the curve group these are the
`RepExt`/`RepProj`/… refinement lemmas).  Then every entry point, run with the implementation's operations on
representations of `Pᵢ`, returns a representation of `Σ sᵢ • Pᵢ` (and panics / returns `None` in exactly the
same cases). -/
section Impl
open Dalek.Proofs
variable {R : Type} {r : R → G → Prop} {oR : PointOps R}

/-- variable-base (both copies), `mul_clamped`. -/
theorem impl_edwards_mul_spec (h : OpsRel r oR groupOps) (cfg : Config) (b : List UInt8) (hb : Scalar255 b)
    {p : R} {P : G} (hp : r p P) : r (edwardsMul oR cfg p b) (leToNat b • P) := by
  rw [← edwards_mul_spec cfg b hb P]; exact edwardsMul_rel h cfg hp b

/-- basepoint tables of every radix, built by `create` with the implementation's own operations. -/
theorem impl_basepoint_table_spec (h : OpsRel r oR groupOps) (w : ℕ) (hw4 : 4 ≤ w) (hw8 : w ≤ 8)
    (b : List UInt8) (hb : Scalar255 b) {p : R} {P : G} (hp : r p P) :
    r (basepointTableMul oR w (basepointTableCreate oR w p) b) (leToNat b • P) := by
  rw [← basepoint_table_create_mul_spec w hw4 hw8 P b hb]
  exact basepointTableMulBase_rel h w (basepointTableCreate_rel h w hp) _

/-- `mul_base` / `mul_base_clamped` with constants that represent valid tables. -/
theorem impl_mul_base_spec (h : OpsRel r oR groupOps) (cfg : Config) {c : BaseConsts R} {C : BaseConsts G}
    (hc : ConstsRel r c C) (hC : ValidConsts C) (b : List UInt8) (hb : Scalar255 b) :
    r (mulBase oR cfg c b) (leToNat b • C.B) := by
  rw [← mul_base_spec cfg C hC b hb]; exact mulBase_rel h cfg hc b

theorem impl_double_base_spec (h : OpsRel r oR groupOps) (cfg : Config) {c : BaseConsts R}
    {C : BaseConsts G} (hc : ConstsRel r c C) (hC : ValidConsts C) (a b : List UInt8) (ha : Scalar255 a)
    (hb : Scalar255 b) {p : R} {P : G} (hp : r p P) :
    r (doubleBase oR cfg c a p b) (leToNat a • P + leToNat b • C.B) := by
  rw [← double_base_spec cfg C hC a b ha hb P]; exact doubleBase_rel h cfg hc a hp b

/-- constant-time multiscalar multiplication -/
theorem impl_multiscalar_mul_spec (h : OpsRel r oR groupOps) (scalars : List (List UInt8))
    (hs : ∀ b ∈ scalars, Scalar255 b) {ps : List R} {Ps : List G} (hp : List.Forall₂ r ps Ps) :
    OptRel r (multiscalarMul oR scalars ps)
      (if scalars.length = Ps.length then some (msm scalars Ps) else none) := by
  rw [← multiscalar_mul_spec scalars Ps hs]; exact multiscalarMul_rel h scalars hp

/-- variable-time multiscalar multiplication with optional points, under arbitrary dispatch thresholds -/
theorem impl_dispatch_spec (h : OpsRel r oR groupOps) (t190 t500 t800 : ℕ) (scalars : List (List UInt8))
    (hs : ∀ b ∈ scalars, Scalar255 b) {ps : List (Option R)} {Ps : List (Option G)}
    (hp : List.Forall₂ (OptRel r) ps Ps) :
    OptRel (OptRel r) (optionalMultiscalarMulWith oR t190 t500 t800 scalars ps)
      (if scalars.length = Ps.length then some ((collectOption Ps).map (msm scalars)) else none) := by
  rw [← dispatch_spec t190 t500 t800 scalars Ps hs]
  exact optionalMultiscalarMulWith_rel h t190 t500 t800 scalars hp

/-- precomputed mixed multiscalar multiplication (tables built by the implementation's `new`) -/
theorem impl_precomputed_spec (h : OpsRel r oR groupOps) (staticScalars dynamicScalars : List (List UInt8))
    (hs : ∀ b ∈ staticScalars, Scalar255 b) (hd : ∀ b ∈ dynamicScalars, Scalar255 b)
    {sps : List R} {SPs : List G} (hsp : List.Forall₂ r sps SPs)
    {ps : List (Option R)} {Ps : List (Option G)} (hp : List.Forall₂ (OptRel r) ps Ps) :
    OptRel (OptRel r)
      (optionalMixedMultiscalarMul oR (precomputationNew oR sps) staticScalars dynamicScalars ps)
      (match collectOption Ps with
        | none => some none
        | some dps =>
          if staticScalars.length ≤ SPs.length ∧ dps.length = dynamicScalars.length then
            some (some (msm staticScalars SPs + msm dynamicScalars dps))
          else none) := by
  rw [← precomputed_spec SPs staticScalars dynamicScalars Ps hs hd]
  exact optionalMixedMultiscalarMul_rel h (precomputedNew_rel h hsp) _ _ hp

end Impl

/-! ### the Ed25519 curve

`Dalek.Bridge.Ed` is the commutative group of points of the Ed25519 curve (`EdPoint edParams`, group law proved
in `Dalek/Proofs/EdwardsGroup.lean`), `Rep p Q` says that the executable specification point `p : Spec.Pt`
represents `Q : Ed`, and `Pt.smul`, `Pt.msm` are the specification's double-and-add / reference sum that the
differential run compares the Rust results against.  So: each algorithm, run over the curve group, returns the
point represented by the specification's result. -/
section Curve
open Dalek.Bridge

theorem msm_eq_msmEd (scalars : List (List UInt8)) (Qs : List Ed) :
    msm scalars Qs = msmEd (scalars.map leToNat) Qs := by
  induction scalars generalizing Qs with
  | nil => simp [msm_nil_left, msmEd]
  | cons b bs ih =>
    cases Qs with
    | nil => simp [msm_nil_right, msmEd]
    | cons Q Qs => rw [msm_cons, ih, List.map_cons, msmEd]

/-- variable-base (both copies), fixed-base tables of every radix built from `Q`, and vartime double-base on the
curve agree with the specification's scalar multiplication. -/
theorem curve_single_spec (cfg : Config) (b : List UInt8) (hb : Scalar255 b) (p : Pt) (Q : Ed) (h : Rep p Q) :
    Rep (Pt.smul (leToNat b) p) (edwardsMul groupOps cfg Q b) ∧
    (∀ w, 4 ≤ w → w ≤ 8 →
      Rep (Pt.smul (leToNat b) p) (basepointTableMul groupOps w (basepointTableCreate groupOps w Q) b)) := by
  refine ⟨?_, fun w h4 h8 => ?_⟩
  · rw [edwards_mul_spec cfg b hb Q]; exact rep_smul h _
  · rw [basepoint_table_create_mul_spec w h4 h8 Q b hb]; exact rep_smul h _

theorem curve_double_base_spec (cfg : Config) (c : BaseConsts Ed) (hc : ValidConsts c) (a b : List UInt8)
    (ha : Scalar255 a) (hb : Scalar255 b) (p pB : Pt) (A : Ed) (hA : Rep p A) (hB : Rep pB c.B) :
    Rep ((Pt.smul (leToNat a) p).add (Pt.smul (leToNat b) pB)) (doubleBase groupOps cfg c a A b) := by
  rw [double_base_spec cfg c hc a b ha hb A]
  exact rep_add (rep_smul hA _) (rep_smul hB _)

/-- all multiscalar entry points on the curve (any thresholds) agree with the specification's `Pt.msm`. -/
theorem curve_multiscalar_spec (t190 t500 t800 : ℕ) (scalars : List (List UInt8)) (ps : List Pt)
    (Qs : List Ed) (hs : ∀ b ∈ scalars, Scalar255 b) (hlen : scalars.length = Qs.length)
    (h : List.Forall₂ Rep ps Qs) :
    ∃ R : Ed, Rep (Pt.msm (scalars.map leToNat) ps) R ∧
      multiscalarMul groupOps scalars Qs = some R ∧
      optionalMultiscalarMulWith groupOps t190 t500 t800 scalars (Qs.map some) = some (some R) := by
  refine ⟨msmEd (scalars.map leToNat) Qs, rep_msm _ _ _ h, ?_, ?_⟩
  · rw [multiscalar_mul_spec scalars Qs hs, if_pos hlen, msm_eq_msmEd]
  · rw [dispatch_spec _ _ _ scalars _ hs, if_pos (by rw [List.length_map, hlen]), collect_some,
      Option.map_some, msm_eq_msmEd]

/-- The two executable point implementations satisfy the contracts with respect to the curve group:
`ptOps` (affine specification points, `Rep`) and `eptOps` (extended coordinates with dalek's addition and
doubling formulas, `ERep`). -/
theorem ptOps_rel : OpsRel Rep ptOps (groupOps : PointOps Ed) :=
  ⟨rep_zero, rep_add, rep_sub, rep_neg, fun h => by
    have := rep_double h
    rwa [two_nsmul] at this⟩

theorem eptOps_rel : OpsRel ERep eptOps (groupOps : PointOps Ed) :=
  ⟨erep_zero, erep_add, erep_sub, erep_neg, erep_double⟩

/-- So the executable models, run on extended coordinates with dalek's formulas, return representations of
`s • Q`, `a • A + b • B`, `Σ sᵢ • Qᵢ` on the curve; e.g. for variable-base multiplication: -/
theorem curve_ept_variable_base (cfg : Config) (b : List UInt8) (hb : Scalar255 b) (e : Dalek.Model.EPt)
    (Q : Ed) (h : ERep e Q) : ERep (edwardsMul eptOps cfg e b) (leToNat b • Q) :=
  impl_edwards_mul_spec eptOps_rel cfg b hb h

theorem curve_ept_dispatch (t190 t500 t800 : ℕ) (scalars : List (List UInt8))
    (hs : ∀ b ∈ scalars, Scalar255 b) (es : List Dalek.Model.EPt) (Qs : List Ed)
    (h : List.Forall₂ ERep es Qs) (hlen : scalars.length = Qs.length) :
    ∃ e, optionalMultiscalarMulWith eptOps t190 t500 t800 scalars (es.map some) = some (some e) ∧
      ERep e (msm scalars Qs) := by
  have hp : List.Forall₂ (Dalek.Proofs.OptRel ERep) (es.map some) (Qs.map some) :=
    map_rel h fun _ _ ha => ha
  have := impl_dispatch_spec eptOps_rel t190 t500 t800 scalars hs hp
  rw [List.length_map, if_pos hlen, collect_some, Option.map_some] at this
  obtain ⟨o, ho, h2⟩ := Dalek.Proofs.OptRel.of_some_right this
  obtain ⟨e, he, h3⟩ := Dalek.Proofs.OptRel.of_some_right h2
  exact ⟨e, by rw [ho, he], h3⟩

end Curve

/-! ### sanity: hypotheses are satisfiable; the executable model on the integers (`G := ℤ`, `P = 1`) -/

/-- `2^255 - 1` (unreduced): bytes `ff … ff 7f` -/
def bMax : List UInt8 := List.replicate 31 0xff ++ [0x7f]
/-- `ℓ - 1` (the largest canonical scalar) -/
def bLm1 : List UInt8 := natToLe (2 ^ 252 + 27742317777372353535851937790883648493 - 1) 32

theorem scalar255_bMax : Scalar255 bMax := by unfold Scalar255; decide +kernel
theorem scalar255_bLm1 : Scalar255 bLm1 := by unfold Scalar255; decide +kernel

example : Scalar255 bMax ∧ Scalar255 bLm1 := ⟨scalar255_bMax, scalar255_bLm1⟩

theorem scalar255_pair : ∀ b ∈ [bMax, bLm1], Scalar255 b := by
  simpa using ⟨scalar255_bMax, scalar255_bLm1⟩

theorem leToNat_bMax : leToNat bMax = 2 ^ 255 - 1 := by decide +kernel

theorem intOps_eq : intOps = groupOps := rfl

/-! `variable_base`, constant-time Straus and the `None` / panic cases are run; the table, NAF and bucket
algorithms are instances of the theorems above (whose hypotheses hold of `bMax`, `bLm1`), with the reference sum
evaluated. -/

example : variableBaseMul intOps (asRadix16 bMax) 1 = 2 ^ 255 - 1 := by decide +kernel
example : variableBaseMulVec intOps (asRadix16 bMax) 1 = 2 ^ 255 - 1 := by decide +kernel
example : variableBaseMul intOps (asRadix16 bLm1) (-3) = -3 * leToNat bLm1 := by decide +kernel
example : ∀ w ∈ [4, 5, 6, 7, 8],
    basepointTableMul intOps w (basepointTableCreate intOps w 1) bMax = 2 ^ 255 - 1 := by
  intro w hw
  have : 4 ≤ w ∧ w ≤ 8 := by revert w; decide
  rw [intOps_eq, basepoint_table_create_mul_spec w this.1 this.2 1 bMax scalar255_bMax]
  decide +kernel
example : strausCT intOps ([bMax, bLm1].map asRadix16) [1, -1] = 2 ^ 255 - 1 - leToNat bLm1 := by
  decide +kernel
example : strausVT intOps ([bMax, bLm1].map (nonAdjacentForm · 5)) [some 1, some (-1)]
    = some ((2 : ℤ) ^ 255 - 1 - leToNat bLm1) := by
  rw [intOps_eq, straus_vt_spec _ _ scalar255_pair]
  decide +kernel
example : ∀ w ∈ [6, 7, 8], pippenger intOps w ([bMax, bLm1].map (asRadix2w · w)) [some 1, some (-1)]
    = some ((2 : ℤ) ^ 255 - 1 - leToNat bLm1) := by
  intro w hw
  rw [intOps_eq, pippenger_spec w (by simpa using hw) _ _ (fun b hb => (scalar255_pair b hb).1) rfl]
  decide +kernel
example : doubleBaseLoop intOps (nonAdjacentForm bLm1 5) (nonAdjacentForm bMax 8) 5 (nafTableFrom intOps 64 1)
    = 5 * leToNat bLm1 + (2 ^ 255 - 1) := by
  rw [intOps_eq]
  refine (double_base_spec ⟨.serial, true⟩ _ (validConsts_built (1 : ℤ)) _ _ scalar255_bLm1 scalar255_bMax
    5).trans ?_
  decide +kernel
example : optionalMultiscalarMul intOps [bMax, bLm1] [some 1, none] = some none := by decide +kernel
example : optionalMultiscalarMul intOps [bMax, bLm1] [some 1] = none := by decide +kernel
example : precomputedMixed intOps (precomputedNew intOps [2, 3, 4]) ([bLm1].map (nonAdjacentForm · 5))
    ([bMax].map (nonAdjacentForm · 5)) [some 7] = some (some ((2 : ℤ) * leToNat bLm1 + 7 * (2 ^ 255 - 1))) := by
  rw [intOps_eq]
  refine (precomputed_spec (G := ℤ) [2, 3, 4] [bLm1] [bMax] [some 7] (by simpa using scalar255_bLm1)
    (by simpa using scalar255_bMax)).trans ?_
  decide +kernel

section
open Dalek.Bridge

/-- the executable model on extended coordinates with dalek's formulas, against the specification's
double-and-add (projective equality `EPt.eq`), on the unreduced scalar `2^255 - 1` -/
example : (edwardsMul eptOps ⟨.serial, false⟩ Dalek.Model.EPt.basepoint bMax).eq
    (Dalek.Model.EPt.smul (2 ^ 255 - 1) Dalek.Model.EPt.basepoint) = true := by decide +kernel
example : (basepointTableMul eptOps 8 (basepointTableCreate eptOps 8 Dalek.Model.EPt.basepoint) bMax).eq
    (Dalek.Model.EPt.smul (2 ^ 255 - 1) Dalek.Model.EPt.basepoint) = true := by
  rw [eq_iff (impl_basepoint_table_spec eptOps_rel 8 (by decide) (by decide) bMax scalar255_bMax erep_basepoint)
    (erep_smul erep_basepoint _), leToNat_bMax]
example : (pippenger eptOps 8 ([bMax, bLm1].map (asRadix2w · 8))
      [some Dalek.Model.EPt.basepoint, some Dalek.Model.EPt.basepoint]).map
      (fun e => e.eq (Dalek.Model.EPt.smul (2 ^ 255 - 1 + leToNat bLm1) Dalek.Model.EPt.basepoint))
    = some true := by
  have h := pippenger_rel eptOps_rel 8 ([bMax, bLm1].map (asRadix2w · 8))
    (.cons erep_basepoint (.cons erep_basepoint .nil) :
      List.Forall₂ (Dalek.Proofs.OptRel ERep) [some Dalek.Model.EPt.basepoint, some Dalek.Model.EPt.basepoint]
        [some Bpt, some Bpt])
  rw [pippenger_spec 8 (by decide) _ _ (fun b hb => (scalar255_pair b hb).1) rfl] at h
  obtain ⟨e, he, h⟩ := Dalek.Proofs.OptRel.of_some_right h
  rw [he, Option.map_some, (eq_iff h (erep_smul erep_basepoint _)).2]
  show leToNat bMax • Bpt + (leToNat bLm1 • Bpt + 0) = _
  rw [leToNat_bMax, add_zero, add_nsmul]

end

/-! ### axiom audit -/

/-- info: 'Dalek.Props.C04.Algorithms.vectorOps_groupOps' depends on axioms: [propext, Quot.sound] -/
#guard_msgs in #print axioms vectorOps_groupOps

/-- info: 'Dalek.Props.C04.Algorithms.table_spec' depends on axioms: [propext, Classical.choice, Quot.sound] -/
#guard_msgs in #print axioms table_spec

/-- info: 'Dalek.Props.C04.Algorithms.select_spec' depends on axioms: [propext, Classical.choice, Quot.sound] -/
#guard_msgs in #print axioms select_spec

/-- info: 'Dalek.Props.C04.Algorithms.naf_select_spec' depends on axioms: [propext, Classical.choice, Quot.sound] -/
#guard_msgs in #print axioms naf_select_spec

/-- info: 'Dalek.Props.C04.Algorithms.variable_base_spec' depends on axioms: [propext, Classical.choice, Quot.sound] -/
#guard_msgs in #print axioms variable_base_spec

/-- info: 'Dalek.Props.C04.Algorithms.edwards_mul_spec' depends on axioms: [propext, Classical.choice, Quot.sound] -/
#guard_msgs in #print axioms edwards_mul_spec

/-- info: 'Dalek.Props.C04.Algorithms.mul_clamped_spec' depends on axioms: [propext, Classical.choice, Quot.sound] -/
#guard_msgs in #print axioms mul_clamped_spec

/-- info: 'Dalek.Props.C04.Algorithms.create_spec' depends on axioms: [propext, Classical.choice, Quot.sound] -/
#guard_msgs in #print axioms create_spec

/-- info: 'Dalek.Props.C04.Algorithms.basepoint_table_spec' depends on axioms: [propext, Classical.choice, Quot.sound] -/
#guard_msgs in #print axioms basepoint_table_spec

/-- info: 'Dalek.Props.C04.Algorithms.basepoint_table_create_mul_spec' depends on axioms: [propext, Classical.choice, Quot.sound] -/
#guard_msgs in #print axioms basepoint_table_create_mul_spec

/-- info: 'Dalek.Props.C04.Algorithms.basepoint_table_basepoint_spec' depends on axioms: [propext, Classical.choice, Quot.sound] -/
#guard_msgs in #print axioms basepoint_table_basepoint_spec

/-- info: 'Dalek.Props.C04.Algorithms.mul_base_spec' depends on axioms: [propext, Classical.choice, Quot.sound] -/
#guard_msgs in #print axioms mul_base_spec

/-- info: 'Dalek.Props.C04.Algorithms.mul_base_clamped_spec' depends on axioms: [propext, Classical.choice, Quot.sound] -/
#guard_msgs in #print axioms mul_base_clamped_spec

/-- info: 'Dalek.Props.C04.Algorithms.double_base_spec' depends on axioms: [propext, Classical.choice, Quot.sound] -/
#guard_msgs in #print axioms double_base_spec

/-- info: 'Dalek.Props.C04.Algorithms.straus_ct_spec' depends on axioms: [propext, Classical.choice, Quot.sound] -/
#guard_msgs in #print axioms straus_ct_spec

/-- info: 'Dalek.Props.C04.Algorithms.straus_vt_spec' depends on axioms: [propext, Classical.choice, Quot.sound] -/
#guard_msgs in #print axioms straus_vt_spec

/-- info: 'Dalek.Props.C04.Algorithms.pippenger_spec' depends on axioms: [propext, Classical.choice, Quot.sound] -/
#guard_msgs in #print axioms pippenger_spec

/-- info: 'Dalek.Props.C04.Algorithms.pippenger_none_iff' depends on axioms: [propext, Classical.choice, Quot.sound] -/
#guard_msgs in #print axioms pippenger_none_iff

/-- info: 'Dalek.Props.C04.Algorithms.pippenger_index_ok' depends on axioms: [propext, Classical.choice, Quot.sound] -/
#guard_msgs in #print axioms pippenger_index_ok

/-- info: 'Dalek.Props.C04.Algorithms.precomputed_spec' depends on axioms: [propext, Classical.choice, Quot.sound] -/
#guard_msgs in #print axioms precomputed_spec

/-- info: 'Dalek.Props.C04.Algorithms.dispatch_spec' depends on axioms: [propext, Classical.choice, Quot.sound] -/
#guard_msgs in #print axioms dispatch_spec

/-- info: 'Dalek.Props.C04.Algorithms.optional_multiscalar_mul_spec' depends on axioms: [propext, Classical.choice, Quot.sound] -/
#guard_msgs in #print axioms optional_multiscalar_mul_spec

/-- info: 'Dalek.Props.C04.Algorithms.optional_none_iff' depends on axioms: [propext, Classical.choice, Quot.sound] -/
#guard_msgs in #print axioms optional_none_iff

/-- info: 'Dalek.Props.C04.Algorithms.multiscalar_mul_spec' depends on axioms: [propext, Classical.choice, Quot.sound] -/
#guard_msgs in #print axioms multiscalar_mul_spec

/-- info: 'Dalek.Props.C04.Algorithms.vartime_multiscalar_mul_spec' depends on axioms: [propext, Classical.choice, Quot.sound] -/
#guard_msgs in #print axioms vartime_multiscalar_mul_spec

/--
info: 'Dalek.Props.C04.Algorithms.vartime_mixed_multiscalar_mul_spec' depends on axioms: [propext,
 Classical.choice,
 Quot.sound]
-/
#guard_msgs in #print axioms vartime_mixed_multiscalar_mul_spec

/--
info: 'Dalek.Props.C04.Algorithms.precomputed_vartime_multiscalar_mul_spec' depends on axioms: [propext,
 Classical.choice,
 Quot.sound]
-/
#guard_msgs in #print axioms precomputed_vartime_multiscalar_mul_spec

/-- info: 'Dalek.Props.C04.Algorithms.empty_identity' depends on axioms: [propext, Classical.choice, Quot.sound] -/
#guard_msgs in #print axioms empty_identity

/-- info: 'Dalek.Props.C04.Algorithms.ristretto_wrappers' depends on axioms: [propext, Quot.sound] -/
#guard_msgs in #print axioms ristretto_wrappers

/-- info: 'Dalek.Props.C04.Algorithms.curve_single_spec' depends on axioms: [propext, Classical.choice, Quot.sound] -/
#guard_msgs in #print axioms curve_single_spec

/-- info: 'Dalek.Props.C04.Algorithms.curve_double_base_spec' depends on axioms: [propext, Classical.choice, Quot.sound] -/
#guard_msgs in #print axioms curve_double_base_spec

/-- info: 'Dalek.Props.C04.Algorithms.curve_multiscalar_spec' depends on axioms: [propext, Classical.choice, Quot.sound] -/
#guard_msgs in #print axioms curve_multiscalar_spec

/-- info: 'Dalek.Props.C04.Algorithms.impl_edwards_mul_spec' depends on axioms: [propext, Classical.choice, Quot.sound] -/
#guard_msgs in #print axioms impl_edwards_mul_spec

/-- info: 'Dalek.Props.C04.Algorithms.impl_basepoint_table_spec' depends on axioms: [propext, Classical.choice, Quot.sound] -/
#guard_msgs in #print axioms impl_basepoint_table_spec

/-- info: 'Dalek.Props.C04.Algorithms.impl_mul_base_spec' depends on axioms: [propext, Classical.choice, Quot.sound] -/
#guard_msgs in #print axioms impl_mul_base_spec

/-- info: 'Dalek.Props.C04.Algorithms.impl_double_base_spec' depends on axioms: [propext, Classical.choice, Quot.sound] -/
#guard_msgs in #print axioms impl_double_base_spec

/-- info: 'Dalek.Props.C04.Algorithms.impl_multiscalar_mul_spec' depends on axioms: [propext, Classical.choice, Quot.sound] -/
#guard_msgs in #print axioms impl_multiscalar_mul_spec

/-- info: 'Dalek.Props.C04.Algorithms.impl_dispatch_spec' depends on axioms: [propext, Classical.choice, Quot.sound] -/
#guard_msgs in #print axioms impl_dispatch_spec

/-- info: 'Dalek.Props.C04.Algorithms.impl_precomputed_spec' depends on axioms: [propext, Classical.choice, Quot.sound] -/
#guard_msgs in #print axioms impl_precomputed_spec

/-- info: 'Dalek.Props.C04.Algorithms.ptOps_rel' depends on axioms: [propext, Classical.choice, Quot.sound] -/
#guard_msgs in #print axioms ptOps_rel

/-- info: 'Dalek.Props.C04.Algorithms.eptOps_rel' depends on axioms: [propext, Classical.choice, Quot.sound] -/
#guard_msgs in #print axioms eptOps_rel

/-- info: 'Dalek.Props.C04.Algorithms.curve_ept_variable_base' depends on axioms: [propext, Classical.choice, Quot.sound] -/
#guard_msgs in #print axioms curve_ept_variable_base

/-- info: 'Dalek.Props.C04.Algorithms.curve_ept_dispatch' depends on axioms: [propext, Classical.choice, Quot.sound] -/
#guard_msgs in #print axioms curve_ept_dispatch

end Dalek.Props.C04.Algorithms
