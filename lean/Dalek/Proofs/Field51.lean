import Dalek.Proofs.LimbTac
import Dalek.Gen.Norm.Field51
/-! Functional correctness of the translated serial-u64 field kernels in `ZMod p`, for ALL integer inputs
(bounds are not needed for these identities; they are needed, and proved separately by the analyser,
for "the Rust arithmetic does not overflow, so it computes these integer functions"). -/
namespace Dalek.Proofs.Field51
open Dalek Dalek.Gen.Norm.Field51

abbrev P : Nat := 2 ^ 255 - 19

/-- value of a 5-limb radix-2^51 vector -/
def rep51 (l : List Int) : Int :=
  l.getD 0 0 + 2 ^ 51 * l.getD 1 0 + 2 ^ 102 * l.getD 2 0 + 2 ^ 153 * l.getD 3 0 + 2 ^ 204 * l.getD 4 0

attribute [limb_rep] rep51

theorem mul_correct (x0 x1 x2 x3 x4 x5 x6 x7 x8 x9 : Int) :
    ((rep51 (mul_fn x0 x1 x2 x3 x4 x5 x6 x7 x8 x9) : Int) : ZMod P)
      = ((rep51 [x0, x1, x2, x3, x4] : Int) : ZMod P) * ((rep51 [x5, x6, x7, x8, x9] : Int) : ZMod P) := by
  limb_ring mul_fn (ZMod P)

theorem pow2k_body_correct (x0 x1 x2 x3 x4 : Int) :
    ((rep51 (pow2k_body_fn x0 x1 x2 x3 x4) : Int) : ZMod P)
      = ((rep51 [x0, x1, x2, x3, x4] : Int) : ZMod P) ^ 2 := by
  limb_ring pow2k_body_fn (ZMod P)

theorem add_correct (x0 x1 x2 x3 x4 x5 x6 x7 x8 x9 : Int) :
    ((rep51 (add_fn x0 x1 x2 x3 x4 x5 x6 x7 x8 x9) : Int) : ZMod P)
      = ((rep51 [x0, x1, x2, x3, x4] : Int) : ZMod P) + ((rep51 [x5, x6, x7, x8, x9] : Int) : ZMod P) := by
  limb_ring add_fn (ZMod P)

theorem sub_correct (x0 x1 x2 x3 x4 x5 x6 x7 x8 x9 : Int) :
    ((rep51 (sub_fn x0 x1 x2 x3 x4 x5 x6 x7 x8 x9) : Int) : ZMod P)
      = ((rep51 [x0, x1, x2, x3, x4] : Int) : ZMod P) - ((rep51 [x5, x6, x7, x8, x9] : Int) : ZMod P) := by
  limb_ring sub_fn (ZMod P)

theorem neg_correct (x0 x1 x2 x3 x4 : Int) :
    ((rep51 (neg_fn x0 x1 x2 x3 x4) : Int) : ZMod P) = - ((rep51 [x0, x1, x2, x3, x4] : Int) : ZMod P) := by
  limb_ring neg_fn (ZMod P)

theorem reduce_correct (x0 x1 x2 x3 x4 : Int) :
    ((rep51 (reduce_fn x0 x1 x2 x3 x4) : Int) : ZMod P) = ((rep51 [x0, x1, x2, x3, x4] : Int) : ZMod P) := by
  limb_ring reduce_fn (ZMod P)

theorem square2_tail_correct (x0 x1 x2 x3 x4 : Int) :
    ((rep51 (square2_tail_fn x0 x1 x2 x3 x4) : Int) : ZMod P) = 2 * ((rep51 [x0, x1, x2, x3, x4] : Int) : ZMod P) := by
  limb_ring square2_tail_fn (ZMod P)

end Dalek.Proofs.Field51
