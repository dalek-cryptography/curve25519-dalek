import Dalek.Proofs.MontBytes
import Dalek.Proofs.MontClamp
import Dalek.Proofs.MontXOnly
import Dalek.Proofs.AlgZMod
/-!
# C07 — X25519 and the Montgomery ladder conform to RFC 7748 on all inputs (property theorems, part 1)

Objects:
* `Dalek.Gen.AlgMontgomery.*` — the field-level formulas REGENERATED from `curve25519-dalek/src/montgomery.rs`
  on every run (`differential_add_and_double`, `ProjectivePoint::{identity, conditional_select, as_affine}`,
  `ct_eq`), `Dalek.Gen.Clamp.clamp_integer` (LimbIR kernel regenerated from `scalar.rs`);
* `Dalek.Model.Ladder.*` — the hand model of the control structure around them (`mul_bits_be`, `Mul<&Scalar>`,
  `mul_clamped`, `x25519`, `diffie_hellman`, `was_contributory`), executed by the model executable with the
  interpretation `natOps` and compared with the Rust drivers in the differential run;
* `Dalek.Spec.{x25519, ladderStep, ladderBitsBE, montMul, clampInteger}` — RFC 7748 transcribed.

All statements are for ALL inputs (all 2^256 × 2^256 byte pairs, all bit lists): bit 255 of `u` is ignored and
non-canonical `u` are reduced because both sides start from `feFromBytes u`; twist and small-order points are
not special-cased anywhere (the ladder states coincide component-wise); the final inversion maps `0 ↦ 0`.
-/
namespace Dalek.Props.C07
open Dalek.IR Dalek.Spec Dalek.Model Dalek.Model.Ladder Dalek.Proofs.Mont Dalek.Bridge

/-! ## the ladder step -/

/-- **`ladder_step_eq_rfc`** (formula level).  For all field values the translated
`differential_add_and_double(P, Q, affine_PmQ)` returns exactly the four values `x2, z2, x3, z3` of one
RFC 7748 ladder step (without swap) on `(x2:z2) = P`, `(x3:z3) = Q`, `x1 = affine_PmQ`.  dalek computes
`z2 = E·(BB + 121666·E)` with `APLUS2_OVER_FOUR`, the RFC `E·(AA + 121665·E)`; the values are identical
because `AA = BB + E`. -/
theorem ladder_step_eq_rfc (x2 z2 x3 z3 x1 : Nat) :
    Dalek.Gen.AlgMontgomery.differential_add_and_double.run natOps [x2, z2, x3, z3, x1] =
      (let r := ladderStep x1 ⟨x2, z2, x3, z3, false⟩ false
       [r.x2, r.z2, r.x3, r.z3]) := by
  rw [dadd_nat]
  simp [ladderStep, cswap]

/-- The constant used by the step is `constants::APLUS2_OVER_FOUR`, and its regenerated limb table has the
value `121666`. -/
theorem aplus2_over_four :
    Dalek.Gen.AlgMontgomery.constNames.getD 11 "" = "constants::APLUS2_OVER_FOUR" ∧ natOps.const 11 = 121666 :=
  ⟨by decide, const_11⟩

/-- The same statement in the field `Fp = ZMod p` (interpretation `zmodOps`): the four outputs are
`AA·BB`, `E·(AA + 121665·E)`, `(DA+CB)²`, `x1·(DA−CB)²` with `A = x2+z2`, `B = x2−z2`, `C = x3+z3`, `D = x3−z3`,
`E = AA − BB`. -/
theorem ladder_step_eq_rfc_field (x2 z2 x3 z3 x1 : Dalek.Proofs.Fp) :
    Dalek.Gen.AlgMontgomery.differential_add_and_double.run Dalek.Proofs.zmodOps [x2, z2, x3, z3, x1] =
      [(x2 + z2) ^ 2 * (x2 - z2) ^ 2,
       ((x2 + z2) ^ 2 - (x2 - z2) ^ 2) * ((x2 + z2) ^ 2 + 121665 * ((x2 + z2) ^ 2 - (x2 - z2) ^ 2)),
       ((x3 - z3) * (x2 + z2) + (x3 + z3) * (x2 - z2)) ^ 2,
       x1 * ((x3 - z3) * (x2 + z2) - (x3 + z3) * (x2 - z2)) ^ 2] := by
  rw [Dalek.Gen.AlgMontgomery.differential_add_and_double_sh_ok]
  unfold Dalek.Gen.AlgMontgomery.differential_add_and_double_sh
  have hc : Dalek.Proofs.zmodOps.const 11 = 121666 := by
    show ((natOps.const 11 : Nat) : Dalek.Proofs.Fp) = 121666
    rw [const_11]; norm_num
  simp only [hc]
  simp only [Dalek.Proofs.zmodOps, List.cons.injEq, and_true]
  refine ⟨?_, ?_, ?_, ?_⟩ <;> ring

/-- One whole loop iteration of `mul_bits_be` (conditional swap on `prev_bit ^ cur_bit`, step,
`prev_bit = cur_bit`) is one iteration of the RFC 7748 loop (`swap ^= k_t`, two `cswap`s, step, `swap = k_t`):
the states `x0 = (x2:z2)`, `x1 = (x3:z3)`, `prev_bit = swap` coincide component-wise. -/
theorem ladder_iteration_eq_rfc (u : Nat) (s : LState Nat) (kt : Bool) :
    toL (step natOps u s kt) = ladderStep u (toL s) kt := step_nat u s kt

/-! ## the ladder -/

/-- **`mul_bits_be` for ARBITRARY bit lists** (field level): the model of `MontgomeryPoint::mul_bits_be`
over the translated items equals the RFC 7748 ladder on the same bits, with the final `U · W^(p−2)`. -/
theorem mul_bits_be_eq_rfc_field (u : Nat) (hu : u < P) (bits : List Bool) :
    mulBitsBE natOps u bits = ladderBitsBE u bits := mulBitsBE_nat u hu bits

/-- **`mul_bits_be` for arbitrary bit lists and arbitrary point bytes** (any length of `bits`). -/
theorem mul_bits_be_eq_rfc (u : List UInt8) (bits : List Bool) :
    montMulBitsBE u bits = feToBytes (ladderBitsBE (feFromBytes u) bits) := by
  unfold montMulBitsBE; rw [mulBitsBE_nat _ (feFromBytes_lt u)]

/-- `scalar.bits_le().rev().skip(1)` are the bits 254 … 0 of the scalar's integer value. -/
theorem scalar_bits_spec (bytes : List UInt8) (hlen : bytes.length = 32) :
    (scalarBitsLE bytes).reverse.drop 1 = bitsBE (leToNat bytes) 255 := scalarBits_eq bytes hlen

/-- `&MontgomeryPoint * &Scalar` for ANY 32 scalar bytes (reduced or not) is the ladder over bits 254…0. -/
theorem mont_mul_scalar_spec (u sc : List UInt8) (hlen : sc.length = 32) :
    Ladder.montMul u sc = Spec.montMul u sc := montMul_eq u sc hlen

/-- **`x25519_eq_rfc7748`**: for every 32-byte scalar `k` and every `u` (32 bytes; in fact any byte string),
the model of `x25519_dalek::x25519` equals RFC 7748 `X25519(k, u)`. -/
theorem x25519_eq_rfc7748 (k u : List UInt8) (hk : k.length = 32) :
    dalekX25519 k u = Spec.x25519 k u := by
  unfold dalekX25519 mulClamped
  rw [montMul_eq u _ (by rw [clampInteger_length, hk])]
  rfl

/-- The result depends on the point bytes only through `from_bytes`: bit 255 is ignored and non-canonical
encodings (`u ≥ p`) act as `u mod p`. -/
theorem x25519_depends_on_u_mod_p (k u u' : List UInt8) (h : feFromBytes u = feFromBytes u') :
    dalekX25519 k u = dalekX25519 k u' := by
  unfold dalekX25519 mulClamped Ladder.montMul montMulBitsBE
  rw [h]

/-- e.g. setting bit 255 of a `u` below `2^255` changes nothing -/
example (k u : List UInt8) (hu : u.length = 32) (h : leToNat u < 2 ^ 255) :
    dalekX25519 k (setSignBit u true) = dalekX25519 k u :=
  x25519_depends_on_u_mod_p k _ _ (feFromBytes_setSignBit hu h true)

/-! ## typed paths -/

/-- `MontgomeryPoint(u).mul_clamped(k)` is `X25519(k, u)`. -/
theorem mul_clamped_eq_x25519 (k u : List UInt8) (hk : k.length = 32) :
    mulClamped u k = Spec.x25519 k u := x25519_eq_rfc7748 k u hk

/-- `secret.diffie_hellman(&their_public)` (ephemeral, reusable and static secrets share the body) is
`X25519(secret, their_public)`. -/
theorem diffie_hellman_eq_x25519 (secret theirPublic : List UInt8) (hk : secret.length = 32) :
    diffieHellman secret theirPublic = Spec.x25519 secret theirPublic := x25519_eq_rfc7748 _ _ hk

/-- `mul_clamped` is scalar multiplication by the clamped bytes. -/
theorem mul_clamped_eq_mont_mul (k u : List UInt8) (hk : k.length = 32) :
    mulClamped u k = Spec.montMul u (clampInteger k) := by
  unfold mulClamped; exact montMul_eq u _ (by rw [clampInteger_length, hk])

/-! ## `clamp_integer` -/

/-- The translated `clamp_integer` kernel computes `Spec.clampInteger` (RFC 7748 `decodeScalar25519` bit
fiddling) on every 32-byte input; debug build does not panic, release build agrees. -/
theorem clamp_spec (b : List UInt8) (hlen : b.length = 32) :
    Dalek.Gen.Clamp.clamp_integer.evalC (b.map UInt8.toNat) = some ((clampInteger b).map UInt8.toNat) ∧
    Dalek.Gen.Clamp.clamp_integer.evalW (b.map UInt8.toNat) = (clampInteger b).map UInt8.toNat :=
  clamp_kernel_spec b hlen

/-- … and the clamped integer is a multiple of 8 in `[2^254, 2^255)`. -/
theorem clamp_range (b : List UInt8) (hlen : b.length = 32) :
    leToNat (clampInteger b) % 8 = 0 ∧ 2 ^ 254 ≤ leToNat (clampInteger b) ∧ leToNat (clampInteger b) < 2 ^ 255 :=
  clampedNat_spec hlen

/-! ## equality and the contributory check -/

/-- **`eq_mod_p`**: `MontgomeryPoint::ct_eq` / `==` (the translated item on `from_bytes` of both sides) compares
the values modulo `p` (bit 255 ignored, non-canonical encodings identified). -/
theorem eq_mod_p (a b : List UInt8) : montCtEq a b = true ↔ feFromBytes a = feFromBytes b := by
  unfold montCtEq
  rw [ct_eq_nat, Nat.mod_eq_of_lt (feFromBytes_lt a), Nat.mod_eq_of_lt (feFromBytes_lt b)]
  by_cases h : feFromBytes a = feFromBytes b <;> simp [b2n, h]

/-- `Hash for MontgomeryPoint` hashes `from_bytes(self).as_bytes()`: equal points (mod p) have equal hash
input, and the hash input determines the point mod p. -/
theorem hash_input_mod_p (a b : List UInt8) :
    feToBytes (feFromBytes a) = feToBytes (feFromBytes b) ↔ montCtEq a b = true := by
  rw [eq_mod_p]
  exact ⟨feToBytes_inj (feFromBytes_lt a) (feFromBytes_lt b), fun h => by rw [h]⟩

theorem feFromBytes_identity : feFromBytes montIdentity = 0 := by decide +kernel

/-- `was_contributory` is `false` exactly when the shared secret is `0` mod p … -/
theorem was_contributory_iff (shared : List UInt8) :
    wasContributory shared = false ↔ feFromBytes shared = 0 := by
  unfold wasContributory
  rw [Bool.not_eq_false', eq_mod_p, feFromBytes_identity]

/-- **`was_contributory_spec`**: … and for the output of a Diffie-Hellman (always canonically encoded) exactly
when the shared secret is the all-zero string. -/
theorem was_contributory_spec (secret theirPublic : List UInt8) :
    wasContributory (diffieHellman secret theirPublic) = false ↔
      diffieHellman secret theirPublic = List.replicate 32 0 := by
  rw [was_contributory_iff]
  unfold diffieHellman mulClamped Ladder.montMul montMulBitsBE
  generalize mulBitsBE natOps _ _ = v
  rw [feFromBytes_feToBytes]
  have h0 : feToBytes 0 = List.replicate 32 0 := by decide +kernel
  constructor
  · intro h
    have : feToBytes v = feToBytes (v % P) := by unfold feToBytes; rw [Nat.mod_mod]
    rw [this, h, h0]
  · intro h
    rw [← h0] at h
    have : feToBytes (v % P) = feToBytes 0 := by unfold feToBytes at h ⊢; rw [Nat.mod_mod]; exact h
    exact feToBytes_inj (Nat.mod_lt _ P_pos) (by norm_num) this

/-! ## non-vacuity / examples -/

/-- the length hypotheses are satisfiable; RFC 7748 §5.2 first test vector through the MODEL -/
example : (List.replicate 32 (0 : UInt8)).length = 32 := rfl

/-- a non-contributory exchange exists (`u = 0`), so `was_contributory_spec` is not vacuous -/
example : wasContributory (diffieHellman (List.replicate 32 7) (List.replicate 32 0)) = false := by
  rw [was_contributory_iff]
  unfold diffieHellman mulClamped Ladder.montMul montMulBitsBE
  rw [show feFromBytes (List.replicate 32 0) = 0 from feFromBytes_identity, mulBitsBE_nat 0 P_pos,
    ladder_zero, feFromBytes_feToBytes, Nat.zero_mod]

/-! ## axiom audit -/

/-- info: 'Dalek.Props.C07.ladder_step_eq_rfc' depends on axioms: [propext, Classical.choice, Quot.sound] -/
#guard_msgs in #print axioms ladder_step_eq_rfc
/-- info: 'Dalek.Props.C07.ladder_step_eq_rfc_field' depends on axioms: [propext, Classical.choice, Quot.sound] -/
#guard_msgs in #print axioms ladder_step_eq_rfc_field
/-- info: 'Dalek.Props.C07.mul_bits_be_eq_rfc' depends on axioms: [propext, Classical.choice, Quot.sound] -/
#guard_msgs in #print axioms mul_bits_be_eq_rfc
/-- info: 'Dalek.Props.C07.x25519_eq_rfc7748' depends on axioms: [propext, Classical.choice, Quot.sound] -/
#guard_msgs in #print axioms x25519_eq_rfc7748
/-- info: 'Dalek.Props.C07.clamp_spec' depends on axioms: [propext, Classical.choice, Quot.sound] -/
#guard_msgs in #print axioms clamp_spec
/-- info: 'Dalek.Props.C07.was_contributory_spec' depends on axioms: [propext, Classical.choice, Quot.sound] -/
#guard_msgs in #print axioms was_contributory_spec
/-- info: 'Dalek.Props.C07.hash_input_mod_p' depends on axioms: [propext, Classical.choice, Quot.sound] -/
#guard_msgs in #print axioms hash_input_mod_p

end Dalek.Props.C07
