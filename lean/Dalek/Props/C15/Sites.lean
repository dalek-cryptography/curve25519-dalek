import Dalek.Gen.Inventory
import Dalek.Model.PanicTable

/-!
# C15 — untrusted input never panics: every panic site of the source is classified

Lean functions are total, so "the model does not panic" carries no information.  The content of C15 on the
Lean side is an **inventory argument**: the translator regenerates, on every run, the list
`Dalek.Gen.Inventory.panicSites` of every syntactic panic site of the non-test code of `curve25519-dalek`,
`ed25519-dalek` and `x25519-dalek`; `Dalek.Model.PanicTable.table` assigns a hand-written, reviewed `Discharge`
to each of them; and the theorems below state that

* `all_sites_classified` — **every** regenerated site has an entry (so a new `unwrap`, `expect`, `assert!`,
  non-literal index, `copy_from_slice`, … anywhere in the non-test code breaks this theorem until it has been
  read and classified), and
* `no_unknown_sites` — no site is classified `unknown`.

What this does **not** prove: the reasons in the table are prose, checked by a human reader, not by Lean; entries
of class `provedBy "TODO:…"` name a precise mathematical fact whose Lean proof is still owed (`todoFacts`);
`arithmeticC11` entries defer to the bound contracts of C01/C02/C11.  The dynamic half of C15 (every decoder on
every length, all verify variants, the exceptional points of the Elligator / birational maps, under
`catch_unwind` in the `checked` profile) is the correspondence run of the check.
-/

namespace Dalek.Props.C15

open Dalek.Gen.Inventory Dalek.Model.PanicTable

/-- One scan of the inventory: every site has an entry, and that entry is not `unknown`. -/
theorem sites_discharged : ∀ s ∈ panicSites, ∃ d, lookup s = some d ∧ d.isUnknown = false := by
  have h : ∀ s ∈ panicSites, ((lookup s).any fun d => !d.isUnknown) = true := by decide +kernel
  intro s hs
  simpa [Option.any_eq_true] using h s hs

/-- **Every panic site of the non-test source has a reviewed discharge.**  Keyed by
`(file, enclosing fn, kind, normalised text, occurrence)` through the injective numeric `key`; line numbers play
no role. -/
theorem all_sites_classified : ∀ s ∈ panicSites, (lookup s).isSome = true := by
  intro s hs
  obtain ⟨d, h, -⟩ := sites_discharged s hs
  rw [h]; rfl

/-- **No site is left without a safety argument.** -/
theorem no_unknown_sites : ∀ s ∈ panicSites, ∀ d, lookup s = some d → d.isUnknown = false := by
  intro s hs d hd
  obtain ⟨d', h, hu⟩ := sites_discharged s hs
  rw [h] at hd
  cases hd
  exact hu

/-- The inventory scanned every source file (no file was skipped because it could not be tokenised). -/
theorem inventory_complete : scanErrors = [] := by decide +kernel

/-- The statements are not vacuous: the inventory is non-empty and, e.g., the Elligator `expect` is in it. -/
example : 0 < panicSites.length ∧
    (panicSites.any fun s => s.key == sitekey% "curve25519-dalek/src/edwards.rs" "EdwardsPoint::nonspec_map_to_curve"
      "expect" "E1_opt.expect(\"Montgomery conversion to Edwards point in Elligator failed\")") = true := by
  decide +kernel

/-- `lookup` fails for a site that is not in the table (the theorem has teeth). -/
example : lookupKey (sitekey% "curve25519-dalek/src/edwards.rs" "CompressedEdwardsY::from_slice" "unwrap"
    "bytes.try_into().unwrap()") 0 = none := by
  decide +kernel

/-! ## Evidence -/

/-- `(site, class: reason)` for every site, in source order (for the evidence file). -/
def siteReport : List (String × String) :=
  panicSites.map fun s =>
    (s.file ++ ":" ++ toString s.line ++ " " ++ s.func ++ " [" ++ s.kind ++ "] " ++ s.text,
     match lookup s with
     | some d => d.className ++ ": " ++ d.reason
     | none => "UNCLASSIFIED")

/-- number of sites per discharge class -/
def classCounts : List (String × Nat) :=
  let classes := ["guardedBy", "arithmeticC11", "documentedContract", "unreachableFromUntrusted", "provedBy",
    "provedBy(TODO)", "unknown", "UNCLASSIFIED"]
  classes.map fun c =>
    (c, (panicSites.filter fun s =>
      (match lookup s with | some d => d.className | none => "UNCLASSIFIED") == c).length)

/-- the mathematical facts the table relies on that are not yet proved in Lean (`provedBy "TODO:…"`) -/
def todoFacts : List String :=
  (table.filterMap fun e =>
    match e.discharge with
    | .provedBy t _ => if t.startsWith "TODO:" then some t else none
    | _ => none).eraseDups

/-- table entries that no longer correspond to any site of the source (stale after a source change; harmless,
reported for table hygiene) -/
def staleEntries : List String :=
  (table.filter fun e => !(panicSites.any fun s => s.key == e.key)).map fun e =>
    e.file ++ " " ++ e.func ++ " [" ++ e.kind ++ "] " ++ e.text

end Dalek.Props.C15
