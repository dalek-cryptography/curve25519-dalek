import Dalek.Proofs.Scalar52.Basic
/-! # Scalar52: `mul_internal`, `square_internal` are the schoolbook product (9 coefficients, within the
`montgomery_reduce` input contract). -/
set_option exponentiation.threshold 600

namespace Dalek.Proofs.Scalar52
open Dalek.IR Dalek.Gen.Norm.Scalar52 Dalek.Gen.Consts

theorem mul_bd {x y : Int} (hx : 0 ≤ x ∧ x < 2 ^ 52) (hy : 0 ≤ y ∧ y < 2 ^ 52) :
    0 ≤ x * y ∧ x * y ≤ 20282409603651661416747996545025 := by
  refine ⟨Int.mul_nonneg hx.1 hy.1, ?_⟩
  have h1 : x ≤ 4503599627370495 := by omega
  have h2 : y ≤ 4503599627370495 := by omega
  calc x * y ≤ 4503599627370495 * 4503599627370495 := Int.mul_le_mul h1 h2 hy.1 (by norm_num)
    _ = 20282409603651661416747996545025 := by norm_num

theorem add_bd {x y m n : Int} (hx : 0 ≤ x ∧ x ≤ m) (hy : 0 ≤ y ∧ y ≤ n) : 0 ≤ x + y ∧ x + y ≤ m + n :=
  ⟨add_nonneg hx.1 hy.1, add_le_add hx.2 hy.2⟩

theorem lt_of_bd {x m B : Int} (hx : 0 ≤ x ∧ x ≤ m) (hm : m < B) : 0 ≤ x ∧ x < B := ⟨hx.1, lt_of_le_of_lt hx.2 hm⟩

theorem mul_internal_fn_spec (a0 a1 a2 a3 a4 b0 b1 b2 b3 b4 : Int)
    (ha : Lim (2 ^ 52) [a0, a1, a2, a3, a4]) (hb : Lim (2 ^ 52) [b0, b1, b2, b3, b4]) :
    ∃ z0 z1 z2 z3 z4 z5 z6 z7 z8, mul_internal_fn a0 a1 a2 a3 a4 b0 b1 b2 b3 b4 = [z0, z1, z2, z3, z4, z5, z6, z7, z8] ∧
      Lim W1 [z0, z1, z2, z3, z4, z5, z6, z7, z8] ∧
      repZ [z0, z1, z2, z3, z4, z5, z6, z7, z8] = repZ [a0, a1, a2, a3, a4] * repZ [b0, b1, b2, b3, b4] := by
  unfold mul_internal_fn
  refine ⟨_, _, _, _, _, _, _, _, _, rfl, ?_, ?_⟩
  · simp only [Lim, and_true] at ha hb
    obtain ⟨ha0, ha1, ha2, ha3, ha4⟩ := ha
    obtain ⟨hb0, hb1, hb2, hb3, hb4⟩ := hb
    exact ⟨lt_of_bd (mul_bd ha0 hb0) (by decide),
      lt_of_bd (add_bd (mul_bd ha0 hb1) (mul_bd ha1 hb0)) (by decide),
      lt_of_bd (add_bd (add_bd (mul_bd ha0 hb2) (mul_bd ha1 hb1)) (mul_bd ha2 hb0)) (by decide),
      lt_of_bd (add_bd (add_bd (add_bd (mul_bd ha0 hb3) (mul_bd ha1 hb2)) (mul_bd ha2 hb1)) (mul_bd ha3 hb0)) (by decide),
      lt_of_bd (add_bd (add_bd (add_bd (add_bd (mul_bd ha0 hb4) (mul_bd ha1 hb3)) (mul_bd ha2 hb2)) (mul_bd ha3 hb1)) (mul_bd ha4 hb0)) (by decide),
      lt_of_bd (add_bd (add_bd (add_bd (mul_bd ha1 hb4) (mul_bd ha2 hb3)) (mul_bd ha3 hb2)) (mul_bd ha4 hb1)) (by decide),
      lt_of_bd (add_bd (add_bd (mul_bd ha2 hb4) (mul_bd ha3 hb3)) (mul_bd ha4 hb2)) (by decide),
      lt_of_bd (add_bd (mul_bd ha3 hb4) (mul_bd ha4 hb3)) (by decide),
      lt_of_bd (mul_bd ha4 hb4) (by decide), trivial⟩
  · simp only [repZ]; ring

/-- `square_internal(a)` computes the same nine coefficients as `mul_internal(a, a)` -/
theorem square_internal_fn_eq (a0 a1 a2 a3 a4 : Int) :
    square_internal_fn a0 a1 a2 a3 a4 = mul_internal_fn a0 a1 a2 a3 a4 a0 a1 a2 a3 a4 := by
  simp only [square_internal_fn, mul_internal_fn]
  ring_nf

end Dalek.Proofs.Scalar52
