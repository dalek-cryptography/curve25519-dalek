import Dalek.Proofs.ScalarApi29Kernels
import Dalek.Props.C02.Api
/-!
# C02 / C05 — the `Scalar` API of `curve25519-dalek/src/scalar.rs` on the serial u32 backend (`Scalar29`):
exact arithmetic modulo `l`, canonical output, and AGREEMENT with the serial u64 backend

Statements are about `Dalek.Model.ScalarApi29.*`: the backend-parametric transcription of the `scalar.rs` glue
(`Dalek/Model/ScalarKernels.lean`: `reduce`, `from_bytes_mod_order(_wide)`, `from_canonical_bytes`/`is_canonical`,
`Add/Sub/Mul/Neg`, `Sum`, `Product`, `invert` with the full addition chain of `montgomery_invert`, `batch_invert`,
`From<u8…u128>`, `from_hash`, `unpack`/`pack`) instantiated at `K29`, the record of the release semantics (`evalW`)
of the kernels TRANSLATED from `backend/serial/u32/scalar.rs` (`Dalek.Gen.Scalar29.*`, nine 29-bit limbs, Montgomery
radix `2^261`, constant `R` from `Dalek.Gen.Consts.U32`).  A kernel or constant change therefore propagates; the
COMPOSITION is a hand transcription (line references in `Dalek/Model/ScalarKernels.lean` / `ScalarApi.lean`), tied to
the source by the transcription and the differential run.

Same theorem list and statement shapes as `Dalek/Props/C02/Api.lean` (u64): a scalar is a `List Nat` of 32 bytes,
`leVal` its little-endian value, `Canonical b` (`Dalek.Proofs.ScalarApi.Canonical`, the SAME predicate as for the
u64 backend) means `EnvIn b (bytes 32)` and `leVal b < l`.  The backend-independent lemmas
`Api.canonical_ext`, `Api.canonical_high_bit_clear` and the addition-chain exponent are reused from there.
Each theorem is the backend-parametric one of `Dalek/Proofs/ScalarApi29GenInvert.lean` at `ok29` (the kernel theorems
of `Dalek/Props/C02/Scalar29.lean` / `Scalar29Composed.lean` on lists).

**C05 (backends agree), scalar API** — `api_agree_*`: for all inputs in the domain of each operation (ALL byte
strings for the reducing constructors, `is_canonical`, `from_canonical_bytes` and `Neg`; all canonical operands for
the operators, `invert`, and every list — zero entries included — for `Sum`, `Product`, `batch_invert`) the u32
model and the u64 model `Dalek.Model.ScalarApi.*` return the SAME bytes.
-/
set_option exponentiation.threshold 600

namespace Dalek.Props.C02.Api29
open Dalek.IR Dalek.Model.Contracts Dalek.Gen.Consts Dalek.Model Dalek.Model.ScalarApi29
open Dalek.Proofs.ScalarApi (F Canonical IsSc ZERO_isSc ONE_isSc forall2_isSc_of_canonical cast_ne_zero
  pow_l_sub_two)
open Dalek.Proofs.ScalarApiGen (ok29 ok52)
open Dalek.Model.FieldBytes (leVal natToLeN)
open Dalek.Props.C02.Scalar52 (l)

/-! ## `unpack` / `pack` -/

/-- `Scalar::unpack` then `UnpackedScalar::pack` is the identity on ALL 32-byte strings (also non-canonical ones):
the nine limbs hold the full 256-bit integer -/
theorem pack_unpack (b : List Nat) (hb : EnvIn b (bytes 32)) : pack (unpack b) = b :=
  Dalek.Proofs.ScalarApiGen.pack_unpack ok29 b hb

/-- `unpack` of any 32 bytes: nine limbs `< 2^29` whose radix-2^29 value is the little-endian value -/
theorem unpack_spec (b : List Nat) (hb : EnvIn b (bytes 32)) :
    EnvIn (unpack b) Dalek.Props.C02.Scalar29.limbs29 ∧ Dalek.Proofs.Scalar29.val29 (unpack b) = leVal b :=
  ok29.fromBytes_ok hb

/-! ## reduction and the constructors -/

/-- `Scalar::reduce`, for ALL 32-byte inputs (all 2^256): the canonical encoding of `LE(b) mod l` -/
theorem reduce_spec (b : List Nat) (hb : EnvIn b (bytes 32)) :
    Canonical (reduce29 b) ∧ leVal (reduce29 b) = leVal b % l :=
  Dalek.Proofs.ScalarApiGen.reduce_spec ok29 b hb

/-- the same on `List UInt8` against the executable specification `Dalek.Spec.scFromBytesModOrder` -/
theorem reduce_spec_bytes (b : List UInt8) (hb : b.length = 32) :
    Dalek.Spec.leToNat ((reduce29 (b.map UInt8.toNat)).map UInt8.ofNat) = Dalek.Spec.scFromBytesModOrder b :=
  Dalek.Proofs.ScalarApiGen.reduce_spec_bytes ok29 b hb

/-- `Scalar::from_bytes_mod_order`, for ALL 32-byte inputs -/
theorem from_bytes_mod_order_spec (b : List Nat) (hb : EnvIn b (bytes 32)) :
    Canonical (fromBytesModOrder b) ∧ leVal (fromBytesModOrder b) = leVal b % l :=
  reduce_spec b hb

/-- the `debug_assert_eq!(0u8, s[31] >> 7)` of `from_bytes_mod_order` holds for every input -/
theorem from_bytes_mod_order_high_bit (b : List Nat) (hb : EnvIn b (bytes 32)) :
    (fromBytesModOrder b).getD 31 0 >>> 7 = 0 :=
  (Api.canonical_high_bit_clear (from_bytes_mod_order_spec b hb).1).2

/-- `Scalar::from_bytes_mod_order_wide`, for ALL 64-byte inputs (all 2^512) -/
theorem from_bytes_mod_order_wide_spec (b : List Nat) (hb : EnvIn b (bytes 64)) :
    Canonical (fromBytesModOrderWide b) ∧ leVal (fromBytesModOrderWide b) = leVal b % l :=
  Dalek.Proofs.ScalarApiGen.wide_spec ok29 b hb

/-- `Scalar::from_hash` / `hash_from_bytes`: the 64-byte digest reduced mod `l` (the hash is a parameter) -/
theorem from_hash_spec (digest : List Nat) (hd : EnvIn digest (bytes 64)) :
    Canonical (fromHash digest) ∧ leVal (fromHash digest) = leVal digest % l :=
  from_bytes_mod_order_wide_spec digest hd

/-- `is_canonical` decides `LE(b) < l`, for ALL 32-byte inputs -/
theorem is_canonical_spec (b : List Nat) (hb : EnvIn b (bytes 32)) : isCanonical b = true ↔ leVal b < l :=
  Dalek.Proofs.ScalarApiGen.isCanonical_spec ok29 b hb

/-- `Scalar::from_canonical_bytes`, for ALL 32-byte inputs: `Some` exactly for the encodings of integers `< l`,
and then the scalar IS the input -/
theorem from_canonical_bytes_spec (b : List Nat) (hb : EnvIn b (bytes 32)) :
    ((fromCanonicalBytes b).isSome ↔ leVal b < l) ∧ (∀ s, fromCanonicalBytes b = some s → s = b) ∧
      fromCanonicalBytes b = if leVal b < l then some b else none :=
  Dalek.Proofs.ScalarApiGen.fromCanonicalBytes_spec ok29 b hb

/-- the integer conversions `From<u8>` (`k = 1`), `From<u16>` (2), `From<u32>` (4), `From<u64>` (8),
`From<u128>` (16): the scalar of that integer (these conversions do not touch the backend) -/
theorem from_uint_spec (k x : Nat) (hk : k ≤ 16) (hx : x < 256 ^ k) :
    Canonical (fromUInt k x) ∧ leVal (fromUInt k x) = x :=
  Api.from_uint_spec k x hk hx

theorem from_u8_spec (x : Nat) (hx : x < 2 ^ 8) : Canonical (fromU8 x) ∧ leVal (fromU8 x) = x :=
  Api.from_u8_spec x hx
theorem from_u16_spec (x : Nat) (hx : x < 2 ^ 16) : Canonical (fromU16 x) ∧ leVal (fromU16 x) = x :=
  Api.from_u16_spec x hx
theorem from_u32_spec (x : Nat) (hx : x < 2 ^ 32) : Canonical (fromU32 x) ∧ leVal (fromU32 x) = x :=
  Api.from_u32_spec x hx
theorem from_u64_spec (x : Nat) (hx : x < 2 ^ 64) : Canonical (fromU64 x) ∧ leVal (fromU64 x) = x :=
  Api.from_u64_spec x hx
theorem from_u128_spec (x : Nat) (hx : x < 2 ^ 128) : Canonical (fromU128 x) ∧ leVal (fromU128 x) = x :=
  Api.from_u128_spec x hx

/-! ## the operators (all pairs of canonical scalars) -/

/-- `&a + &b` -/
theorem add_spec (a b : List Nat) (ha : Canonical a) (hb : Canonical b) :
    Canonical (add a b) ∧ leVal (add a b) = (leVal a + leVal b) % l :=
  Dalek.Proofs.ScalarApiGen.add_spec ok29 a b ha hb

/-- `&a - &b` -/
theorem sub_spec (a b : List Nat) (ha : Canonical a) (hb : Canonical b) :
    Canonical (sub a b) ∧ leVal (sub a b) = (leVal a + l - leVal b) % l :=
  Dalek.Proofs.ScalarApiGen.sub_spec ok29 a b ha hb

/-- `&a * &b` -/
theorem mul_spec (a b : List Nat) (ha : Canonical a) (hb : Canonical b) :
    Canonical (mul a b) ∧ leVal (mul a b) = leVal a * leVal b % l :=
  Dalek.Proofs.ScalarApiGen.mul_spec ok29 a b ha hb

/-- `-&a`: `(l - a) mod l`; in particular `0` for `a = 0` (see `neg_zero`) -/
theorem neg_spec (a : List Nat) (ha : Canonical a) :
    Canonical (neg a) ∧ leVal (neg a) = (l - leVal a) % l :=
  Dalek.Proofs.ScalarApiGen.neg_spec ok29 a ha

/-- the negation of zero is zero (the case a `sub(L, x)` rewrite of `Neg` gets wrong) -/
theorem neg_zero : neg ScalarRs.ZERO = ScalarRs.ZERO :=
  Dalek.Proofs.ScalarApiGen.neg_zero ok29

/-- more generally the negation of any canonical scalar of value zero has value zero -/
theorem neg_val_zero (a : List Nat) (ha : Canonical a) (h0 : leVal a = 0) : leVal (neg a) = 0 := by
  rw [(neg_spec a ha).2, h0, Nat.sub_zero, Nat.mod_self]

/-- `Sum`: the fold of `+` from `Scalar::ZERO` -/
theorem sum_spec (bs : List (List Nat)) (h : ∀ b ∈ bs, Canonical b) :
    Canonical (sum bs) ∧ leVal (sum bs) = (bs.map leVal).sum % l :=
  Dalek.Proofs.ScalarApiGen.sum_spec ok29 bs h

/-- `Product`: the fold of `*` from `Scalar::ONE` -/
theorem product_spec (bs : List (List Nat)) (h : ∀ b ∈ bs, Canonical b) :
    Canonical (product bs) ∧ leVal (product bs) = (bs.map leVal).prod % l :=
  Dalek.Proofs.ScalarApiGen.product_spec ok29 bs h

/-! ## inversion -/

/-- the addition chain of `montgomery_invert` (the SAME chain `Dalek.Model.ScalarApi.invertChain` the u32 model
runs on `Scalar29::montgomery_square` / `montgomery_mul`) computes the power `l - 2` -/
theorem invert_chain_exponent :
    Dalek.Model.ScalarApi.invertChain (fun e : Nat => 2 * e) (fun a b : Nat => a + b) 1 = l - 2 :=
  Api.invert_chain_exponent

/-- the u32 `montgomery_invert` IS that chain on the translated `Scalar29` kernels -/
theorem montgomery_invert_is_chain (a : List Nat) :
    montgomeryInvert a = Dalek.Model.ScalarApi.invertChain montgomerySquare29 montgomeryMul29 a := rfl

/-- `Scalar::invert` on every canonical scalar: the canonical encoding of `x^(l-2) mod l` -/
theorem invert_pow_spec (x : List Nat) (hx : Canonical x) :
    Canonical (invert x) ∧ leVal (invert x) = leVal x ^ (l - 2) % l :=
  Dalek.Proofs.ScalarApiGen.invert_pow_spec ok29 x hx

/-- `Scalar::invert` of a non-zero scalar is its inverse: `invert(x)·x ≡ 1 (mod l)` -/
theorem invert_spec (x : List Nat) (hx : Canonical x) (h0 : leVal x ≠ 0) :
    Canonical (invert x) ∧ leVal (invert x) * leVal x % l = 1 :=
  Dalek.Proofs.ScalarApiGen.invert_spec ok29 x hx h0

/-- `invert(0) = 0` (the documented convention) -/
theorem invert_zero : invert ScalarRs.ZERO = ScalarRs.ZERO :=
  Dalek.Proofs.ScalarApiGen.invert_zero ok29

/-- `Scalar::batch_invert`, for ALL batch lengths `n ≥ 0`: if all inputs are canonical and non-zero, every input is
replaced by its inverse and the returned scalar is the inverse of the product of the inputs -/
theorem batch_invert_spec (inputs : List (List Nat)) (hc : ∀ b ∈ inputs, Canonical b)
    (h0 : ∀ b ∈ inputs, leVal b ≠ 0) :
    List.Forall₂ (fun out inp => Canonical out ∧ leVal out * leVal inp % l = 1) (batchInvert inputs).1 inputs ∧
      Canonical (batchInvert inputs).2 ∧
      leVal (batchInvert inputs).2 * (inputs.map leVal).prod % l = 1 :=
  Dalek.Proofs.ScalarApiGen.batch_invert_spec ok29 inputs hc h0

/-- the empty batch returns one -/
theorem batch_invert_nil : batchInvert [] = ([], ScalarRs.ONE) :=
  Dalek.Proofs.ScalarApiGen.batch_invert_nil ok29

/-! ## every constructor and operator returns a canonical scalar -/

/-- **canonical invariant** (scalar invariant #2): every public constructor/operator of the model returns 32 bytes
whose value is `< l` — for ALL byte inputs of the reducing constructors and all canonical operands -/
theorem canonical_invariant :
    (∀ b, EnvIn b (bytes 32) → Canonical (fromBytesModOrder b)) ∧
    (∀ b, EnvIn b (bytes 64) → Canonical (fromBytesModOrderWide b)) ∧
    (∀ d, EnvIn d (bytes 64) → Canonical (fromHash d)) ∧
    (∀ b s, EnvIn b (bytes 32) → fromCanonicalBytes b = some s → Canonical s) ∧
    (∀ k x, k ≤ 16 → x < 256 ^ k → Canonical (fromUInt k x)) ∧
    Canonical ScalarRs.ZERO ∧ Canonical ScalarRs.ONE ∧
    (∀ a b, Canonical a → Canonical b → Canonical (add a b)) ∧
    (∀ a b, Canonical a → Canonical b → Canonical (sub a b)) ∧
    (∀ a b, Canonical a → Canonical b → Canonical (mul a b)) ∧
    (∀ a, Canonical a → Canonical (neg a)) ∧
    (∀ bs, (∀ b ∈ bs, Canonical b) → Canonical (sum bs)) ∧
    (∀ bs, (∀ b ∈ bs, Canonical b) → Canonical (product bs)) ∧
    (∀ a, Canonical a → Canonical (invert a)) ∧
    (∀ bs, (∀ b ∈ bs, Canonical b) → (∀ o ∈ (batchInvert bs).1, Canonical o) ∧ Canonical (batchInvert bs).2) :=
  Dalek.Proofs.ScalarApiGen.canonical_invariant ok29

/-! ## C05 — the u32 and the u64 backend agree on the whole scalar API

Both models return canonical byte strings of the same value, and canonical byte strings are determined by their
value (`Api.canonical_ext`).  `Dalek.Model.ScalarApi.*` is the u64 model of `Dalek/Props/C02/Api.lean`. -/

/-- `Scalar::reduce`, ALL 32-byte inputs -/
theorem api_agree_reduce (b : List Nat) (hb : EnvIn b (bytes 32)) : reduce29 b = Dalek.Model.ScalarApi.reduce52 b :=
  Api.canonical_ext (reduce_spec b hb).1 (Api.reduce_spec b hb).1
    (by rw [(reduce_spec b hb).2, (Api.reduce_spec b hb).2])

/-- `Scalar::from_bytes_mod_order`, ALL 32-byte inputs -/
theorem api_agree_from_bytes_mod_order (b : List Nat) (hb : EnvIn b (bytes 32)) :
    fromBytesModOrder b = Dalek.Model.ScalarApi.fromBytesModOrder b :=
  api_agree_reduce b hb

/-- `Scalar::from_bytes_mod_order_wide`, ALL 64-byte inputs -/
theorem api_agree_from_bytes_mod_order_wide (b : List Nat) (hb : EnvIn b (bytes 64)) :
    fromBytesModOrderWide b = Dalek.Model.ScalarApi.fromBytesModOrderWide b :=
  Api.canonical_ext (from_bytes_mod_order_wide_spec b hb).1 (Api.from_bytes_mod_order_wide_spec b hb).1
    (by rw [(from_bytes_mod_order_wide_spec b hb).2, (Api.from_bytes_mod_order_wide_spec b hb).2])

/-- `Scalar::from_hash`, ALL 64-byte digests -/
theorem api_agree_from_hash (d : List Nat) (hd : EnvIn d (bytes 64)) :
    fromHash d = Dalek.Model.ScalarApi.fromHash d :=
  api_agree_from_bytes_mod_order_wide d hd

/-- `Scalar::is_canonical`, ALL 32-byte inputs -/
theorem api_agree_is_canonical (b : List Nat) (hb : EnvIn b (bytes 32)) :
    isCanonical b = Dalek.Model.ScalarApi.isCanonical b := by
  rw [Bool.eq_iff_iff, is_canonical_spec b hb, Api.is_canonical_spec b hb]

/-- `Scalar::from_canonical_bytes`, ALL 32-byte inputs -/
theorem api_agree_from_canonical_bytes (b : List Nat) (hb : EnvIn b (bytes 32)) :
    fromCanonicalBytes b = Dalek.Model.ScalarApi.fromCanonicalBytes b := by
  rw [(from_canonical_bytes_spec b hb).2.2, (Api.from_canonical_bytes_spec b hb).2.2]

/-- `From<u8>` … `From<u128>`: the same backend-independent function -/
theorem api_agree_from_uint (k x : Nat) : fromUInt k x = Dalek.Model.ScalarApi.fromUInt k x := rfl

/-- `&a + &b`, all canonical operands -/
theorem api_agree_add (a b : List Nat) (ha : Canonical a) (hb : Canonical b) :
    add a b = Dalek.Model.ScalarApi.add a b :=
  Api.canonical_ext (add_spec a b ha hb).1 (Api.add_spec a b ha hb).1
    (by rw [(add_spec a b ha hb).2, (Api.add_spec a b ha hb).2])

/-- `&a - &b`, all canonical operands -/
theorem api_agree_sub (a b : List Nat) (ha : Canonical a) (hb : Canonical b) :
    sub a b = Dalek.Model.ScalarApi.sub a b :=
  Api.canonical_ext (sub_spec a b ha hb).1 (Api.sub_spec a b ha hb).1
    (by rw [(sub_spec a b ha hb).2, (Api.sub_spec a b ha hb).2])

/-- `&a * &b`, all canonical operands -/
theorem api_agree_mul (a b : List Nat) (ha : Canonical a) (hb : Canonical b) :
    mul a b = Dalek.Model.ScalarApi.mul a b :=
  Api.canonical_ext (mul_spec a b ha hb).1 (Api.mul_spec a b ha hb).1
    (by rw [(mul_spec a b ha hb).2, (Api.mul_spec a b ha hb).2])

/-- `-&a`, ALL 32-byte inputs (`Neg` reduces first, so also unreduced scalars) -/
theorem api_agree_neg (a : List Nat) (ha : EnvIn a (bytes 32)) : neg a = Dalek.Model.ScalarApi.neg a :=
  (Dalek.Proofs.ScalarApiGen.neg_any ok29 ha).unique (Dalek.Proofs.ScalarApiGen.neg_any ok52 ha)

/-- `Sum`, every list of canonical scalars -/
theorem api_agree_sum (bs : List (List Nat)) (h : ∀ b ∈ bs, Canonical b) :
    sum bs = Dalek.Model.ScalarApi.sum bs :=
  Api.canonical_ext (sum_spec bs h).1 (Api.sum_spec bs h).1 (by rw [(sum_spec bs h).2, (Api.sum_spec bs h).2])

/-- `Product`, every list of canonical scalars -/
theorem api_agree_product (bs : List (List Nat)) (h : ∀ b ∈ bs, Canonical b) :
    product bs = Dalek.Model.ScalarApi.product bs :=
  Api.canonical_ext (product_spec bs h).1 (Api.product_spec bs h).1
    (by rw [(product_spec bs h).2, (Api.product_spec bs h).2])

/-- `Scalar::invert`, every canonical scalar (zero included) -/
theorem api_agree_invert (x : List Nat) (hx : Canonical x) : invert x = Dalek.Model.ScalarApi.invert x :=
  Api.canonical_ext (invert_pow_spec x hx).1 (Api.invert_pow_spec x hx).1
    (by rw [(invert_pow_spec x hx).2, (Api.invert_pow_spec x hx).2])

/-- `Scalar::batch_invert`, EVERY list of canonical scalars — every length, zero entries included (for which the
function is outside its documented domain, but still deterministic): the same new `inputs` and the same return
value -/
theorem api_agree_batch_invert (inputs : List (List Nat)) (hc : ∀ b ∈ inputs, Canonical b) :
    batchInvert inputs = Dalek.Model.ScalarApi.batchInvert inputs := by
  rw [Dalek.Proofs.ScalarApiGen.gen52_batchInvert]
  exact Dalek.Proofs.ScalarApiGen.batchInvert_agree ok29 ok52 (forall2_isSc_of_canonical hc)

/-- `unpack` of the two backends: different limbs, the same integer -/
theorem api_agree_unpack_value (b : List Nat) (hb : EnvIn b (bytes 32)) :
    Dalek.Proofs.Scalar29.val29 (unpack b) = Dalek.Proofs.Scalar52.val52 (Dalek.Model.ScalarApi.unpack b) := by
  rw [(unpack_spec b hb).2, (Api.unpack_spec b hb).2]

/-! ## non-vacuity -/

example : Canonical (natToLeN (l - 1) 32) := by
  refine ⟨by decide +kernel, ?_⟩
  rw [Dalek.Proofs.Bytes51.leVal_natToLeN]; decide +kernel
example : EnvIn (List.replicate 32 255) (bytes 32) ∧ ¬ leVal (List.replicate 32 255) < l := by decide +kernel
example : EnvIn (List.replicate 64 255) (bytes 64) := by decide +kernel
example : ∃ b, Canonical b ∧ leVal b ≠ 0 := ⟨ScalarRs.ONE, ONE_isSc.canonical, by decide +kernel⟩
/-- the agreement theorems are about two DIFFERENT computations: the limbs differ -/
example : unpack ScalarRs.ONE ≠ Dalek.Model.ScalarApi.unpack ScalarRs.ONE := by decide +kernel

/-! ## axiom audit -/

/-- info: 'Dalek.Props.C02.Api29.reduce_spec' depends on axioms: [propext, Classical.choice, Quot.sound] -/
#guard_msgs in #print axioms reduce_spec
/-- info: 'Dalek.Props.C02.Api29.from_bytes_mod_order_wide_spec' depends on axioms: [propext, Classical.choice, Quot.sound] -/
#guard_msgs in #print axioms from_bytes_mod_order_wide_spec
/-- info: 'Dalek.Props.C02.Api29.from_canonical_bytes_spec' depends on axioms: [propext, Classical.choice, Quot.sound] -/
#guard_msgs in #print axioms from_canonical_bytes_spec
/-- info: 'Dalek.Props.C02.Api29.from_uint_spec' depends on axioms: [propext, Classical.choice, Quot.sound] -/
#guard_msgs in #print axioms from_uint_spec
/-- info: 'Dalek.Props.C02.Api29.add_spec' depends on axioms: [propext, Classical.choice, Quot.sound] -/
#guard_msgs in #print axioms add_spec
/-- info: 'Dalek.Props.C02.Api29.sub_spec' depends on axioms: [propext, Classical.choice, Quot.sound] -/
#guard_msgs in #print axioms sub_spec
/-- info: 'Dalek.Props.C02.Api29.mul_spec' depends on axioms: [propext, Classical.choice, Quot.sound] -/
#guard_msgs in #print axioms mul_spec
/-- info: 'Dalek.Props.C02.Api29.neg_spec' depends on axioms: [propext, Classical.choice, Quot.sound] -/
#guard_msgs in #print axioms neg_spec
/-- info: 'Dalek.Props.C02.Api29.neg_zero' depends on axioms: [propext, Classical.choice, Quot.sound] -/
#guard_msgs in #print axioms neg_zero
/-- info: 'Dalek.Props.C02.Api29.sum_spec' depends on axioms: [propext, Classical.choice, Quot.sound] -/
#guard_msgs in #print axioms sum_spec
/-- info: 'Dalek.Props.C02.Api29.product_spec' depends on axioms: [propext, Classical.choice, Quot.sound] -/
#guard_msgs in #print axioms product_spec
/-- info: 'Dalek.Props.C02.Api29.invert_spec' depends on axioms: [propext, Classical.choice, Quot.sound] -/
#guard_msgs in #print axioms invert_spec
/-- info: 'Dalek.Props.C02.Api29.invert_zero' depends on axioms: [propext, Classical.choice, Quot.sound] -/
#guard_msgs in #print axioms invert_zero
/-- info: 'Dalek.Props.C02.Api29.batch_invert_spec' depends on axioms: [propext, Classical.choice, Quot.sound] -/
#guard_msgs in #print axioms batch_invert_spec
/-- info: 'Dalek.Props.C02.Api29.canonical_invariant' depends on axioms: [propext, Classical.choice, Quot.sound] -/
#guard_msgs in #print axioms canonical_invariant
/-- info: 'Dalek.Props.C02.Api29.pack_unpack' depends on axioms: [propext, Classical.choice, Quot.sound] -/
#guard_msgs in #print axioms pack_unpack
/-- info: 'Dalek.Props.C02.Api29.api_agree_reduce' depends on axioms: [propext, Classical.choice, Quot.sound] -/
#guard_msgs in #print axioms api_agree_reduce
/-- info: 'Dalek.Props.C02.Api29.api_agree_from_bytes_mod_order_wide' depends on axioms: [propext, Classical.choice, Quot.sound] -/
#guard_msgs in #print axioms api_agree_from_bytes_mod_order_wide
/-- info: 'Dalek.Props.C02.Api29.api_agree_from_canonical_bytes' depends on axioms: [propext, Classical.choice, Quot.sound] -/
#guard_msgs in #print axioms api_agree_from_canonical_bytes
/-- info: 'Dalek.Props.C02.Api29.api_agree_add' depends on axioms: [propext, Classical.choice, Quot.sound] -/
#guard_msgs in #print axioms api_agree_add
/-- info: 'Dalek.Props.C02.Api29.api_agree_sub' depends on axioms: [propext, Classical.choice, Quot.sound] -/
#guard_msgs in #print axioms api_agree_sub
/-- info: 'Dalek.Props.C02.Api29.api_agree_mul' depends on axioms: [propext, Classical.choice, Quot.sound] -/
#guard_msgs in #print axioms api_agree_mul
/-- info: 'Dalek.Props.C02.Api29.api_agree_neg' depends on axioms: [propext, Classical.choice, Quot.sound] -/
#guard_msgs in #print axioms api_agree_neg
/-- info: 'Dalek.Props.C02.Api29.api_agree_sum' depends on axioms: [propext, Classical.choice, Quot.sound] -/
#guard_msgs in #print axioms api_agree_sum
/-- info: 'Dalek.Props.C02.Api29.api_agree_product' depends on axioms: [propext, Classical.choice, Quot.sound] -/
#guard_msgs in #print axioms api_agree_product
/-- info: 'Dalek.Props.C02.Api29.api_agree_invert' depends on axioms: [propext, Classical.choice, Quot.sound] -/
#guard_msgs in #print axioms api_agree_invert
/-- info: 'Dalek.Props.C02.Api29.api_agree_batch_invert' depends on axioms: [propext, Classical.choice, Quot.sound] -/
#guard_msgs in #print axioms api_agree_batch_invert

end Dalek.Props.C02.Api29
