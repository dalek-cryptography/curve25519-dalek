import Dalek.Proofs.Avx2Field.Defs
import Dalek.Gen.Norm.Avx2Field
/-! `&x * &y` of the AVX2 backend: lane-wise product in `ZMod (2^255-19)`, for ALL integer lane values. -/
set_option maxRecDepth 100000
set_option linter.unusedSimpArgs false
namespace Dalek.Proofs.Avx2Field
open Dalek Dalek.Gen.Norm.Avx2Field Dalek.Proofs.Field26

theorem mul_correct_A (x0 x1 x2 x3 x4 x5 x6 x7 x8 x9 x10 x11 x12 x13 x14 x15 x16 x17 x18 x19 x20 x21 x22 x23 x24 x25 x26 x27 x28 x29 x30 x31 x32 x33 x34 x35 x36 x37 x38 x39 y0 y1 y2 y3 y4 y5 y6 y7 y8 y9 y10 y11 y12 y13 y14 y15 y16 y17 y18 y19 y20 y21 y22 y23 y24 y25 y26 y27 y28 y29 y30 y31 y32 y33 y34 y35 y36 y37 y38 y39 : Int) :
    laneVal .A (mul_fn x0 x1 x2 x3 x4 x5 x6 x7 x8 x9 x10 x11 x12 x13 x14 x15 x16 x17 x18 x19 x20 x21 x22 x23 x24 x25 x26 x27 x28 x29 x30 x31 x32 x33 x34 x35 x36 x37 x38 x39 y0 y1 y2 y3 y4 y5 y6 y7 y8 y9 y10 y11 y12 y13 y14 y15 y16 y17 y18 y19 y20 y21 y22 y23 y24 y25 y26 y27 y28 y29 y30 y31 y32 y33 y34 y35 y36 y37 y38 y39) = laneVal .A (x0 :: x1 :: x2 :: x3 :: x4 :: x5 :: x6 :: x7 :: x8 :: x9 :: x10 :: x11 :: x12 :: x13 :: x14 :: x15 :: x16 :: x17 :: x18 :: x19 :: x20 :: x21 :: x22 :: x23 :: x24 :: x25 :: x26 :: x27 :: x28 :: x29 :: x30 :: x31 :: x32 :: x33 :: x34 :: x35 :: x36 :: x37 :: x38 :: x39 :: []) * laneVal .A (y0 :: y1 :: y2 :: y3 :: y4 :: y5 :: y6 :: y7 :: y8 :: y9 :: y10 :: y11 :: y12 :: y13 :: y14 :: y15 :: y16 :: y17 :: y18 :: y19 :: y20 :: y21 :: y22 :: y23 :: y24 :: y25 :: y26 :: y27 :: y28 :: y29 :: y30 :: y31 :: y32 :: y33 :: y34 :: y35 :: y36 :: y37 :: y38 :: y39 :: []) := by
  lane_lets mul_fn
  avx_goal; slice_hyps; lane_finish

/-- `(A,B,C,D) * (A',B',C',D') = (A A', B B', C C', D D')`.  The four elements go through the same program on disjoint
variables: the statement for B, C, D is the one for A with the two elements exchanged in the arguments, and both unfold
to the same term.  Inside each group of eight lanes element A sits at positions 0, 2, B at 1, 3, C at 4, 6, D at 5, 7
(`Lane.off`), so exchanging A with B swaps 0↔1 and 2↔3, with C 0↔4 and 2↔6, with D 0↔5 and 2↔7. -/
theorem mul_correct (k : Lane) (x0 x1 x2 x3 x4 x5 x6 x7 x8 x9 x10 x11 x12 x13 x14 x15 x16 x17 x18 x19 x20 x21 x22 x23 x24 x25 x26 x27 x28 x29 x30 x31 x32 x33 x34 x35 x36 x37 x38 x39 y0 y1 y2 y3 y4 y5 y6 y7 y8 y9 y10 y11 y12 y13 y14 y15 y16 y17 y18 y19 y20 y21 y22 y23 y24 y25 y26 y27 y28 y29 y30 y31 y32 y33 y34 y35 y36 y37 y38 y39 : Int) :
    laneVal k (mul_fn x0 x1 x2 x3 x4 x5 x6 x7 x8 x9 x10 x11 x12 x13 x14 x15 x16 x17 x18 x19 x20 x21 x22 x23 x24 x25 x26 x27 x28 x29 x30 x31 x32 x33 x34 x35 x36 x37 x38 x39 y0 y1 y2 y3 y4 y5 y6 y7 y8 y9 y10 y11 y12 y13 y14 y15 y16 y17 y18 y19 y20 y21 y22 y23 y24 y25 y26 y27 y28 y29 y30 y31 y32 y33 y34 y35 y36 y37 y38 y39) = laneVal k (x0 :: x1 :: x2 :: x3 :: x4 :: x5 :: x6 :: x7 :: x8 :: x9 :: x10 :: x11 :: x12 :: x13 :: x14 :: x15 :: x16 :: x17 :: x18 :: x19 :: x20 :: x21 :: x22 :: x23 :: x24 :: x25 :: x26 :: x27 :: x28 :: x29 :: x30 :: x31 :: x32 :: x33 :: x34 :: x35 :: x36 :: x37 :: x38 :: x39 :: []) * laneVal k (y0 :: y1 :: y2 :: y3 :: y4 :: y5 :: y6 :: y7 :: y8 :: y9 :: y10 :: y11 :: y12 :: y13 :: y14 :: y15 :: y16 :: y17 :: y18 :: y19 :: y20 :: y21 :: y22 :: y23 :: y24 :: y25 :: y26 :: y27 :: y28 :: y29 :: y30 :: y31 :: y32 :: y33 :: y34 :: y35 :: y36 :: y37 :: y38 :: y39 :: []) := by
  cases k
  · exact mul_correct_A ..
  · exact Eq.mp (by kernel_rfl) (mul_correct_A x1 x0 x3 x2 x4 x5 x6 x7 x9 x8 x11 x10 x12 x13 x14 x15 x17 x16 x19 x18 x20 x21 x22 x23 x25 x24 x27 x26 x28 x29 x30 x31 x33 x32 x35 x34 x36 x37 x38 x39 y1 y0 y3 y2 y4 y5 y6 y7 y9 y8 y11 y10 y12 y13 y14 y15 y17 y16 y19 y18 y20 y21 y22 y23 y25 y24 y27 y26 y28 y29 y30 y31 y33 y32 y35 y34 y36 y37 y38 y39)
  · exact Eq.mp (by kernel_rfl) (mul_correct_A x4 x1 x6 x3 x0 x5 x2 x7 x12 x9 x14 x11 x8 x13 x10 x15 x20 x17 x22 x19 x16 x21 x18 x23 x28 x25 x30 x27 x24 x29 x26 x31 x36 x33 x38 x35 x32 x37 x34 x39 y4 y1 y6 y3 y0 y5 y2 y7 y12 y9 y14 y11 y8 y13 y10 y15 y20 y17 y22 y19 y16 y21 y18 y23 y28 y25 y30 y27 y24 y29 y26 y31 y36 y33 y38 y35 y32 y37 y34 y39)
  · exact Eq.mp (by kernel_rfl) (mul_correct_A x5 x1 x7 x3 x4 x0 x6 x2 x13 x9 x15 x11 x12 x8 x14 x10 x21 x17 x23 x19 x20 x16 x22 x18 x29 x25 x31 x27 x28 x24 x30 x26 x37 x33 x39 x35 x36 x32 x38 x34 y5 y1 y7 y3 y4 y0 y6 y2 y13 y9 y15 y11 y12 y8 y14 y10 y21 y17 y23 y19 y20 y16 y22 y18 y29 y25 y31 y27 y28 y24 y30 y26 y37 y33 y39 y35 y36 y32 y38 y34)

end Dalek.Proofs.Avx2Field
